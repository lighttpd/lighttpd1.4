/-
  C15 — Range and conditional GET follow RFC 9110 for every header and length;
  emitted dates parse back to the same instant in all three HTTP-date formats.
  Property theorems only (helper lemmas live in LtVerif/Proofs/{Range,RangeBody,RangeWalk,Date,Cond304}.lean).

  Vocabulary (defined next to the lemmas): Range.slice rep a b (bytes a..b), Range.multipartBody
  (RFC 2046 5.1.1 shape), Range.Spec / Elem / rangeSetText (grammar of RFC 9110 14.1.1, numbers
  as arbitrary digit strings), Range.Spec.sem (14.1.2), Range.Applicable (all preconditions of
  http_range_rfc7233()), Cond.ETag / etagListText (entity-tag lists, RFC 9110 8.8.3 / 13.1.2).
-/
import LtVerif.Proofs.Range
import LtVerif.Proofs.RangeWalk
import LtVerif.Proofs.Date
import LtVerif.Proofs.Cond304
namespace LtVerif.C15
open LtVerif B Date Range Cond

/-! ## 206: every part carries exactly the declared bytes -/

/-- A 206 answer of http_range_process(): its parts are the ranges computed by
    http_range_parse(), each inside the representation; one part is announced by Content-Range
    and the body is its bytes; several form a multipart/byteranges body; Content-Length is the
    length of the body — for every header, representation and chunk layout. -/
theorem c15_parts_exact (rs : Resp) (hdr : Bytes) (h200 : rs.status = 200)
    (h206 : (process rs hdr).status = 206) :
    let rep := rs.body.flatten
    let out := process rs hdr
    let parts := (parse (hdr.drop 6) rep.length).map toNatRng
    parts ≠ [] ∧
    (∀ p ∈ parts, p.1 ≤ p.2 ∧ p.2 < rep.length) ∧
    out.contentLength = some (natDec out.body.flatten.length) ∧
    ((∃ a b, parts = [(a, b)] ∧ out.contentRange = some (contentRange a b rep.length) ∧
        out.contentType = rs.contentType ∧ out.body.flatten = slice rep a b) ∨
     (2 ≤ parts.length ∧ out.contentRange = rs.contentRange ∧
        out.contentType = some multipartType ∧
        out.body.flatten = multipartBody rep rs.contentType parts)) :=
  process_206 rs hdr h200 h206

theorem c15_slice_bytes (rep : Bytes) (a b : Nat) (h1 : a ≤ b) (h2 : b < rep.length) :
    (slice rep a b).length = b - a + 1 ∧ ∀ i, i ≤ b - a → (slice rep a b)[i]? = rep[a + i]? :=
  ⟨slice_length h1 h2, fun i hi => slice_getElem? i hi⟩

/-- the decimal numbers in Content-Range / Content-Length denote the numbers
    they were rendered from (digits only, reading them back gives `n`) -/
theorem c15_numbers_exact (n : Nat) :
    decVal (natDec n) = n ∧ natDec n ≠ [] ∧ ∀ d ∈ natDec n, isDigit d = true :=
  ⟨decVal_natDec n, natDec_digits n⟩

/-- the chunk-queue operations used to cut the body are byte-exact whatever the
    chunk layout: mark_written drops, steal takes, append_cq_range copies a slice -/
theorem c15_chunk_layout_independent (cq : Cq) (off n : Nat) :
    (cqDrop n cq).flatten = cq.flatten.drop n ∧ (cqTake n cq).flatten = cq.flatten.take n ∧
    cqRange cq off n = (cq.flatten.drop off).take n :=
  ⟨cqDrop_flatten n cq, cqTake_flatten n cq, cqRange_flatten cq off n⟩

/-! ## the parser implements the RFC meaning of every range-spec -/

/-- For every grammatical range-spec (first-last, first-, -suffix) with optional whitespace,
    leading zeros and digit strings of ANY length, http_range_parse_next() yields exactly the
    byte range of RFC 9110 14.1.2 for this length, or nothing when the RFC calls it
    unsatisfiable; numbers beyond off_t are clamped by strtoll, harmlessly. -/
theorem c15_spec_is_rfc (len : Int) (hlen : 0 < len) (hmax : len ≤ LLONG_MAX) (e : Elem)
    (hwf : e.WF) : parseSpec e.text len = e.spec.sem len :=
  parseSpec_elem len hlen hmax e hwf

/-! ## every satisfiable requested range is contained in some part -/

/-- For a grammatical range-set of at most 10 (RMAX_UNSORTED) specs, in any order,
    with optional whitespace, leading zeros and first positions of any magnitude:
    every spec that RFC 9110 calls satisfiable for this length is contained in one
    of the ranges the response carries.  No bound on the numbers: see
    `c15_overflow_numbers_clamped`. -/
theorem c15_satisfiable_covered (len : Nat) (hlen : 0 < len) (hmax : (len : Int) ≤ LLONG_MAX)
    (es : List Elem) (hne : es ≠ []) (hwf : ∀ e ∈ es, e.WF)
    (hcount : es.length ≤ 10) :
    ∀ e ∈ es, ∀ r, e.spec.sem len = some r →
      ∃ p ∈ parse (rangeSetText es) len, p.1 ≤ r.1 ∧ r.2 ≤ p.2 :=
  fun e he r hr => rangeSet_cov_small len (by omega) hmax es hne hwf hcount r
    (List.mem_filterMap.mpr ⟨e, he, hr⟩)

/-- The same for up to 128 (RMAX) specs whose satisfiable ranges are listed with
    ascending first positions. -/
theorem c15_satisfiable_covered_ascending (len : Nat) (hlen : 0 < len)
    (hmax : (len : Int) ≤ LLONG_MAX)
    (es : List Elem) (hne : es ≠ []) (hwf : ∀ e ∈ es, e.WF)
    (hcount : es.length ≤ 128)
    (hasc : (es.filterMap (fun e => e.spec.sem len)).Pairwise (fun a b => a.1 ≤ b.1)) :
    ∀ e ∈ es, ∀ r, e.spec.sem len = some r →
      ∃ p ∈ parse (rangeSetText es) len, p.1 ≤ r.1 ∧ r.2 ≤ p.2 :=
  fun e he r hr => rangeSet_cov_sorted len (by omega) hmax es hne hwf hcount hasc r
    (List.mem_filterMap.mpr ⟨e, he, hr⟩)

/-- Beyond the two limits nothing already accepted is lost: if the first part `pre` of a
    range-set of ANY length has at most 128 specs whose satisfiable ranges ascend, every
    satisfiable spec of `pre` is covered, whatever follows ("additional ranges are ignored"). -/
theorem c15_satisfiable_covered_prefix (len : Nat) (hlen : 0 < len)
    (hmax : (len : Int) ≤ LLONG_MAX)
    (pre post : List Elem) (hne : pre ≠ []) (hwf : ∀ e ∈ pre ++ post, e.WF)
    (hcount : pre.length ≤ 128)
    (hasc : (pre.filterMap (fun e => e.spec.sem len)).Pairwise (fun a b => a.1 ≤ b.1)) :
    ∀ e ∈ pre, ∀ r, e.spec.sem len = some r →
      ∃ p ∈ parse (rangeSetText (pre ++ post)) len, p.1 ≤ r.1 ∧ r.2 ≤ p.2 :=
  fun e he r hr => rangeSet_cov_prefix len (by omega) hmax pre post hne hwf hcount hasc r
    (List.mem_filterMap.mpr ⟨e, he, hr⟩)

/-! ## 416 only when nothing is satisfiable -/

/-- Whatever the request and the header (grammatical or junk): a response turns
    into 416 only if every precondition for Range holds, the unit is bytes, the
    representation is non-empty and *no* piece of the header yields a range. -/
theorem c15_416_only_if (rq : Req) (rs : Resp) (h : (rfc7233 rq rs).status = 416)
    (h0 : rs.status ≠ 416) :
    ∃ hdr, Applicable rq rs hdr ∧ UnitBytes hdr ∧ rs.body.flatten ≠ [] ∧
      (∀ p ∈ splitOn 44 (hdr.drop 6), parseSpec p rs.body.flatten.length = none) ∧
      (rfc7233 rq rs).contentRange = some (contentRangeUnsat rs.body.flatten.length) ∧
      (rfc7233 rq rs).body = rs.body := by
  rcases rfc7233_cases rq rs with hs | ⟨hdr, happ, he⟩
  · rw [hs.1] at h; exact absurd h h0
  · refine ⟨hdr, happ, ?_⟩
    rw [he] at h ⊢
    cases process_eff (withAcceptRanges rs) hdr with
    | ignored hp => rw [hp, withAcceptRanges_status] at h; exact absurd h h0
    | unsat hne hub hnil hp =>
      rw [withAcceptRanges_body] at hne hnil
      rw [hp]
      exact ⟨hub, hne, (parse_eq_nil_iff _ _).mp hnil,
        by simp only [resp416, withAcceptRanges_body, cqLen], withAcceptRanges_body rs⟩
    | single _ _ _ _ hp => rw [hp] at h; cases h
    | multi _ _ _ hp => rw [hp] at h; cases h

/-- For a grammatical range-set (any number of specs) under all preconditions:
    the answer is 416 exactly when no spec is satisfiable, and 206 otherwise. -/
theorem c15_416_iff (rq : Req) (rs : Resp) (unit : Bytes) (es : List Elem)
    (happ : Applicable rq rs (unit ++ rangeSetText es))
    (hunit : unit.length = 6 ∧ eqIcase unit bytesEq = true)
    (hne : es ≠ []) (hwf : ∀ e ∈ es, e.WF)
    (hlen : rs.body.flatten ≠ []) (hmax : (rs.body.flatten.length : Int) ≤ LLONG_MAX) :
    ((rfc7233 rq rs).status = 416 ↔ ∀ e ∈ es, e.spec.sem rs.body.flatten.length = none) ∧
    ((rfc7233 rq rs).status = 206 ↔ ∃ e ∈ es, (e.spec.sem rs.body.flatten.length).isSome) :=
  rangeSet_status ⟨happ, hunit, hne, hwf, hlen, hmax⟩

/-- The whole statement at the outermost function, for a grammatical Range header of at most
    10 specs under every precondition: if some spec is satisfiable the answer is 206, the parts
    are in bounds, every satisfiable requested range lies inside a part, and the body is exactly
    those bytes (one part: the slice; several: `multipartBody`). -/
theorem c15_range_response (rq : Req) (rs : Resp) (unit : Bytes) (es : List Elem)
    (happ : Applicable rq rs (unit ++ rangeSetText es))
    (hunit : unit.length = 6 ∧ eqIcase unit bytesEq = true)
    (hne : es ≠ []) (hwf : ∀ e ∈ es, e.WF)
    (hcount : es.length ≤ 10)
    (hlen : rs.body.flatten ≠ []) (hmax : (rs.body.flatten.length : Int) ≤ LLONG_MAX)
    (hsat : ∃ e ∈ es, (e.spec.sem rs.body.flatten.length).isSome) :
    let out := rfc7233 rq rs
    let rep := rs.body.flatten
    let parts := (parse (rangeSetText es) rep.length).map toNatRng
    out.status = 206 ∧
    (∀ p ∈ parts, p.1 ≤ p.2 ∧ p.2 < rep.length) ∧
    (∀ e ∈ es, ∀ r, e.spec.sem rep.length = some r →
        ∃ p ∈ parts, (p.1 : Int) ≤ r.1 ∧ r.2 ≤ (p.2 : Int)) ∧
    out.contentLength = some (natDec out.body.flatten.length) ∧
    ((∃ a b, parts = [(a, b)] ∧ out.contentRange = some (contentRange a b rep.length) ∧
        out.body.flatten = slice rep a b) ∨
     (2 ≤ parts.length ∧ out.contentType = some multipartType ∧
        out.body.flatten = multipartBody rep rs.contentType parts)) :=
  rangeSet_response ⟨happ, hunit, hne, hwf, hlen, hmax⟩ hsat
    (rangeSet_cov_small _ (len_pos hlen) hmax es hne hwf hcount)

/-- The same headline for up to 128 specs whose satisfiable ranges ascend. -/
theorem c15_range_response_ascending (rq : Req) (rs : Resp) (unit : Bytes) (es : List Elem)
    (happ : Applicable rq rs (unit ++ rangeSetText es))
    (hunit : unit.length = 6 ∧ eqIcase unit bytesEq = true)
    (hne : es ≠ []) (hwf : ∀ e ∈ es, e.WF)
    (hcount : es.length ≤ 128)
    (hasc : (es.filterMap (fun e => e.spec.sem rs.body.flatten.length)).Pairwise
      (fun a b => a.1 ≤ b.1))
    (hlen : rs.body.flatten ≠ []) (hmax : (rs.body.flatten.length : Int) ≤ LLONG_MAX)
    (hsat : ∃ e ∈ es, (e.spec.sem rs.body.flatten.length).isSome) :
    let out := rfc7233 rq rs
    let rep := rs.body.flatten
    let parts := (parse (rangeSetText es) rep.length).map toNatRng
    out.status = 206 ∧
    (∀ p ∈ parts, p.1 ≤ p.2 ∧ p.2 < rep.length) ∧
    (∀ e ∈ es, ∀ r, e.spec.sem rep.length = some r →
        ∃ p ∈ parts, (p.1 : Int) ≤ r.1 ∧ r.2 ≤ (p.2 : Int)) ∧
    out.contentLength = some (natDec out.body.flatten.length) ∧
    ((∃ a b, parts = [(a, b)] ∧ out.contentRange = some (contentRange a b rep.length) ∧
        out.body.flatten = slice rep a b) ∨
     (2 ≤ parts.length ∧ out.contentType = some multipartType ∧
        out.body.flatten = multipartBody rep rs.contentType parts)) :=
  rangeSet_response ⟨happ, hunit, hne, hwf, hlen, hmax⟩ hsat
    (rangeSet_cov_sorted _ (len_pos hlen) hmax es hne hwf hcount hasc)

/-- Numbers beyond the off_t range are harmless (RFC 9110 14.1.1: "recipients MUST
    anticipate potentially large decimal numerals"): a last-pos of 2^63-1 or more
    means "to the end", an overflowing suffix-length means "everything", an
    overflowing first-pos is unsatisfiable.  (Before the fix of
    http_range_parse_next() the first two made the spec invalid, so
    `bytes=0-9223372036854775807` was answered 416.) -/
theorem c15_overflow_numbers_clamped :
    parseSpec (ofString "0-9223372036854775807") 10 = some (0, 9) ∧
    parseSpec (ofString "2-99999999999999999999999") 10 = some (2, 9) ∧
    parseSpec (ofString "-9223372036854775808") 10 = some (0, 9) ∧
    parseSpec (ofString "-99999999999999999999999") 10 = some (0, 9) ∧
    parseSpec (ofString "9223372036854775807-") 10 = none ∧
    (process exResp (ofString "bytes=0-9223372036854775807")).status = 206 := by
  decide +kernel

/-! ## Range is ignored (200, full body) when it must be -/

/-- Methods other than GET, HTTP/1.0 (unless explicitly enabled), no Range header,
    an unknown range unit, or an If-Range that does not match the current
    validator exactly: status, body and representation headers are untouched. -/
theorem c15_ignored (rq : Req) (rs : Resp)
    (h : rq.method ≠ 0 ∨ (rq.version < 1 ∧ rq.allow10 = false) ∨ rq.range = none ∨
         (∃ hdr, rq.range = some hdr ∧ ¬ UnitBytes hdr) ∨
         (∃ ir, rq.ifRange = some ir ∧
            (if ir.head? = some 34 then rs.etag else rs.lastModified) ≠ some ir)) :
    SameRepresentation (rfc7233 rq rs) rs := by
  rcases rfc7233_cases rq rs with hs | ⟨hdr, happ, he⟩
  · exact hs
  · rcases h with h | h | h | ⟨hdr', hr, hub⟩ | ⟨ir, hir, hneq⟩
    · exact absurd happ.method h
    · rcases happ.version with d | d
      · omega
      · rw [d] at h; cases h.2
    · rw [happ.range] at h; cases h
    · rw [happ.range] at hr
      cases hr
      rw [he]
      cases process_eff (withAcceptRanges rs) hdr with
      | ignored hp => rw [hp]; exact same_withAcceptRanges rs
      | _ => exact absurd ‹UnitBytes hdr› hub
    · have h8 := happ.ifRange
      rw [hir] at h8
      exact absurd (of_decide_eq_true h8) hneq

/-! ## conditional GET / HEAD -/

/-- A GET or HEAD on a representation that has an entity tag and whose
    Last-Modified field is the date lighttpd renders from the modification time
    (what http_response_send_file() builds) is answered 304 exactly when
    If-None-Match matches the tag (weak comparison; strong when a Range header is
    present), or, in the absence of If-None-Match, If-Modified-Since parses as an
    HTTP-date that is not earlier than the modification time.  (`t ≠ -1`,
    `lmtime ≠ -1`: the code cannot tell the instant -1, one second before the
    epoch, from timegm() failure.) -/
theorem c15_304_iff (now : Int) (rq : CondReq) (et : Bytes) (lmtime : Int)
    (hm : rq.method ≤ 1) (h0 : -30610224000 ≤ lmtime) (h1 : lmtime ≤ 253402300799)
    (hne : lmtime ≠ -1) :
    handleCachable now rq (some et) (some (timeToStr lmtime)) lmtime = .notModified ↔
      (∃ inm, rq.ifNoneMatch = some inm ∧ etagMatches et inm (!rq.hasRange) = true) ∨
      (rq.ifNoneMatch = none ∧ ∃ ims t, rq.ifModifiedSince = some ims ∧
         dateToTime now ims = some t ∧ lmtime ≤ t ∧ t ≠ -1) := by
  rw [handleCachable_304_iff now rq et _ lmtime hm]
  have hrt : dateToTime now (timeToStr lmtime) = some lmtime := by
    rw [timeToStr_eq lmtime h0 h1]; exact (imf_roundtrip now lmtime h0 h1).2
  refine or_congr_right (and_congr_right fun _ => ⟨?_, ?_⟩)
  · intro ⟨ims, lm, hi, hl, hor⟩
    rcases hor with he | ⟨t, ht⟩
    · -- (`cases hl` would make the unifier evaluate `timeToStr`)
      exact ⟨ims, lmtime, hi, by rw [he, ← Option.some.inj hl]; exact hrt, Int.le_refl _, hne⟩
    · exact ⟨ims, t, hi, ht⟩
  · intro ⟨ims, t, hi, ht⟩
    exact ⟨ims, _, hi, rfl, .inr ⟨t, ht⟩⟩

/-- The decision for an ARBITRARY Last-Modified field (`lmod` and `lmtime`
    unrelated, e.g. set by a backend): the code additionally answers 304 when
    If-Modified-Since equals that field byte for byte, whatever it contains. -/
theorem c15_304_iff_general (now : Int) (rq : CondReq) (et : Bytes) (lmod : Option Bytes) (lmtime : Int)
    (hm : rq.method ≤ 1) :
    handleCachable now rq (some et) lmod lmtime = .notModified ↔
      (∃ inm, rq.ifNoneMatch = some inm ∧ etagMatches et inm (!rq.hasRange) = true) ∨
      (rq.ifNoneMatch = none ∧ ∃ ims lm, rq.ifModifiedSince = some ims ∧ lmod = some lm ∧
         (ims = lm ∨ ∃ t, dateToTime now ims = some t ∧ lmtime ≤ t ∧ t ≠ -1)) :=
  handleCachable_304_iff now rq et lmod lmtime hm

/-- What "matches" means: on a well-formed entity-tag list (tags separated by
    commas with optional whitespace and empty elements, any mix of weak and
    strong tags) http_etag_matches() is true exactly when some listed tag
    compares equal to the current one under RFC 9110 8.8.3.2 — weak comparison
    (opaque parts equal) when `weakOk`, strong comparison (equal and neither
    weak) otherwise.  Listed tags must not contain ',' SP or HTAB inside the
    quotes (`NoDelim`; RFC 9110 allows ',' there, the code would stop at it —
    lighttpd's own tags are `"digits"`); the current tag may be anything quoted. -/
theorem c15_etag_list (et : ETag) (het : et.WF) (weakOk : Bool) (sep0 : Bytes)
    (items : List (ETag × Bytes)) (h0 : AllDelim sep0) (hok : ItemsOk items) :
    etagMatches et.text (etagListText sep0 items) weakOk =
      items.any (fun x => ETag.cmp weakOk et x.1) :=
  etagMatches_list et het weakOk sep0 items h0 hok

/-- `If-None-Match: *` matches any current entity tag. -/
theorem c15_etag_star (etag : Bytes) (weakOk : Bool) : etagMatches etag [42] weakOk = true :=
  etagMatches_star etag weakOk

/-! ## dates -/

/-- Every date lighttpd emits (the IMF-fixdate of an instant in the years 1000..9999, before
    or after the epoch) is 29 bytes long, fits the HTTP_DATE_SZ buffer and parses back to the
    same instant. -/
theorem c15_date_roundtrip_imf (now t : Int) (h0 : -30610224000 ≤ t) (h1 : t ≤ 253402300799) :
    timeToStr t = renderIMF t ∧ (renderIMF t).length = 29 ∧
    dateToTime now (timeToStr t) = some t := by
  obtain ⟨hl, hr⟩ := imf_roundtrip now t h0 h1
  have : timeToStr t = renderIMF t := timeToStr_eq t h0 h1
  exact ⟨this, hl, by rw [this]; exact hr⟩

/-- The same instant written in asctime() format parses back to it. -/
theorem c15_date_roundtrip_asctime (now t : Int) (h0 : -30610224000 ≤ t) (h1 : t ≤ 253402300799) :
    dateToTime now (renderAsctime t) = some t :=
  (asctime_roundtrip now t h0 h1).2

/-- RFC 850 round trip for instants whose year is at most 49 years back, at most 50 years ahead
   *and not past the end of the current century* (`InWindow850`).  Not for the next century when the
   clock is in the second half of one: the code only tries the current century and the one before,
   so it reads "10" in 2090 as 2010 where RFC 9110 5.6.7 says 2110. -/
theorem c15_date_roundtrip_rfc850_partial (now t : Int) (h0 : -30610224000 ≤ t)
    (h1 : t ≤ 253402300799)
    (hwin : InWindow850 (yearOf now) (gmtime t).1.year) :
    dateToTime now (renderRFC850 t) = some t :=
  (rfc850_roundtrip now t h0 h1 hwin).2

/-- libc's gmtime()/timegm() as modelled are mutually inverse on every instant,
    and the broken-down fields are in range: the civil-date bijection, proved
    arithmetically for all integers (no finite enumeration). -/
theorem c15_civil_bijection (t : Int) :
    timegm (gmtime t).1 = t ∧
    1 ≤ (civilFromDays (t / 86400)).2.1 ∧ (civilFromDays (t / 86400)).2.1 ≤ 12 ∧
    1 ≤ (civilFromDays (t / 86400)).2.2 ∧ (civilFromDays (t / 86400)).2.2 ≤ 31 :=
  ⟨timegm_gmtime t, civil_month_day (t / 86400)⟩

/-- If-Modified-Since carrying an emitted date: "modified" iff the file is newer. -/
theorem c15_if_modified_since_exact (now t lmtime : Int) (h0 : -30610224000 ≤ t)
    (h1 : t ≤ 253402300799) (hne1 : t ≠ -1) :
    ifModifiedSince now (renderIMF t) lmtime = decide (lmtime > t) ∧
    ifModifiedSince now (renderAsctime t) lmtime = decide (lmtime > t) := by
  have hne : (t == -1) = false := by
    simp only [beq_eq_false_iff_ne, ne_eq]; omega
  constructor
  · simp only [ifModifiedSince, (imf_roundtrip now t h0 h1).2, hne, Bool.or_false]
  · simp only [ifModifiedSince, (asctime_roundtrip now t h0 h1).2, hne, Bool.or_false]

/-! ## the C pointer walk over the whole header = the ','-split model -/

/-- http_range_parse_next() never reads past a ',': on `p , rest` it produces the range it
    produces on `p` alone and returns the same position, for every `p`, `rest` and length. -/
theorem c15_parse_next_stops_at_comma (p rest : Bytes) (len : Int) :
    parseNext (p ++ 44 :: rest) len
      = ((parseNext p len).1, (parseNext p len).2 ++ 44 :: rest) :=
  parseNext_append p rest len

/-- the pointer returned by http_range_parse_next() is a position inside the text
    it was given (so the walk of http_range_parse() only moves forward and ends) -/
theorem c15_parse_next_returns_suffix (s : Bytes) (len : Int) : (parseNext s len).2 <:+ s :=
  parseNext_suffix s len

/-- http_range_parse() as written in C — one string walked with a pointer (`parsePtr`,
    Model/RangeWalk.lean) — yields exactly the ranges of the ','-split model `parse`, for every
    header text and every length; so the theorems above hold of the pointer-level code too. -/
theorem c15_pointer_walk_refines (s : Bytes) (len : Int) : parsePtr s len = parse s len :=
  parsePtr_eq_parse s len

/-- … and so for the response: http_range_process() over the pointer walk -/
theorem c15_process_pointer_walk (rs : Resp) (hdr : Bytes) : processPtr rs hdr = process rs hdr :=
  processPtr_eq_process rs hdr

/-! ## non-vacuity -/

/-- junk piece skipped, inner blanks, trailing ',' and an empty piece: the walk visits 5 pieces -/
example : parsePtr (ofString "0-0 ,x-1,, 100-100 ,") 200 = [(0, 0), (100, 100)] ∧
    parseNext (ofString "0-0 ,x-1") 200 = (some (0, 0), ofString ",x-1") ∧
    walkItem 200 { rs := [], lim := RMAX } (ofString "x-1,, 100-100 ,")
      = ({ rs := [], lim := RMAX }, false, ofString ",, 100-100 ,") := by
  decide +kernel

example : (rfc7233 exReq exResp).status = 206 ∧
    (rfc7233 exReq exResp).contentRange = some (ofString "bytes 2-5/12") ∧
    (rfc7233 exReq exResp).body.flatten = ofString "llo " := by decide +kernel
example : exResp.status = 200 ∧ (process exResp (ofString "bytes=2-5")).status = 206 := by decide +kernel
/-- two ranges more than 80 bytes apart on a 200-byte body in two chunks: a multipart answer -/
example : (process { exResp with body := [List.replicate 100 65, List.replicate 100 66] }
      (ofString "bytes=0-0, 100-100")).contentType = some multipartType ∧
    (parse (ofString "0-0, 100-100") 200).map toNatRng = [(0, 0), (100, 100)] ∧
    (process { exResp with body := [List.replicate 100 65, List.replicate 100 66] }
      (ofString "bytes=0-0, 100-100")).body.flatten =
      multipartBody (List.replicate 100 65 ++ List.replicate 100 66) none [(0, 0), (100, 100)] := by
  decide +kernel
example : slice (ofString "hello world!") 2 5 = ofString "llo " := by decide +kernel
example : natDec 12 = ofString "12" := by decide +kernel
example : cqRange [ofString "hello ", ofString "world!"] 4 4 = ofString "o wo" := by decide +kernel
example : exElem.WF ∧ exElem.spec.sem 12 = some (9, 11) := by
  simp only [Elem.WF, IsOws, Spec.WF, IsNum, exElem]
  decide +kernel
example : Applicable exReq exResp (ofString "bytes=2-5") := by
  refine ⟨rfl, rfl, rfl, Or.inl (by decide +kernel), rfl, by decide +kernel, rfl, rfl⟩
example : ofString "bytes=2-5" = ofString "bytes=" ++ rangeSetText [⟨[], .range (ofString "2") (ofString "5"), []⟩]
    ∧ (Spec.range (ofString "2") (ofString "5")).sem 12 = some (2, 5) := by decide +kernel
example : (rfc7233 { exReq with range := some (ofString "bytes=12-") } exResp).status = 416 := by
  decide +kernel
example : SameRepresentation (rfc7233 { exReq with method := 1 } exResp) exResp := by
  unfold SameRepresentation; decide +kernel
example : exCondReq.method ≤ 1 ∧
    handleCachable 0 exCondReq (some (ofString "\"x\"")) none 5 = .notModified := by
  refine ⟨by decide +kernel, ?_⟩
  rw [c15_304_iff_general 0 exCondReq _ none 5 (by decide +kernel)]
  left
  refine ⟨ofString "W/\"x\"", rfl, ?_⟩
  have h := c15_etag_list ⟨false, ofString "x"⟩ (by unfold ETag.WF; decide +kernel) true []
    [(⟨true, ofString "x"⟩, [])] (by unfold AllDelim; decide +kernel)
    (by simp only [ItemsOk, ETag.WF, ETag.NoDelim, AllDelim]; decide +kernel)
  have e1 : (⟨false, ofString "x"⟩ : ETag).text = ofString "\"x\"" := by decide +kernel
  have e2 : etagListText [] [((⟨true, ofString "x"⟩ : ETag), ([] : Bytes))] = ofString "W/\"x\"" := by
    decide +kernel
  rw [e1, e2] at h
  rw [show (!exCondReq.hasRange) = true from rfl, h]
  decide +kernel
example : (⟨false, ofString "x"⟩ : ETag).WF ∧ AllDelim [32] ∧ ItemsOk exItems ∧
    etagListText [32] exItems = ofString " W/\"y\", W/\"x\"" ∧
    exItems.any (fun x => ETag.cmp true ⟨false, ofString "x"⟩ x.1) = true := by
  refine ⟨by unfold ETag.WF; decide +kernel, by unfold AllDelim; decide +kernel, ?_,
    by decide +kernel, by decide +kernel⟩
  simp only [exItems, ItemsOk, ETag.WF, ETag.NoDelim, AllDelim]
  decide +kernel
example : exCondReqIms.method ≤ 1 ∧
    handleCachable 0 exCondReqIms (some (ofString "\"x\"")) (some (timeToStr 784111777)) 784111777
      = .notModified ∧
    handleCachable 0 exCondReqIms (some (ofString "\"x\"")) (some (timeToStr 784111778)) 784111778
      = .goOn := by decide +kernel
example : timeToStr (-86400) = ofString "Wed, 31 Dec 1969 00:00:00 GMT" ∧
    dateToTime 0 (ofString "Wed, 31 Dec 1969 00:00:00 GMT") = some (-86400) ∧
    (timeToStr (-30610224000)).length = 29 := by decide +kernel
example : renderIMF 784111777 = ofString "Sun, 06 Nov 1994 08:49:37 GMT" := by decide +kernel
example : dateToTime 1790000000 (ofString "Sunday, 06-Nov-94 08:49:37 GMT") = some 784111777 := by
  decide +kernel
example : InWindow850 (yearOf 1790000000) (gmtime 784111777).1.year := by
  unfold InWindow850; decide +kernel
example : dateToTime 0 (ofString "Sun Nov  6 08:49:37 1994") = some 784111777 := by decide +kernel

end LtVerif.C15
