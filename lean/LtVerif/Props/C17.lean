/-
  C17 — the chunk queue is an exact FIFO byte stream under all operations and
  temp-file write faults.

  The theorems are about the closed system `Sys` of two chunk queues over one
  `World` (file store, chunk pool, upload dirs and the scripted results of the
  temp-file syscalls).  `step : Sys → Op → Sys × Res` is one operation of
  src/chunk.c, `run` a whole history.  Fault schedules are part of the world
  (`wsched`, `msched`): a theorem about all `s : Sys` is a theorem about all
  fault schedules.  `s.abs i` are the bytes queue `i` holds, read off the
  model's file store (which keeps the content of unlinked files);
  `c17_read_progress` / `c17_peek_progress` show that these are exactly the
  bytes a reader gets.
-/
import LtVerif.Proofs.CqBase
import LtVerif.Proofs.Cq
import LtVerif.Proofs.CqSpill
import LtVerif.Proofs.CqRes
import LtVerif.Proofs.CqRead
import LtVerif.Proofs.CqLive
import LtVerif.Proofs.CqFuel
import LtVerif.Proofs.CqSplice
namespace LtVerif.C17
open LtVerif LtVerif.Cq

/-- the empty system: no files, two empty queues; `w` carries the configuration
    and the fault schedules -/
def init (w : World) (_ : w.nfiles = 0) : Sys := { w := w, q0 := {}, q1 := {} }

/-- The invariant behind everything below is inductive: every operation, under
    every fault schedule, successful or failed, keeps it (exact counters, chunks
    inside their files, every file chunk readable — it holds a descriptor, owns
    its temp file's name, or names a file of the application —, one owning chunk
    per temp file spanning the whole file, names and ghost lengths accounted
    for). -/
theorem c17_invariant (base : Nat → Int) (s : Sys) (ops : List Op) (h : FInv base s)
    (hops : ∀ (pre : List Op) (op : Op) (post : List Op), ops = pre ++ op :: post → OpOK (run s pre) op) :
    FInv base (run s ops) :=
  run_finv s ops h hops

/-- Exact accounting, for every history and every fault schedule: after any
    sequence of operations (successful or failed) the length each queue reports
    (bytes_in − bytes_out) is the number of bytes it still holds. -/
theorem c17_length_exact (s : Sys) (ops : List Op) (h : Inv s)
    (hops : ∀ (pre : List Op) (op : Op) (post : List Op), ops = pre ++ op :: post → OpOK (run s pre) op)
    (i : Bool) :
    Inv (run s ops) ∧ ((run s ops).get i).length = (((run s ops).abs i).length : Int) := by
  have hi := run_inv s ops h hops
  exact ⟨hi, hi.length_abs i⟩

/-- FIFO refinement, all operations: unless a spilling operation reports an
    error (see `c17_fault_safe`), every operation acts on the queued bytes
    exactly like the byte-string reference queue `specStep` — append at the
    tail, consume at the head, transfers (with or without spilling to temp
    files, under short writes, EINTR and ENOSPC fallback) move a prefix of the
    source to the tail of the destination, compaction / squash / removal of
    empty chunks change nothing — and peek/read hand out the head of the queue
    unmodified. -/
theorem c17_refines_fifo (base : Nat → Int) (s : Sys) (op : Op) (h : FInv base s) (hop : OpOK s op)
    (hok : op.spills = true → (step s op).2 = .rc true) :
    ((step s op).1.abs op.qi, (step s op).1.abs (!op.qi)) =
        specStep (fun fid => (s.w.files fid).content) (s.abs op.qi) (s.abs (!op.qi)) op (step s op).2 ∧
      resOK (s.abs op.qi) op (step s op).2 := by
  cases hsp : op.spills
  · exact step_refines s op h.inv hop hsp
  · exact step_refines_spill s op h hop hsp (hok hsp)

/-- Fault safety: when a spilling operation reports an error, nothing is
    duplicated, reordered or modified.  append_mem_to_tempfile leaves a prefix
    of (old bytes ++ offered bytes); steal_with_tempfiles has taken exactly some
    k ≤ n bytes out of the source and the destination holds a prefix of (old
    bytes ++ those k bytes); the other queue is untouched.  (On success the same
    facts hold with equality: `ok = true`.)  The invariant survives: the error
    is surfaced, the queues stay consistent.
    NOT claimed: that the destination keeps the bytes it held before the failed
    call.  chunkqueue_to_tempfiles() releases what is left of its private copy
    of the queue when a write fails, so bytes queued in MEM chunks of the
    destination before the call can be gone afterwards (the caller is told -1
    and gives the request up): `c17_fault_drops_queued_bytes` below is a witness.
    The loss is always a suffix (what stays is a prefix), and it is reported;
    it is confined to destinations that hold MEM chunks: `c17_fault_keeps`. -/
theorem c17_fault_safe (base : Nat → Int) (s : Sys) (h : FInv base s) (qi : Bool) :
    (∀ d ok, (step s (.appendMemToTempfile qi d)).2 = .rc ok →
      FInv base (step s (.appendMemToTempfile qi d)).1 ∧
      (if ok then (step s (.appendMemToTempfile qi d)).1.abs qi = s.abs qi ++ d
        else (step s (.appendMemToTempfile qi d)).1.abs qi <+: s.abs qi ++ d) ∧
      (step s (.appendMemToTempfile qi d)).1.abs (!qi) = s.abs (!qi)) ∧
    (∀ n ok, (step s (.stealWithTempfiles qi n)).2 = .rc ok →
      FInv base (step s (.stealWithTempfiles qi n)).1 ∧
      ∃ k, k ≤ n ∧ k ≤ (s.abs (!qi)).length ∧
        (step s (.stealWithTempfiles qi n)).1.abs (!qi) = (s.abs (!qi)).drop k ∧
        (if ok then k = min n (s.abs (!qi)).length ∧
            (step s (.stealWithTempfiles qi n)).1.abs qi = s.abs qi ++ (s.abs (!qi)).take k
          else (step s (.stealWithTempfiles qi n)).1.abs qi <+: s.abs qi ++ (s.abs (!qi)).take k)) := by
  refine ⟨fun d ok hrc => ?_, fun n ok hrc => ?_⟩
  · obtain ⟨hf, hres⟩ := step_finv s (.appendMemToTempfile qi d) h trivial
    simp only [SpillRes, hrc] at hres
    exact ⟨hf, hres.1.safe, hres.2⟩
  · obtain ⟨hf, hres⟩ := step_finv s (.stealWithTempfiles qi n) h trivial
    simp only [SpillRes, hrc] at hres
    exact ⟨hf, hres.safe⟩

/-- What a failed spill keeps.  The bytes `c17_fault_safe` allows to disappear
    are those chunkqueue_to_tempfiles() held in its private copy, and that
    function is entered only for MEM chunks of the destination.  When the
    destination holds no MEM chunk (the usual state of a request body queue that
    is being spilled: temp-file chunks only) a reported error loses nothing:
    append_mem_to_tempfile keeps every byte the queue held (plus a prefix of the
    offered bytes), and steal_with_tempfiles has moved exactly k ≤ n bytes — the
    source lost them, the destination holds all of them behind its old bytes. -/
theorem c17_fault_keeps (base : Nat → Int) (s : Sys) (h : FInv base s) (qi : Bool)
    (hn : ∀ c ∈ (s.get qi).chunks, c.isMem = false) :
    (∀ d, (step s (.appendMemToTempfile qi d)).2 = .rc false →
      s.abs qi <+: (step s (.appendMemToTempfile qi d)).1.abs qi) ∧
    (∀ n, (step s (.stealWithTempfiles qi n)).2 = .rc false →
      ∃ k, k ≤ n ∧ k ≤ (s.abs (!qi)).length ∧
        (step s (.stealWithTempfiles qi n)).1.abs (!qi) = (s.abs (!qi)).drop k ∧
        (step s (.stealWithTempfiles qi n)).1.abs qi = s.abs qi ++ (s.abs (!qi)).take k) := by
  refine ⟨fun d hrc => ?_, fun n hrc => ?_⟩
  · have hres := (step_finv s (.appendMemToTempfile qi d) h trivial).2
    simp only [SpillRes, hrc] at hres
    exact hres.1.keeps hn
  · have hres := (step_finv s (.stealWithTempfiles qi n) h trivial).2
    simp only [SpillRes, hrc] at hres
    exact hres.keeps hn

/-- Retryable write results never surface as an error: when every scripted
    result of the temp-file writes is ok, a short write (of any length), EINTR
    or ENOSPC (anything but EIO), no mkostemp() fails, the destination queue has
    more upload dirs left than ENOSPC results are to come (with `$TMPDIR` only:
    none comes) and no temp chunk holds a read-only descriptor (a closed temp
    file re-opened by a reader: the kernel answers EBADF), then
    append_mem_to_tempfile and steal_with_tempfiles report success — short
    writes are continued, EINTR retried, ENOSPC falls back to the next upload
    dir — for every layout of both queues, every length, every such schedule.
    In particular the iteration bounds (`fuel`) of the model's retry loops are
    never the reason for a reported error under these schedules, and the nested
    chunkqueue_to_tempfiles() never needs a second nesting. -/
theorem c17_retryable_never_fails (s : Sys) (qi : Bool)
    (hws : ∀ f ∈ s.w.wsched, f ≠ .eio)
    (hms : ∀ b ∈ s.w.msched, b = false)
    (hdir : (s.w.ndirs = 0 ∧ s.w.wsched.count .enospc = 0) ∨
      (s.get qi).tdIdx + s.w.wsched.count .enospc < s.w.ndirs)
    (hro : ∀ fid off len, Chunk.file fid off len true .ro ∉ s.chunks) :
    (∀ d, (step s (.appendMemToTempfile qi d)).2 = .rc true) ∧
      (∀ n, (step s (.stealWithTempfiles qi n)).2 = .rc true) :=
  have hg : Good s.w (s.get qi) := ⟨.of_sched hws hms, hdir, Sys.allWr hro qi⟩
  ⟨fun d => congrArg Res.rc (appendMemToTempfile_good d hg),
   fun n => congrArg Res.rc (stealWithTempfiles_good (src := s.get (!qi)) n hg (Sys.allWr hro (!qi)))⟩

/-- … hence under such schedules the spilling operations are exact FIFO
    transfers, unconditionally (no "unless an error is reported"). -/
theorem c17_retryable_fifo (base : Nat → Int) (s : Sys) (qi : Bool) (h : FInv base s)
    (hws : ∀ f ∈ s.w.wsched, f ≠ .eio)
    (hms : ∀ b ∈ s.w.msched, b = false)
    (hdir : (s.w.ndirs = 0 ∧ s.w.wsched.count .enospc = 0) ∨
      (s.get qi).tdIdx + s.w.wsched.count .enospc < s.w.ndirs)
    (hro : ∀ fid off len, Chunk.file fid off len true .ro ∉ s.chunks) :
    (∀ d, (step s (.appendMemToTempfile qi d)).1.abs qi = s.abs qi ++ d ∧
      (step s (.appendMemToTempfile qi d)).1.abs (!qi) = s.abs (!qi)) ∧
    (∀ n, (step s (.stealWithTempfiles qi n)).1.abs qi = s.abs qi ++ (s.abs (!qi)).take n ∧
      (step s (.stealWithTempfiles qi n)).1.abs (!qi) = (s.abs (!qi)).drop n) := by
  obtain ⟨r1, r2⟩ := c17_retryable_never_fails s qi hws hms hdir hro
  refine ⟨fun d => ?_, fun n => ?_⟩
  · have := (c17_refines_fifo base s (.appendMemToTempfile qi d) h trivial (fun _ => r1 d)).1
    rw [r1 d] at this
    exact Prod.mk.inj this
  · have := (c17_refines_fifo base s (.stealWithTempfiles qi n) h trivial (fun _ => r2 n)).1
    rw [r2 n] at this
    exact Prod.mk.inj this

/-- The iteration bounds (`fuel`) the model gives to the loops of
    chunkqueue_steal_with_tempfiles() (outer call and the call nested in
    chunkqueue_to_tempfiles()) and chunkqueue_append_mem_to_tempfile() are never
    reached, whatever the fault schedule and the queues: with `k` more turns the
    loops return the same result.  (Every turn consumes a scripted write result,
    a byte of `len` or a chunk of the source.)  So an error the model reports is
    never an artefact of the bound — the C loops have none. -/
theorem c17_fuel_sufficient (w : World) (dest src q : Cq) (len : Nat) (d : Bytes) (k : Nat) :
    swLoop toTempfiles (swFuel w src len + k) w dest src len = stealWithTempfiles w dest src len ∧
      swLoop toTempStub (swFuel w src len + k) w dest src len = swInner w dest src len ∧
      mtLoop (w.wsched.length + 1 + k) w q d = mtLoop (w.wsched.length + 1) w q d :=
  ⟨swLoop_fuel toTempfiles_sstep _ k w dest src len (by unfold swFuel; omega),
   swLoop_fuel toTempStub_sstep _ k w dest src len (by unfold swFuel; omega),
   mtLoop_fuel _ k w q d (Nat.le_refl _)⟩

/-- chunkqueue_steal(): the first min(n, |src|) bytes of src move to the tail
    of dest, in order and unmodified; nothing else changes. -/
theorem c17_steal_fifo (s : Sys) (i : Bool) (n : Nat) (h : Inv s) :
    (step s (.steal i n)).1.abs i = s.abs i ++ (s.abs (!i)).take n ∧
      (step s (.steal i n)).1.abs (!i) = (s.abs (!i)).drop n :=
  Prod.mk.inj (step_refines s (.steal i n) h trivial rfl).1

/-- chunkqueue_read_data(): on success the caller gets exactly the first n
    queued bytes and they are consumed; on failure nothing is consumed. -/
theorem c17_read_data (s : Sys) (i : Bool) (n : Nat) (h : Inv s) :
    match (step s (.readData i n)).2 with
    | .read (some d) => d = (s.abs i).take n ∧ d.length = n ∧ (step s (.readData i n)).1.abs i = (s.abs i).drop n
    | _ => (step s (.readData i n)).1.abs i = s.abs i := by
  obtain ⟨h1, h2⟩ := step_refines s (.readData i n) h trivial rfl
  generalize (step s (.readData i n)).2 = r at h1 h2
  cases r with
  | read d =>
    cases d with
    | some d =>
      simp only [specStep, Op.qi, Prod.mk.injEq, resOK] at h1 h2
      exact ⟨h2.1, h2.2, h1.1⟩
    | none =>
      simp only [specStep, Op.qi, Prod.mk.injEq] at h1
      exact h1.1
  | _ =>
    simp only [specStep, Op.qi, Prod.mk.injEq] at h1
    exact h1.1

/-- chunkqueue_read_data() / chunkqueue_peek_data() make progress: in a system
    that satisfies the invariant, reading n ≤ length bytes succeeds, hands out
    exactly the first n queued bytes and consumes them.  No queued byte is ever
    unreachable (the temp file of a chunk without descriptor still has its name,
    a file chunk copied out of a temp chunk holds a descriptor of its own).
    Read faults (pread/open errors) are outside the model. -/
theorem c17_read_progress (base : Nat → Int) (s : Sys) (i : Bool) (n : Nat) (h : FInv base s)
    (hn : 0 < n) (hle : n ≤ (s.abs i).length) :
    (step s (.readData i n)).2 = .read (some ((s.abs i).take n)) ∧
      (step s (.readData i n)).1.abs i = (s.abs i).drop n := by
  have hr : (step s (.readData i n)).2 = .read (some ((s.abs i).take n)) :=
    congrArg Res.read (readData_ok s.w (s.get i) n (h.inv.get i) (fun c hc => h.openable c (Sys.mem_chunks i hc)) hn hle)
  have := c17_read_data s i n h.inv
  rw [hr] at this
  exact ⟨hr, this.2.2⟩

/-- The peek half of `c17_read_progress` ("they do come out"). -/
theorem c17_peek_progress (base : Nat → Int) (s : Sys) (i : Bool) (n : Nat) (h : FInv base s) (hn : 0 < n) :
    (step s (.peekData i n)).2 = .peeked true ((s.abs i).take n) := by
  obtain ⟨a, b⟩ := peekData_ok s.w (s.get i) n (h.inv.get i) (fun c hc => h.openable c (Sys.mem_chunks i hc)) hn
  simp only [step]
  rw [a, b]
  rfl

/-- The FIFO refinement holds at every point of every history (any fault
    schedule): whatever operations ran before, the next one acts on the queued
    bytes like the reference queue (spilling operations: unless they report an
    error, see `c17_fault_safe`). -/
theorem c17_history_refines (base : Nat → Int) (s : Sys) (ops : List Op) (h : FInv base s)
    (hops : ∀ (pre : List Op) (op : Op) (post : List Op), ops = pre ++ op :: post → OpOK (run s pre) op)
    (pre : List Op) (op : Op) (post : List Op) (e : ops = pre ++ op :: post)
    (hok : op.spills = true → (step (run s pre) op).2 = .rc true) :
    ((step (run s pre) op).1.abs op.qi, (step (run s pre) op).1.abs (!op.qi)) =
        specStep (fun fid => ((run s pre).w.files fid).content) ((run s pre).abs op.qi)
          ((run s pre).abs (!op.qi)) op (step (run s pre) op).2 ∧
      resOK ((run s pre).abs op.qi) op (step (run s pre) op).2 :=
  c17_refines_fifo base (run s pre) op (run_finv s pre h (OpsOK.pre (e ▸ hops))) (hops pre op post e) hok

/-- reference step on the pair (bytes of queue 0, bytes of queue 1) -/
def specPair (files : Nat → Bytes) (p : Bytes × Bytes) (op : Op) (r : Res) : Bytes × Bytes :=
  if op.qi then ((specStep files p.2 p.1 op r).2, (specStep files p.2 p.1 op r).1)
  else specStep files p.1 p.2 op r

/-- reference run: the fold of `specStep` over the operations, each with the
    result it reported and the file contents at that time (what append_file
    refers to) -/
def specRun : Bytes × Bytes → List (Op × Res × (Nat → Bytes)) → Bytes × Bytes
  | p, [] => p
  | p, (op, r, files) :: t => specRun (specPair files p op r) t

/-- what a history lets its caller see: per operation the result reported (and the file contents then) -/
def trace (s : Sys) : List Op → List (Op × Res × (Nat → Bytes))
  | [] => []
  | op :: ops => (op, (step s op).2, fun fid => (s.w.files fid).content) :: trace (step s op).1 ops

def spillsOk : List (Op × Res × (Nat → Bytes)) → Prop
  | [] => True
  | (op, r, _) :: t => (op.spills = true → r = .rc true) ∧ spillsOk t

/-- History-level refinement: after any history in which no spilling operation
    reported an error, under any fault schedule, the two queues hold exactly
    what the byte-string reference queues hold after the same operations with
    the same reported results. -/
theorem c17_run_refines (base : Nat → Int) (s : Sys) (ops : List Op) (h : FInv base s)
    (hops : ∀ (pre : List Op) (op : Op) (post : List Op), ops = pre ++ op :: post → OpOK (run s pre) op)
    (hok : spillsOk (trace s ops)) :
    ((run s ops).abs false, (run s ops).abs true) = specRun (s.abs false, s.abs true) (trace s ops) := by
  induction ops generalizing s with
  | nil => rfl
  | cons op ops ih =>
    simp only [run, trace, specRun]
    simp only [trace, spillsOk] at hok
    have hop := hops [] op ops rfl
    have hstep := (c17_refines_fifo base s op h hop hok.1).1
    have hpair : specPair (fun fid => (s.w.files fid).content) (s.abs false, s.abs true) op (step s op).2 =
        ((step s op).1.abs false, (step s op).1.abs true) := by
      unfold specPair
      cases hq : op.qi <;> rw [hq] at hstep <;> simp only [Bool.false_eq_true, if_false, if_true]
      · exact hstep.symm
      · exact (congrArg Prod.swap hstep).symm
    rw [hpair]
    exact ih (step s op).1 (step_finv s op h hop).1 (OpsOK.tail hops) hok.2

/-- No leak, no double release, for every history and every fault schedule:
    in a well-accounted system (every open descriptor is held by a chunk; a
    temp file's name exists iff a temp chunk owns it) every operation, failed
    or not, leaves the system well-accounted. -/
theorem c17_resources_conserved (base : Nat → Int) (s : Sys) (ops : List Op) (h : Acct base s) :
    Acct base (run s ops) :=
  h.of_conserve (run_conserve s ops)

/-- chunkqueue_reset() releases exactly what the queue holds: afterwards every
    descriptor and every temp-file name that is left belongs to the other
    queue. -/
theorem c17_reset_releases (base : Nat → Int) (s : Sys) (i : Bool) (h : Acct base s) (f : Nat) :
    ((step s (.reset i)).1.w.files f).nfd = csum .fd f (s.get (!i)).chunks ∧
      ((step s (.reset i)).1.w.files f).nlink = base f + csum .name f (s.get (!i)).chunks := by
  have h' := h.of_conserve (step_conserve s (.reset i)) f
  cases i
  · simp only [Sys.chunks, step, reset, Sys.get, Sys.set] at h'
    simp at h'
    exact ⟨h'.1, h'.2.1⟩
  · simp only [Sys.chunks, step, reset, Sys.get, Sys.set] at h'
    simp at h'
    exact ⟨h'.1, h'.2.1⟩

/-- After both queues are reset nothing the queues created is left: no open
    descriptor, no temp file (the names that remain are the `base` ones). -/
theorem c17_reset_releases_all (base : Nat → Int) (s : Sys) (ops : List Op) (h : Acct base s) (f : Nat) :
    ((run s (ops ++ [.reset false, .reset true])).w.files f).nfd = 0 ∧
      ((run s (ops ++ [.reset false, .reset true])).w.files f).nlink = base f := by
  have h' := c17_resources_conserved base s (ops ++ [.reset false, .reset true]) h f
  have hc : (run s (ops ++ [.reset false, .reset true])).chunks = [] := by
    rw [run_append]
    rfl
  rw [hc] at h'
  simp at h'
  exact ⟨h'.1, h'.2.1⟩

/-! ### non-vacuity -/

/-- a concrete configuration: 1 KiB chunks, two upload dirs, and a write
    schedule with a short write followed by ENOSPC -/
def demoWorld : World := { cs := 1024, defTempSize := 4096, ndirs := 2, wsched := [.short 2, .enospc] }

/-- the invariants hold initially -/
example : Inv (init demoWorld rfl) :=
  ⟨fun fid _ => rfl, ⟨ValidAll.nil _, rfl⟩, ⟨ValidAll.nil _, rfl⟩⟩

example : FInv (fun _ => 0) (init demoWorld rfl) :=
  ⟨⟨fun fid _ => rfl, ⟨ValidAll.nil _, rfl⟩, ⟨ValidAll.nil _, rfl⟩⟩,
   ⟨fun fid _ => rfl,
    ⟨fun f => by simp [init, demoWorld], fun f _ => by simp [init, demoWorld],
     fun f hf => by simp [init, demoWorld] at hf⟩,
    ValidAll.nil _, fun f => ⟨rfl, rfl⟩⟩,
   fun f => ⟨Int.le_refl _, fun hf => by simp [init, demoWorld] at hf⟩⟩

example : Acct (fun _ => 0) (init demoWorld rfl) := fun _ => ⟨rfl, rfl, rfl⟩

/-- a concrete history: append, spill to a temp file under a short write
    followed by ENOSPC with a second upload dir, steal, read -/
def demoOps : List Op :=
  [.appendMem false [1, 2, 3, 4, 5], .stealWithTempfiles true 4, .steal false 1, .readData true 2]

example : (run (init demoWorld rfl) demoOps).abs true = [4] := by decide +kernel
example : (run (init demoWorld rfl) demoOps).abs false = [5, 1] := by decide +kernel
example : ((run (init demoWorld rfl) demoOps).get true).length = 1 := by decide +kernel
example : OpOK (init demoWorld rfl) (.appendMem false [1, 2, 3]) := trivial
/-- the hypothesis of `c17_run_refines` holds for the demo history (its spill,
    under a short write and ENOSPC with a second dir, reports success) -/
example : spillsOk (trace (init demoWorld rfl) demoOps) := by
  simp only [demoOps, trace, spillsOk]
  exact ⟨fun h => (by cases h), fun _ => (by decide +kernel), fun h => (by cases h), fun h => (by cases h), trivial⟩
/-- the demo history really creates temp files (two of them, the second after
    ENOSPC; the first one is unlinked again once its last byte is consumed) -/
example : ((run (init demoWorld rfl) demoOps).w.files 0).nlink = 0 ∧
    ((run (init demoWorld rfl) demoOps).w.files 1).nlink = 1 ∧ (run (init demoWorld rfl) demoOps).w.nfiles = 2 := by
  decide +kernel
/-- a spill that fails: every upload dir is full (ENOSPC twice with two dirs):
    the error is reported and the three bytes that made it stay a prefix -/
def failWorld : World := { cs := 1024, ndirs := 2, wsched := [.short 3, .enospc, .enospc] }
example : (step (step (init failWorld rfl) (.appendMem false [1, 2, 3, 4, 5])).1 (.stealWithTempfiles true 5)).2 =
    .rc false := by decide +kernel
example : (step (step (init failWorld rfl) (.appendMem false [1, 2, 3, 4, 5])).1
    (.stealWithTempfiles true 5)).1.abs true = [1, 2, 3] := by decide +kernel
example : (step (step (init failWorld rfl) (.appendMem false [1, 2, 3, 4, 5])).1
    (.stealWithTempfiles true 5)).1.abs false = [4, 5] := by decide +kernel

/-- the error case of `c17_fault_safe` can drop bytes the destination held
    before the call: dest [1,2,3] (MEM), src [4,5], one byte reaches the temp
    file, then the only upload dir is full: -1 is reported, dest holds [1], src
    is untouched (chunkqueue_to_tempfiles() released its copy of [2,3]) -/
def dropWorld : World := { cs := 1024, ndirs := 1, wsched := [.short 1, .enospc] }
def dropSys : Sys := (step (step (init dropWorld rfl) (.appendMem true [1, 2, 3])).1 (.appendMem false [4, 5])).1
theorem c17_fault_drops_queued_bytes :
    dropSys.abs true = [1, 2, 3] ∧ (step dropSys (.stealWithTempfiles true 2)).2 = .rc false ∧
      (step dropSys (.stealWithTempfiles true 2)).1.abs true = [1] ∧
      (step dropSys (.stealWithTempfiles true 2)).1.abs false = [4, 5] := by decide +kernel

/-- chunkqueue_reset(): the queue is empty, its counters are zero (by definition
    of the model's reset; what it releases is `c17_reset_releases`) -/
example (s : Sys) (i : Bool) :
    ((step s (.reset i)).1.get i).chunks = [] ∧ ((step s (.reset i)).1.get i).bytesIn = 0 ∧
      ((step s (.reset i)).1.get i).bytesOut = 0 := by
  cases i <;> exact ⟨rfl, rfl, rfl⟩

/-- `c17_retryable_never_fails` is not vacuous: short writes, EINTR and an
    ENOSPC (two upload dirs) in the schedule, MEM chunks in both queues, a temp
    file that fills up -/
def retryWorld : World :=
  { cs := 1024, defTempSize := 3, ndirs := 2,
    wsched := [.short 1, .enospc, .eintr, .short 2, .short 0, .ok, .eintr] }
def retrySys : Sys :=
  (step (step (init retryWorld rfl) (.appendMem true [1, 2, 3])).1 (.appendMem false [4, 5, 6, 7])).1
example : (step retrySys (.stealWithTempfiles true 3)).2 = .rc true ∧
    (step retrySys (.stealWithTempfiles true 3)).1.abs true = [1, 2, 3, 4, 5, 6] ∧
    (step retrySys (.stealWithTempfiles true 3)).1.abs false = [7] ∧
    (step retrySys (.stealWithTempfiles true 3)).1.w.wsched = [.eintr] ∧
    (step retrySys (.stealWithTempfiles true 3)).1.w.nfiles = 2 ∧
    ((step retrySys (.stealWithTempfiles true 3)).1.get true).tdIdx = 1 := by decide +kernel

/-- a system with one file of the application (five bytes, one name) -/
def srcWorld : World :=
  { cs := 1024, defTempSize := 2, ndirs := 1, nfiles := 1, nsrc := 1,
    files := fun f => if f = 0 then { content := [10, 11, 12, 13, 14], nlink := 1 } else {} }
def srcBase : Nat → Int := fun f => if f = 0 then 1 else 0
def srcSys : Sys := { w := srcWorld, q0 := {}, q1 := {} }

example : FInv srcBase srcSys := by
  have hfresh : Fresh srcWorld := by
    intro fid hle
    have : fid ≠ 0 := by simp only [srcWorld] at hle; omega
    simp [sz, srcWorld, this]
  refine ⟨⟨hfresh, ⟨ValidAll.nil _, rfl⟩, ⟨ValidAll.nil _, rfl⟩⟩, ⟨hfresh, ⟨fun f => ?_, fun f hle => ?_, fun f hf => ?_⟩,
    ValidAll.nil _, fun f => ?_⟩, fun f => ?_⟩
  · by_cases h0 : f = 0 <;> simp [srcSys, srcWorld, srcBase, h0]
  · have h0 : f ≠ 0 := by simp only [srcSys, srcWorld] at hle; omega
    simp [srcSys, srcWorld, srcBase, h0]
  · by_cases h0 : f = 0 <;> simp [srcSys, srcWorld, srcBase, h0] at hf
  · by_cases h0 : f = 0 <;> simp [srcSys, srcWorld, srcBase, h0, Sys.chunks]
  · by_cases h0 : f = 0 <;> simp [srcSys, srcWorld, srcBase, h0]

example : OpOK srcSys (.appendFile false 0 1 3 false) := by
  simp [OpOK, srcSys, srcWorld, sz]

/-- file chunks by name and by descriptor, range copy, get_memory/use_memory,
    compaction, squash, peek: every operation family on a concrete history -/
def srcOps : List Op :=
  [.appendFile false 0 1 3 false, .appendMem false [1, 2], .appendFile false 0 0 2 true,
   .appendCqRange true false 2 4, .getUseMemory true 8 [7, 8], .compactMem true 6,
   .appendMemToTempfile false [3, 4, 5], .steal true 9, .readSquash true]

example : (run srcSys srcOps).abs true = [13, 1, 2, 10, 7, 8, 11, 12, 13, 1, 2, 10, 11, 3, 4] := by decide +kernel
example : (run srcSys srcOps).abs false = [5] := by decide +kernel
example : (step (run srcSys srcOps) (.peekData true 4)).2 = .peeked true [13, 1, 2, 10] := by decide +kernel
example : (step (run srcSys srcOps) (.readData true 20)).2 = .read none := by decide +kernel

/-- the closed-temp-chunk history (defect 5 in design/C17.md): a partial steal out of a closed
    temp chunk, then the owner is consumed and unlinks the file: the stolen bytes are still handed out -/
def s1World : World := { cs := 1024, defTempSize := 2, ndirs := 1 }
def s1Ops : List Op :=
  [.appendMemToTempfile false [1, 2, 3, 4, 5], .appendMemToTempfile false [6], .steal true 2, .markWritten false 3]
example : ((run (init s1World rfl) s1Ops).w.files 0).nlink = 0 := by decide +kernel
example : (step (run (init s1World rfl) s1Ops) (.readData true 2)).2 = .read (some [1, 2]) := by decide +kernel

/-- The splice() path: chunkqueue_append_splice_pipe_tempfile(cq, pipe, len) with `d` in the
    pipe (`spliceStep`, Model/CqSplice.lean) is not an `Op`; with no scripted write result
    pending (splice() itself never takes one; the pwritev() calls of the preceding
    chunkqueue_to_tempfiles() would) it IS the pwrite() path — the octets go to file position
    `file.length` of the tail temp chunk, whatever part of that chunk has been consumed
    (`offset`) — so `c17_fault_safe` transfers: the queue's byte stream is the old one followed
    by `d` (a prefix of that when -1 is returned: mkostemp failure / EBADF), the other queue
    and the invariants are untouched. -/
theorem c17_splice_fifo (base : Nat → Int) (s : Sys) (h : FInv base s) (qi : Bool) (d : Bytes)
    (hw : s.w.wsched = []) :
    spliceStep s qi d = step s (.appendMemToTempfile qi d) ∧
    ∀ ok, (spliceStep s qi d).2 = .rc ok →
      FInv base (spliceStep s qi d).1 ∧
      (if ok then (spliceStep s qi d).1.abs qi = s.abs qi ++ d
        else (spliceStep s qi d).1.abs qi <+: s.abs qi ++ d) ∧
      (spliceStep s qi d).1.abs (!qi) = s.abs (!qi) := by
  have e : spliceStep s qi d = step s (.appendMemToTempfile qi d) := by
    unfold spliceStep
    rw [appendSplice_eq _ _ _ hw]
    rfl
  refine ⟨e, fun ok hrc => ?_⟩
  rw [e] at hrc ⊢
  exact (c17_fault_safe base s h qi).1 d ok hrc

/-- splice 5 octets, 2 of them are sent, splice 2 more: the 3 unsent ones are still in front
    (the tail temp chunk had offset 2, length 5 when the second splice appended at position 5) -/
def spliceWorld : World := { cs := 1024, defTempSize := 100, ndirs := 1 }
def spliceSys : Sys :=
  (step (spliceStep (init spliceWorld rfl) false [1, 2, 3, 4, 5]).1 (.markWritten false 2)).1
example : spliceSys.w.wsched = [] := rfl
example : (spliceStep spliceSys false [6, 7]).2 = .rc true := by decide +kernel
example : (spliceStep spliceSys false [6, 7]).1.abs false = [3, 4, 5, 6, 7] := by decide +kernel
example : (spliceStep spliceSys false [6, 7]).1.q0.chunks = [.file 0 2 7 true .rw] := by decide +kernel

end LtVerif.C17
