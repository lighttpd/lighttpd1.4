/-
  C19 — compressed responses decode to the identity body; the compression cache is never stale.
  Property theorems and the notions their statements need; helper lemmas, the cache invariant and plain readings of
  the model's decision ladder (not property theorems) are in LtVerif/Proofs/Deflate*.lean.

  Claimed PARTIAL: zlib is external.  What lighttpd does around the codec is proved
  (`c19_stream_assembly`); that the codec's output is the RFC 1950 / RFC 1952 container around a
  raw DEFLATE stream of what it consumed, and that raw DEFLATE round-trips, are the hypotheses of
  the `_partial` theorems and are validated with an independent decoder on every coded body.
-/
import LtVerif.Proofs.Bytes
import LtVerif.Proofs.Deflate
import LtVerif.Proofs.DeflateStream
import LtVerif.Proofs.DeflateRfc
import LtVerif.Proofs.DeflateScan
namespace LtVerif.C19
open LtVerif B LtVerif.Deflate

/-- Against RFC 9110 12.5.3 / 12.4.2 (independent specification `renderAE` / `listedAcceptable`
    in Proofs/DeflateRfc.lean): for EVERY Accept-Encoding value that is a list of
    `coding [ OWS ";" OWS "q=" qvalue ]` elements with arbitrary optional white space, the coding
    chosen is allowed by the configuration and explicitly listed by the client with a non-zero
    weight; and no coding is chosen only if no allowed coding is so listed.  (`*` and `identity`
    are never used to justify or to refuse a coding: lighttpd may always answer with the identity
    representation, which RFC 9110 permits unless `identity;q=0` — not honoured, see design ±.) -/
theorem c19_negotiation_rfc (allowed : List CSet) (l : List AEItem) (hl : ∀ it ∈ l, it.wf) :
    (∀ c, chooseEncoding allowed (renderAE l) = some c →
      (∃ x ∈ allowed, x.mem c = true) ∧ listedAcceptable l c) ∧
    (chooseEncoding allowed (renderAE l) = none →
      ∀ x ∈ allowed, ∀ c, x.mem c = true → ¬ listedAcceptable l c) := by
  constructor
  · intro c h
    obtain ⟨pre, x, post, rfl, hx, hacc, _⟩ := chooseSet_some h
    exact ⟨⟨x, by simp, hx⟩, (acceptSet_renderAE l hl c).mp hacc⟩
  · intro h x hx c hxc hlist
    have := chooseSet_none h x hx c hxc
    rw [(acceptSet_renderAE l hl c).mpr hlist] at this
    cases this

/-- a rendered value: " gzip ;q=0 , deflate; Q=0.5,br" -/
def demoAE : List AEItem :=
  [ ⟨[sp], Coding.gzip.label, some ([sp], [], false, ⟨false, none⟩), [sp]⟩,
    ⟨[sp], Coding.deflate.label, some ([], [sp], true, ⟨false, some [53]⟩), []⟩,
    ⟨[], ofString "br", none, []⟩ ]
example : renderAE demoAE = ofString " gzip ;q=0 , deflate; Q=0.5,br" := by
  rw [B.ofString_ofList]; decide +kernel
example : chooseEncoding (encodingsToFlags none) (renderAE demoAE) = some .deflate := by decide +kernel
example : ∀ it ∈ demoAE, it.wf := by
  intro it h
  simp only [demoAE, List.mem_cons, List.not_mem_nil, or_false] at h
  rcases h with rfl | rfl | rfl <;> simp only [AEItem.wf, isOws, isTokenish, QValue.wf] <;> decide +kernel

/-- The scan loop of mod_deflate_choose_encoding AS THE C POINTER LOOP IT IS (Model/DeflateScan.lean) computes, for EVERY
    byte string (NUL-cut like a C string), exactly the accept set of the specification-style scanner all
    other negotiation theorems speak about.  Hence every theorem stated over `chooseEncoding` /
    `acceptSet` holds of the loop. -/
theorem c19_scan_loop_refines (hdr : Bytes) (allowed : List CSet) :
    Scan.scanC hdr = acceptSet hdr ∧
    Scan.chooseEncodingC allowed hdr = chooseEncoding allowed hdr :=
  ⟨Scan.scanC_eq_acceptSet hdr, Scan.chooseEncodingC_eq allowed hdr⟩

example : Scan.scanC (ofString " gzip ;q=0 , deflate; Q=0.5,x-gzip;x;q=0.000;y,gzip deflate;q=0. ,br") =
    { deflate := true, gzip := true } := by
  rw [B.ofString_ofList]; decide +kernel
example : Scan.scanC (ofString "gzip;q=0.0001,deflate;q=0,x-gzip;q=00") = { gzip := true, xgzip := true } := by
  rw [B.ofString_ofList]; decide +kernel
example : Scan.scanC ((ofString "deflate;q=0.0") ++ [0] ++ ofString ",gzip") = {} := by decide +kernel

/-- `c19_negotiation_rfc` for the C loop itself (transported along `c19_scan_loop_refines`). -/
theorem c19_negotiation_rfc_loop (allowed : List CSet) (l : List AEItem) (hl : ∀ it ∈ l, it.wf) :
    (∀ c, Scan.chooseEncodingC allowed (renderAE l) = some c →
      (∃ x ∈ allowed, x.mem c = true) ∧ listedAcceptable l c) ∧
    (Scan.chooseEncodingC allowed (renderAE l) = none →
      ∀ x ∈ allowed, ∀ c, x.mem c = true → ¬ listedAcceptable l c) := by
  rw [Scan.chooseEncodingC_eq]
  exact c19_negotiation_rfc allowed l hl

example : Scan.chooseEncodingC (encodingsToFlags none) (renderAE demoAE) = some .deflate := by decide +kernel

/-- For ARBITRARY header bytes (also values outside the RFC grammar): the chosen coding is in an
    allowed entry, some scanned element carries its label with a weight that is not zero, and
    the label occurs literally in the value. -/
theorem c19_encoding_listed_allowed (allowed : List CSet) (hdr : Bytes) (c : Coding)
    (h : chooseEncoding allowed hdr = some c) :
    (∃ x ∈ allowed, x.mem c = true) ∧
    (∃ e ∈ entries hdr, e.token = c.label ∧ e.q0 = false) ∧
    c.label <:+: hdr := by
  obtain ⟨pre, x, post, rfl, hx, hacc, _⟩ := chooseSet_some h
  obtain ⟨e, he, hq, ht⟩ := (acceptSet_mem_iff hdr c).mp hacc
  exact ⟨⟨x, by simp, hx⟩, ⟨e, he, ht, hq⟩, ht ▸ entries_token_infix hdr e he⟩

example : chooseEncoding (encodingsToFlags (some [Coding.gzip.label, Coding.deflate.label]))
    (ofString "gzip;q=0, deflate;q=0.5") = some .deflate := by
  rw [B.ofString_ofList]; decide +kernel
example : chooseEncoding (encodingsToFlags none) (ofString "br, gzip ;q=0") = none := by decide +kernel

/-- Server preference: the coding comes from the FIRST deflate.allowed-encodings entry that
    contains a coding the client accepts; no earlier entry contains an acceptable coding. -/
theorem c19_encoding_order (allowed : List CSet) (hdr : Bytes) (c : Coding)
    (h : chooseEncoding allowed hdr = some c) :
    ∃ pre x post, allowed = pre ++ x :: post ∧ x.mem c = true ∧
      ∀ y ∈ pre, ∀ d, y.mem d = true → ¬ ∃ e ∈ entries hdr, e.q0 = false ∧ e.token = d.label := by
  obtain ⟨pre, x, post, hsplit, hx, _, hpre⟩ := chooseSet_some h
  refine ⟨pre, x, post, hsplit, hx, fun y hy d hyd hex => ?_⟩
  have := hpre y hy d hyd
  rw [(acceptSet_mem_iff hdr d).mpr hex] at this
  cases this

example : chooseEncoding (encodingsToFlags (some [Coding.deflate.label, Coding.gzip.label]))
    (ofString "gzip, deflate") = some .deflate := by decide +kernel

/-- what a configured string must contain for a coding to be allowed -/
def Coding.base : Coding → Bytes
  | .gzip => Coding.gzip.label
  | .xgzip => Coding.gzip.label
  | .deflate => Coding.deflate.label

/-- Configuration level: with an explicit non-empty deflate.allowed-encodings list, the chosen
    coding is named by one of the configured strings ("x-gzip" is allowed through "gzip"). -/
theorem c19_encoding_config_allowed (l : List Bytes) (hl : l ≠ []) (hdr : Bytes) (c : Coding)
    (h : chooseEncoding (encodingsToFlags (some l)) hdr = some c) :
    ∃ v ∈ l, isInfix (Coding.base c) v = true := by
  obtain ⟨⟨x, hx, hm⟩, _, _⟩ := c19_encoding_listed_allowed _ _ _ h
  obtain ⟨v, hv, ⟨hi, rfl⟩ | ⟨hi, rfl⟩⟩ := mem_encodingsToFlags hl hx
  all_goals exact ⟨v, hv, by cases c <;> first | exact hi | cases hm⟩

example : chooseEncoding (encodingsToFlags (some [ofString "deflate"])) (ofString "gzip, deflate") = some .deflate := by
  decide +kernel

/-- "Responses that may differ by coding carry Vary: Accept-Encoding" — ALL variants: if the
    response to some request for this resource (same configuration, same response of the content
    handler, same method) is coded, then the response to EVERY request with that method — the
    identity variant for a client without Accept-Encoding, with only refused or unknown codings,
    the 304 and the 412 included — carries Vary with the token Accept-Encoding. -/
theorem c19_vary_all_variants (cfg : Cfg) (rs : Rs) (rq1 rq : Rq) (c : Coding) (k : Bool)
    (hm : rq.method = rq1.method) (h1 : (respStart cfg rq1 rs).verdict = .encode c k) :
    ∃ v, (respStart cfg rq rs).vary = some v ∧ containsToken v aeName = true := by
  obtain ⟨hs, _, _⟩ := respStart_verdict_encode h1
  have he : eligible cfg rq rs = true := by
    rw [eligible_congr cfg rq rq1 rs hm]; exact (selectCoding_eq_some.mp hs).1
  exact ⟨_, respStart_vary he, varyAdjust_hasToken _⟩

/-- the identity variant of a compressible resource (client sends no Accept-Encoding) -/
example : (respStart { mimetypes := [ofString "text/"], minSize := 0 } {}
    { contentType := some (ofString "text/css"), etag := some (ofString "\"77\""), len := 5 }) =
    ⟨.pass, 200, some (ofString "\"77\""), some aeName, none, true⟩ := by decide +kernel

/-- RFC 9110 8.8.3: entity-tag = [ "W/" ] DQUOTE *etagc DQUOTE -/
def etagc (b : UInt8) : Bool := b = 0x21 || (0x23 ≤ b && b ≤ 0x7e) || 0x80 ≤ b
def IsOpaqueTag (e : Bytes) : Prop := ∃ m, e = dquote :: m ++ [dquote] ∧ ∀ x ∈ m, etagc x = true
def IsEntityTag (e : Bytes) : Prop := IsOpaqueTag e ∨ ∃ o, e = 87 :: 47 :: o ∧ IsOpaqueTag o

/-- The rewritten ETag of a coded response is again a syntactically valid entity-tag (strong
    stays strong, weak stays weak) whenever the identity one is. -/
theorem c19_etag_wellformed (e : Bytes) (c : Coding) (h : IsEntityTag e) : IsEntityTag (suffixEtag e c.label) := by
  have hlab : ∀ x ∈ dash :: c.label, etagc x = true := by cases c <;> decide
  have key : ∀ m, (∀ x ∈ m, etagc x = true) → IsOpaqueTag (dquote :: (m ++ dash :: c.label) ++ [dquote]) :=
    fun m hm => ⟨_, rfl, fun x hx => (List.mem_append.mp hx).elim (hm x) (hlab x)⟩
  rcases h with ⟨m, rfl, hm⟩ | ⟨_, rfl, m, rfl, hm⟩
  · exact Or.inl (suffixEtag_quoted [] m _ ▸ key m hm)
  · exact Or.inr ⟨_, suffixEtag_quoted [87, 47] m _, key m hm⟩

example : IsEntityTag (ofString "\"1802567732\"") := Or.inl ⟨ofString "1802567732", by decide +kernel, by decide +kernel⟩

/-- Whenever the body is coded: Vary names Accept-Encoding, Content-Encoding is the negotiated
    coding (`selectCoding`, hence listed by the client with non-zero weight and allowed:
    c19_negotiation_rfc / c19_encoding_listed_allowed), the identity Content-Length is gone, the
    status is unchanged, and an ETag (if any) is rewritten to a tag distinct from the identity one.
    (Only the Vary and the ETag conjuncts say more than the model's record; the others are read
    off it and are worth what the `rs` correspondence is worth.) -/
theorem c19_headers (cfg : Cfg) (rq : Rq) (rs : Rs) (c : Coding) (k : Bool)
    (h : (respStart cfg rq rs).verdict = .encode c k) :
    (∃ v, (respStart cfg rq rs).vary = some v ∧ containsToken v aeName = true) ∧
    (respStart cfg rq rs).contentEncoding = some c.label ∧
    (respStart cfg rq rs).hasCL = false ∧
    (respStart cfg rq rs).status = rs.status ∧
    (∀ e, rs.etag = some e → e ≠ [] →
      (respStart cfg rq rs).etag = some (suffixEtag e c.label) ∧ suffixEtag e c.label ≠ e) ∧
    selectCoding cfg rq rs = some c := by
  obtain ⟨hs, hi, _⟩ := respStart_verdict_encode h
  rw [respStart_encode_eq hs hi]
  refine ⟨⟨_, rfl, varyAdjust_hasToken _⟩, rfl, rfl, rfl, fun e he hne => ⟨by simp [encodeOut, he, hne], fun heq => ?_⟩, hs⟩
  have := suffixEtag_length e c.label hne
  rw [heq] at this
  omega

example : (respStart { mimetypes := [ofString "text/"], minSize := 0 }
    { acceptEncoding := some (ofString "deflate, gzip") }
    { contentType := some (ofString "text/css"), etag := some (ofString "\"77\""), len := 5 }) =
    ⟨.encode .gzip false, 200, some (ofString "\"77-gzip\""), some aeName, some (ofString "gzip"), false⟩ := by
  repeat rw [B.ofString_ofList]
  decide +kernel

/-- The coded tags of one identity tag are pairwise distinct (and distinct from it). -/
theorem c19_etag_distinct (e : Bytes) (c d : Coding) (he : e ≠ [])
    (h : suffixEtag e c.label = suffixEtag e d.label) : c = d := by
  have h1 := suffixEtag_length e c.label he
  have h2 := suffixEtag_length e d.label he
  rw [h] at h1
  exact label_length_inj (by omega)

/-- Revalidation: repeating the request with If-None-Match set to the entity tag the coded
    response carried yields 304 with that same tag and Vary: Accept-Encoding, no body coding
    (2xx responses, GET / QUERY); for other methods 412. -/
theorem c19_revalidation_304 (cfg : Cfg) (rq : Rq) (rs : Rs) (c : Coding) (k : Bool) (e : Bytes)
    (h : (respStart cfg rq rs).verdict = .encode c k)
    (he : rs.etag = some e) (hne : e ≠ []) (hst : rs.status < 300)
    (inm : Option Bytes) (hinm : inm = (respStart cfg rq rs).etag) :
    (rq.method ≠ .other →
      respStart cfg { rq with ifNoneMatch := inm } rs =
        ⟨.notModified, 304, inm, some (varyAdjust rs.vary), none, false⟩) ∧
    (rq.method = .other →
      respStart cfg { rq with ifNoneMatch := inm } rs =
        ⟨.precondFailed, 412, rs.etag, some (varyAdjust rs.vary), none, false⟩) ∧
    containsToken (varyAdjust rs.vary) aeName = true := by
  obtain ⟨_, _, _, _, hetag, hsel⟩ := c19_headers cfg rq rs c k h
  obtain ⟨hetag, _⟩ := hetag e he hne
  rw [hetag] at hinm
  subst hinm
  have hsel' : selectCoding cfg { rq with ifNoneMatch := some (suffixEtag e c.label) } rs = some c := hsel
  have hhit : inmHit { rq with ifNoneMatch := some (suffixEtag e c.label) } rs c = true := by
    unfold inmHit
    simp [he, hne, hst, inmMatches_suffix e c hne]
  rw [respStart_inm_eq hsel' hhit]
  exact ⟨fun hm => by simp [hm, he], fun hm => by simp [hm], varyAdjust_hasToken _⟩

example : (respStart { mimetypes := [ofString "text/"], minSize := 0 }
    { acceptEncoding := some (ofString "gzip"), ifNoneMatch := some (ofString "\"77-gzip\"") }
    { contentType := some (ofString "text/css"), etag := some (ofString "\"77\""), len := 5 }) =
    ⟨.notModified, 304, some (ofString "\"77-gzip\""), some aeName, none, false⟩ := by
  repeat rw [B.ofString_ofList]
  decide +kernel

open LtVerif.DeflateStream in
/-- For EVERY body queue (memory and file chunks at any offsets, files longer than their chunk),
    output buffer capacity, read block size, schedule of short reads and schedule of codec answers
    (how much zlib consumes and writes per call, when it reports Z_STREAM_END): whenever
    deflate_compress_response() succeeds, the codec has been handed exactly the identity body
    (each byte once, in order), and what has been appended to the write queue / cache file is
    exactly what the codec wrote (each byte once, in order), with nothing left in the buffer if the body is not empty. -/
theorem c19_stream_assembly (cap blk : Nat) (cq : List Chunk) (rsz : List Nat) (zs zs' : List ZR) (s : DeflateStream.St)
    (h : compressResponse cap blk cq rsz zs = .ok (s, zs')) :
    s.fed = body cq ∧ s.sink ++ s.obuf = s.outs.reverse.flatten ∧ (body cq ≠ [] → s.obuf = []) :=
  compressResponse_spec cap blk cq rsz zs zs' s h

open LtVerif.DeflateStream in
/-- a 12-byte body in a memory chunk and a file chunk at offset 3 of a longer file, 5-byte output
    buffer, short reads, a codec that dribbles -/
example : (match compressResponse 5 4 [.mem [1, 2, 3, 4], .file [9, 9, 9, 5, 6, 7, 8, 10, 11, 12, 13, 99] 3 8] [1, 0]
    [⟨4, [0xa], .ok⟩, ⟨1, [0xb, 0xc, 0xd, 0xe], .ok⟩, ⟨1, [], .ok⟩, ⟨1, [0xf], .ok⟩, ⟨4, [], .ok⟩, ⟨1, [], .ok⟩,
     ⟨0, [1, 2, 3, 4], .ok⟩, ⟨0, [5], .streamEnd⟩] with
    | .ok (s, _) => some (s.fed, s.sink)
    | .error _ => none) =
    some ([1, 2, 3, 4, 5, 6, 7, 8, 10, 11, 12, 13], [0xa, 0xb, 0xc, 0xd, 0xe, 0xf, 1, 2, 3, 4, 5]) := by decide +kernel

open LtVerif.DeflateStream in
/-- RFC 1950 / RFC 1952 containers: the strict decoder inverts the encoder, given only that raw
    DEFLATE is self-delimiting and round-trips. -/
theorem c19_framing_roundtrip (k : RawCodec) (sm : Sums) (f : Framing) (x : Bytes)
    (hk : ∀ x t, k.inflateRaw (k.deflateRaw x ++ t) = some (x, t)) :
    unframe k sm f (frame k sm f x) = some x := by
  cases f <;> simp [unframe, frame, gzipHeader, zlibHeader, hk]

/-- the container mod_deflate asks zlib for: gzip for "gzip" / "x-gzip", zlib for "deflate" -/
def framingOf : Coding → LtVerif.DeflateStream.Framing
  | .gzip => .gzip
  | .xgzip => .gzip
  | .deflate => .zlib

open LtVerif.DeflateStream in
/-- HEADLINE clause, PARTIAL: the body the client receives (or the cache file) decodes, with the
    declared coding, to exactly the identity body — for every chunk layout, buffer size, read
    split and codec schedule.  Missing from a full proof (= the assumptions on zlib): `hz` the
    bytes zlib wrote during the session are the container around a raw DEFLATE stream of the
    bytes it consumed; `hk` raw DEFLATE is self-delimiting and round-trips. -/
theorem c19_body_decodes_partial (k : RawCodec) (sm : Sums) (c : Coding)
    (hk : ∀ x t, k.inflateRaw (k.deflateRaw x ++ t) = some (x, t))
    (cap blk : Nat) (cq : List Chunk) (rsz : List Nat) (zs zs' : List ZR) (s : DeflateStream.St)
    (h : compressResponse cap blk cq rsz zs = .ok (s, zs')) (hne : body cq ≠ [])
    (hz : s.outs.reverse.flatten = frame k sm (framingOf c) s.fed) :
    unframe k sm (framingOf c) s.sink = some (body cq) := by
  obtain ⟨hfed, hsink, hobuf⟩ := c19_stream_assembly cap blk cq rsz zs zs' s h
  rw [hobuf hne, List.append_nil] at hsink
  rw [hsink, hz, hfed]
  exact c19_framing_roundtrip k sm _ _ hk

/-- explicit assumption of the cache theorems: the validator distinguishes the versions of a
    source file — every version of `p` that ever carries validator `v` has content `contentOf p v` -/
def ValidatorDistinguishes (contentOf : Nat → Nat → Bytes) (ops : List Op) : Prop :=
  ∀ p v c, Op.modify p v c ∈ ops → c = contentOf p v

/-- For ALL histories of source modifications, requests (any coding, any process id incl.
    reuse), cache evictions and ALL fault schedules of the cache writer (open failure, short
    writes, EINTR, write failure, rename failure, process death before / after any system call):
    every body that is served — from the cache or freshly coded — is the complete coded form
    of the CURRENT content of the requested file. -/
theorem c19_cache_never_stale (compress : Coding → Bytes → Bytes) (contentOf : Nat → Nat → Bytes)
    (ops : List Op) (hv : ValidatorDistinguishes contentOf ops)
    (st : St) (p : Nat) (c : Coding) (pid : Pid) (plan : Plan) (body : Bytes) (hit : Bool)
    (h : (st, Op.request p c pid plan, Obs.served body hit) ∈ run compress {} ops) :
    ∃ v content, st.src p = some (v, content) ∧ body = compress c content :=
  ((run_exec_ok ops {} ok_init hv).1 _ h).2

open LtVerif.DeflateStream in
/-- The same, reading "decodes to the identity body" — PARTIAL.  Assumptions on zlib made
    explicit by instantiating the coded form: (1) it is a FUNCTION of (coding, content) — same
    zlib, same deflate.compression-level / deflate.params for as long as the cache directory is in
    use, across processes and restarts (needed because a leftover temporary file is opened
    without O_TRUNC); (2) it is the RFC container around a raw DEFLATE stream; (3) `hk`. -/
theorem c19_served_decodes_partial (k : RawCodec) (sm : Sums)
    (hk : ∀ x t, k.inflateRaw (k.deflateRaw x ++ t) = some (x, t))
    (contentOf : Nat → Nat → Bytes) (ops : List Op) (hv : ValidatorDistinguishes contentOf ops)
    (st : Deflate.St) (p : Nat) (c : Coding) (pid : Pid) (plan : Plan) (body : Bytes) (hit : Bool)
    (h : (st, Op.request p c pid plan, Obs.served body hit) ∈
      run (fun c x => frame k sm (framingOf c) x) {} ops) :
    ∃ v content, st.src p = some (v, content) ∧ unframe k sm (framingOf c) body = some content := by
  obtain ⟨v, content, hs, rfl⟩ :=
    c19_cache_never_stale (fun c x => frame k sm (framingOf c) x) contentOf ops hv st p c pid plan body hit h
  exact ⟨v, content, hs, c19_framing_roundtrip k sm _ _ hk⟩

/-- At every point of every such history, every published cache file is the complete coded
    form of the version named by its validator, and every temporary file (whatever a dead or
    failed writer left behind) is a prefix of the form it was meant to become. -/
theorem c19_cache_files_complete (compress : Coding → Bytes → Bytes) (contentOf : Nat → Nat → Bytes)
    (ops : List Op) (hv : ValidatorDistinguishes contentOf ops) :
    (∀ t ∈ run compress {} ops, CacheOk compress contentOf t.1.fs) ∧
    CacheOk compress contentOf (exec compress {} ops).fs :=
  ⟨fun t ht => cacheOk_iff.mpr ((run_exec_ok ops {} ok_init hv).1 t ht).1.fs,
   cacheOk_iff.mpr (run_exec_ok ops {} ok_init hv).2.fs⟩

/-- non-vacuity of the cache theorems: a history with a writer killed mid-write, a reused
    process id, a source modification and a cache hit, under a toy codec -/
def demoCompress (c : Coding) (x : Bytes) : Bytes := c.label ++ x
def demoOps : List Op :=
  [ .modify 0 1 (ofString "version one"),
    .request 0 .gzip 7 { writes := [.wr 2, .crash] },
    .request 0 .gzip 7 { writes := [.wr 0, .eintr, .wr 3] },
    .request 0 .gzip 9 {},
    .modify 0 2 (ofString "version two"),
    .request 0 .gzip 9 { rename := .crashBefore },
    .request 0 .gzip 7 { rename := .fail },
    .request 0 .gzip 7 {} ]
example : (run demoCompress {} demoOps).map (·.2.2) =
    [.quiet, .crashed, .served (ofString "gzipversion one") false, .served (ofString "gzipversion one") true,
     .quiet, .crashed, .error, .served (ofString "gzipversion two") false] := by
  unfold demoOps
  repeat rw [B.ofString_ofList]
  decide +kernel
example : ValidatorDistinguishes (fun _ v => if v = 1 then ofString "version one" else ofString "version two")
    demoOps := by
  intro p v c h
  simp [demoOps] at h
  rcases h with ⟨_, rfl, rfl⟩ | ⟨_, rfl, rfl⟩ <;> simp

/-- The validator assumption is necessary (and the model is faithful about it): two versions
    sharing a validator make a cache hit serve the older one. -/
example : (run demoCompress {} [ .modify 0 1 (ofString "old"), .request 0 .gzip 7 {},
      .modify 0 1 (ofString "new"), .request 0 .gzip 7 {} ]).map (·.2.2) =
    [.quiet, .served (ofString "gzipold") false, .quiet, .served (ofString "gzipold") true] := by decide +kernel

/-- The name of a temporary cache file (published name "." pid) can never be the published
    name of any coded response: published names end in the last letter of a coding label,
    temporary names in a decimal digit. -/
theorem c19_tmp_name_not_final (fn : Bytes) (pid : Nat) (dir path e : Bytes) (c : Coding) :
    tmpFileName fn pid ≠ cacheFileName dir path (suffixEtag e c.label) :=
  tmpFileName_ne_cacheFileName fn pid dir path e c

/-- The abstract cache directory of the cache theorems (objects `final (path, validator, coding)`
    / `tmp … pid`) is faithful to the real one: with the validator read as the number in the
    entity tag of a static file ('"' decimal '"'), a cache directory without trailing slash
    (set_defaults strips one) and distinct absolute physical paths, distinct abstract objects have
    distinct file names — published or temporary. -/
theorem c19_cache_names_faithful (dir : Bytes) (pathOf : Nat → Bytes) (hd : dir.getLast? ≠ some slash)
    (habs : ∀ p, (pathOf p).head? = some slash) (hinj : ∀ p q, pathOf p = pathOf q → p = q)
    (n1 n2 : Name) (h : nameBytes dir pathOf n1 = nameBytes dir pathOf n2) : n1 = n2 :=
  nameBytes_inj dir pathOf hd habs hinj n1 n2 h

example : nameBytes (ofString "/c") (fun _ => ofString "/srv/a.txt") (.tmp ⟨0, 12, .gzip⟩ 4711)
    = ofString "/c/srv/a.txt-12-gzip.4711" := by
  repeat rw [B.ofString_ofList]
  decide +kernel
example : suffixEtag (ofString "\"22\"") Coding.gzip.label = staticEtag (ofString "22") .gzip := by decide +kernel

end LtVerif.C19
