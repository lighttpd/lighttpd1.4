/-
  C16 — only valid credentials of an authorized user open a protected URL.
  Property theorems; helper lemmas in LtVerif/Proofs/Auth.lean (AuthNonce.lean for the nonce), AuthH2.lean,
  AuthSplay.lean, AuthSplayCleanup.lean.  Vocabulary: `BasicValid`, `DigestValid`, `NonceFresh`,
  `DigestWellFormed` at the end of Model/Auth.lean; `init`, `EntryOk`, `SameBackend`, `usedScopes`, `Steady` at the
  head of Proofs/Auth.lean; `Sorted` in Model/AuthSplay.lean, `Near` in Proofs/AuthSplay.lean; `TreeRep` below.

  All theorems hold for every digest function `P.H`, every cache-key hash `P.hash` (hence for
  every pattern of key collisions), every configuration (rules, backend scopes, user files) and
  every history `ops` since server start (`init`: empty cache) of requests by any users against
  any rules under any backend scope, server-loop iterations and wall-clock steps.

  "Valid credentials" are read with lighttpd's own parsers (`basicCreds`, `parseAuthorization`):
  what a header MEANS is the model's transcription of the C parser, validated against the C by
  the correspondence run and against an independent RFC 7616/7617 reading only by the Python oracle.
-/
import LtVerif.Proofs.Auth
import LtVerif.Proofs.AuthH2
import LtVerif.Proofs.AuthSplayCleanup
namespace LtVerif.C16
open LtVerif B LtVerif.Auth

/-- Basic, soundness: whatever happened before, a request under a Basic rule is served only with
    `BasicValid` credentials at a backend scope `s'`: the one the request's own conditions select, or one
    under which an earlier request filled the shared cache.  (One backend behind all scopes:
    c16_basic_sound_one_backend.) -/
theorem c16_basic_sound (P : Prims) (cfg : Cfg) (m e : Int) (ops : List Op) (req : Req)
    (ridx : Nat) (rule : Rule) (u : Bytes) (d n : Bool)
    (hf : findRule cfg.rules req.path 0 = some (ridx, rule)) (hs : rule.scheme = .basic)
    (h : (serve P cfg (run P cfg (init m e) ops) req).2 = .go u d n) :
    ∃ hdr s', req.auth = some hdr ∧ (s' = req.scope ∨ s' ∈ usedScopes ops) ∧
      BasicValid P (cfg.at s') rule hdr u := by
  obtain ⟨hdr, s', hh, hs', hv⟩ := run_serve_go hf h
  refine ⟨hdr, s', hh, hs', ?_⟩
  rcases hv with ⟨_, hv⟩ | ⟨hd, _⟩
  · exact hv
  · rw [hs] at hd; cases hd

/-- Digest, soundness: a request under a Digest rule is served only with `DigestValid` credentials
    (Model/Auth.lean: realm, request-target, fresh nonce, allowed algorithm, KD over the request's own
    method, authorized user) for the H(A1) a backend scope `s'` as in c16_basic_sound holds, evaluated
    at the wall clock of the request. -/
theorem c16_digest_sound (P : Prims) (cfg : Cfg) (m e : Int) (ops : List Op) (req : Req)
    (ridx : Nat) (rule : Rule) (u : Bytes) (d n : Bool)
    (hf : findRule cfg.rules req.path 0 = some (ridx, rule)) (hs : rule.scheme = .digest)
    (h : (serve P cfg (run P cfg (init m e) ops) req).2 = .go u d n) :
    ∃ hdr s', req.auth = some hdr ∧ (s' = req.scope ∨ s' ∈ usedScopes ops) ∧
      DigestValid P (cfg.at s') rule (run P cfg (init m e) ops).epoch req hdr u := by
  obtain ⟨hdr, s', hh, hs', hv⟩ := run_serve_go hf h
  refine ⟨hdr, s', hh, hs', ?_⟩
  rcases hv with ⟨hd, _⟩ | ⟨_, hv⟩
  · rw [hs] at hd; cases hd
  · exact hv

/-- … and when every request of the history ran under a scope with the same backend and user
    file as this request's (in particular: no auth.backend / userfile inside conditions), the
    credentials are valid for the request's own backend. -/
theorem c16_basic_sound_one_backend (P : Prims) (cfg : Cfg) (m e : Int) (ops : List Op) (req : Req)
    (ridx : Nat) (rule : Rule) (u : Bytes) (d n : Bool)
    (hf : findRule cfg.rules req.path 0 = some (ridx, rule)) (hs : rule.scheme = .basic)
    (hone : ∀ s' ∈ usedScopes ops, SameBackend cfg s' req.scope)
    (h : (serve P cfg (run P cfg (init m e) ops) req).2 = .go u d n) :
    ∃ hdr, req.auth = some hdr ∧ BasicValid P (cfg.at req.scope) rule hdr u := by
  obtain ⟨hdr, s', hh, hs', hv⟩ := c16_basic_sound P cfg m e ops req ridx rule u d n hf hs h
  refine ⟨hdr, hh, ?_⟩
  rcases hs' with rfl | hs'
  · exact hv
  · exact basicValid_congr (hone s' hs').1 (hone s' hs').2 hv

/-- the same for Digest -/
theorem c16_digest_sound_one_backend (P : Prims) (cfg : Cfg) (m e : Int) (ops : List Op) (req : Req)
    (ridx : Nat) (rule : Rule) (u : Bytes) (d n : Bool)
    (hf : findRule cfg.rules req.path 0 = some (ridx, rule)) (hs : rule.scheme = .digest)
    (hone : ∀ s' ∈ usedScopes ops, SameBackend cfg s' req.scope)
    (h : (serve P cfg (run P cfg (init m e) ops) req).2 = .go u d n) :
    ∃ hdr, req.auth = some hdr ∧
      DigestValid P (cfg.at req.scope) rule (run P cfg (init m e) ops).epoch req hdr u := by
  obtain ⟨hdr, s', hh, hs', hv⟩ := c16_digest_sound P cfg m e ops req ridx rule u d n hf hs h
  refine ⟨hdr, hh, ?_⟩
  rcases hs' with rfl | hs'
  · exact hv
  · exact digestValid_congr (hone s' hs').1 (hone s' hs').2 hv

/-- Completeness, Basic: valid credentials of an authorized user ARE served — from an empty
    cache (server start, or after c16_cache_forgets) a request under a Basic rule whose header
    is `BasicValid` for the backend its conditions select is served as that user.  (With a
    non-empty cache the statement is false in one corner the code has: a cached password is
    compared byte for byte, the backend compares C strings, so `pw\0x` after `pw` gets 401.) -/
theorem c16_basic_valid_served (P : Prims) (cfg : Cfg) (st : St) (req : Req)
    (ridx : Nat) (rule : Rule) (hdr u : Bytes)
    (hf : findRule cfg.rules req.path 0 = some (ridx, rule)) (hs : rule.scheme = .basic)
    (hh : req.auth = some hdr) (hv : BasicValid P (cfg.at req.scope) rule hdr u) :
    (serve P cfg { st with cache := [] } req).2 = .go u false false :=
  basic_valid_served (cfg := cfg.at req.scope) (by rw [at_rules]; exact hf) hs hh hv

/-- Completeness, Digest: a header that is `DigestValid` at the current wall clock for the
    backend the request's conditions select and `DigestWellFormed` (required parameters present,
    qop ≠ auth-int, -sess with cnonce, response of the digest's length) is served as that user. -/
theorem c16_digest_valid_served (P : Prims) (cfg : Cfg) (st : St) (req : Req)
    (ridx : Nat) (rule : Rule) (hdr u : Bytes)
    (hf : findRule cfg.rules req.path 0 = some (ridx, rule)) (hs : rule.scheme = .digest)
    (hh : req.auth = some hdr) (hv : DigestValid P (cfg.at req.scope) rule st.epoch req hdr u)
    (hw : DigestWellFormed (parseAuthorization (hdr.drop 7))) :
    ∃ nn, (serve P cfg { st with cache := [] } req).2 = .go u true nn :=
  digest_valid_served (cfg := cfg.at req.scope) (by rw [at_rules]; exact hf) hs hh hv hw

/-- PARTIAL.  Full statement: "the credential cache never converts a refused credential into
    an accepted one": served from the cache reached by ANY history ⇒ served from an empty cache.
    Proved: under the hypothesis that all requests of the history ran under scopes with this
    request's backend and user file — then it holds across users, realms, rules and arbitrary
    key collisions.  Missing: the case of auth.backend / auth.backend.*.userfile set inside
    conditions while auth.require and auth.cache are global; there the statement is FALSE of the
    code (c16_cache_upgrades_across_backend_scopes; open finding, see known_findings.json). -/
theorem c16_cache_never_upgrades_partial (P : Prims) (cfg : Cfg) (m e : Int) (ops : List Op) (req : Req)
    (u : Bytes) (d n : Bool)
    (hone : ∀ s' ∈ usedScopes ops, SameBackend cfg s' req.scope)
    (h : (serve P cfg (run P cfg (init m e) ops) req).2 = .go u d n) :
    (serve P cfg { run P cfg (init m e) ops with cache := [] } req).2 = .go u d n :=
  run_serve_go_nocache hone h

/-- Witness of the negation of the full statement: two backend scopes with different user
    files behind one rule and one cache.  alice's scope-0 password is refused under scope 1 by
    a server with an empty cache, and served under scope 1 once scope 0 has verified it. -/
theorem c16_cache_upgrades_across_backend_scopes :
    ∃ (P : Prims) (cfg : Cfg) (ops : List Op) (req : Req),
      (serve P cfg (run P cfg (init 1000 1700000000) ops) req).2.served = true ∧
      (serve P cfg { run P cfg (init 1000 1700000000) ops with cache := [] } req).2.served = false :=
  ⟨Ex.P, Ex.cfg2, [.request (Ex.basicReqAt 0 "YWxpY2U6d29uZGVy")], Ex.basicReqAt 1 "YWxpY2U6d29uZGVy",
   by decide +kernel, by decide +kernel⟩

/-- What the cache holds, in every reachable state: only restatements of backend records — a
    Basic entry is a (user, password) pair, a Digest entry the (user name, H(A1)), that the
    backend scope which vouched for the entry holds under the entry's rule (`EntryOk` at
    `cfg.at e.scope`).  Nothing a failed attempt supplied is ever stored. -/
theorem c16_cache_holds_only_backend_records (P : Prims) (cfg : Cfg) (m e : Int) (ops : List Op)
    (p : Int × Entry) (hp : p ∈ (run P cfg (init m e) ops).cache) :
    EntryOk P (cfg.at p.2.scope) p.2 ∧ p.2.scope ∈ usedScopes ops :=
  run_init_cache ops p hp

/-- Entries are forgotten after max-age, with the bound the code has and under the assumption it
    needs: there is no age test on a cache hit; entries go only when mod_auth_periodic() runs, which the
    server loop calls once per iteration BEFORE updating the clock.  While the loop wakes up at least
    once per second (`Steady`), every entry of every reachable state is at most max-age + 8 s old. -/
theorem c16_cache_expires (P : Prims) (cfg : Cfg) (ma m e : Int) (ops : List Op)
    (hma : cfg.cacheMaxAge = some ma) (hst : Steady ops) (p : Int × Entry)
    (hp : p ∈ (run P cfg (init m e) ops).cache) :
    p.2.ctime ≤ (run P cfg (init m e) ops).mono ∧
    (run P cfg (init m e) ops).mono - p.2.ctime ≤ max ma 0 + 8 := by
  obtain ⟨h1, h2⟩ := run_ageOk hma ops hst init_ageOk p hp
  constructor <;> omega

/-- … and max-age + 9 seconds of a steadily running loop without a request empty the cache. -/
theorem c16_cache_forgets (P : Prims) (cfg : Cfg) (ma m e : Int) (ops : List Op) (n : Nat)
    (hma : cfg.cacheMaxAge = some ma) (hst : Steady ops) (hn : max ma 0 + 9 ≤ n) :
    (secs cfg n (run P cfg (init m e) ops)).cache = [] := by
  refine List.eq_nil_iff_forall_not_mem.mpr fun p hp => ?_
  have hold := run_ageOk hma ops hst init_ageOk p (secs_mem n hp)
  have hnew := secs_ageOk hma n (run_ageOk hma ops hst init_ageOk) p hp
  rw [secs_mono] at hnew
  omega

/-- Witness that the assumption is needed: when one loop iteration finds the clock far ahead
    (the loop stalled: e.g. a long blocking operation) the cleanup is skipped, and an entry
    older than max-age + 8 s is still in the cache — and would still answer a request. -/
theorem c16_cache_outlives_max_age_when_loop_stalls :
    ∃ (P : Prims) (cfg : Cfg) (ma : Int) (ops : List Op), cfg.cacheMaxAge = some ma ∧
      ∃ p ∈ (run P cfg (init 1000 1700000000) ops).cache,
        (run P cfg (init 1000 1700000000) ops).mono - p.2.ctime > max ma 0 + 8 :=
  ⟨Ex.P, Ex.cfg, 600, [.request (Ex.basicReq "YWxpY2U6d29uZGVy"), .adv 1, .adv 700], rfl, by decide +kernel⟩

/-- A nonce lighttpd issues (mod_auth_append_nonce() at time `ts`, any random number, with or
    without nonce-secret) passes the nonce validation for the following 600 seconds — so
    `NonceFresh` describes exactly the issued nonces' shape, not an unsatisfiable condition —
    and asks the client to move to a new nonce after 540 seconds. -/
theorem c16_issued_nonce_accepted (P : Prims) (rule : Rule) (epoch ts : Int) (rnd dalgo : Nat)
    (h0 : 0 ≤ ts) (h63 : ts < 2 ^ 63) (hle : ts ≤ epoch) (hage : epoch - ts ≤ 600) (hrnd : rnd < 2 ^ 32) :
    validateNonce P rule epoch (appendNonce P ts rule.secret rnd) dalgo = .ok (decide (epoch - ts > 540)) :=
  validateNonce_appendNonce P rule epoch ts rnd dalgo h0 h63 hle hage hrnd

/-- Everything else is refused: the answer to a request for a path under a rule is never
    "pass through"; it is either served — and then carries valid credentials of an authorized
    user for the rule's scheme (at a backend scope as in c16_basic_sound) — or one of the
    refusals 401 (with challenge) / 400, or 500 only when the backend in effect cannot do the
    rule's scheme. -/
theorem c16_reject_status (P : Prims) (cfg : Cfg) (m e : Int) (ops : List Op) (req : Req)
    (ridx : Nat) (rule : Rule)
    (hf : findRule cfg.rules req.path 0 = some (ridx, rule)) :
    match (serve P cfg (run P cfg (init m e) ops) req).2 with
    | .pass => False
    | .go u _ _ => ∃ hdr s', req.auth = some hdr ∧ (s' = req.scope ∨ s' ∈ usedScopes ops) ∧
        ((rule.scheme = .basic ∧ BasicValid P (cfg.at s') rule hdr u) ∨
         (rule.scheme = .digest ∧ DigestValid P (cfg.at s') rule (run P cfg (init m e) ops).epoch req hdr u))
    | .refuse r => r = .s400 ∨ (∃ ka, r = .s401b ka) ∨ (∃ s ka, r = .s401d s ka) ∨
        (r = .s500 ∧ ((cfg.at req.scope).backend = .none ∨
                      (rule.scheme = .digest ∧ (cfg.at req.scope).backend = .htpasswd))) := by
  have hf' : findRule (cfg.at req.scope).rules req.path 0 = some (ridx, rule) := by rw [at_rules]; exact hf
  cases ho : (serve P cfg (run P cfg (init m e) ops) req).2 with
  | pass => exact absurd ho (handle_ne_pass hf')
  | go u d n => exact run_serve_go hf ho
  | refuse r =>
    cases r with
    | s400 => exact Or.inl rfl
    | s401b ka => exact Or.inr (Or.inl ⟨ka, rfl⟩)
    | s401d s ka => exact Or.inr (Or.inr (Or.inl ⟨s, ka, rfl⟩))
    | s500 => exact Or.inr (Or.inr (Or.inr ⟨rfl, handle_500 hf' ho⟩))

/-- The refusal classes the property names, for a Digest rule: a digest computed for another
    URI (uri ≠ request-target), for another realm, with a stale, future-dated or malformed
    nonce, or — under nonce-secret — with a nonce the server did not issue, is never served,
    whatever the cache holds. -/
theorem c16_digest_replay_refused (P : Prims) (cfg : Cfg) (m e : Int) (ops : List Op) (req : Req)
    (ridx : Nat) (rule : Rule) (hdr : Bytes)
    (hf : findRule cfg.rules req.path 0 = some (ridx, rule)) (hs : rule.scheme = .digest)
    (hh : req.auth = some hdr)
    (hbad : (parseAuthorization (hdr.drop 7)).uri ≠ some req.target
          ∨ (parseAuthorization (hdr.drop 7)).realm ≠ some rule.realm
          ∨ ¬ NonceFresh P rule (run P cfg (init m e) ops).epoch ((parseAuthorization (hdr.drop 7)).nonce.getD [])) :
    (serve P cfg (run P cfg (init m e) ops) req).2.served = false := by
  cases ho : (serve P cfg (run P cfg (init m e) ops) req).2 with
  | pass => exact absurd ho (handle_ne_pass (cfg := cfg.at req.scope) (by rw [at_rules]; exact hf))
  | refuse r => rfl
  | go u d n =>
    exfalso
    obtain ⟨hdr', s', hh', _, hv⟩ := c16_digest_sound P cfg m e ops req ridx rule u d n hf hs ho
    cases hh.symm.trans hh'
    obtain ⟨_, _, _, _, _, hv⟩ := digestValid_iff.1 hv
    rcases hbad with hb | hb | hb
    · exact hb hv.uri
    · exact hb hv.realm
    · exact hb (by rw [hv.hasNonce]; exact hv.fresh)

/-- Digest responses are bound to the method the client sent: for an HTTP/2 request built by the real
    header path (`h2Request`, any parse options), a served request's response is KD over the ":method" of
    its header list.  The one exception is the RFC 8441 extended CONNECT (":method: CONNECT" AND
    ":protocol: websocket" in the list), whose response may be bound to "GET".  A ":protocol" next to any
    other method, before or after ":method", opens nothing.  (HTTP/1.x: the request line's method, C01.) -/
theorem c16_digest_method_bound (P : Prims) (cfg : Cfg) (m e : Int) (ops : List Op) (o : Opts)
    (fields : List (Bytes × Bytes)) (req : Req) (ridx : Nat) (rule : Rule) (u : Bytes) (d n : Bool)
    (hreq : h2Request o fields = .ok req)
    (hf : findRule cfg.rules req.path 0 = some (ridx, rule)) (hs : rule.scheme = .digest)
    (h : (serve P cfg (run P cfg (init m e) ops) req).2 = .go u d n) :
    (ofString ":method", req.method) ∈ fields ∧
    ∃ hdr dalgo hA1, req.auth = some hdr ∧
      (hex2bin ((parseAuthorization (hdr.drop 7)).response.getD [])
          = some (kd P dalgo hA1 (parseAuthorization (hdr.drop 7)) req.method)
       ∨ (req.method = ofString "CONNECT" ∧ (ofString ":protocol", ofString "websocket") ∈ fields ∧
          hex2bin ((parseAuthorization (hdr.drop 7)).response.getD [])
            = some (kd P dalgo hA1 (parseAuthorization (hdr.drop 7)) (ofString "GET")))) := by
  obtain ⟨hmeth, hproto⟩ := h2Request_from hreq
  obtain ⟨hdr, s', hh, _, hv⟩ := c16_digest_sound P cfg m e ops req ridx rule u d n hf hs h
  obtain ⟨_, dalgo, _, _, hA1, hv⟩ := digestValid_iff.1 hv
  refine ⟨hmeth, hdr, dalgo, hA1, hh, ?_⟩
  rcases responseMatches_bound hv.resp with h1 | ⟨h1, h2, h3⟩
  · exact Or.inl h1
  · exact Or.inr ⟨h1, hproto h2, h3⟩

/-- The extracted base64 table (base64.c, regenerated on every run) inverts the standard
    alphabet and marks '=' as padding: the decoder reads credentials the way RFC 4648 writes them. -/
theorem c16_base64_table_inverse :
    (∀ i : Fin 64, b64Class (Extracted.b64StdAlphabet.getD i.val 0).toUInt8 = (i.val : Int)) ∧
    b64Class 61 = -3 ∧ Extracted.b64StdAlphabet.length = 65 := by
  refine ⟨by decide +kernel, by decide +kernel, by decide +kernel⟩

/-! ### non-vacuity: concrete instances (toy digest `Ex.H`, all cache keys colliding) -/

-- valid Basic credentials are served, as that user (c16_basic_sound, c16_basic_valid_served, c16_reject_status)
example : (serve Ex.P Ex.cfg Ex.st0 (Ex.basicReq "YWxpY2U6d29uZGVy")).2 = .go (ofString "alice") false false := by
  decide +kernel
example : (findRule Ex.cfg.rules (Ex.basicReq "YWxpY2U6d29uZGVy").path 0).map (·.1) = some 0 := by decide +kernel
-- wrong password, unknown user, malformed base64: refused
example : (serve Ex.P Ex.cfg Ex.st0 (Ex.basicReq "YWxpY2U6d29uZGU=")).2 = .refuse (.s401b false) := by decide +kernel
example : (serve Ex.P Ex.cfg Ex.st0 (Ex.basicReq "bWFsbG9yeTp3b25kZXI=")).2 = .refuse (.s401b false) := by decide +kernel
example : (serve Ex.P Ex.cfg Ex.st0 (Ex.basicReq "YWxpY2U6d29uZGVy!!junk")).2 = .refuse .s400 := by decide +kernel
-- valid Digest credentials are served (c16_digest_sound, c16_digest_valid_served)
example : (serve Ex.P Ex.cfg Ex.st0 (Ex.digestReq "GET" "alice" "/dig/x" "f74d7460a65e2bc2f0d9787b75f3d477")).2
    = .go (ofString "alice") true false := by
  simp only [Ex.digestReq, Ex.digestHdr, ofString_append]
  repeat rw [ofString_ofList]
  decide +kernel
-- the same digest replayed with another method, for another URI, ten minutes later: refused
example : (serve Ex.P Ex.cfg Ex.st0 (Ex.digestReq "POST" "alice" "/dig/x" "f74d7460a65e2bc2f0d9787b75f3d477")).2
    = .refuse (.s401d 0 false) := by
  simp only [Ex.digestReq, Ex.digestHdr, ofString_append]
  repeat rw [ofString_ofList]
  decide +kernel
example : (serve Ex.P Ex.cfg Ex.st0 (Ex.digestReq "GET" "alice" "/dig/y" "f74d7460a65e2bc2f0d9787b75f3d477")).2
    = .refuse .s400 := by
  simp only [Ex.digestReq, Ex.digestHdr, ofString_append]
  repeat rw [ofString_ofList]
  decide +kernel
example : (serve Ex.P Ex.cfg (secs Ex.cfg 601 Ex.st0)
             (Ex.digestReq "GET" "alice" "/dig/x" "f74d7460a65e2bc2f0d9787b75f3d477")).2
    = .refuse (.s401d 2 true) := by
  simp only [Ex.digestReq, Ex.digestHdr, ofString_append]
  repeat rw [ofString_ofList]
  decide +kernel
-- c16_digest_method_bound: over HTTP/2, alice's GET-bound digest with ":method: POST" followed by
-- ":protocol: websocket" is refused; the same digest on a genuine extended CONNECT is served
example : ((h2Request h2Opts (Ex.h2Fields [(":method", "POST"), (":protocol", "websocket"), (":scheme", "https"),
              (":path", "/dig/x"), (":authority", "h")] "f74d7460a65e2bc2f0d9787b75f3d477")).toOption.map
            fun r => (serve Ex.P Ex.cfg Ex.st0 r).2) = some (.refuse (.s401d 0 false)) := by
  simp only [Ex.h2Fields, Ex.digestHdr, List.map_cons, List.map_nil, ofString_append]
  repeat rw [ofString_ofList]
  decide +kernel
example : ((h2Request h2Opts (Ex.h2Fields [(":protocol", "websocket"), (":method", "CONNECT"), (":scheme", "https"),
              (":path", "/dig/x"), (":authority", "h")] "f74d7460a65e2bc2f0d9787b75f3d477")).toOption.map
            fun r => (serve Ex.P Ex.cfg Ex.st0 r).2) = some (.go (ofString "alice") true false) := by
  simp only [Ex.h2Fields, Ex.digestHdr, List.map_cons, List.map_nil, ofString_append]
  repeat rw [ofString_ofList]
  decide +kernel
-- bob authenticates but the rule authorizes only alice: refused (and cached H(A1) does not help him)
example : (serve Ex.P Ex.cfg Ex.st0 (Ex.digestReq "GET" "bob" "/dig/x" "9fe9b187d0dc3112020e9162e9613e7c")).2
    = .refuse (.s401d 0 true) := by
  simp only [Ex.digestReq, Ex.digestHdr, ofString_append]
  repeat rw [ofString_ofList]
  decide +kernel
-- c16_cache_never_upgrades_partial: after alice was served (entry cached under the colliding key 0),
-- bob's wrong password is still refused; the cache holds alice's verified password only
example : (serve Ex.P Ex.cfg (run Ex.P Ex.cfg Ex.st0 [.request (Ex.basicReq "YWxpY2U6d29uZGVy")])
             (Ex.basicReq "Ym9iOndvbmRlcg==")).2 = .refuse (.s401b false) := by decide +kernel
example : (run Ex.P Ex.cfg Ex.st0 [.request (Ex.basicReq "YWxpY2U6d29uZGVy"),
             .request (Ex.basicReq "Ym9iOndvbmRlcg==")]).cache.map (fun p => (p.2.username, p.2.pw, p.2.scope))
    = [(ofString "alice", ofString "wonder", 0)] := by decide +kernel
-- the one-backend hypothesis is satisfiable with several scopes: scope 0 and an unlisted scope of Ex.cfg
example : SameBackend Ex.cfg 0 7 := ⟨rfl, rfl⟩
-- c16_issued_nonce_accepted: a nonce issued under a nonce-secret, checked 541 s later
example : (validateNonce Ex.P Ex.secretRule 1700000541
            (appendNonce Ex.P 1700000000 (some (ofString "s3cr3t")) 12345) 2).toOption = some true := by
  decide +kernel
-- c16_cache_expires / c16_cache_forgets: a steady history; the entry is gone after 609 one-second iterations
example : Steady [.request (Ex.basicReq "YWxpY2U6d29uZGVy"), .secs 609, .adv 1, .adv 0, .epochShift (-5)] := by simp [Steady]
example : (run Ex.P Ex.cfg Ex.st0 [.request (Ex.basicReq "YWxpY2U6d29uZGVy"), .secs 608]).cache.length = 1 := by
  decide +kernel
example : (run Ex.P Ex.cfg Ex.st0 [.request (Ex.basicReq "YWxpY2U6d29uZGVy"), .secs 609]).cache = [] := by
  decide +kernel

/-! ### The container behind auth.cache (`Model/AuthSplay.lean`: algo_splaytree.c, http_auth_cache_query /
    _insert, mod_auth_periodic_cleanup with its 8192-key batches) refines the finite map `Cache` the
    theorems above are stated on.  NOT covered: splaytree_insert / splaytree_delete (unused by mod_auth),
    amortised cost, memory safety of the pointer code (ASan in the correspondence run). -/

open LtVerif.AuthSplay in
/-- the tree holds exactly the entries of the abstract cache, in search-tree order -/
def TreeRep (t : Tree Entry) (c : Cache) : Prop := Sorted t ∧ ∀ p, p ∈ t.inorder ↔ p ∈ c

open LtVerif.AuthSplay in
/-- splaying (any tree — search tree or not —, any key, present or not) neither loses, duplicates,
    reorders nor changes an entry: the in-order sequence of (key, data) is unchanged -/
theorem c16_splay_keeps_entries {α : Type} (t : Tree α) (i : Int) :
    (splay t i).inorder = t.inorder ∧ (splayNonnull t i).inorder = t.inorder :=
  ⟨inorder_splay t i, inorder_splayNonnull t i⟩

open LtVerif.AuthSplay in
/-- http_auth_cache_query() on a search tree is the finite-map lookup, keeps the contents, and leaves a
    neighbour of the key at the root (what http_auth_cache_insert() relies on without splaying again) -/
theorem c16_tree_query_is_map_lookup {α : Type} (t : Tree α) (key : Int) (hs : Sorted t) :
    (cacheQuery t key).1.inorder = t.inorder ∧ Sorted (cacheQuery t key).1 ∧ Near key (cacheQuery t key).1 ∧
    ∀ v, (cacheQuery t key).2 = some v ↔ (key, v) ∈ t.inorder :=
  ⟨cacheQuery_inorder t key, sorted_of_inorder_eq (cacheQuery_inorder t key) hs, cacheQuery_near t key hs,
   fun v => cacheQuery_found t key v hs⟩

open LtVerif.AuthSplay in
/-- query-then-insert (the order mod_auth_check_basic() / mod_auth_digest_get() use) refines
    `Cache.insert`: new key → new node, equal key (hash collision or refresh) → data replaced, every
    other entry kept, search-tree order kept -/
theorem c16_tree_insert_refines_cache (t : Tree Entry) (c : Cache) (key : Int) (e : Entry)
    (h : TreeRep t c) : TreeRep (cacheInsert (cacheQuery t key).1 key e) (c.insert key e) := by
  obtain ⟨hs, hm⟩ := h
  obtain ⟨hi, hs', hn, _⟩ := c16_tree_query_is_map_lookup t key hs
  obtain ⟨h1, h2⟩ := cacheInsert_spec _ key e hs' hn
  refine ⟨h1, fun p => ?_⟩
  rw [h2 p, hi, hm p]
  simp [Cache.insert, List.mem_filter]

open LtVerif.AuthSplay in
/-- the body of the delete loop of mod_auth_periodic_cleanup() (splay to a tagged key, delete the root)
    removes exactly that entry from a search tree — although splaytree_delete_splayed_node() overwrites
    `x->right`: that pointer is NULL because the splay brought the maximum of the left part up -/
theorem c16_tree_delete_exact {α : Type} (t : Tree α) (key : Int) (w : α) (hs : Sorted t)
    (hm : (key, w) ∈ t.inorder) :
    (deleteSplayedNode (splayNonnull t key)).inorder = t.inorder.filter (fun p => p.1 ≠ key) ∧
    Sorted (deleteSplayedNode (splayNonnull t key)) := by
  exact ⟨deleteKey_inorder t key w hs hm, deleteKey_sorted t key w hs hm⟩

open LtVerif.AuthSplay in
/-- http_auth_cache_query() = `Cache.lookup` (the lookup `basicHit` / `digestHitEntry` start from), for
    caches with distinct keys — which `Cache.insert` / `Cache.cleanup` keep (c16_cache_keys_distinct_kept, below) -/
theorem c16_tree_query_refines_cache_lookup (t : Tree Entry) (c : Cache) (key : Int)
    (h : TreeRep t c) (hd : c.Pairwise (fun a b => a.1 ≠ b.1)) :
    (cacheQuery t key).2 = c.lookup key ∧ TreeRep (cacheQuery t key).1 c := by
  obtain ⟨hs, hm⟩ := h
  exact ⟨Option.ext fun v => by rw [cacheQuery_found t key v hs, hm, lookup_iff_mem c hd],
    sorted_of_inorder_eq (cacheQuery_inorder t key) hs, fun p => by rw [cacheQuery_inorder, hm]⟩

/-- `Cache.insert` and `Cache.cleanup` keep the keys of the finite map distinct; `init`'s cache is empty, so
    step by step every reachable cache qualifies for c16_tree_query_refines_cache_lookup -/
theorem c16_cache_keys_distinct_kept (c : Cache) (key : Int) (e : Entry) (maxAge cur : Int)
    (hd : c.Pairwise (fun a b => a.1 ≠ b.1)) :
    (c.insert key e).Pairwise (fun a b => a.1 ≠ b.1) ∧ (c.cleanup maxAge cur).Pairwise (fun a b => a.1 ≠ b.1) := by
  refine ⟨?_, hd.filter _⟩
  simp only [Cache.insert, List.pairwise_cons]
  refine ⟨fun a ha => ?_, hd.filter _⟩
  simp only [List.mem_filter, decide_eq_true_eq] at ha
  exact fun h => ha.2 h.symm

open LtVerif.AuthSplay in
/-- mod_auth_periodic_cleanup() (tag up to `cap`, 8192 in the C, expired keys in post-order; splay to and
    delete each; repeat while the batch was full) refines `Cache.cleanup` for every tree shape and batch size -/
theorem c16_tree_cleanup_refines_cache (t : Tree Entry) (c : Cache) (maxAge cur : Int) (cap : Nat)
    (hcap : 0 < cap) (h : TreeRep t c) :
    TreeRep (periodicCleanup (fun e => decide (cur - e.ctime > maxAge)) cap t) (c.cleanup maxAge cur) := by
  obtain ⟨hs, hm⟩ := h
  obtain ⟨e, s⟩ := periodicCleanup_inorder (fun e : Entry => decide (cur - e.ctime > maxAge)) cap hcap t hs
  refine ⟨s, fun p => ?_⟩
  rw [e]
  simp [Cache.cleanup, List.mem_filter, hm]

/-! non-vacuity: a tree built by the modelled operations themselves (keys 5, 3, 8, 4, then 3 replaced) -/
namespace ExSplay
open LtVerif.AuthSplay
def ins (t : Tree Nat) (k : Int) (v : Nat) : Tree Nat := cacheInsert (cacheQuery t k).1 k v
def t4 : Tree Nat := ins (ins (ins (ins .nil 5 50) 3 30) 8 80) 4 40
end ExSplay
open LtVerif.AuthSplay in
example : Sorted ExSplay.t4 ∧ ExSplay.t4.inorder = [(3, 30), (4, 40), (5, 50), (8, 80)] := by
  constructor
  · unfold Sorted; decide +kernel
  · decide +kernel
open LtVerif.AuthSplay in
example : ((splay ExSplay.t4 8).inorder, (cacheQuery ExSplay.t4 8).2, (cacheQuery ExSplay.t4 7).2)
    = ([(3, 30), (4, 40), (5, 50), (8, 80)], some 80, none) := by decide +kernel
open LtVerif.AuthSplay in
example : (ExSplay.ins ExSplay.t4 3 31).inorder = [(3, 31), (4, 40), (5, 50), (8, 80)] := by decide +kernel
open LtVerif.AuthSplay in
example : (deleteSplayedNode (splayNonnull ExSplay.t4 5)).inorder = [(3, 30), (4, 40), (8, 80)] := by decide +kernel
open LtVerif.AuthSplay in
-- cleanup with a batch limit of 2 and three expired entries (two rounds of the do-while)
example : (periodicCleanup (fun v : Nat => decide (v < 80)) 2 ExSplay.t4).inorder = [(8, 80)] ∧
    tagOld (fun v : Nat => decide (v < 80)) 2 ExSplay.t4 [] = [3, 5] := by decide +kernel
open LtVerif.AuthSplay in
example : TreeRep (.nil : Tree Entry) [] := ⟨by simp [Sorted, Tree.inorder], by simp [Tree.inorder]⟩

end LtVerif.C16
