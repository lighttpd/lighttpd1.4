/-
  C07 — HPACK: header lists survive both directions for the whole connection.
  Property theorems only (helper lemmas: LtVerif/Proofs/Hpack*.lean, H2Headers.lean).

  The model (LtVerif/Model/Hpack*.lean) is lshpack's decoder as it is plus a reference encoder
  `encodeBlock` that stands for any conformant peer: it is parameterised by an
  arbitrary list of `Choice`s (indexed / literal with, without, never indexing;
  name by index or literal; Huffman or raw for name and value; any dynamic
  table size updates).
-/
import LtVerif.Proofs.Hpack
import LtVerif.Proofs.H2Headers
import LtVerif.Proofs.HpackWeak
import LtVerif.Proofs.HpackHints
import LtVerif.Proofs.HpackGlue
import LtVerif.Proofs.HpackResp
import LtVerif.Proofs.HpackSize
import LtVerif.Proofs.HpackText
namespace LtVerif.C07
open LtVerif B Hpack H2Headers

/-- Integers (RFC 7541 5.1): lshpack_dec_dec_int() reads back every uint32 for
    every prefix width and every pattern `hi` in the bits above the prefix,
    whatever follows — including the 5-octet branch (values ≥ 2^28). -/
theorem c07_int_roundtrip (pbits hi n : Nat) (rest : Bytes)
    (hhi : hi % 2 ^ pbits = 0) (hfit : hi + 2 ^ pbits ≤ 256) (hn : n < 2 ^ 32) :
    decInt pbits (encInt pbits hi n ++ rest) = some (n, rest) :=
  decInt_encInt pbits hi n rest hhi hfit hn

example : decInt 5 (encInt 5 32 1337 ++ [7]) = some (1337, [7]) := by decide +kernel
example : encInt 5 0 1337 = [31, 154, 10] := by decide +kernel
example : (32 : Nat) % 2 ^ 5 = 0 ∧ 32 + 2 ^ 5 ≤ 256 ∧ 1337 < 2 ^ 32 := by decide +kernel

/-- Huffman: the table-driven decoder of lshpack (4-bit automaton over the
    decode_tables[256][16] extracted from huff-tables.h) reads back every octet
    string encoded with the extracted encode_table[], EOS-padded — for all
    strings, provided the output buffer is larger than the string (the C
    answers MORE_BUF when the buffer is exactly full). A changed entry in
    either C table breaks this proof (kernel-checked certificates). -/
theorem c07_huffman_roundtrip (cap : Nat) (s : Bytes) (h : s.length < cap) :
    huffDecode cap (huffEncode s) = .ok s :=
  huffDecode_huffEncode cap s h

example : huffEncode (ofString "www.example.com") =
    [0xf1, 0xe3, 0xc2, 0xe5, 0xf2, 0x3a, 0x6b, 0xa0, 0xab, 0x90, 0xf4, 0xff] := by decide +kernel
example : huffDecode 100 [0xf1, 0xe3, 0xc2, 0xe5, 0xf2, 0x3a, 0x6b, 0xa0, 0xab, 0x90, 0xf4, 0xff] =
    .ok (ofString "www.example.com") := by rfl

/-- Huffman, the other direction ("invalid is an error, never a different
    string"): whatever the table-driven decoder accepts is the canonical
    encoding of what it returns — the codes of the returned octets followed by
    fewer than 8 one-bits. Hence an input with EOS inside, with 8 or more bits
    of padding or a 0 bit in the padding is rejected, and two different inputs
    never decode to the same string. For ALL inputs and buffer sizes. -/
theorem c07_huffman_canonical (cap : Nat) (src s : Bytes) (h : huffDecode cap src = .ok s) :
    src = huffEncode s :=
  huffDecode_canonical cap src s h

example : huffDecode 100 [0xf1, 0xe3, 0xc2, 0xe5, 0xf2, 0x3a, 0x6b, 0xa0, 0xab, 0x90, 0xf4, 0xff, 0xff] =
    .error .badData := by rfl     -- one more octet of padding
example : huffDecode 100 [0xff, 0xff, 0xff, 0xff] = .error .badData := by rfl   -- EOS

/-- String literals (RFC 7541 5.2), raw or Huffman coded. -/
theorem c07_string_roundtrip (cap : Nat) (huff : Bool) (s rest : Bytes)
    (hlen : s.length < cap) (hcap : cap ≤ 65535) :
    decStr cap (encStr huff s ++ rest) = .ok (s, rest) :=
  decStr_encStr cap huff s rest hlen (by omega)

example : decStr 65535 (encStr true (ofString "no-cache") ++ [1, 2]) =
    .ok (ofString "no-cache", [1, 2]) := by rfl

/-- Request direction, one block: whatever valid encoding the peer chooses
    (any choice sequence: static/dynamic indexing, literal forms, Huffman or
    raw, size updates ≤ the SETTINGS limit), the decode loop of
    h2_parse_headers_frame() yields exactly the encoded name/value list, no
    error, and leaves the decoder's table equal to the encoder's. -/
theorem c07_roundtrip (cap : Nat) (hcap : cap ≤ 65535) (d : Dec) (cs : List Choice)
    (hs : List Header) (hwf : d.tbl.WF) (hok : ∀ h ∈ hs, HeaderOk cap h) :
    let r := decodeBlock cap d (encodeBlock d.tbl cs hs).1
    r.err = none ∧ r.fields.map Field.header = hs ∧ r.dec.tbl = (encodeBlock d.tbl cs hs).2 :=
  (decodeBlock_encodeBlock_cases cap d cs hs hwf).resolve_right fun h => h.2 ⟨hok, by omega⟩

/-- non-vacuity: RFC 7541 C.4.1 produced by the reference encoder and decoded -/
example :
    (encodeBlock Table.init
      [{ mode := .indexed, idx := 2 }, { mode := .indexed, idx := 6 }, { mode := .indexed, idx := 4 },
       { mode := .incr, idx := 1, huffValue := true }]
      [(ofString ":method", ofString "GET"), (ofString ":scheme", ofString "http"),
       (ofString ":path", ofString "/"), (ofString ":authority", ofString "www.example.com")]).1 =
    [0x82, 0x86, 0x84, 0x41, 0x8c, 0xf1, 0xe3, 0xc2, 0xe5, 0xf2, 0x3a, 0x6b, 0xa0, 0xab, 0x90, 0xf4, 0xff] := by
  decide +kernel
example : Table.init.WF := Table.init_WF
example : HeaderOk 65535 (ofString ":authority", ofString "www.example.com") :=
  ⟨by decide +kernel, by decide +kernel⟩

/-- One block, NO assumption on the header list (names and values of any
    length, empty names, any choices): the decode loop either reports an error
    or returns exactly the encoded list and ends with the encoder's table. It
    never returns a different list ("oversized ⇒ error, never silently
    different": a field that does not fit lighttpd's buffer is an error). -/
theorem c07_block_error_or_exact (cap : Nat) (d : Dec) (cs : List Choice) (hs : List Header)
    (hwf : d.tbl.WF) :
    let r := decodeBlock cap d (encodeBlock d.tbl cs hs).1
    r.err = none → r.fields.map Field.header = hs ∧ r.dec.tbl = (encodeBlock d.tbl cs hs).2 :=
  decodeBlock_encodeBlock_weak cap d cs hs hwf

/-- an oversized field is an error, not a shortened one -/
example : (decodeBlock 4 Dec.init (encodeBlock Table.init [{ mode := .without }]
    [(ofString "x-a", ofString "12")]).1).err = some .moreBuf := by decide +kernel

/-- Whole connection (1): over an arbitrarily long history of header blocks —
    served ones and ones lighttpd only decodes and discards — whose fields fit
    lighttpd's buffer, the connection stays alive, every served block decodes
    to exactly the list that was encoded, and at the end the decoder's dynamic
    table equals the encoder's.  (Which blocks are served, discarded or not
    decoded at all is decided by h2_recv_headers(): `c07_glue_tables_sync`.) -/
theorem c07_tables_sync (cap : Nat) (hcap : cap ≤ 65535) (items : List ConnItem) (d : Dec)
    (hwf : d.tbl.WF) (hok : ∀ it ∈ items, ItemOk cap it) :
    let r := recvConn cap d (encodeConn d.tbl items).1
    r.2.2 = true ∧ r.1.map (·.map Field.header) = servedLists items ∧
      r.2.1.tbl = (encodeConn d.tbl items).2 := by
  have h := recvConn_encodeConn cap items d hwf
  have halive := h.2 hok (by omega)
  exact ⟨halive, h.1 halive⟩

/-- Whole connection (2), NO assumption on the header lists, served or
    discarded: as long as the connection is alive (no block produced a decoding
    error — an error in a discarded block kills the connection as well) the
    served lists are exactly the encoded ones and the tables are equal. -/
theorem c07_never_silently_different (cap : Nat) (items : List ConnItem) (d : Dec) (hwf : d.tbl.WF) :
    let r := recvConn cap d (encodeConn d.tbl items).1
    r.2.2 = true → r.1.map (·.map Field.header) = servedLists items ∧
      r.2.1.tbl = (encodeConn d.tbl items).2 :=
  (recvConn_encodeConn cap items d hwf).1

/-- non-vacuity: a discarded block inserts an entry that a later served block
    refers to by index (62 = newest dynamic entry) -/
example :
    (recvConn 65535 Dec.init (encodeConn Table.init
      [⟨[{ mode := .incr }], [(ofString "x-a", ofString "1")], .discard⟩,
       ⟨[{ mode := .indexed, idx := 62 }], [(ofString "x-a", ofString "1")], .serve⟩]).1).1
      = [[⟨ofString "x-a", ofString "1", 0, false⟩]] := by decide +kernel

/-- the audit's scenario in small: a field too large for the buffer inside a
    DISCARDED block ends the connection (before the repair of h2_discard_headers_frame
    the block was skipped and the next served block read a stale table) -/
example :
    (recvConn 8 Dec.init (encodeConn Table.init
      [⟨[{ mode := .incr }], [(ofString "x-e", ofString "0")], .serve⟩,
       ⟨[{ mode := .without }, { mode := .incr }],
        [(ofString "x-big", ofString "0123456789"), (ofString "x-a", ofString "1")], .discard⟩,
       ⟨[{ mode := .indexed, idx := 62 }], [(ofString "x-a", ofString "1")], .serve⟩]).1).2.2
      = false := by decide +kernel

/-- The dynamic table never outgrows the negotiated size, whatever arrives:
    for ARBITRARY received bytes (valid or not), served or discarded, the
    decoder's table size stays ≤ its current maximum ≤ the SETTINGS limit. -/
theorem c07_table_bound (cap : Nat) (ws : List Wire) (d : Dec) (hwf : d.tbl.WF) :
    let d' := (recvConn cap d ws).2.1
    tableSize d'.tbl.dyn ≤ d'.tbl.curMax ∧ d'.tbl.curMax ≤ d'.tbl.maxCap := by
  have h := recvConn_WF cap ws d hwf
  exact ⟨h.size_le, h.cur_le⟩

example : tableSize (evict 60 [(ofString "x-a", ofString "1"), (ofString "x-b", ofString "22")]) = 36 := by
  decide +kernel

/-- Unambiguity: two header lists that a peer could encode to the same octets
    (under any two choice sequences, from the same table state) are the same
    list — the decoder cannot be made to see a different list than was
    encoded — and leave the same table behind. -/
theorem c07_encoding_unambiguous (cap : Nat) (hcap : cap ≤ 65535) (t : Table) (hwf : t.WF)
    (cs₁ cs₂ : List Choice) (hs₁ hs₂ : List Header)
    (h₁ : ∀ h ∈ hs₁, HeaderOk cap h) (h₂ : ∀ h ∈ hs₂, HeaderOk cap h)
    (heq : (encodeBlock t cs₁ hs₁).1 = (encodeBlock t cs₂ hs₂).1) :
    hs₁ = hs₂ ∧ (encodeBlock t cs₁ hs₁).2 = (encodeBlock t cs₂ hs₂).2 := by
  have r₁ := c07_roundtrip cap hcap ⟨t, []⟩ cs₁ hs₁ hwf h₁
  have r₂ := c07_roundtrip cap hcap ⟨t, []⟩ cs₂ hs₂ hwf h₂
  simp only at r₁ r₂
  rw [heq] at r₁
  exact ⟨r₁.2.1.symm.trans r₂.2.1, r₁.2.2.symm.trans r₂.2.2⟩

/-- non-vacuity: two different choice sequences with the same octets -/
example : (encodeBlock Table.init [{ idx := 0 }] [(ofString "x-a", ofString "1")]).1 =
    (encodeBlock Table.init [{ idx := 5 }] [(ofString "x-a", ofString "1")]).1 := by decide +kernel

/-! "Invalid or oversized blocks produce an error, never a silently different
    list."  That every block outside the image of `encodeBlock` is an error is
    FALSE of lshpack_dec_decode() as it is: see the witnesses `c07_deviation_*`
    at the end.  What holds: the Huffman layer is strict (`c07_huffman_canonical`),
    two lists never share an encoding (`c07_encoding_unambiguous`), and the error
    theorems that follow. -/

/-- Invalid blocks are errors (1): an indexed representation whose index is 0 or
    beyond static + dynamic table is BAD_DATA (→ GOAWAY COMPRESSION_ERROR), and
    nothing is delivered. -/
theorem c07_bad_index_is_error (cap : Nat) (d : Dec) (idx : Nat) (rest : Bytes)
    (hidx : idx < 2 ^ 32) (hnone : d.tbl.lookup idx = none) :
    let r := decodeBlock cap d (encInt 7 128 idx ++ rest)
    r.err = some .badData ∧ r.fields = [] := by
  have hne : encInt 7 128 idx ++ rest ≠ [] := by simp [encInt_ne_nil 7 128 idx (by decide)]
  simp [decodeBlock_item_err cap d d _ _ hne (decodeItem_bad_index cap d idx rest hidx hnone)]

example : (decodeBlock 65535 Dec.init [0xbe]).err = some .badData := by decide +kernel
example : Dec.init.tbl.lookup 62 = none := by decide +kernel

/-- Invalid blocks are errors (2): a dynamic table size update above the
    SETTINGS limit is BAD_DATA. -/
theorem c07_oversize_update_is_error (cap : Nat) (d : Dec) (n : Nat) (rest : Bytes)
    (hn : n < 2 ^ 32) (hbig : d.tbl.maxCap < n) :
    let r := decodeBlock cap d (encInt 5 32 n ++ rest)
    r.err = some .badData ∧ r.fields = [] ∧ r.dec = d := by
  have hne : encInt 5 32 n ++ rest ≠ [] := by simp [encInt_ne_nil 5 32 n (by decide)]
  simp [decodeBlock_item_err cap d d _ _ hne (decodeItem_oversize_update cap d n rest hn hbig)]

example : (decodeBlock 65535 Dec.init (encInt 5 32 4097 ++ [0x82])).err = some .badData := by decide +kernel

/-- Invalid blocks are errors (3): a string literal that announces more octets
    than the block holds is BAD_DATA. -/
theorem c07_truncated_string_is_error (cap : Nat) (huff : Nat) (len : Nat) (avail : Bytes)
    (hh : huff = 0 ∨ huff = 128) (hlen : len < 2 ^ 32) (hshort : avail.length < len) :
    decStr cap (encInt 7 huff len ++ avail) = .error .badData :=
  decStr_truncated cap huff len avail hh hshort

example : decStr 65535 [5, 0x61, 0x62] = .error .badData := by rfl

/-- the strict layers together (not covered: blocks invalid only by an over-long
    integer, which lshpack accepts, see `c07_deviation_overlong_int`; truncation
    inside a field other than at the string length and the missing value string) -/
theorem c07_invalid_is_error_partial (cap : Nat) (d : Dec) :
    (∀ idx rest, idx < 2 ^ 32 → d.tbl.lookup idx = none →
      (decodeBlock cap d (encInt 7 128 idx ++ rest)).err = some .badData) ∧
    (∀ n rest, n < 2 ^ 32 → d.tbl.maxCap < n →
      (decodeBlock cap d (encInt 5 32 n ++ rest)).err = some .badData) ∧
    (∀ src s, huffDecode cap src = .ok s → src = huffEncode s) :=
  ⟨fun idx rest h1 h2 => (c07_bad_index_is_error cap d idx rest h1 h2).1,
   fun n rest h1 h2 => (c07_oversize_update_is_error cap d n rest h1 h2).1,
   fun src s h => c07_huffman_canonical cap src s h⟩

example : Dec.init.tbl.lookup 100 = none ∧ Dec.init.tbl.maxCap < 5000 := by decide +kernel

/-- Invalid blocks are errors, anywhere in the block: after ANY valid prefix
    (any header list, any encoder choices, from any table state) an item of one
    of the four classes — index outside the tables, table size update above the
    SETTINGS limit, literal field cut inside its name string, literal field
    without its value string — yields exactly the fields of the prefix and then
    BAD_DATA (→ GOAWAY COMPRESSION_ERROR); nothing behind it is looked at. -/
theorem c07_error_after_valid_prefix (cap : Nat) (hcap : cap ≤ 65535) (d : Dec) (cs : List Choice)
    (hs : List Header) (hwf : d.tbl.WF) (hok : ∀ h ∈ hs, HeaderOk cap h) :
    (∀ idx rest, idx < 2 ^ 32 → (encodeBlock d.tbl cs hs).2.lookup idx = none →
      let r := decodeBlock cap d ((encodeBlock d.tbl cs hs).1 ++ (encInt 7 128 idx ++ rest))
      r.err = some .badData ∧ r.fields.map Field.header = hs) ∧
    (∀ n rest, n < 2 ^ 32 → (encodeBlock d.tbl cs hs).2.maxCap < n →
      let r := decodeBlock cap d ((encodeBlock d.tbl cs hs).1 ++ (encInt 5 32 n ++ rest))
      r.err = some .badData ∧ r.fields.map Field.header = hs) ∧
    (∀ flag huff len avail, flag = 0 ∨ flag = 16 ∨ flag = 64 → huff = 0 ∨ huff = 128 → len < 2 ^ 32 →
      avail.length < len →
      let r := decodeBlock cap d ((encodeBlock d.tbl cs hs).1 ++ flag.toUInt8 :: (encInt 7 huff len ++ avail))
      r.err = some .badData ∧ r.fields.map Field.header = hs) ∧
    (∀ flag n hn, flag = 0 ∨ flag = 16 ∨ flag = 64 → n ≠ [] → n.length < cap →
      let r := decodeBlock cap d ((encodeBlock d.tbl cs hs).1 ++ flag.toUInt8 :: encStr hn n)
      r.err = some .badData ∧ r.fields.map Field.header = hs) := by
  refine ⟨?_, ?_, ?_, ?_⟩
  · intro idx rest hidx hnone
    exact decodeBlock_prefix_then_error cap (by omega) d cs hs _ _ hwf hok
      (by simp [encInt_ne_nil 7 128 idx (by decide)])
      (fun d' ht => decodeItem_bad_index cap d' idx rest hidx (by rw [ht]; exact hnone))
  · intro n rest hn hbig
    exact decodeBlock_prefix_then_error cap (by omega) d cs hs _ _ hwf hok
      (by simp [encInt_ne_nil 5 32 n (by decide)])
      (fun d' ht => decodeItem_oversize_update cap d' n rest hn (by rw [ht]; exact hbig))
  · intro flag huff len avail hf hh hlen hshort
    exact decodeBlock_prefix_then_error cap (by omega) d cs hs _ _ hwf hok (by simp)
      (fun d' _ => decodeItem_truncated_name cap d' flag huff len avail hf hh hshort)
  · intro flag n hn hf hnn hlen
    exact decodeBlock_prefix_then_error cap (by omega) d cs hs _ _ hwf hok (by simp)
      (fun d' _ => decodeItem_literal_noValue cap d' flag n hn hf hnn hlen (by omega))

/-- non-vacuity: one good field, then index 70 (nothing there) -/
example : let r := decodeBlock 65535 Dec.init [0x82, 0xc6, 0x84]
    r.err = some .badData ∧ r.fields.map Field.header = [(ofString ":method", ofString "GET")] := by decide +kernel

/-- Hints: with every field the decoder hands h2.c a static-table index hint
    (`lsx.hpack_index`, also remembered per dynamic entry).  For ARBITRARY input
    the hint of every delivered field is 0 or the index of a static entry with
    that very name, and the remembered hints stay right.  (h2.c maps the hint to
    a header id and http_request_parse_header() then trusts the id without
    looking at the name again: `c07_hint_selects_id`.) -/
theorem c07_hint_sound (cap : Nat) (d : Dec) (bs : Bytes) (hd : HintsOk d) :
    let r := decodeBlock cap d bs
    HintsOk r.dec ∧ ∀ f ∈ r.fields, HintOk f.hint f.name :=
  decodeBlock_hint cap d bs hd

example : HintsOk Dec.init := HintsOk.init
example : (decodeBlock 65535 Dec.init [0x5a, 0x01, 0x78, 0xbe]).fields.map (·.hint) = [26, 26] := by decide +kernel

/-- ... and across everything h2_recv_headers() does with a HEADERS sequence -/
theorem c07_hints_kept_by_glue (cap : Nat) (c : GConn) (id : Nat) (es : Bool) (dep : Option Nat)
    (block : Bytes) (keep pb : Bool) (h : HintsOk c.dec) :
    HintsOk (recvHeaders cap c id es dep block keep pb).1.dec := by
  rcases recvHeaders_ran cap c id es dep block keep pb with ⟨_, he⟩ | hr
  · rw [he]; exact h
  · exact hr.hints h

/-- h2.c: `hpctx.id = lshpack_idx_http_header[lsx.hpack_index]` for a non-zero
    hint.  With a sound hint: a positive id is the id http_header_hkey_get()
    gives the field name, and the name is lower case already (what
    http_request_parse_header() skips checking); id 0 (HTTP_HEADER_OTHER) only
    for names lighttpd has no id for; a negative id is the pseudo-header with
    that name. -/
theorem c07_hint_selects_id {hint : Nat} {name : Bytes} (h : HintOk hint name) (h0 : hint ≠ 0) :
    (0 < Extracted.lshpackIdxHttpHeader.getD hint 0 →
      hkeyGet name = (Extracted.lshpackIdxHttpHeader.getD hint 0).toNat ∧ lower name = name) ∧
    (Extracted.lshpackIdxHttpHeader.getD hint 0 = 0 → hkeyGet name = 0) ∧
    (Extracted.lshpackIdxHttpHeader.getD hint 0 < 0 →
      pseudoName (Extracted.lshpackIdxHttpHeader.getD hint 0) = name) := by
  have hstatic := h.static h0
  have hmap := idx_to_id_names.2 hint (by omega) h0
  simp only at hmap
  rw [hstatic.2] at hmap
  refine ⟨fun hpos => ?_, hmap.2.1, hmap.2.2⟩
  obtain ⟨hlt, hlc⟩ := hmap.1 hpos
  exact hlc ▸ lc_hashes_to_id _ hlt (by omega)

/-- Which blocks are decoded: whatever h2_recv_headers() decides about a
    HEADERS(+CONTINUATION) sequence (new stream, trailers, refused stream, stream
    after GOAWAY, closed stream, protocol violations ...), one of three
    things happened: lighttpd has sent an error GOAWAY; or the frame was left
    unread in the queue and nothing changed; or the block was run through the
    connection's decoder to its end, without error. -/
theorem c07_headers_decoded_or_dead (cap : Nat) (c : GConn) (id : Nat) (es : Bool) (dep : Option Nat)
    (block : Bytes) (keep pb : Bool) :
    let r := recvHeaders cap c id es dep block keep pb
    0 < r.1.goaway ∨ (r.2 = .deferred ∧ r.1 = c) ∨
      (r.1.dec = (decodeBlock cap c.dec block).dec ∧ (decodeBlock cap c.dec block).err = none) := by
  rcases recvHeaders_ran cap c id es dep block keep pb with h | h
  · exact .inr (.inl h)
  · cases h with
    | dead _ hg => exact .inl hg
    | decoded hd ok _ => exact ok.elim .inl fun he => .inr (.inr ⟨hd, he⟩)

/-- The loop of h2_parse_headers_frame() as written — fields handed to
    http_request_parse_header() one by one, the rest of the block sent through
    h2_discard_headers_frame() at the first field it refuses: WHATEVER the
    parser refuses (`accept` is arbitrary) and whether the block opens a request
    or carries trailers of a stream whose response has begun, the connection's
    decoder ends in the state, and with the error, of decoding the whole block.
    (A refusal never leaves the table behind the peer's.) -/
theorem c07_refused_field_rest_decoded (cap : Nat) (accept : Field → Bool) (d : Dec) (block : Bytes) :
    (parseFrame cap accept d block).dec = (decodeBlock cap d block).dec ∧
    (parseFrame cap accept d block).err = (decodeBlock cap d block).err :=
  parseFrameAux_state cap accept _ d block []

/-- non-vacuity: trailers `x-a: 1`, `:bogus: 1` (refused), then `x-c: 3`, `x-d: 4`
    with incremental indexing: one field handed over, three table entries -/
example :
    let blk : Bytes := [0x40, 3, 0x78, 0x2d, 0x61, 1, 0x31, 0x00, 6, 0x3a, 0x62, 0x6f, 0x67, 0x75, 0x73, 1, 0x31,
                        0x40, 3, 0x78, 0x2d, 0x63, 1, 0x33, 0x40, 3, 0x78, 0x2d, 0x64, 1, 0x34]
    let r := parseFrame 65535 (fun f => f.name.headD 0 != colon) Dec.init blk
    r.fields.map Field.header = [(ofString "x-a", ofString "1")] ∧ r.err = none ∧
    r.dec.tbl.dyn = [(ofString "x-d", ofString "4"), (ofString "x-c", ofString "3"),
                     (ofString "x-a", ofString "1")] := by
  decide +kernel

/-- Whole connection, with lighttpd's own decisions: the peer encodes header
    list after header list with its one encoder (ANY lists, choices, stream
    ids, flags); lighttpd runs h2_recv_headers() on each in order (a frame it
    leaves in the queue blocks the rest).  As long as lighttpd has not sent an
    error GOAWAY its table equals the peer's table after the frames consumed. -/
theorem c07_glue_tables_sync (cap : Nat) (evs : List HEvent) (c : GConn) (hwf : c.dec.tbl.WF) :
    let r := runPeer cap c c.dec.tbl evs
    r.1.goaway ≤ 0 → r.1.dec.tbl = r.2 :=
  fun h => runPeer_sync cap evs c c.dec.tbl rfl hwf h

/-- non-vacuity: a stream refused for concurrency is decoded all the same — the
    ninth request's new table entry is used by the tenth -/
example :
    let ev (id : Nat) (cs : List Choice) : HEvent :=
      ⟨id, true, none, true, false, cs, [(ofString "x-a", ofString "1")]⟩
    let r := runPeer 65535 { acked := true } Table.init
      (((List.range 8).map fun i => ev (2 * i + 1) [{ mode := .without }]) ++
        [ev 17 [{ mode := .incr }], ev 19 [{ mode := .indexed, idx := 62 }]])
    r.1.goaway = 0 ∧ r.1.nrefused = 2 ∧ r.1.dec.tbl.dyn = [(ofString "x-a", ofString "1")] := by decide +kernel

/-- The header-id maps that tie HPACK to lighttpd's header ids are mutually
    consistent (tables regenerated from h2.c, http_header.c, lshpack.c on every
    run): (1) every `http_header_lc[id]` is lower case and is the name
    http_header_hkey_get() maps to `id`; (2) `http_header_lshpack_idx[]` covers
    every id and sends an id only to a static-table index carrying that very
    name; (3) `lshpack_idx_http_header[]` sends a static index to the id of its
    name, to HTTP_HEADER_OTHER only for names lighttpd has no id for, and to the
    pseudo-header id of its name; (4) `http_headers[]` and `http_header_lc[]`
    hold the same names. A header decoded through a static/dynamic index is
    therefore filed under the same id as the same header sent literally. -/
theorem c07_id_maps_consistent :
    (∀ id, id < numIds → id ≠ 0 → hkeyGet (lcName id) = id ∧ lower (lcName id) = lcName id) ∧
    (numIds ≤ Extracted.httpHeaderLshpackIdx.length ∧
      ∀ id, id < numIds → Extracted.httpHeaderLshpackIdx.getD id 0 ≠ 0 →
        Extracted.httpHeaderLshpackIdx.getD id 0 ≤ 61 ∧
        staticName (Extracted.httpHeaderLshpackIdx.getD id 0) = lcName id) ∧
    (Extracted.lshpackIdxHttpHeader.length = 62 ∧
      ∀ idx, idx < 62 → idx ≠ 0 →
        let id := Extracted.lshpackIdxHttpHeader.getD idx 0
        (0 < id → id.toNat < numIds ∧ lcName id.toNat = staticName idx) ∧
        (id = 0 → hkeyGet (staticName idx) = 0) ∧
        (id < 0 → pseudoName id = staticName idx)) ∧
    (∀ e ∈ Extracted.httpHeaders, e.1 ≠ 0 → 0 < e.1 ∧ e.1.toNat < numIds ∧ lcName e.1.toNat = e.2) :=
  ⟨lc_hashes_to_id, lshpack_idx_names, idx_to_id_names, hkey_table_names⟩

example : hkeyGet (ofString "Content-Type") = 18 ∧ lcName 18 = ofString "content-type" ∧
    Extracted.httpHeaderLshpackIdx.getD 18 0 = 31 ∧ staticName 31 = ofString "content-type" ∧
    Extracted.lshpackIdxHttpHeader.getD 31 0 = 18 := by decide +kernel

/-- Response direction, names: for every response header array built through
    http_header_response_set / insert / append (any sequence of calls, any
    spelling of the names), the name h2_send_headers() makes the peer see for
    an element is its lower-cased field name (through http_header_lc[], or
    through the static-table index lshpack is told to use). -/
theorem c07_response_names_lowercase (ops : List RespOp) :
    ∀ e ∈ (ops.foldl Resp.apply {}).arr, emitName e = lower e.key :=
  fun e he => emitName_keyed e (ops_keyed ops {} empty_keyed e he)

example : emitName ⟨hkeyGet (ofString "ETag"), ofString "ETag", ofString "x"⟩ = ofString "etag" := by
  decide +kernel

/-- Response direction, the list: for every response built through the API in
    which no field was sent twice, h2_send_headers() either sends nothing
    (pre-pass size over 65535: RST_STREAM, the encoder is not touched) or hands
    the encoder exactly: ":status", then one field per non-blank element in
    order under its lower-cased name with its value unchanged — X-Sendfile and
    X-LIGHTTPD-* never leave — then "date" and "server" unless the response has
    its own.  (304 responses that carry Content-Encoding are excluded here:
    the C blanks that header first.) -/
theorem c07_response_fields (ops : List RespOp) (status : Nat) (tag : Option Bytes) :
    let r := ops.foldl Resp.apply {}
    r.repeated = false →
    ¬ (status = 304 ∧ r.tags.contains Extracted.hdrContentEncoding = true) →
    (respSize r tag ≤ 65535 →
      respFields status r tag =
        some ((ofString ":status", statusBytes status) :: r.arr.filterMap wantField ++ autoFields r tag)) ∧
    (65535 < respSize r tag → respFields status r tag = none) := by
  intro r hrep h304
  exact ⟨fun hs => respFields_single status r tag (ops_keyed ops {} empty_keyed) hrep hs h304,
    fun hs => respFields_oversize status r tag h304 hs⟩

example : respFields 200 ([RespOp.set (ofString "X-Sendfile") (ofString "/f"),
      RespOp.set (ofString "ETag") (ofString "x"), RespOp.append (ofString "etag") (ofString "y")].foldl
      Resp.apply {}) (some (ofString "l")) =
    some [(ofString ":status", ofString "200"), (ofString "etag", ofString "x, y"),
          (ofString "date", autoDate), (ofString "server", ofString "l")] := by decide +kernel

/-- Response direction, the buffer: a header list h2_send_headers() accepts
    always fits the 128 KiB buffer it is HPACK-encoded into, with room for the
    table size updates in front — whatever the encoder chooses per field
    (indexed, name reference, literal; with / without / never indexing; Huffman
    wherever that is not longer; no size updates of its own), from any table
    state.  lshpack_enc_encode() therefore cannot run out of space half way
    through a block (which desynchronised the peer: D21 and its residue). -/
theorem c07_response_fits_buffer (ops : List RespOp) (status : Nat) (tag : Option Bytes)
    (fs : List Header) (t : Table) (hwf : t.WF) (cs : List Choice) :
    let r := ops.foldl Resp.apply {}
    r.repeated = false →
    ¬ (status = 304 ∧ r.tags.contains Extracted.hdrContentEncoding = true) →
    respFields status r tag = some fs → LsLike cs fs →
    (encodeBlock t cs fs).1.length + 6 ≤ 131072 := by
  intro r hrep h304 h hls
  exact respFields_fits status r tag (ops_keyed ops {} empty_keyed) hrep h304 fs h t hwf cs hls

/-- Response direction, interim responses (h2_send_1xx): the text built from the
    response headers and cut again by h2_send_headers_block() yields ":status"
    and exactly the non-blank response headers of that moment under lower-cased
    names — provided each can be written as a line at all (`LineOk`: no ':' /
    LF in the name, value without LF and not starting with white space). -/
theorem c07_interim_fields (ops : List RespOp) (status : Nat) (h1 : 100 ≤ status) (h2 : status ≤ 999) :
    let r := ops.foldl Resp.apply {}
    (∀ f ∈ interimWant r, LineOk f) → (interimText status r).length ≤ 65535 →
    interimFields status r = (ofString ":status", natToDec status) :: interimWant r := by
  intro r hok hlen
  unfold interimFields
  rw [interimText_eq status r (ops_keyed ops {} empty_keyed)] at hlen ⊢
  obtain ⟨hd, hdl⟩ := status_digits status h1 h2
  exact blockFields_status (natToDec status) (interimWant r) hd hdl hok hlen

example : interimFields 103 ([RespOp.set (ofString "Link") (ofString "</s.css>; rel=preload")].foldl Resp.apply {}) =
    [(ofString ":status", ofString "103"), (ofString "link", ofString "</s.css>; rel=preload")] := by decide +kernel

/-- Response direction, trailers (h2_send_end_stream_trailers) and raw header
    blocks (h2_send_headers_block): a block of written lines "name: value" is
    cut back into exactly those fields, in order, values untouched; trailer
    names come out lower-cased. -/
theorem c07_block_and_trailer_fields (fs : List Header) (hne : fs ≠ []) (hok : ∀ f ∈ fs, LineOk f)
    (hlen : (renderBlock fs).length ≤ 65535) :
    blockFields (renderBlock fs) = fs ∧
      trailerFields (renderBlock fs) = some (fs.map fun f => (lower f.1, f.2)) :=
  ⟨blockFields_render fs hne hok hlen, trailerFields_render fs hne hok hlen⟩

example : trailerFields (renderBlock [(ofString "X-Checksum", ofString "abc")]) =
    some [(ofString "x-checksum", ofString "abc")] := by decide +kernel

/-- Response direction, repeated fields: a field a module sends several times
    (http_header_response_insert(), e.g. Set-Cookie) is stored as one text
    "v1\r\nname: v2..." and h2_send_headers() cuts it at fixed offsets — for
    every name and every list of non-empty values without LF the peer gets one
    field per value, in order, under the lower-cased name. -/
theorem c07_repeated_fields_split (k : Bytes) (vs : List Bytes) (hk : k ≠ []) (hne : vs ≠ [])
    (hv : ∀ v ∈ vs, v ≠ [] ∧ lf ∉ v)
    (hsize : 14 + k.length + (joinRepeated (lower k) vs).length + 4 ≤ 65535)
    (homit : ¬ ((k.headD 0 &&& 0xdf) = 88 ∧ omitHeader k = true)) :
    let r := vs.foldl (fun r v => Resp.insert r k v) ({} : Resp)
    ∃ a, bodyFields r.repeated r.arr 14 = some (vs.map (fun v => (lower k, v)), a) := by
  obtain ⟨harr, hrep⟩ := insert_fold k vs hne (fun v h => (hv v h).1)
  simp only at harr hrep ⊢
  rw [harr, hrep]
  exact ⟨_, bodyFields_repeated k vs 14 hk hne hv hsize homit⟩

example : respFields 200
    ((({} : Resp).insert (ofString "Set-Cookie") (ofString "a=1")).insert (ofString "set-cookie") (ofString "b=2"))
    none =
    some [(ofString ":status", ofString "200"), (ofString "set-cookie", ofString "a=1"),
          (ofString "set-cookie", ofString "b=2"), (ofString "date", autoDate)] := by decide +kernel

/-- Invalid blocks are errors (4): a literal representation whose value string is
    missing altogether (the block ends after the name, given by index or as a
    literal) is BAD_DATA — for every table state, name and indexing mode. -/
theorem c07_missing_value_is_error (cap : Nat) (hcap : cap ≤ 65535) (d : Dec) (hwf : d.tbl.WF) :
    (∀ (flag : Nat) (n : Bytes) (hn : Bool), flag = 0 ∨ flag = 16 ∨ flag = 64 → n ≠ [] →
      n.length < cap → (decodeBlock cap d (flag.toUInt8 :: encStr hn n)).err = some .badData) ∧
    (∀ (pbits flag idx : Nat) (n v0 : Bytes),
      (pbits = 6 ∧ flag = 64) ∨ (pbits = 4 ∧ flag = 16) ∨ (pbits = 4 ∧ flag = 0) →
      d.tbl.lookup idx = some (n, v0) → n.length ≤ cap →
      (decodeBlock cap d (encInt pbits flag idx)).err = some .badData) := by
  constructor
  · intro flag n hn hf hnn hlen
    rw [decodeBlock_item_err cap d d _ _ (by simp)
      (decodeItem_literal_noValue cap d flag n hn hf hnn hlen (by omega))]
  · intro pbits flag idx n v0 hf hl hfit
    obtain ⟨kind, hr, hk⟩ : ∃ kind, FirstOctet kind pbits flag ∧ kind ≠ .indexed := by
      rcases hf with ⟨rfl, rfl⟩ | ⟨rfl, rfl⟩ | ⟨rfl, rfl⟩
      · exact ⟨_, FirstOctet.incr, by decide⟩
      · exact ⟨_, FirstOctet.never, by decide⟩
      · exact ⟨_, FirstOctet.without, by decide⟩
    rw [decodeBlock_item_err cap d d _ _ (encInt_ne_nil pbits flag idx hr.fit)
      (decodeItem_nameRef_noValue hr hk cap d idx n v0 hwf hl hfit)]

example : (decodeBlock 65535 Dec.init [0x00, 0x01, 0x61]).err = some .badData := by decide +kernel
example : (decodeBlock 65535 Dec.init [0x45]).err = some .badData := by decide +kernel

/-- Response direction, table size: when the peer changes
    SETTINGS_HEADER_TABLE_SIZE (any number of times between two header blocks)
    lighttpd resizes lshpack's encoder table at once and announces, at the start
    of the next header block, the smallest size since the prior block and then
    the final size (RFC 7541 4.2). A conformant decoder that applies these
    updates ends with exactly the encoder's table: same entries, same limit;
    and it accepts them: no announced size exceeds the value the peer set last. -/
theorem c07_settings_resize_sync (t0 : Table) (hwf : t0.WF) (vs : List Nat) :
    let g := vs.foldl EncGlue.settings ({ size := t0.curMax } : EncGlue)
    let te := encAfter t0 vs
    let td := g.updates.foldl Table.updateMax t0
    td.dyn = te.dyn ∧ td.curMax = te.curMax ∧
      (∀ v, vs.getLast? = some v → ∀ u ∈ g.updates, u ≤ v) :=
  ⟨(settings_resize_sync t0 hwf vs).1, (settings_resize_sync t0 hwf vs).2,
   fun v hv => updates_le_last t0 hwf vs v hv⟩

example : ([0, 4096].foldl EncGlue.settings ({} : EncGlue)).updates = [0, 4096] := by decide +kernel
example : ([100].foldl EncGlue.settings ({} : EncGlue)).updates = [100] := by decide +kernel
example : ([5000, 65536].foldl EncGlue.settings ({} : EncGlue)).updates = [] := by decide +kernel

/-! Field names are octet-transparent: a name with trailing white space arrives
    as sent (and is then refused by http_request_parse_header, 400) — instance
    of `c07_roundtrip`; regression for the trailing-space strip ls-hpack had. -/
example : (decodeBlock 65535 Dec.init [0x40, 0x02, 0x61, 0x20, 0x01, 0x62]).fields.map Field.header =
    [([0x61, 0x20], [0x62])] := by decide +kernel

/-! Deviations of lshpack_dec_decode() from RFC 7541 that the model keeps as they
    are (leniency / strictness on unusual input, replayed against the C on
    every run: design/C07.md, "As-is"). -/

/-- why over-long integers (next theorem) decode to the same number: a zero continuation
    group adds nothing -/
theorem c07_overlong_group_is_neutral (rest : Bytes) (sh acc : Nat) :
    decIntTail (0x80 :: rest) sh acc = decIntTail rest (sh + 7) acc := by
  simp [decIntTail]

/-- over-long (non-minimal) integer encodings are accepted: 7f 80 80 80 00 = 127 -/
theorem c07_deviation_overlong_int : decInt 7 [0x7f, 0x80, 0x80, 0x80, 0x00] = some (127, []) := by
  decide +kernel

/-- a header block that consists of a dynamic table size update only (valid
    HPACK for an empty header list) is answered BAD_DATA -/
theorem c07_deviation_size_update_only_block :
    (decodeBlock 65535 Dec.init [0x3f, 0xe1, 0x1f]).err = some .badData := by decide +kernel

end LtVerif.C07
