/-
  C04 — every HTTP/1.x response is well-formed, correctly delimited and byte-exact.
  Property theorems with their examples and example inputs; helpers:
  LtVerif/Proofs/{H1Store,H1Tables,H1Wire,H1Resp,HttpChunkEnc,NetWrite,H1End}.lean.
  Models: Model/{H1Resp,HttpChunkEnc,NetWrite,H1End}.lean.  NOT here: READ / HANDLE_REQUEST of the state
  machine (which request produces which descriptor), the lingering close (C13).
-/
import LtVerif.Proofs.H1Resp
import LtVerif.Proofs.Path
import LtVerif.Proofs.NetWrite
import LtVerif.Proofs.H1End
namespace LtVerif.C04
open LtVerif B

/-- **Framing soundness.**  For every response descriptor a well-behaved handler can leave behind
    (`HandlerSane`: any status >= 200, method, version, finished or streaming, no transfer coding of
    its own), read the final header fields as RFC 9112 §6.3 tells a client to (`rfcFraming`) and split
    what follows the header section accordingly (`rfcBody`), arbitrary bytes `next` of a following
    response behind it.  The framing is never uninterpretable; "until close" ⇒ keep-alive off and the
    body is the intended one; otherwise the client recovers exactly the intended body and `next` is
    left over (Content-Length true, chunking terminated, the next response starts where expected);
    HEAD, 204, 205, 304 put no body bytes on the wire, a 204 has no Content-Length. -/
theorem c04_framing_sound (d : RespIn) (date next : Bytes) (h : HandlerSane d) :
    (respond d date).status = d.status ∧ (respond d date).finished = true ∧
    rfcFraming (decide (d.meth = .head)) (respond d date).status (respond d date).hdrs ≠ .invalid ∧
    (rfcFraming (decide (d.meth = .head)) (respond d date).status (respond d date).hdrs = .close →
      (respond d date).keepAlive = false ∧
      rfcBody .close (respond d date).body = some (intendedBody d, [])) ∧
    (rfcFraming (decide (d.meth = .head)) (respond d date).status (respond d date).hdrs ≠ .close →
      rfcBody (rfcFraming (decide (d.meth = .head)) (respond d date).status (respond d date).hdrs)
        ((respond d date).body ++ next) = some (intendedBody d, next)) ∧
    ((d.meth = .head ∨ isBodiless d.status = true) → (respond d date).body = []) ∧
    (d.status = 204 → Hdrs.has (respond d date).hdrs nContentLength = false) := by
  have c := framing_sound_core d date next h
  refine ⟨writePrepare_status d, by simp [respond, h.closes], c.interpretable, fun hc => ?_, c.delimited,
    respond_bodiless d date, respond_204 d date⟩
  have := c.closeCase hc
  rw [hc] at this
  exact this

/-- **What the client reads off the wire.**  The bytes lighttpd queues for a response, handed to a
    client written from RFC 9112 (`wireDecode`: header section up to the first empty line, status
    line, EVERY `name: value` line — two differing Content-Length fields would be seen and rejected —
    §6.3, §7.1).  For every well-behaved descriptor with CR/LF-free, colon-free, pairwise different
    field names: the client gets status, fields and exactly the intended body and is left with
    exactly `next`, or the message is close-delimited, the body is the intended one and keep-alive
    is off. -/
theorem c04_wire_decode_exact (d : RespIn) (date next : Bytes) (h : HandlerSane d) (h1000 : d.status < 1000)
    (hk : KeysOk d.hdrs) (hc : HdrsClean d.hdrs) (hd : NoCRLF date)
    (ht : ∀ t, d.serverTag = some t → NoCRLF t) :
    (∃ fs, wireDecode (decide (d.meth = .head)) ((respond d date).head ++ ((respond d date).body ++ next))
        = some (d.status, fs, intendedBody d, next)) ∨
    ((respond d date).keepAlive = false ∧
      ∃ fs, wireDecode (decide (d.meth = .head)) ((respond d date).head ++ (respond d date).body)
        = some (d.status, fs, intendedBody d, [])) := by
  have core := framing_sound_core d date next h
  have hst : (respond d date).status = d.status := writePrepare_status d
  have hso : StoreOk d.hdrs := ⟨h.noDup, hk⟩
  have h100 : 100 ≤ d.status := by have := h.status; omega
  by_cases hf : rfcFraming (decide (d.meth = .head)) (respond d date).status (respond d date).hdrs = .close
  · right
    obtain ⟨hka, hb⟩ := core.closeCase hf
    refine ⟨hka, (headFields (respond d date).hdrs date d.serverTag).map (fun f => (f.1, ltrim f.2)), ?_⟩
    rw [wireDecode_head d date _ _ h100 h1000 hso hc hd ht, hb, hst]
    rfl
  · left
    refine ⟨(headFields (respond d date).hdrs date d.serverTag).map (fun f => (f.1, ltrim f.2)), ?_⟩
    rw [wireDecode_head d date _ _ h100 h1000 hso hc hd ht, core.delimited hf, hst]
    rfl

/-- **One entry per field name.**  Every operation of the response header store
    (http_header_response_set / _unset / _insert / _append) and the whole response path keep the
    store free of duplicate names (and names non-empty, colon-free), starting from the empty store:
    the reachable-state invariant behind `HandlerSane.noDup`; lighttpd never emits two
    Content-Length fields or Content-Length next to its own Transfer-Encoding. -/
theorem c04_store_names_unique :
    StoreOk [] ∧
    (∀ hs k v, StoreOk hs → k ≠ [] ∧ colon ∉ k → StoreOk (Hdrs.set hs k v)) ∧
    (∀ hs k, StoreOk hs → StoreOk (Hdrs.unset hs k)) ∧
    (∀ hs k v, StoreOk hs → k ≠ [] ∧ colon ∉ k → StoreOk (Hdrs.insert hs k v)) ∧
    (∀ hs k v, StoreOk hs → k ≠ [] ∧ colon ∉ k → StoreOk (Hdrs.append hs k v)) ∧
    (∀ d date, StoreOk d.hdrs → StoreOk (respond d date).hdrs) :=
  ⟨storeOk_nil, fun _ k v h hk => storeOk_set k v h hk, fun _ k h => storeOk_unset k h,
   fun _ k v h hk => storeOk_insert k v h hk, fun _ k v h hk => storeOk_append k v h hk,
   fun d date h => respond_inv storeInv_storeOk d date h⟩

/-- **Neither length nor chunking ⇒ connection close — unconditionally.**  For EVERY descriptor (no
    assumption on what the handler declared), if the final header fields carry no Content-Length,
    no Transfer-Encoding and no Upgrade, and the response is one that can have a body (not HEAD,
    not 204/205/304, not a successful CONNECT), then keep-alive is off: the client can determine
    the end of the message because the server closes the connection after it. -/
theorem c04_undelimited_closes (d : RespIn) (date : Bytes) (hm : d.meth ≠ .head)
    (hb : isBodiless d.status = false) (hnt : ¬ (d.meth = .connect ∧ d.status = 200))
    (hcl : Hdrs.has (respond d date).hdrs nContentLength = false)
    (hte : Hdrs.has (respond d date).hdrs nTransferEncoding = false)
    (hup : Hdrs.has (respond d date).hdrs nUpgrade = false) : (respond d date).keepAlive = false := by
  have hwp : writePrepare d = wpFraming d (wpStatus d) := by
    unfold writePrepare; simp [wpHead, hm]
  have e1 : (respond d date).hdrs = finalHdrs d (writePrepare d) := rfl
  have e2 : (respond d date).keepAlive = kaAfterLimits d (writePrepare d).keepAlive := rfl
  rw [e1, finalHdrs_has d _ _ nm_final_CL, hwp] at hcl
  rw [e1, finalHdrs_has d _ _ nm_final_TE, hwp] at hte
  rw [e1, finalHdrs_has d _ _ nm_final_UP, hwp] at hup
  rw [e2, hwp]
  obtain ⟨h204, _, h304⟩ := (isBodiless_false _).mp hb
  suffices hk : (wpFraming d (wpStatus d)).keepAlive = false by simp [kaAfterLimits, hk]
  -- the framing step alone: left alone for an excluded reason, a field set, or keep-alive off
  have hs := wpStatus_status d
  have hce : (ofString "chunked").isEmpty = false := by decide +kernel
  refine wpFraming_cases d (wpStatus d)
    (fun s => Hdrs.has s.hdrs nContentLength = false → Hdrs.has s.hdrs nTransferEncoding = false →
      Hdrs.has s.hdrs nUpgrade = false → s.keepAlive = false)
    (fun hr c t u => ?_) (fun n _ c _ _ => ?_) (fun _ _ t _ => ?_) (fun _ _ _ _ => rfl) hcl hte hup
  · cases hr with
    | hasCL h => rw [h] at c; cases c
    | hasTE h => rw [h] at t; cases t
    | hasUpgrade h => rw [h] at u; cases u
    | head h => exact absurd h hm
    | s204 h => exact absurd (hs ▸ h) h204
    | s304 h => exact absurd (hs ▸ h) h304
    | tunnel h => exact absurd (hs ▸ h) hnt
  · simp only [Hdrs.has_set, Hdrs.sameName_self, if_true, natToDec_isEmpty] at c
    cases c
  · simp only [Hdrs.has_append _ _ _ _ hce, Hdrs.sameName_self, if_true] at t
    cases t

/-- **No body for HEAD / 204 / 205 / 304 — unconditionally.**  Whatever the handler queued,
    declared or streams later (no assumption on the descriptor at all), such a response consists of
    its header section only. -/
theorem c04_bodiless_no_body (d : RespIn) (date : Bytes)
    (h : d.meth = .head ∨ isBodiless d.status = true) : (respond d date).body = [] :=
  respond_bodiless d date h

/-- **An interim (1xx) response is a header section and nothing else**, also when fields are
    repeated (`FieldsOk`: what http_header_response_insert() builds): what h1_send_1xx() writes
    splits at LF into CR-terminated, non-empty lines without stray CR/LF, then the empty line,
    then nothing. -/
theorem c04_interim_is_head_only (status : Nat) (hs : List Hdr) (h : FieldsOk hs) :
    ∃ lines : List Bytes, (∀ l ∈ lines, NoCRLF l ∧ l ≠ []) ∧
      splitOn lf (send1xx status hs) = lines.map (· ++ [cr]) ++ [[cr], []] := by
  have hall : ∀ l ∈ (ofString "HTTP/1.1 " ++ statusText status)
        :: (hs.filter fun h => !h.key.isEmpty && !h.value.isEmpty).map renderField,
      ∃ ps : List Bytes, l ++ [cr, lf] = ps.flatMap (· ++ [cr, lf]) ∧ ∀ p ∈ ps, NoCRLF p ∧ p ≠ [] := by
    intro l hl
    rcases List.mem_cons.mp hl with rfl | hl
    · exact line_pieces (statusLine_clean true status) (by simp [ofString])
    · obtain ⟨x, hx, rfl⟩ := List.mem_map.mp hl
      have hx' := (List.mem_filter.mp hx).1
      exact (h x hx').2.pieces (h x hx').1
  obtain ⟨phys, hphys, hP⟩ := lines_pieces (fun p => NoCRLF p ∧ p ≠ []) _ hall
  refine ⟨phys, hP, ?_⟩
  have : send1xx status hs = renderHead phys := by
    unfold send1xx renderHead; rw [hphys]
  rw [this]
  exact splitOn_renderHead phys (fun l hl => (hP l hl).1.2)

/-- **Chunked round trip against an independent decoder.**  Whatever pieces a handler appends with
    http_chunk_append_*() (empty pieces included) and closes with http_chunk_close(), the RFC 9112
    §7.1 reference decoder `rfcDechunk` (written from the grammar: hex size, optional extension up
    to CRLF, data, CRLF, last-chunk, trailer section) returns exactly the concatenation of the
    pieces and exactly the bytes `next` that follow the encoding. -/
theorem c04_chunked_roundtrip (pieces : List Bytes) (next : Bytes) (hsz : ∀ p ∈ pieces, chunkSizeOk p.length) :
    rfcBody .chunked (chunkStream true pieces true ++ next) = some (pieces.flatten, next) := by
  have := rfcBody_chunked [] pieces next (by unfold chunkSizeOk; decide) hsz
  simpa [chunkFirst] using this

/-- the same including the first chunk that http_response_write_prepare() wraps around what was
    already queued when it switched the response to chunked (its size line has leading zeros) -/
theorem c04_chunked_roundtrip_with_first (queued : Bytes) (pieces : List Bytes) (next : Bytes)
    (hq : chunkSizeOk queued.length) (hsz : ∀ p ∈ pieces, chunkSizeOk p.length) :
    rfcBody .chunked (chunkFirst queued ++ chunkStream true pieces true ++ next)
      = some (queued ++ pieces.flatten, next) :=
  rfcBody_chunked queued pieces next hq hsz

/-- second opinion: lighttpd's own request-side decoder automaton (Model/H1Chunked, validated
    against h1_chunked() by C01) reads the same encoding back the same way -/
theorem c04_chunked_roundtrip_own_decoder (cfg : CkCfg) (hcfg : cfg.maxSize = 0) (hmf : cfg.maxField ≥ 1026)
    (pieces : List Bytes) (next : Bytes) (hsz : ∀ p ∈ pieces, chunkSizeOk p.length) :
    ckFeed cfg {} (chunkStream true pieces true ++ next)
      = { mode := .done, out := pieces.flatten, ka := true, after := next.length } := by
  simpa using ckFeed_chunkStream cfg hcfg hmf next pieces [] hsz

/-- **The one place where an announced chunk length can be false is reported as an error.**
    http_chunk_append_file_fd/_ref() read files of up to 32 KiB into memory for a chunked response
    (http_chunk_append_read_fd_range): the size line announces `sz`; if the file has shrunk since it
    was sized, fewer bytes follow.  The model returns rc = -1 exactly then, and whenever rc = 0 what
    was queued decodes to the first `sz` bytes of the file. -/
theorem c04_short_read_reported (content : Bytes) (sz : Nat) (hsz : chunkSizeOk sz) :
    ((chunkAppendWholeFile true content sz).2 = 0 ↔ (sz ≤ content.length ∨ sz > 32768)) ∧
    ((chunkAppendWholeFile true content sz).2 = 0 → sz ≤ content.length →
      rfcBody .chunked ((chunkAppendWholeFile true content sz).1 ++ chunkClose true)
        = some (content.take sz, [])) := by
  obtain ⟨hrc, hq⟩ := chunkAppendWholeFile_spec content sz
  refine ⟨hrc, fun _ hle => ?_⟩
  have hrt := c04_chunked_roundtrip [content.take sz] [] (by
    intro p hp
    rw [List.mem_singleton.mp hp, List.length_take, Nat.min_eq_left hle]
    exact hsz)
  rw [hq hle]
  simpa [chunkStream] using hrt

/-- every chunk-size line the encoder writes is accepted by the decoder with exactly that size -/
theorem c04_chunk_size_line_exact (n : Nat) (h : chunkSizeOk n) :
    ckParseLine (chunkLenLine n) = .ok n ∧ ckParseLine (hexBytesLc n ++ [cr, lf]) = .ok n :=
  ⟨(goodLine_chunkLenLine n h).parse, (goodLine_hexBytes n h).parse⟩

/-- a body that is not chunked is passed through untouched -/
theorem c04_unchunked_is_identity (pieces : List Bytes) :
    chunkStream false pieces true = pieces.flatten :=
  chunkStream_plain pieces

/-- **chunkqueue_mark_written() is exact**: after `n` bytes are reported written, the queue stands
    for exactly the old byte string minus its first `n` bytes (any chunk layout, any `n`). -/
theorem c04_mark_written_exact (q : Cq) (n : Nat) (h : CqWF q) :
    cqFlat (markWritten q n) = (cqFlat q).drop n ∧ CqWF (markWritten q n) :=
  ⟨markWritten_flat q n h, markWritten_WF q n h⟩

/-- **One call of the network backend** (either flavour, any `max_bytes`, queue state and schedule of
    results: full, short, 0, EAGAIN, EINTR, EPIPE, ECONNRESET, EINVAL with the sendfile fallback,
    EIO): accepted bytes followed by queued bytes never change; `bytes_out` counts the accepted
    bytes; accepted bytes are only ever appended. -/
theorem c04_network_write_exact (b : Backend) (st : NwSt) (maxBytes : Nat) (h : CqWF st.q) :
    (networkWrite b st maxBytes).2.acc ++ cqFlat (networkWrite b st maxBytes).2.q = st.acc ++ cqFlat st.q ∧
    (networkWrite b st maxBytes).2.out + st.acc.length = st.out + (networkWrite b st maxBytes).2.acc.length ∧
    (∃ t, (networkWrite b st maxBytes).2.acc = st.acc ++ t) ∧
    CqWF (networkWrite b st maxBytes).2.q := by
  have := networkWrite_inv b st maxBytes h
  exact ⟨this.bytes, this.out, this.ext, this.wf⟩

/-- **Partial writes are exact over the whole life of a response.**  A message queued in any layout
    of memory and file chunks, the backend called again and again (connection_handle_write() on
    every writable event), under EVERY schedule of write results: what the socket has accepted is a
    prefix of the message, what is queued is the rest, `bytes_out` is the prefix length, and an empty
    queue means the socket has the whole message: nothing lost, duplicated or reordered. -/
theorem c04_partial_write_exact (b : Backend) (maxBytes : Nat) (q : Cq) (sched : List WrRes) (h : CqWF q) :
    let r := (drive b maxBytes { q := q, sched := sched }).2.2
    r.acc ++ cqFlat r.q = cqFlat q ∧ r.out = r.acc.length ∧
    (r.q = [] → r.acc = cqFlat q) := by
  intro r
  have hr : r = (driveGo b maxBytes (sched.length + q.length + 2) 0 0 { q := q, sched := sched }).2.2 := rfl
  have inv := driveGo_inv b maxBytes (sched.length + q.length + 2) 0 0 { q := q, sched := sched } h
  rw [← hr] at inv
  have hb := inv.bytes
  have ho := inv.out
  simp only [List.nil_append, List.length_nil, Nat.add_zero, Nat.zero_add] at hb ho
  refine ⟨hb, ho, ?_⟩
  intro he
  rw [he] at hb
  simpa [cqFlat] using hb

/-- **Progress.**  If every answer is `ok k`, k > 0, and there are as many answers as queued bytes
    plus chunks, the writer empties the queue without error and the socket has the message.  (One
    answer per byte is generous: the statement is then independent of `max_bytes`, the iovec limit
    and the 16 KiB read buffer.) -/
theorem c04_write_progress (b : Backend) (maxBytes : Nat) (q : Cq) (sched : List WrRes) (h : CqWF q)
    (hmax : 0 < maxBytes) (hok : AllOkPos sched) (hlen : cqLen q + q.length ≤ sched.length) :
    (drive b maxBytes { q := q, sched := sched }).1 = 0 ∧
    (drive b maxBytes { q := q, sched := sched }).2.2.q = [] ∧
    (drive b maxBytes { q := q, sched := sched }).2.2.acc = cqFlat q := by
  have hp := driveGo_prog b maxBytes hmax (sched.length + q.length + 2) 0 { q := q, sched := sched }
    ⟨h, hok, by unfold meas; exact hlen⟩ (by unfold meas; simp only []; omega)
  have hx := c04_partial_write_exact b maxBytes q sched h
  simp only [] at hx
  exact ⟨hp.1, hp.2, hx.2.2 hp.2⟩

/-- **EINTR, EAGAIN and short counts never end a response.**  Under every schedule that consists
    only of retryable answers (non-empty acceptances, EAGAIN, EINTR — in any order, any number) no
    call of the backend reports an error (rc = 0 throughout), so by `c04_partial_write_exact` the
    response stays intact and continues from where it stopped. -/
theorem c04_retryable_never_aborts (b : Backend) (maxBytes : Nat) (q : Cq) (sched : List WrRes) (h : CqWF q)
    (hmax : 0 < maxBytes) (hr : ∀ r ∈ sched, Retryable r) :
    (drive b maxBytes { q := q, sched := sched }).1 = 0 :=
  driveGo_retry b maxBytes hmax _ 0 { q := q, sched := sched } h hr

/-- **Composition: the response on the socket.**  Queue the message `respond` produces (header
    section ++ body) in ANY chunk layout and run the writer under ANY schedule: what the socket has
    accepted is always a prefix of that message, and under the progress conditions it is the
    message — the bytes `c04_wire_decode_exact` reasons about are the bytes the client receives. -/
theorem c04_response_reaches_socket (d : RespIn) (date : Bytes) (b : Backend) (maxBytes : Nat) (q : Cq)
    (sched : List WrRes) (hq : cqFlat q = (respond d date).head ++ (respond d date).body) (h : CqWF q) :
    (∃ rest, (respond d date).head ++ (respond d date).body
        = (drive b maxBytes { q := q, sched := sched }).2.2.acc ++ rest) ∧
    (0 < maxBytes → AllOkPos sched → cqLen q + q.length ≤ sched.length →
      (drive b maxBytes { q := q, sched := sched }).2.2.acc
        = (respond d date).head ++ (respond d date).body) := by
  have hx := c04_partial_write_exact b maxBytes q sched h
  simp only [] at hx
  refine ⟨⟨_, by rw [← hq]; exact hx.1.symm⟩, ?_⟩
  intro hmax hok hlen
  rw [← hq]
  exact (c04_write_progress b maxBytes q sched h hmax hok hlen).2.2

/-- **The URL encoders cannot emit CR, LF, NUL or even a space.**  For every byte string,
    buffer_append_string_encoded() with ENCODING_REL_URI / ENCODING_REL_URI_PART (tables extracted
    from buffer.c on every run) yields printable non-space ASCII only. -/
theorem c04_no_crlf_injection (enc : Nat) (henc : enc < 2) (s : Bytes) :
    ∀ x ∈ encodeStr enc s, 0x21 ≤ x ∧ x ≤ 0x7e ∧ x ≠ cr ∧ x ≠ lf ∧ x ≠ 0 := by
  intro x hx
  unfold encodeStr at hx
  obtain ⟨b, _, hxb⟩ := List.mem_flatMap.mp hx
  have := encodeByte_rel_printable enc henc b x hxb
  refine ⟨this.1, this.2, ?_, ?_, ?_⟩ <;> (intro e; subst e; exact absurd this.1 (by decide))

/-- the HTML / XML encoders let no control character through either -/
theorem c04_entity_encoding_no_ctl (enc : Nat) (henc : enc < 4) (s : Bytes) :
    ∀ x ∈ encodeStr enc s, 0x20 ≤ x ∧ x ≠ 0x7f := by
  intro x hx
  unfold encodeStr at hx
  obtain ⟨b, _, hxb⟩ := List.mem_flatMap.mp hx
  exact encodeByte_no_ctl enc henc b x hxb

/-- **Directory redirect.**  The Location value of http_response_redirect_to_directory() carries
    no CR, LF or NUL for ANY request path (raw, decoded, with or without control bytes), provided
    the authority and the query string have none (they are checked by the request parser: C01/C02). -/
theorem c04_redirect_location_clean (pfx path query : Bytes)
    (hp : ∀ x ∈ pfx, x ≠ cr ∧ x ≠ lf ∧ x ≠ 0) (hq : ∀ x ∈ query, x ≠ cr ∧ x ≠ lf ∧ x ≠ 0) :
    ∀ x ∈ redirectLocation pfx path query, x ≠ cr ∧ x ≠ lf ∧ x ≠ 0 := by
  intro x hx
  unfold redirectLocation at hx
  rcases List.mem_append.mp hx with h1 | h1
  · rcases List.mem_append.mp h1 with h2 | h2
    · rcases List.mem_append.mp h2 with h3 | h3
      · exact hp x h3
      · exact (c04_no_crlf_injection 0 (by decide) path x h3).2.2
    · simp at h2; subst h2; decide
  · split at h1
    · simp at h1
    · rcases List.mem_cons.mp h1 with rfl | h2
      · decide
      · exact hq x h2

/-- **Decoded paths.**  buffer_urldecode_path() never produces a control character: a request
    target without raw control bytes decodes to a path without any (%0d, %0a, %00 … become '_'). -/
theorem c04_decoded_path_no_ctl (s : Bytes) (h : ∀ b ∈ s, 32 ≤ b ∧ b ≠ 127) :
    ∀ b ∈ urldecodePath s, 32 ≤ b ∧ b ≠ 127 :=
  fun b hb => (urldecodePath_no_ctl s b hb).elim (h b) id

/-- **The header section is exactly its lines.**  If no field the handler set contains CR or LF
    (for request-derived values that is what the theorems above give), then for every
    descriptor the serialised header section splits at LF into exactly: the status line, one line
    per visible field, Date, Server — each ending in CR and containing no other CR or LF — then
    the empty line, then nothing.  No extra header line and no second response can appear. -/
theorem c04_header_section_exact (d : RespIn) (date : Bytes) (hc : HdrsClean d.hdrs) (hd : NoCRLF date)
    (ht : ∀ t, d.serverTag = some t → NoCRLF t) :
    (∀ l ∈ headLines d.ver11 (respond d date).status (respond d date).hdrs date d.serverTag, NoCRLF l) ∧
    splitOn lf (respond d date).head
      = (headLines d.ver11 (respond d date).status (respond d date).hdrs date d.serverTag).map (· ++ [cr])
        ++ [[cr], []] := by
  have hclean := headLines_clean d.ver11 (respond d date).status (respond d date).hdrs date d.serverTag
    (respond_inv storeInv_clean d date hc) hd ht
  refine ⟨hclean, ?_⟩
  have : (respond d date).head
      = renderHead (headLines d.ver11 (respond d date).status (respond d date).hdrs date d.serverTag) := rfl
  rw [this]
  exact splitOn_renderHead _ (fun l hl => (hclean l hl).2)

/-- **The same with repeated fields** (Set-Cookie, Link, merged trailers: values of the form
    `v\r\nName: v2` as http_header_response_insert() builds them, `FieldsOk`): the header section
    still splits at LF into CR-terminated, non-empty lines without stray CR or LF, then the empty
    line, then nothing — the first empty line is the end of the header section. -/
theorem c04_header_section_lines (d : RespIn) (date : Bytes) (hso : StoreOk d.hdrs) (hf : FieldsOk d.hdrs)
    (hd : NoCRLF date) (ht : ∀ t, d.serverTag = some t → NoCRLF t) :
    ∃ lines : List Bytes, (∀ l ∈ lines, NoCRLF l ∧ l ≠ []) ∧
      splitOn lf (respond d date).head = lines.map (· ++ [cr]) ++ [[cr], []] := by
  obtain ⟨phys, hphys, hP⟩ := headLines_pieces d.ver11 (respond d date).status (respond d date).hdrs date
    d.serverTag (respond_inv storeInv_fieldsOk d date ⟨hso, hf⟩).2 hd ht
  refine ⟨phys, hP, ?_⟩
  have : (respond d date).head = renderHead phys := hphys
  rw [this]
  exact splitOn_renderHead phys (fun l hl => (hP l hl).1.2)

/-- `FieldsOk` is what the store operations really guarantee: starting from clean fields, inserting
    a repeated field with a clean name and value keeps it (so `c04_header_section_lines` applies to
    every store built by set / insert / append of CR/LF-free arguments). -/
theorem c04_insert_keeps_fields_ok (hs : List Hdr) (k v : Bytes) (hso : StoreOk hs) (hf : FieldsOk hs)
    (hk : NoCRLF k) (hne : k ≠ []) (hv : NoCRLF v) :
    FieldsOk (Hdrs.insert hs k v) ∧ FieldsOk (Hdrs.set hs k v) ∧ FieldsOk (Hdrs.append hs k v) :=
  ⟨fieldsOk_insert k v hf hso.1 hk hne hv, fieldsOk_set k v hf hk hv, fieldsOk_append k v hf hso.1 hk hv⟩

/-- a static-file style response: finished, handler-declared Content-Length -/
def exStatic : RespIn :=
  { status := 200, hdrs := [⟨ofString "Content-Length", ofString "5"⟩], queued := ofString "hello" }

/-- a streamed HTTP/1.1 response: nothing declared, two pieces -/
def exStream : RespIn :=
  { status := 200, finished := false, queued := ofString "he", pieces := [ofString "llo", [], ofString "!"] }

example : HandlerSane exStatic :=
  ⟨by decide +kernel, by simp [exStatic, Hdrs.NoDup], by decide +kernel, by decide +kernel, by decide +kernel,
   by intro _ _ v hv _; simp [exStatic, Hdrs.get, Hdrs.sameName, eqIcase] at hv; obtain ⟨_, rfl⟩ := hv; decide +kernel,
   rfl, ⟨by unfold chunkSizeOk; decide +kernel, by intro p hp; simp [exStatic] at hp⟩⟩

example : HandlerSane exStream :=
  ⟨by decide +kernel, by simp [exStream, Hdrs.NoDup], by decide +kernel, by decide +kernel, by decide +kernel,
   by intro _ _ v hv; simp [exStream, Hdrs.get] at hv,
   rfl, ⟨by unfold chunkSizeOk; decide +kernel,
         by intro p hp; simp [exStream] at hp; rcases hp with rfl | rfl | rfl <;> (unfold chunkSizeOk; decide +kernel)⟩⟩

example : rfcFraming false 200 (respond exStatic []).hdrs = .length 5 := by decide +kernel
example : rfcFraming false 200 (respond exStream []).hdrs = .chunked := by decide +kernel
example : (respond exStream []).body = ofString "02\r\nhe\r\n3\r\nllo\r\n1\r\n!\r\n0\r\n\r\n" := by decide +kernel
example : rfcFraming false 200 (respond { exStream with ver11 := false } []).hdrs = .close ∧
    (respond { exStream with ver11 := false } []).keepAlive = false := by decide +kernel
example : (respond { exStatic with meth := .head } []).body = [] := by decide +kernel
example : Hdrs.has (respond { exStream with ver11 := false } []).hdrs nContentLength = false ∧
    Hdrs.has (respond { exStream with ver11 := false } []).hdrs nTransferEncoding = false := by decide +kernel
example : chunkStream true [ofString "abc", [], ofString "0123456789abcdef0"] true
    = ofString "3\r\nabc\r\n11\r\n0123456789abcdef0\r\n0\r\n\r\n" := by decide +kernel
example : chunkSizeOk 1048577 := by unfold chunkSizeOk; decide +kernel

/-- a queue of a memory chunk, a partly sent file chunk and another memory chunk -/
def exQ : Cq := [.mem (ofString "HTTP/1.1 200 OK\r\n\r\n") 0, .file (ofString "0123456789") 2 9, .mem (ofString "tail") 1]

example : CqWF exQ := by
  intro c hc
  simp [exQ] at hc
  rcases hc with rfl | rfl | rfl <;> simp [Chunk.WF, ofString]
example : (drive .sendfile 262144 { q := exQ, sched := [.ok 5, .eagain, .ok 100, .eintr, .ok 3, .einval, .ok 2, .ok 100, .ok 100] }).2.2.acc
    = ofString "HTTP/1.1 200 OK\r\n\r\n2345678ail" := by decide +kernel
example : encodeStr 0 (ofString "/a b\r\nSet-Cookie: x") = ofString "/a%20b%0D%0ASet-Cookie%3A%20x" := by decide +kernel
example : urldecodePath (ofString "/a%0d%0aX:%20y") = ofString "/a__X: y" := by decide +kernel
example : wireDecode false ((respond exStatic (ofString "x")).head ++ (respond exStatic (ofString "x")).body ++ ofString "HTTP")
    = some (200, [(ofString "Content-Length", ofString "5"), (ofString "Date", ofString "x")], ofString "hello", ofString "HTTP") := by
  decide +kernel
example : wireDecode false (ofString "HTTP/1.1 200 OK\r\nContent-Length: 5\r\ncontent-length: 7\r\n\r\nhello") = none := by
  decide +kernel
example : rfcBody .chunked (ofString "3;x=y\r\nabc\r\n0\r\nT: v\r\n\r\nrest") = some (ofString "abc", ofString "rest") := by
  decide +kernel
example : (chunkAppendWholeFile true (ofString "abc") 5).2 = -1 := by decide +kernel
example : FieldsOk (Hdrs.insert [⟨ofString "Set-Cookie", ofString "a=1"⟩] (ofString "set-cookie") (ofString "b=2")) :=
  (c04_insert_keeps_fields_ok _ _ _ ⟨by simp [Hdrs.NoDup], by intro h hh; simp at hh; subst hh; decide +kernel⟩
    (fieldsOk_of_clean (by intro h hh; simp at hh; subst hh; exact ⟨(by decide +kernel), (by decide +kernel)⟩))
    (by decide +kernel) (by decide +kernel) (by decide +kernel)).1
example : AllOkPos [.ok 5, .ok 1] ∧ Retryable .eintr ∧ ¬ Retryable .epipe := by
  refine ⟨?_, trivial, fun h => h⟩
  intro r hr; simp at hr; rcases hr with rfl | rfl <;> exact ⟨_, rfl, by decide +kernel⟩
example : HdrsClean exStatic.hdrs := by
  intro h hh
  simp [exStatic] at hh
  subst hh
  exact ⟨(by decide +kernel), (by decide +kernel)⟩

section conn
open H1End

/-- **The connection goes on to the next request only after a complete, keep-alive exchange; otherwise
    it is really closed.**  For EVERY state in which connection_handle_response_end_state() can be
    entered (`EndIn`): the state becomes CON_STATE_REQUEST_START exactly if the request was HTTP/1.x,
    its body was read completely, the write state did not end in error and r->keep_alive > 0; else
    the write side is shut down (CON_STATE_CLOSE, pipelined bytes only drained, never parsed) or the
    descriptor is closed (CON_STATE_CONNECT, read queue emptied). -/
theorem c04_response_end_really_closes (i : EndIn) :
    ((responseEnd i).state = .requestStart ↔
      (i.h2 = false ∧ i.reqLen = i.reqIn ∧ i.isError = false ∧ 0 < i.keepAlive)) ∧
    ((responseEnd i).state ≠ .requestStart →
      ((responseEnd i).fin = true ∨ (responseEnd i).closed = true) ∧
      ((responseEnd i).fin = true → (responseEnd i).state = .close ∧ (responseEnd i).pending = i.pending) ∧
      ((responseEnd i).closed = true → (responseEnd i).state = .connect ∧ (responseEnd i).pending = 0)) := by
  refine ⟨responseEnd_continues_iff i, fun h => ?_⟩
  have s := responseEnd_not_continues i h
  exact ⟨s.finOrClosed, fun hf => ⟨(s.ifFin hf).1, (s.ifFin hf).2.2⟩, s.ifClosed⟩

/-- **Responses appear once per request, in request order.**  For EVERY pipeline (`Req`: any response,
    keep-alive flag, write error after any number of bytes, unread request body) and any descriptor /
    shutdown() behaviour: the wire is the responses of the first `answered` requests in order, each
    once; all but the last are complete keep-alive exchanges; a connection still open has answered
    every request completely; otherwise the last answered request is the first that did not allow to
    continue, the connection is shut down or closed right behind it, and no later one is answered. -/
theorem c04_once_per_request_in_order (fdOk shutOk : Bool) (reqs : List Req) :
    (connRun fdOk shutOk reqs).answered ≤ reqs.length ∧
    (connRun fdOk shutOk reqs).wire
      = ((reqs.take (connRun fdOk shutOk reqs).answered).map sentOf).flatten ∧
    (∀ j q, j + 1 < (connRun fdOk shutOk reqs).answered → reqs[j]? = some q →
      Continues q ∧ sentOf q = q.msg) ∧
    ((connRun fdOk shutOk reqs).final = none →
      (connRun fdOk shutOk reqs).answered = reqs.length ∧
      ∀ q ∈ reqs, Continues q ∧ sentOf q = q.msg) ∧
    (∀ e, (connRun fdOk shutOk reqs).final = some e →
      ∃ k q, (connRun fdOk shutOk reqs).answered = k + 1 ∧ reqs[k]? = some q ∧ ¬ Continues q ∧
        e = responseEnd (endIn fdOk shutOk (reqs.length - (k + 1)) q) ∧
        e.state ≠ .requestStart ∧ (e.fin = true ∨ e.closed = true)) := by
  induction reqs with
  | nil => simp [connRun]
  | cons q qs ih =>
    have hsent : Continues q → sentOf q = q.msg := by
      intro hc; unfold sentOf; rw [hc.1]
    by_cases hc : Continues q
    · have hst := (endIn_continues_iff fdOk shutOk qs.length q).2 hc
      obtain ⟨ihLe, ihWire, ihMid, ihOpen, ihEnd⟩ := ih
      have hrun : connRun fdOk shutOk (q :: qs)
          = ⟨sentOf q ++ (connRun fdOk shutOk qs).wire, (connRun fdOk shutOk qs).answered + 1,
             (connRun fdOk shutOk qs).final⟩ := by
        simp [connRun, hst]
      rw [hrun]
      refine ⟨by simp; omega, ?_, ?_, ?_, ?_⟩
      · simp only [List.take_succ_cons, List.map_cons, List.flatten_cons]
        rw [← ihWire]
      · intro j q' hj hq'
        cases j with
        | zero =>
          simp at hq'; subst hq'; exact ⟨hc, hsent hc⟩
        | succ j' =>
          simp at hq' hj
          exact ihMid j' q' (by omega) hq'
      · intro hn
        obtain ⟨ha, hall⟩ := ihOpen hn
        refine ⟨by simp [ha], ?_⟩
        intro q' hq'
        rcases List.mem_cons.1 hq' with rfl | hm
        · exact ⟨hc, hsent hc⟩
        · exact hall q' hm
      · intro e he
        obtain ⟨k, q', hk, hq', hnc, hee, hs, hf⟩ := ihEnd e he
        refine ⟨k + 1, q', by simp [hk], by simpa using hq', hnc, ?_, hs, hf⟩
        simp only [List.length_cons]
        have : qs.length + 1 - (k + 1 + 1) = qs.length - (k + 1) := by omega
        rw [this]; exact hee
    · obtain ⟨hrun, hdown⟩ := connRun_stop fdOk shutOk qs hc
      rw [hrun]
      refine ⟨by simp, by simp, ?_, by simp, ?_⟩
      · intro j q' hj; simp at hj
      · intro e he
        simp at he
        refine ⟨0, q, rfl, by simp, hc, ?_, ?_, ?_⟩
        · simp [← he]
        · rw [← he]; exact hdown.notStart
        · rw [← he]; exact hdown.finOrClosed

/-- **No length, no chunking ⇒ the connection is really closed behind the response.**  Under the
    hypotheses of `c04_undelimited_closes`, whatever is pipelined behind this request, whatever the
    write state did and however shutdown() answers: the response of `d` is the last thing on the
    wire, no later request is answered, and the write side is shut down or the descriptor closed. -/
theorem c04_undelimited_really_closes (d : RespIn) (date : Bytes) (hm : d.meth ≠ .head)
    (hb : isBodiless d.status = false) (hnt : ¬ (d.meth = .connect ∧ d.status = 200))
    (hcl : Hdrs.has (respond d date).hdrs nContentLength = false)
    (hte : Hdrs.has (respond d date).hdrs nTransferEncoding = false)
    (hup : Hdrs.has (respond d date).hdrs nUpgrade = false)
    (fdOk shutOk : Bool) (wrote : Option Nat) (reqLen reqIn : Int) (rest : List Req) :
    let q := Req.ofResp d date wrote reqLen reqIn
    ∃ e, connRun fdOk shutOk (q :: rest) = ⟨sentOf q, 1, some e⟩ ∧ (e.fin = true ∨ e.closed = true) ∧
      e.state ≠ .requestStart := by
  intro q
  have hka : q.ka = false := c04_undelimited_closes d date hm hb hnt hcl hte hup
  have hnc : ¬ Continues q := by intro hc; rw [hc.2.1] at hka; cases hka
  obtain ⟨hrun, hdown⟩ := connRun_stop fdOk shutOk rest hnc
  exact ⟨_, hrun, hdown.finOrClosed, hdown.notStart⟩

/-- a pipeline of three: keep-alive, then `Connection: close`, then one that is never answered -/
def exPipe : List Req :=
  [{ msg := ofString "A", ka := true }, { msg := ofString "BB", ka := false }, { msg := ofString "CCC", ka := true }]
example : connRun true true exPipe
    = ⟨ofString "ABB", 2, some { state := .close, done := 1, sepWq := false, fin := true, closed := false, pending := 1 }⟩ := by
  decide +kernel
example : (connRun true false exPipe).final
    = some { state := .connect, done := 1, sepWq := false, fin := false, closed := true, pending := 0 } := by decide +kernel
example : (connRun true true [{ msg := ofString "A", ka := true }, { msg := ofString "BB", ka := true }]).final = none := by
  decide +kernel
example : (connRun true true [{ msg := ofString "ABCD", ka := true, wrote := some 2 }, { msg := ofString "x", ka := true }]).wire
    = ofString "AB" := by decide +kernel
example : (responseEnd { keepAlive := 1, reqLen := 10, reqIn := 4, sepWq := true, pending := 7 })
    = { state := .close, done := 1, sepWq := false, fin := true, closed := false, pending := 7 } := by decide +kernel
example : (responseEnd { keepAlive := -1 }).state = .close ∧ (responseEnd { keepAlive := 1, pending := 3 }).state = .requestStart := by
  decide +kernel

end conn

end LtVerif.C04
