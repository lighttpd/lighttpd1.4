/-
  C02 — no request reaches a filesystem object outside the configured roots.
  Property theorems (the lemmas they instantiate are in LtVerif/Proofs/Path, PathPtr, Docroot and, for the
  host and evhost theorems and `litSlashes`, DocrootHost, DocrootEvhost).
-/
import LtVerif.Proofs.Path
import LtVerif.Proofs.PathPtr
import LtVerif.Proofs.DocrootHost
import LtVerif.Proofs.DocrootEvhost
import LtVerif.Proofs.Docroot
namespace LtVerif.C02
open LtVerif B

/-- buffer_path_simplify() maps every absolute path to a canonical absolute path:
    "/" seg "/" … with no empty, "." or ".." segment. -/
theorem c02_simplify_canonical (s : Bytes) (h : s.head? = some slash) :
    CanonicalAbs (pathSimplify s) :=
  match s, h with
  | _ :: t, rfl => pathSimplify_abs_canonical t

/-- byte-level reading of canonicity: the result starts with '/', and no
    '/'-delimited segment of it is "." or ".."; an empty segment can only be
    the very last one (trailing slash). -/
theorem c02_simplify_no_dot_segment (s : Bytes) (h : s.head? = some slash) :
    (pathSimplify s).head? = some slash ∧
    (∀ seg ∈ splitOn slash (pathSimplify s), seg ≠ segDot ∧ seg ≠ segDotDot) ∧
    (∀ seg ∈ ((splitOn slash (pathSimplify s)).drop 1).dropLast, seg ≠ []) :=
  have hcan := c02_simplify_canonical s h
  ⟨canonical_head hcan, canonical_noDotSeg hcan, canonical_mid_nonempty hcan⟩

/-- non-vacuity: a traversal attempt is absolute and is collapsed to the root -/
example : pathSimplify (ofString "/a/../../etc/./passwd") = ofString "/etc/passwd" := by decide +kernel
example : (ofString "/a/../../etc/./passwd").head? = some slash := by decide +kernel

/-- the cursor-level transcription of buffer.c:buffer_path_simplify() (Model/PathPtr.lean:
    pre-scan, in-place copy, back-up on "../", sentinel at `end`, relative heads) computes the
    segment-stack specification `pathSimplify` - for every byte string, NUL included.  The C is compared
    with the transcription by the harness; the canonical-path theorems transfer to it by this equation. -/
theorem c02_simplify_algorithm (s : Bytes) : pathSimplifyPtr s = pathSimplify s :=
  pathSimplifyPtr_eq s

/-- hence: what the C's algorithm returns for an absolute path is canonical -/
theorem c02_simplify_algorithm_canonical (s : Bytes) (h : s.head? = some slash) :
    CanonicalAbs (pathSimplifyPtr s) := by
  rw [pathSimplifyPtr_eq]; exact c02_simplify_canonical s h

example : pathSimplifyPtr (ofString "/a/../../etc/./passwd") = ofString "/etc/passwd" := by decide +kernel
example : pathSimplifyPtr (ofString "a/b/../../../x/") = ofString "/x/" := by decide +kernel

/-- buffer_urldecode_path() as the C runs it (src/dst cursors, `*dst` overwritten on a successful decode,
    stop at NUL) equals the specification `urldecodePath` on NUL-free input; on other input the C stops
    at the first NUL behind the first '%' - `urldecodePathC` models that and is what the harness compares
    (alphabet with NUL) -/
theorem c02_urldecode_algorithm (s : Bytes) (h : (0 : UInt8) ∉ s) : urldecodePathC s = urldecodePath s :=
  urldecodePathC_eq s h

example : urldecodePathC (ofString "/a%2e%2E%zz%4") = ofString "/a..%zz%4" := by decide +kernel

/-- the written prefix never overtakes the unread input (the in-place writes of the C cannot clobber a
    byte that is still to be read): each step moves bytes from the input to the output or drops them -/
theorem c02_simplify_in_place_safe (po rest : Bytes) :
    (ptrCopy po rest).1.length + (ptrCopy po rest).2.length = po.length + rest.length ∧
    (ptrBackScan po).length ≤ po.length :=
  ⟨ptrCopy_length rest po, ptrBackScan_length po⟩

/-- whenever buffer_path_simplify() returns something starting with '/', it is canonical - also for
    inputs that do not start with '/' (an X-Sendfile value "a/../../etc" becomes "/etc") -/
theorem c02_simplify_abs_result_canonical (s : Bytes) (h : (pathSimplify s).head? = some slash) :
    CanonicalAbs (pathSimplify s) :=
  pathSimplify_head_canonical s h

example : pathSimplify (ofString "a/../../etc/x") = ofString "/etc/x" := by decide +kernel

/-- buffer_path_simplify() is idempotent on absolute paths (canonical paths are fixed points) -/
theorem c02_simplify_idempotent (s : Bytes) (h : s.head? = some slash) :
    pathSimplify (pathSimplify s) = pathSimplify s :=
  pathSimplify_canonical_fix (c02_simplify_canonical s h)

example : pathSimplify (pathSimplify (ofString "/a//b/./../c/")) = ofString "/a/c/" := by decide +kernel

/-- http_request_parse_target(): for every request-target and every parse option set, an accepted
    request has a canonical absolute url-path ("/" seg "/" ..., no empty, "." or ".." segment) -/
theorem c02_uri_path_canonical (o : Opts) (t : Bytes) (u : Target)
    (h : parseTarget o false t = .ok u) : CanonicalAbs u.path :=
  parseTarget_canonical h

example : (match parseTarget ⟨9567⟩ false (ofString "/a/%2e%2e/%2E./etc/passwd?x") with
    | .ok u => u.path | .error _ => []) = ofString "/etc/passwd" := by decide +kernel

/-- buffer_urldecode_path(): a byte of the result is a byte of the input or a decoded byte that is
    not a control character (control bytes are mapped to '_') -/
theorem c02_decode_no_ctl : ∀ (s : Bytes), ∀ b ∈ urldecodePath s, b ∈ s ∨ (32 ≤ b ∧ b ≠ 127) :=
  urldecodePath_no_ctl

example : urldecodePath (ofString "/a%00%1f%7f%2e") = ofString "/a___." := by decide +kernel

/-- decode + simplify invent no NUL: a NUL-free raw path gives a NUL-free url-path ("%00" becomes '_') -/
theorem c02_decode_simplify_nul_free (s : Bytes) (h : (0 : UInt8) ∉ s) :
    (0 : UInt8) ∉ pathSimplify (urldecodePath s) := by
  intro hm
  rcases pathSimplify_bytes _ 0 hm with e | e
  · exact absurd e (by decide)
  · rcases c02_decode_no_ctl s 0 e with e' | e'
    · exact h e'
    · exact absurd e'.1 (by decide)

/-- http_request_parse_target() without url-normalize: a NUL-free target gives a NUL-free url-path.
    PARTIAL: with url-normalize on, the same needs "burl_normalize emits no NUL" (every NUL is
    percent-encoded because the extracted `encoded_chars_http_uri_reqd[0]` is set) - not proved; the NUL-free
    precondition of the request path itself is C01's (the parser refuses NUL in the request line). -/
theorem c02_target_nul_free_partial (o : Opts) (t : Bytes) (u : Target) (hn : o.urlNormalize = false)
    (h0 : (0 : UInt8) ∉ t) (h : parseTarget o false t = .ok u) : (0 : UInt8) ∉ u.path := by
  unfold parseTarget at h
  simp only [Bool.false_eq_true, ↓reduceIte, hn] at h
  have hraw : ∀ {raw : Bytes}, raw.Sublist (t.takeWhile (· ≠ hash)) → (0 : UInt8) ∉ raw := fun hs hm =>
    h0 ((List.takeWhile_sublist _).subset (hs.subset hm))
  split at h
  · split at h   -- a query: the path is what stands in front of '?'
    · cases h; exact c02_decode_simplify_nul_free _ (hraw (List.take_sublist _ _))
    · simp at h
  · split at h   -- no query
    · cases h; exact c02_decode_simplify_nul_free _ (hraw (List.Sublist.refl _))
    · simp at h

/-- request_check_hostname() (host-strict, the default): an accepted host contains no '/', and its
    name part (before the port) is one clean path segment: not empty, not "." or "..", no '/';
    for hosts other than "[...]" literals every '.'-separated label is non-empty -/
theorem c02_host_single_segment (h h' : Bytes) (hh : hostPolicyPlain true h = some h') :
    slash ∉ h' ∧ Clean (hostPart h') ∧
    (h'.head? ≠ some 91 → ∀ seg ∈ splitOn dot (hostPart h'), seg ≠ []) :=
  hostPolicyPlain_strict_spec hh

example : hostPolicyPlain true (ofString "www.example.org.:8080") = some (ofString "www.example.org:8080") := by
  repeat rw [ofString_ofList]
  decide +kernel
example : hostPolicyPlain true (ofString "..") = none ∧ hostPolicyPlain true (ofString "a/../b") = none ∧
    hostPolicyPlain true (ofString "a..b") = none := by decide +kernel

/-- without host-strict the policy only refuses NUL, CR and LF: the host is passed on unchanged and
    may contain '/' and ".." (see the witness below) - the vhost modules have to guard themselves -/
theorem c02_host_lenient_guarantee (h h' : Bytes) (hh : hostPolicyPlain false h = some h') :
    h' = h ∧ (0 : UInt8) ∉ h' ∧ cr ∉ h' ∧ lf ∉ h' := by
  unfold hostPolicyPlain at hh
  simp only [Bool.false_eq_true, if_false] at hh
  split at hh
  · simp at hh
  · rename_i hany
    simp only [Option.some.injEq] at hh
    subst hh
    simp only [List.any_eq_true, Bool.or_eq_true, decide_eq_true_eq, not_exists, not_and, not_or] at hany
    exact ⟨rfl, fun hm => (hany _ hm).1.1 rfl, fun hm => (hany _ hm).1.2 rfl, fun hm => (hany _ hm).2 rfl⟩

/-- witness: the lenient policy admits a traversal text as host -/
theorem c02_host_lenient_admits_dotdot :
    hostPolicyPlain false (ofString "../../etc") = some (ofString "../../etc") := by decide +kernel

/-- mod_simple_vhost: whenever the request host is used (strict mode: a host the policy accepted;
    lenient mode: the module's own guard), the doc root is server-root ++ the host's name part ++ the
    configured document-root, and that name part contains no '/' and is neither "." nor ".." (strict:
    a clean, non-empty segment by `c02_host_single_segment`; lenient: it can be EMPTY, host ":80" - the
    doc root is then server-root ++ document-root, still inside server-root; witness below) -/
theorem c02_vhost_docroot_single_segment (strict : Bool) (raw a sroot : Bytes) (droot : Option Bytes)
    (hg : svhostGuard strict a = true)
    (hp : strict = true → hostPolicyPlain true raw = some a) :
    slash ∉ hostPart a ∧ hostPart a ≠ segDot ∧ hostPart a ≠ segDotDot ∧
    svhostPath sroot (some a) droot =
      (match droot with
       | some d => pathAppend (sroot ++ hostPart a) d
       | none => appendSlash (sroot ++ hostPart a)) := by
  cases strict with
  | true =>
    obtain ⟨_, hc, _⟩ := c02_host_single_segment raw a (hp rfl)
    exact ⟨hc.noSlash, hc.notDot, hc.notDotDot, by cases droot <;> rfl⟩
  | false =>
    obtain ⟨hd, hs⟩ := svhostGuard_lenient hg
    obtain ⟨g1, g2, g3⟩ := hostPart_of_guard hd hs
    exact ⟨g1, g2, g3, by cases droot <;> rfl⟩

theorem c02_vhost_lenient_empty_segment_witness :
    svhostGuard false (ofString ":80") = true ∧ hostPart (ofString ":80") = [] ∧
    svhostPath (ofString "/vh/") (some (ofString ":80")) (some (ofString "/htdocs/")) = ofString "/vh/htdocs/" := by
  decide +kernel

example : svhostGuard false (ofString "..") = false ∧ svhostGuard false (ofString "a/../..") = false ∧
    svhostPath (ofString "/vh/") (some (ofString "www.example.org:81")) (some (ofString "/htdocs/"))
      = ofString "/vh/www.example.org/htdocs/" := by
  repeat rw [ofString_ofList]
  decide +kernel

/-- mod_evhost: nothing taken from the host adds a path separator - the doc root has the '/' of the
    pattern text (plus the trailing one), for every pattern and every host without '/' (strict mode:
    guaranteed by the host policy; lenient mode: by the module's guard) -/
theorem c02_evhost_no_separator (pieces : List EvPiece) (a : Bytes) (ha : slash ∉ a) :
    (∀ p ∈ pieces, (∀ s, p ≠ .lit s) → slash ∉ evPieceValue (evParseHost a) a p) ∧
    (evBuildPath pieces a).count slash ≤ litSlashes pieces + 1 :=
  ⟨fun p _ => evPieceValue_no_slash ha p, evBuildPath_count_slash pieces a ha⟩

/-- mod_evhost: the labels %1, %2, ... of a host that does not start with '.' (strict mode: host
    policy; lenient mode: the module's guard) are clean path segments -/
theorem c02_evhost_label_clean (a : Bytes) (n : Nat) (v : Bytes) (hd : a.head? ≠ some dot)
    (hs : slash ∉ a) (hn : 1 ≤ n) (hl : evLookup (evParseHost a) n = some v) : Clean v := by
  have hm := evLookup_mem hl
  obtain ⟨h1, h2⟩ := evParseHost_labels a hd _ hm hn
  have h3 := evParseHost_subset a _ hm
  refine ⟨h1, ?_, ?_, fun e => hs (h3 _ e)⟩
  · intro e; exact h2 (by simp [e, segDot])
  · intro e; exact h2 (by simp [e, segDotDot])

example : evBuildPath ((evParsePattern (ofString "/web/%3/%0/%{2.1}/")).getD []) (ofString "host.example.org:81")
    = ofString "/web/host/example.org/e/" := by
  repeat rw [ofString_ofList]
  decide +kernel

/-- mod_evhost: no placeholder (%%, %_, %n, %{n}, %{n.m}) ever contributes ".." or a '/', for every host
    that does not start with '.' and contains no '/' (strict mode: host policy; lenient mode: the module's
    guard) - in particular %0 (domain.tld) holds at most one '.'.  A ".." segment in an evhost doc root can
    therefore only be spelled by the PATTERN text (literal dots, or adjacent placeholders such as "%0%0"):
    configuration, not request. -/
theorem c02_evhost_piece_never_dotdot (a : Bytes) (hd : a.head? ≠ some dot) (hs : slash ∉ a) (p : EvPiece)
    (hp : ∀ s, p ≠ .lit s) :
    evPieceValue (evParseHost a) a p ≠ segDotDot ∧ slash ∉ evPieceValue (evParseHost a) a p :=
  evPieceValue_safe a hd hs p hp

/-- %0 is never "..", for EVERY authority (no guard needed): the scan stops at the second '.' -/
theorem c02_evhost_domain_never_dotdot (a v : Bytes) (h : evLookup (evParseHost a) 0 = some v) :
    v ≠ segDotDot :=
  evParseHost_zero_not_dotdot a v h

/-- lenient-mode quirk (host-strict off): %0 of the host "a.." is ".", a harmless "." segment - so "the
    physical path never contains a '.' segment" is false for mod_evhost with lenient hosts; ".." is
    excluded by the two theorems above.  Witness: -/
theorem c02_evhost_lenient_dot_witness :
    evhostGuard false (ofString "a..") = true ∧
    evBuildPath ((evParsePattern (ofString "/vh/%0/htdocs/")).getD []) (ofString "a..")
      = ofString "/vh/./htdocs/" := by decide +kernel

/-- http_response_prepare(): physical.path = doc_root + rel_path.  For a canonical url-path the result
    is the doc root (without its trailing '/') followed by a canonical absolute path: lexically under
    the doc root, also with force-lowercase-filenames -/
theorem c02_docroot_contained (lc : Bool) (root u : Bytes) (hu : CanonicalAbs u) :
    ∃ r, CanonicalAbs r ∧ physicalPath lc root u = stripSlash root ++ r ∧
      r = (if lc then lowerBytes u else u) := by
  have hr := canonical_lower lc hu
  exact ⟨_, hr, by unfold physicalPath; exact pathAppend_abs root (canonical_head hr), rfl⟩

example : physicalPath true (ofString "/srv/www/") (ofString "/Sub/Index.HTML")
    = ofString "/srv/www/sub/index.html" := by
  repeat rw [ofString_ofList]
  decide +kernel

/-- THE COMPOSITION (http_request_parse + http_response_prepare as modelled by `serveRequest`): for every
    request-target, Host / :authority, method class (`special` = "OPTIONS *" or CONNECT without handler:
    answered without any filesystem path), every parse option set - the DEFAULT one (host-strict +
    host-normalize: `authorityOf`) included - and every modelled configuration (doc root, mod_simple_vhost,
    mod_evhost, any alias table with canonical targets, mod_userdir basepath, index files with dot-free
    names): if a path is handed to the file layer, then
      * physical.basedir is a root the configuration designates for this request (`DesignatedRoot`: the
        configured doc root; server-root ++ ONE empty-or-clean host segment ++ document-root; the evhost
        pattern expanded with pieces that are never ".." and contain no '/'; an alias target; the userdir
        home built from one clean user segment), and
      * the path lies lexically BELOW a designated root: root, then '/'-separated segments none of which is
        "." or ".." - or, for an alias target written without trailing '/', has that target as a string
        prefix and no "." / ".." segment at all (documented prefix semantics of mod_alias). -/
theorem c02_serve_contained (o : Opts) (cfg : ServeCfg) (isdir exists_ : Bytes → Bool) (special : Bool)
    (rawHost target p d : Bytes)
    (hal : ∀ kv ∈ cfg.aliases, CanonicalAbs kv.2)
    (hidx : ∀ v ∈ cfg.index, NoDotSeg (absName v))
    (h : serveRequest o cfg isdir exists_ special rawHost target = .file p d) :
    special = false ∧ ∃ a, authorityOf o 80 rawHost = some a ∧ DesignatedRoot cfg a d ∧
      ∃ root, DesignatedRoot cfg a root ∧
        (LexBelow root p ∨
         (∃ k v, (k, v) ∈ cfg.aliases ∧ root = v ∧ endsWithSlash v = false ∧
            ∃ rest, p = v ++ rest ∧ NoDotSeg p)) :=
  serveRequest_spec hal hidx h

/-- method: CONNECT (without a handler) and "OPTIONS *" never produce a filesystem path, whatever the
    raw target is (response.c returns before the doc-root code; modelled by `special`) -/
theorem c02_special_no_path (o : Opts) (cfg : ServeCfg) (isdir exists_ : Bytes → Bool)
    (rawHost target : Bytes) :
    ∃ st, serveRequest o cfg isdir exists_ true rawHost target = .answered st := by
  unfold serveRequest; exact ⟨if target = [42] then 200 else 405, by simp⟩

example : (match serveRequest ⟨9567⟩
      { lc := false, docroot := ofString "/srv/www", vh := .simple (ofString "/vh/") (some (ofString "default")) (some (ofString "/htdocs/")),
        aliases := [(ofString "/al/", ofString "/srv/al/")], userdir := none, index := [ofString "index.html"] }
      (fun _ => true) (fun _ => true) false (ofString "WWW.Example.ORG:80") (ofString "/al/%2e%2e/x/../y/") with
    | .file p d => (p, d) | .answered _ => ([], []))
    = (ofString "/vh/www.example.org/htdocs/y/index.html", ofString "/vh/www.example.org/htdocs/") := by
  decide +kernel
example : (match serveRequest ⟨9567⟩
      { lc := false, docroot := ofString "/srv/www", vh := .none, aliases := [], userdir := none, index := [] }
      (fun _ => true) (fun _ => true) true (ofString "x") (ofString "1/../../etc/passwd") with
    | .file _ _ => 0 | .answered st => st) = 405 := by decide +kernel

/-- mod_alias_remap() with a well-formed table (alias targets canonical absolute paths): the request is
    refused (403), or left alone, or remapped to target ++ rest-of-url where the result has no "." or
    ".." segment and starts with the target - for every canonical url-path, every table, with and
    without force-lowercase-filenames.  (The guard is what makes key "/a" => "/v/" with "/a../x" safe.)
    NOTE: for a target WITHOUT trailing '/' this is only a string prefix (documented mod_alias
    behaviour: the key is a plain prefix, "/a" => "/v" maps "/ab" to the sibling "/vb", see the witness
    below); directory containment is `c02_alias_directory_contained`. -/
theorem c02_alias_contained (lc : Bool) (aliases : List (Bytes × Bytes)) (basedir uri : Bytes)
    (hu : CanonicalAbs uri) (hwf : ∀ kv ∈ aliases, CanonicalAbs kv.2) :
    aliasRemap lc aliases basedir (stripSlash basedir ++ uri) = .forbidden ∨
    aliasRemap lc aliases basedir (stripSlash basedir ++ uri) = .go (stripSlash basedir ++ uri) basedir ∨
    ∃ k v, (k, v) ∈ aliases ∧
      aliasRemap lc aliases basedir (stripSlash basedir ++ uri) = .go (v ++ uri.drop k.length) v ∧
      NoDotSeg (v ++ uri.drop k.length) ∧ (v ++ uri.drop k.length).head? = some slash :=
  aliasRemap_spec lc aliases basedir uri hu hwf

/-- alias targets that are directories (canonical, ending in '/' - the recommended spelling): whatever the
    keys look like, a remapped path lies lexically BELOW the target (target, then '/'-separated segments
    none of which is "." or "..") -/
theorem c02_alias_directory_contained (lc : Bool) (aliases : List (Bytes × Bytes)) (basedir uri p b : Bytes)
    (hu : CanonicalAbs uri) (hwf : ∀ kv ∈ aliases, CanonicalAbs kv.2 ∧ endsWithSlash kv.2 = true)
    (h : aliasRemap lc aliases basedir (stripSlash basedir ++ uri) = .go p b) :
    (p = stripSlash basedir ++ uri ∧ b = basedir) ∨ ((∃ k, (k, b) ∈ aliases) ∧ LexBelow b p) := by
  rcases aliasRemap_spec lc aliases basedir uri hu (fun kv hm => (hwf kv hm).1) with hf | hg | ⟨k, v, hm, hg, hn, _⟩
  · rw [hf] at h; simp at h
  · rw [hg] at h; simp only [AliasRes.go.injEq] at h; left; exact ⟨h.1.symm, h.2.symm⟩
  · rw [hg] at h
    simp only [AliasRes.go.injEq] at h
    right
    rw [← h.1, ← h.2]
    exact ⟨⟨k, hm⟩, lexBelow_of_prefix_slash (hwf _ hm).2 hn⟩

/-- witness of the prefix semantics for a target without trailing '/': the sibling "/vb" of "/v" -/
theorem c02_alias_prefix_sibling_witness :
    aliasRemap false [(ofString "/a", ofString "/v")] (ofString "/d") (ofString "/d/ab")
      = .go (ofString "/vb") (ofString "/v") := by decide +kernel

example : aliasRemap false [(ofString "/foo", ofString "/var/tmp/")] (ofString "/tmp") (ofString "/tmp/foo../bad")
    = .forbidden := by decide +kernel
example : aliasRemap false [(ofString "/foo/", ofString "/var/tmp/")] (ofString "/tmp") (ofString "/tmp/foo/x/y")
    = .go (ofString "/var/tmp/x/y") (ofString "/var/tmp/") := by
  repeat rw [ofString_ofList]
  decide +kernel

/-- http_response_xsendfile(): with x-sendfile-docroot configured (entries absolute), a path handed to
    the file layer is canonical and has a configured docroot as prefix (case-insensitively with
    force-lowercase-filenames) - for every backend-supplied value -/
theorem c02_xsendfile_contained (lc : Bool) (xdoc : List Bytes) (raw p : Bytes)
    (hx : xdoc ≠ []) (hwf : ∀ x ∈ xdoc, x.head? = some slash)
    (h : xsendfilePath lc xdoc raw = .send p) :
    CanonicalAbs p ∧ ∃ x ∈ xdoc, isPrefixOf lc x p = true ∧ (lc = false → ∃ rest, p = x ++ rest) ∧
      (lc = false → endsWithSlash x = true → LexBelow x p) :=
  let ⟨_, hp, hunder⟩ := xsendfilePath_send h
  xsf_contained hx hwf hp hunder

/-- the configuration side: mod_cgi / gw_backend store every x-sendfile-docroot entry (which must begin
    with '/') as buffer_append_slash(buffer_path_simplify(value)): canonical, absolute, ending in '/' - the
    hypotheses `c02_xsendfile_contained` needs for directory containment are met by construction -/
theorem c02_xsendfile_config_canonical (v : Bytes) (h : v.head? = some slash) :
    CanonicalAbs (xsfConfigEntry v) ∧ endsWithSlash (xsfConfigEntry v) = true ∧
    (xsfConfigEntry v).head? = some slash := by
  have hc := canonical_appendSlash (c02_simplify_canonical v h)
  exact ⟨hc.1, hc.2, canonical_head hc.1⟩

example : xsfConfigEntry (ofString "/srv//files/./x/..") = ofString "/srv/files/" := by decide +kernel

/-- the same for the first element of an X-Sendfile2 value -/
theorem c02_xsendfile2_contained (lc : Bool) (xdoc : List Bytes) (value p : Bytes)
    (hx : xdoc ≠ []) (hwf : ∀ x ∈ xdoc, x.head? = some slash)
    (h : xsendfile2First lc xdoc value = .send p) :
    CanonicalAbs p ∧ ∃ x ∈ xdoc, isPrefixOf lc x p = true :=
  let ⟨_, hp, hunder⟩ := xsendfile2First_send h
  let ⟨hc, x, hxm, hpre, _⟩ := xsf_contained hx hwf hp hunder
  ⟨hc, x, hxm, hpre⟩

/-- the status a backend put on its own response (`Status: 403` next to `X-Sendfile:` …) has no say in
    WHICH file is opened or WHETHER one is: for every status the file handed to the static-file sender
    is the one `xsendfilePath` accepts, so `c02_xsendfile_contained` holds whatever the backend sent
    (the attack: a refusal signalled only through `r->http_status` is invisible when the backend had
    already set that very status) -/
theorem c02_xsendfile_status_irrelevant (lc : Bool) (xdoc : List Bytes) (st : Nat) (raw p : Bytes) :
    xsendfileAt lc xdoc st raw = .send p ↔ xsendfilePath lc xdoc raw = .send p := by
  unfold xsendfileAt
  by_cases hu : validUtf8 (urldecodePath raw) = true
  · simp only [hu, Bool.not_true, Bool.false_eq_true, ↓reduceIte]
    split <;> simp_all   -- the status tail rewrites `.status` only
  · have hu' : validUtf8 (urldecodePath raw) = false := by simpa using hu
    have : xsendfilePath lc xdoc raw = .status 502 := by
      unfold xsendfilePath; simp [hu']
    simp [hu', this]

theorem c02_xsendfile_contained_any_status (lc : Bool) (xdoc : List Bytes) (st : Nat) (raw p : Bytes)
    (hx : xdoc ≠ []) (hwf : ∀ x ∈ xdoc, x.head? = some slash)
    (h : xsendfileAt lc xdoc st raw = .send p) :
    CanonicalAbs p ∧ ∃ x ∈ xdoc, isPrefixOf lc x p = true ∧ (lc = false → ∃ rest, p = x ++ rest) ∧
      (lc = false → endsWithSlash x = true → LexBelow x p) :=
  c02_xsendfile_contained lc xdoc raw p hx hwf ((c02_xsendfile_status_irrelevant lc xdoc st raw p).mp h)

theorem c02_xsendfile2_contained_any_status (lc : Bool) (xdoc : List Bytes) (st : Nat) (value p : Bytes)
    (hx : xdoc ≠ []) (hwf : ∀ x ∈ xdoc, x.head? = some slash)
    (h : xsendfile2At lc xdoc st value = .send p) :
    CanonicalAbs p ∧ ∃ x ∈ xdoc, isPrefixOf lc x p = true := by
  apply c02_xsendfile2_contained lc xdoc value p hx hwf
  unfold xsendfile2At at h
  split at h <;> simp_all   -- likewise

/-- outside the docroot nothing is opened whatever status the backend chose, 403 included (the status then
    shown is the backend's own when that was >= 300, as the tail of the C function restores it) -/
example : xsendfileAt false [ofString "/srv/files/"] 403 (ofString "/srv/secret/canary.txt") = .status 403 := by decide +kernel
example : xsendfileAt false [ofString "/srv/files/"] 403 (ofString "/srv/files/a.txt")
    = .send (ofString "/srv/files/a.txt") := by decide +kernel

example : xsendfilePath false [ofString "/srv/files/"] (ofString "/srv/files/%2e%2e/%2e%2e/etc/passwd")
    = .status 403 := by
  repeat rw [ofString_ofList]
  decide +kernel
example : xsendfilePath false [ofString "/srv/files/"] (ofString "/srv/x/../files/a%2fb")
    = .send (ofString "/srv/files/a/b") := by
  repeat rw [ofString_ofList]
  decide +kernel

/-- mod_webdav_copymove_b(): an accepted Destination yields a canonical absolute destination url-path,
    and - when the request's physical path is doc_root + rel_path (no alias in play) - the destination
    physical path is doc_root + that url-path: lexically under the document root, for every Destination
    header, scheme/authority spelling and source -/
theorem c02_dav_destination_contained (lc : Bool) (scheme authority docroot srcRel S dest d p : Bytes)
    (hS : endsWithSlash S = false)
    (h : davDestination lc scheme authority docroot srcRel (S ++ srcRel) dest = .ok d p) :
    CanonicalAbs d ∧ p = S ++ d := by
  obtain ⟨hr, hp⟩ := davDestination_ok h
  have hc := davDstRel_canonical hr
  exact ⟨hc, hp.trans (davDstPath_plain hc hS)⟩

/-- in general (source remapped by mod_alias) the destination url-path is still canonical -/
theorem c02_dav_destination_canonical (lc : Bool) (scheme authority docroot srcRel srcPath dest d p : Bytes)
    (h : davDestination lc scheme authority docroot srcRel srcPath dest = .ok d p) :
    CanonicalAbs d ∧ p = davDstPath docroot srcRel srcPath d :=
  let ⟨hr, hp⟩ := davDestination_ok h
  ⟨davDstRel_canonical hr, hp⟩

example : davDestination false (ofString "http") (ofString "h:1") (ofString "/srv/www/") (ofString "/dav/a.txt")
    (ofString "/srv/www/dav/a.txt") (ofString "http://h:1/dav/%2e%2e/%2e%2e/etc/x")
    = .ok (ofString "/etc/x") (ofString "/srv/www/etc/x") := by
  repeat rw [ofString_ofList]
  decide +kernel

/-- stat_cache_path_contains_symlink(): result 0 (the only result with which a request is served when
    server.follow-symlink is disabled) means that the path and every prefix of it ending before a '/'
    (except the root) exists and is not a symbolic link - for every filesystem and every path -/
theorem c02_symlink_walk (fs : Bytes → FsKind) (name : Bytes) (hlen : 1 < name.length)
    (h : symlinkServed false fs name = true) :
    fsOk (fs name) ∧ ∀ i, 0 < i → i < name.length → name.getD i 0 = slash → fsOk (fs (name.take i)) := by
  unfold symlinkServed at h
  simp only [Bool.false_or, decide_eq_true_eq] at h
  unfold symWalk at h
  obtain ⟨_, h⟩ := ite_ne_left (by decide) h
  obtain ⟨_, h⟩ := ite_ne_left (by decide) h
  rw [if_neg (by omega)] at h
  obtain ⟨_, h⟩ := ite_ne_left (by decide) h
  exact symLoop_zero fs _ name rfl h

example : symWalk (fun p => if p = ofString "/a/b" then .link else .dir) (ofString "/a/b/c") = 1 := by
  decide +kernel
example : symlinkServed false (fun p => if p = ofString "/a/b/c" then .file else .dir) (ofString "/a/b/c") = true := by
  decide +kernel

/-- mod_userdir (userdir.basepath variant): when the module takes the request, the home directory is
    composed from the configured base path, one clean path segment (the user name: not empty, not "."
    or "..", no '/'; lower-cased with force-lowercase-filenames) and the configured sub-path, and the
    physical path lies lexically below that home directory (rel_path canonical, as it always is) -/
theorem c02_userdir_contained (lc lh : Bool) (basepath upath uriPath relPath p b : Bytes)
    (hrel : CanonicalAbs relPath)
    (h : userdirRemap lc lh basepath upath uriPath relPath = .go p b) :
    (∃ u, Clean u ∧
      b = pathAppend (pathAppend (if lh then pathAppend basepath (u.take 1) else basepath) u) upath) ∧
    LexBelow b p :=
  userdirRemap_spec (canonical_noDotSeg hrel) h

example : userdirRemap false true (ofString "/home") (ofString "public_html") (ofString "/~bob/x/y") (ofString "/~bob/x/y")
    = .go (ofString "/home/b/bob/public_html/x/y") (ofString "/home/b/bob/public_html") := by
  repeat rw [ofString_ofList]
  decide +kernel
example : userdirRemap false false (ofString "/home") (ofString "public_html") (ofString "/~../x") (ofString "/~../x")
    = .pass := by decide +kernel

/-- mod_indexfile_tryfiles(): the path finally opened is the request's physical path or that path
    (resp. the doc root) joined with one of the configured index names - nothing else -/
theorem c02_index_resolve_configured (exists_ : Bytes → Bool) (docroot phys : Bytes) (names : List Bytes) :
    indexResolve exists_ docroot phys names = phys ∨
    ∃ v ∈ names, indexResolve exists_ docroot phys names
      = pathAppend (if v.head? = some slash then docroot else phys) v :=
  indexResolve_cases exists_ docroot phys names

/-- a static file served in a context where server.follow-symlink is disabled: the path finally
    opened - after mod_indexfile appended an index file name - exists and has no symbolic link at
    the path itself or at any prefix ending before a '/' (except the root).  The model's decision
    depends only on this request's context and the filesystem (no stat-cache state) - the end-to-end
    stream checks the server against it on request sequences across contexts with a warm cache. -/
theorem c02_index_symlink_walk (fs : Bytes → FsKind) (exists_ : Bytes → Bool) (docroot phys : Bytes)
    (names : List Bytes) (hlen : 1 < (indexResolve exists_ docroot phys names).length)
    (h : staticServed false fs phys (indexResolve exists_ docroot phys names) = true) :
    fsOk (fs (indexResolve exists_ docroot phys names)) ∧
    ∀ i, 0 < i → i < (indexResolve exists_ docroot phys names).length →
      (indexResolve exists_ docroot phys names).getD i 0 = slash →
      fsOk (fs ((indexResolve exists_ docroot phys names).take i)) := by
  unfold staticServed at h
  simp only [Bool.false_or, Bool.and_eq_true, decide_eq_true_eq] at h
  exact c02_symlink_walk fs _ hlen (by unfold symlinkServed; simp [h.2])

example : staticServed false
    (fun p => if p = ofString "/w/dir/index.html" then .link else if p = ofString "/w/dir/" then .dir else .dir)
    (ofString "/w/dir/")
    (indexResolve (fun _ => true) (ofString "/w") (ofString "/w/dir/") [ofString "index.html"]) = false := by
  decide +kernel
example : staticServed true (fun _ => .link) (ofString "/w/dir/") (ofString "/w/dir/index.html") = true := by
  decide +kernel

end LtVerif.C02
