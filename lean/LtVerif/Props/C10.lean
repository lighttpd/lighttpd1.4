/-
  C10 — Backend responses are relayed faithfully; broken ones never look complete.

  The models describe the code with the C10 repairs applied (seeded/C10-fixes 0001–0012 = D53–D60,
  D62, D69–D72 in /repo; the reverse patches are the seeds C10-D*).
  Proved here: per-layer automaton facts (decoder, FastCGI reassembly), storage/relay of fields
  for the one-read Content-Length case, and what lighttpd DOES when the backend stream breaks
  (own 500/502, or abort + close / RST_STREAM), over all runs of the relay (reachability
  invariant `Inv`).  NOT proved (correspondence only): that every split of a whole response
  gives the client the same message (only per layer), CGI/NPH status mapping, 1xx, trailers,
  re-chunking, and that an abort is visible to the client (false for HTTP/1.0, witness below).
-/
import LtVerif.Proofs.HttpChunkDecode
import LtVerif.Proofs.FcgiRecv
import LtVerif.Proofs.BackendResp
import LtVerif.Proofs.HttpChunkEnc  -- brings C04's `LtVerif.chunkClose` in: qualify `BeResp.chunkClose`
import LtVerif.Proofs.Bytes
namespace LtVerif.C10
open LtVerif B LtVerif.BeResp

/-! ## backend chunked decoder (http_chunk_decode_append_data) -/

/-- segmentation independence of the decoder LAYER.  The automaton is a byte fold, so this is
    `List.foldl_append`; the content of the clause "every split" is that the C equals this fold, which
    the correspondence (all splits of short bodies, long size lines in one read and split) validates. -/
theorem c10_dechunk_segmentation (s : DcSt) (a b : Bytes) :
    dcFeed (dcFeed s a) b = dcFeed s (a ++ b) := (dcFeed_append s a b).symm

/-- wire form of a chunked body: chunks with arbitrary accepted size lines, the last-chunk line,
    the trailer section including the final empty line -/
def dwire (cs : List (Bytes × Bytes)) (last t : Bytes) : Bytes :=
  cs.flatMap (fun c => c.1 ++ c.2 ++ [cr, lf]) ++ (last ++ t)

/-- Round trip: every chunked body (any number of non-empty chunks, any accepted spelling of the
    size lines incl. extensions, any trailer section) decodes to exactly the concatenation of the
    chunk data and is complete exactly at its end; the last-chunk line and the trailers are kept. -/
theorem c10_dechunk_roundtrip (cs : List (Bytes × Bytes)) (last t : Bytes)
    (hcs : ∀ c ∈ cs, DcGoodLine c.1 c.2.length ∧ c.2 ≠ []) (hlast : DcGoodLine last 0)
    (ht : DcTrailerEnd last t) :
    dcFeed {} (dwire cs last t) = { mode := .done (last ++ t), out := cs.flatMap (·.2) } := by
  rw [dwire, dcFeed_append]
  exact (congrArg (dcFeed · (last ++ t)) (dcFeed_chunks cs [] hcs)).trans (dcFeed_final hlast ht _)

/-- **The accepted chunk-size lines include what an encoder writes, with the value it means.**
    The hexadecimal rendering of any size below 2^62 (`encHex`, the reference encoder of
    Model/H1Chunked.lean, independent of the decoder), optionally followed by a chunk extension
    (`;` ...), then CRLF, is a `DcGoodLine` for exactly that size: the value the decoder computes
    is tied to an independent rendering, not just to its own scanner.  (900: room for ≤ 64 digits
    and CRLF within `DcGoodLine.short`.) -/
theorem c10_dechunk_size_line_rendered (n : Nat) (ext : Bytes) (hn : chunkSizeOk n)
    (hext : ext = [] ∨ ext.head? = some 59) (hlf : lf ∉ ext) (hlen : ext.length ≤ 900) :
    DcGoodLine (encHex n ++ ext ++ [cr, lf]) n := by
  obtain ⟨hs, hl⟩ := encHex_hexStr hn
  generalize encHex n = ds at hs hl
  have hpos : 0 < ds.length := List.length_pos_iff.mpr hs.ne
  obtain ⟨c, r, hc, he⟩ : ∃ c r, (c = cr ∨ c = 59) ∧ ext ++ [cr, lf] = c :: r := by
    rcases hext with rfl | h
    · exact ⟨cr, [lf], .inl rfl, rfl⟩
    · cases ext with
      | nil => simp at h
      | cons b r => simp at h; subst h; exact ⟨59, _, .inr rfl, rfl⟩
  have hck := ckHex_render (ext ++ [cr, lf]) (by rw [he]; rcases hc with rfl | rfl <;> rfl) ds 0 0 hs.xdigit
    (by rw [hs.value]; exact chunkSizeOk_div hn)
  refine ⟨?_, ⟨ds ++ ext ++ [cr], by simp, ?_⟩, by simp; omega⟩
  · unfold dcParseLine
    rw [List.append_assoc, hck, hs.value]
    have hget : (ds ++ (ext ++ [cr, lf])).getD ((ds ++ (ext ++ [cr, lf])).length - 2) 0 = cr := by
      have e : (ds ++ (ext ++ [cr, lf])).length - 2 = (ds ++ ext).length := by simp; omega
      rw [e, ← List.append_assoc, List.getD_eq_getElem?_getD, List.getElem?_append_right (Nat.le_refl _)]
      simp
    have h0 : ¬ (0 + ds.length = 0) := by omega
    simp only [h0, if_false, hget, ne_eq, not_true_eq_false]
    rw [Nat.zero_add, List.drop_left, he]
    rcases hc with rfl | rfl <;> simp [cr, sp, ht]
  · simp only [List.mem_append, List.mem_singleton, not_or]
    exact ⟨⟨hs.not_mem (by decide), hlf⟩, by decide⟩

/-- decoded output only ever grows: what has been handed on is never taken back or altered -/
theorem c10_dechunk_output_monotone (bs : Bytes) : ∀ (s : DcSt), ∃ x, (dcFeed s bs).out = s.out ++ x := by
  intro s
  refine foldl_inv (fun t => ∃ x, t.out = s.out ++ x) dcStep bs s ⟨[], by simp⟩ fun t b ⟨x, hx⟩ => ?_
  have hstep : ∃ y, (dcStep t b).out = t.out ++ y := by
    obtain ⟨mode, out⟩ := t
    cases mode with
    | data n => simp only [dcStep]; split <;> exact ⟨[b], by simp⟩
    | hdr acc => simp only [dcStep]; (repeat' split) <;> exact ⟨[], by simp⟩
    | cr => simp only [dcStep]; split <;> exact ⟨[], by simp⟩
    | lf => simp only [dcStep]; split <;> exact ⟨[], by simp⟩
    | trailer acc => simp only [dcStep]; split <;> exact ⟨[], by simp⟩
    | done acc => exact ⟨[], by simp [dcStep]⟩
    | err => exact ⟨[], by simp [dcStep]⟩
  obtain ⟨y, hy⟩ := hstep
  exact ⟨x ++ y, by rw [hy, hx]; simp⟩

/-- **A truncated chunked body is never complete.**  For every proper prefix of a well-formed
    chunked body the decoder is neither done nor in error (it waits for more), and what it has
    decoded so far is a prefix of the body: backend EOF there is recognisable as truncation. -/
theorem c10_dechunk_truncated_never_complete (cs : List (Bytes × Bytes)) (last t p q : Bytes)
    (hcs : ∀ c ∈ cs, DcGoodLine c.1 c.2.length ∧ c.2 ≠ []) (hlast : DcGoodLine last 0)
    (ht : DcTrailerEnd last t) (hpq : dwire cs last t = p ++ q) (hq : q ≠ []) :
    (dcFeed {} p).mode.isDone = false ∧ (dcFeed {} p).mode.isErr = false ∧
    ∃ x, cs.flatMap (·.2) = (dcFeed {} p).out ++ x := by
  have hfull := c10_dechunk_roundtrip cs last t hcs hlast ht
  rw [hpq, dcFeed_append] at hfull
  obtain ⟨x, hx⟩ := c10_dechunk_output_monotone q (dcFeed {} p)
  rw [hfull] at hx
  have hstuck := dcFeed_stuck (dcFeed {} p) q hq
  rw [hfull] at hstuck
  refine ⟨?_, ?_, ⟨x, by simpa using hx⟩⟩
  · cases h : (dcFeed {} p).mode.isDone
    · rfl
    · cases hstuck (Or.inl h)
  · cases h : (dcFeed {} p).mode.isErr
    · rfl
    · cases hstuck (Or.inr h)

/-- bytes after the end of the body are an error (never silently taken as body) -/
theorem c10_dechunk_excess_rejected (acc out bs : Bytes) (h : bs ≠ []) :
    dcFeed { mode := .done acc, out := out } bs = { mode := .err, out := out } :=
  dcFeed_done_excess acc out bs h

/-- a framing error is final: nothing fed afterwards makes the body complete -/
theorem c10_dechunk_error_absorbing (out bs : Bytes) :
    dcFeed { mode := .err, out := out } bs = { mode := .err, out := out } := dcFeed_err bs out

/-- chunk data that is not followed by CRLF is a framing error -/
theorem c10_dechunk_missing_crlf_rejected (out d : Bytes) (x y : UInt8) (hd : d ≠ [])
    (hxy : ¬ (x = cr ∧ y = lf)) :
    (dcFeed { mode := .data d.length, out := out } (d ++ [x, y])).mode = .err := by
  rw [dcFeed_append, dcFeed_data d d.length out hd rfl]
  simp only [dcFeed_cons, dcFeed_nil, dcStep]
  by_cases h1 : x = cr <;> by_cases h2 : y = lf <;> simp_all

/-- a chunk-size line the validator does not accept is a framing error -/
theorem c10_dechunk_bad_size_line_rejected (p out : Bytes) (hlf : lf ∉ p) (hlen : p.length < 1024)
    (hbad : dcParseLine (p ++ [lf]) = none) :
    (dcFeed { mode := .hdr [], out := out } (p ++ [lf])).mode = .err := by
  rw [dcFeed_append, dcFeed_hdr_pre p [] out hlf (by simpa using hlen)]
  simp [dcFeed_cons, dcFeed_nil, dcStep, hbad]

/-- the chunk-size overflow guard of the model is the one of the C (1 << (8*sizeof(off_t)-5)) -/
theorem c10_dechunk_guard_is_extracted : ckSizeLimit = 2 ^ Extracted.dechunkGuardShift - 1 - 2 := by decide +kernel

/-! non-vacuity: accepted size lines (extension, leading zeros, BWS), a trailer section, a body -/
example : DcGoodLine (ofString "5;x=y\r\n") 5 := ⟨by rfl, ⟨ofString "5;x=y\r", by decide +kernel, by decide +kernel⟩, by decide +kernel⟩
example : DcGoodLine (ofString "00a \r\n") 10 := ⟨by rfl, ⟨ofString "00a \r", by decide +kernel, by decide +kernel⟩, by decide +kernel⟩
example : DcGoodLine (ofString "0\r\n") 0 := ⟨by rfl, ⟨ofString "0\r", by decide +kernel, by decide +kernel⟩, by decide +kernel⟩
example : DcTrailerEnd (ofString "0\r\n") [cr, lf] := by
  refine ⟨by decide +kernel, by decide +kernel, by decide +kernel, ?_⟩
  intro q r h hr hq
  match q, r, h, hr, hq with
  | [], _, _, _, hq => exact absurd rfl hq
  | [a], [b], h, _, _ =>
    simp only [List.cons_append, List.nil_append, List.cons.injEq, and_true] at h
    rw [← h.1]; decide
  | [_], [], _, hr, _ => exact absurd rfl hr
  | [_], _ :: _ :: _, h, _, _ => simp at h
  | [_, _], [], _, hr, _ => exact absurd rfl hr
  | [_, _], _ :: _, h, _, _ => simp at h
  | _ :: _ :: _ :: _, _, h, _, _ => simp at h
example : dcFeed {} (ofString "5\r\nhello\r\n0\r\nX-T: v\r\n\r\n") =
    { mode := .done (ofString "0\r\nX-T: v\r\n\r\n"), out := ofString "hello" } := by decide +kernel
example : (dcFeed {} (ofString "5\r\nhello\r\n0\r\n\r")).mode = .trailer (ofString "0\r\n\r") := by decide +kernel
example : (dcFeed {} (ofString "5\r\nhello\rX")).mode = .err := by decide +kernel
example : dcParseLine (ofString "5 x\r\n") = none := by rfl
example : dcParseLine (ofString "5\n") = none := by rfl

/-! ## FastCGI record reassembly (fastcgi_get_packet / fcgi_recv_parse_loop) -/

/-- segmentation independence of the record reassembly LAYER (a byte fold, as above: the C's
    equality to it is what the correspondence validates) -/
theorem c10_fcgi_segmentation (s : FrSt) (a b : Bytes) :
    frFeed (frFeed s a) b = frFeed s (a ++ b) := (frFeed_append s a b).symm

/-- **Reassembly.**  Any sequence of records (any types other than END_REQUEST, any request id,
    content up to 65535 bytes, padding up to 255 bytes) followed by an END_REQUEST record yields
    exactly one event per record, in order, with exactly the record's content — padding never
    leaks — and ends the request; whatever follows END_REQUEST is not parsed. -/
theorem c10_fcgi_reassembly (rs : List FrRec) (fin : FrRec) (junk : Bytes)
    (hrs : ∀ r ∈ rs, r.ok ∧ r.ev ≠ .endRequest) (hfin : fin.ok ∧ fin.typ = fcgiEndRequest) :
    (frFeed {} (rs.flatMap FrRec.enc ++ fin.enc ++ junk)).ended = true ∧
    (frFeed {} (rs.flatMap FrRec.enc ++ fin.enc ++ junk)).evs = rs.map FrRec.ev ++ [.endRequest] := by
  obtain ⟨h1, h2, h3, h4⟩ := frFeed_records rs {} rfl rfl rfl hrs
  rw [frFeed_append, frFeed_append]
  have hrec := frFeed_record (frFeed {} (rs.flatMap FrRec.enc)) fin.typ fin.rid fin.content fin.pad h1 h2 h3
    hfin.1.1 hfin.1.2
  have hev : frEvent fin.typ fin.content = .endRequest := by simp [frEvent, hfin.2, fcgiEndRequest, fcgiStdout, fcgiStderr]
  have hended : (frAfter (frFeed {} (rs.flatMap FrRec.enc)) fin.typ fin.content).ended = true := by
    simp [frAfter, hev]
  show (frFeed (frFeed (frFeed {} (rs.flatMap FrRec.enc)) fin.enc) junk).ended = true ∧ _
  rw [show fin.enc = frEncode fin.typ fin.rid fin.content fin.pad from rfl, hrec, frFeed_ended junk _ hended]
  refine ⟨hended, ?_⟩
  simp [frAfter, h4, hev]

/-- the concatenation of the STDOUT contents of a record sequence (`frStdout`, a free-standing
    specification: that `readFcgi`/`fcgiDispatch` hand exactly these bytes to the response parser
    is validated by the correspondence, not proved) -/
theorem c10_fcgi_stdout_exact (rs : List FrRec) :
    frStdout (rs.map FrRec.ev) = (rs.filter (·.typ = fcgiStdout)).flatMap (·.content) := by
  induction rs with
  | nil => rfl
  | cons r rest ih =>
    by_cases h : r.typ = fcgiStdout
    · simp [FrRec.ev, frEvent, h, frStdout, ih]
    · have hev : frStdout (FrRec.ev r :: rest.map FrRec.ev) = frStdout (rest.map FrRec.ev) := by
        simp only [FrRec.ev, frEvent, h, if_false]
        (repeat' split) <;> rfl
      simp only [List.map_cons, hev, ih]
      simp [h]

/-- **A truncated record stream never ends the request.**  After any number of complete records
    none of which is END_REQUEST, plus any proper prefix of a further record (END_REQUEST
    included), the request is not ended and the partial record has produced nothing: backend EOF
    there is an error, not a complete response. -/
theorem c10_fcgi_truncated_not_ended (rs : List FrRec) (nxt : FrRec) (k : Nat)
    (hrs : ∀ r ∈ rs, r.ok ∧ r.ev ≠ .endRequest) (hn : nxt.ok) (hk : k < nxt.enc.length) :
    (frFeed {} (rs.flatMap FrRec.enc ++ nxt.enc.take k)).ended = false ∧
    (frFeed {} (rs.flatMap FrRec.enc ++ nxt.enc.take k)).evs = rs.map FrRec.ev := by
  obtain ⟨h1, h2, h3, h4⟩ := frFeed_records rs {} rfl rfl rfl hrs
  rw [frFeed_append]
  have := frFeed_partial_record (frFeed {} (rs.flatMap FrRec.enc)) nxt.typ nxt.rid nxt.content nxt.pad k
    h1 h2 h3 hn.1 hn.2 hk
  refine ⟨this.1, ?_⟩
  rw [show nxt.enc = frEncode nxt.typ nxt.rid nxt.content nxt.pad from rfl, this.2, h4]
  simp

/-- record constants of the model are those of fastcgi.h -/
theorem c10_fcgi_constants_extracted :
    fcgiStdout.toNat = Extracted.fcgiTypeStdout ∧ fcgiStderr.toNat = Extracted.fcgiTypeStderr ∧
    fcgiEndRequest.toNat = Extracted.fcgiTypeEndRequest ∧ Extracted.fcgiHeaderLen = 8 ∧
    Extracted.fcgiMaxLength = 65535 := by decide +kernel

/-! non-vacuity -/
example : (⟨6, 1, ofString "abc", [0, 0, 0]⟩ : FrRec).ok ∧ (⟨6, 1, ofString "abc", [0, 0, 0]⟩ : FrRec).ev ≠ .endRequest := by
  refine ⟨⟨by decide +kernel, by decide +kernel⟩, by decide +kernel⟩
example : (frFeed {} (frEncode 6 1 (ofString "ab") [0, 0, 0] ++ frEncode 7 1 (ofString "x") [] ++
      frEncode 6 1 (ofString "c") [0] ++ frEncode 3 1 [0, 0, 0, 0, 0, 0, 0, 0] [])).evs =
    [.stdout (ofString "ab"), .stderr (ofString "x"), .stdout (ofString "c"), .endRequest] := by decide +kernel

/-! ## the relay composite (Model/BackendResp.lean) -/

/-- **Segmentation of the response head is irrelevant.**  While the head received so far is
    incomplete and undecided (parsing the accumulated bytes changes nothing and asks for more),
    receiving `a` and then `b` is the same as receiving `a ++ b` in one read.  (`hinc` has to be
    established for the prefix at hand; it fails once a 1xx block completes inside `a`.  Cuts at /
    after the end of the head and FastCGI are not covered: "every split of a whole response" is
    carried by the correspondence and the segmentation oracle only.) -/
theorem c10_head_segmentation (cfg : Cfg) (st : St) (a b : Bytes) (hbe : cfg.be ≠ .fcgi)
    (hc : st.cstate = .handle) (ho : st.open_ = true) (hs : st.started = false) (hf : st.finished = false)
    (hh : st.handler = true) (ha : a ≠ []) (hb : b ≠ [])
    (hinc : headerStep cfg st a = ({ st with hbuf := st.hbuf ++ a }, .goOn)) :
    onData cfg (onData cfg st a) b = onData cfg st (a ++ b) := by
  rw [onData_incomplete cfg st { st with hbuf := st.hbuf ++ a } a hbe hc ho hs hh ha hinc hs hf hc ho]
  have hr : gwRecvData cfg { st with hbuf := st.hbuf ++ a } b = gwRecvData cfg st (a ++ b) := by
    unfold gwRecvData
    rw [if_neg hbe, if_neg hbe]
    unfold readPlain
    rw [if_pos (by simp [hs]), if_pos (by simp [hs]), headerStep_append]
  rw [onData_active cfg { st with hbuf := st.hbuf ++ a } b (Or.inl ⟨hc, hh⟩) ho hb,
      onData_active cfg st (a ++ b) (Or.inl ⟨hc, hh⟩) ho (by simp [ha]), hr]

/-- **Segmentation of a Content-Length / EOF-delimited body is irrelevant** as long as lighttpd
    does not itself chunk-encode: body accounting (remaining Content-Length, silent truncation of
    excess bytes, completion) and the bytes queued for the client are the same for `a` then `b`
    as for `a ++ b`. -/
theorem c10_body_segmentation_plain (st : St) (a b : Bytes)
    (hd : st.decodeChunked = false) (hsc : st.sendChunked = false) :
    (appendMem (appendMem st a).1 b).1 = (appendMem st (a ++ b)).1 := by
  rw [appendMem_plain st a hd hsc, appendMem_plain st (a ++ b) hd hsc]
  by_cases h1 : st.scratch > 0
  · simp only [h1, if_true]
    by_cases h2 : st.scratch - (a.length : Int) ≤ 0
    · have h3 : st.scratch - ((a ++ b).length : Int) ≤ 0 := by simp; omega  -- `a` reaches Content-Length
      have ht : (a ++ b).take st.scratch.toNat = a.take st.scratch.toNat := by
        rw [List.take_append_of_le_length (by omega)]
      simp only [h2, h3, if_true, ht]
      rw [appendMem_plain _ b (by simpa using hd) (by simpa using hsc)]
      simp
    · have hlen : ((a ++ b).length : Int) = a.length + b.length := by simp
      simp only [h2, if_false]
      rw [appendMem_plain _ b (by simpa using hd) (by simpa using hsc)]
      have hpos : st.scratch - (a.length : Int) > 0 := by omega
      simp only [hpos, if_true]
      by_cases h4 : st.scratch - (a.length : Int) - (b.length : Int) ≤ 0
      · have h5 : st.scratch - ((a ++ b).length : Int) ≤ 0 := by omega  -- `a ++ b` reaches it
        have ht : (a ++ b).take st.scratch.toNat = a ++ b.take (st.scratch - a.length).toNat := by
          rw [List.take_append]
          have : a.take st.scratch.toNat = a := List.take_of_length_le (by omega)
          rw [this]
          congr 2
          omega
        rw [if_pos (by simpa using h4), if_pos h5, ht]
        simp
      · have h5 : ¬ (st.scratch - ((a ++ b).length : Int) ≤ 0) := by omega  -- neither
        rw [if_neg (by simpa using h4), if_neg h5]
        simp [Int.sub_sub]
  · simp only [h1, if_false]
    by_cases h2 : st.scratch = 0
    · simp only [h2, if_true]  -- nothing left to take
      rw [appendMem_plain _ b hd hsc]
      simp [h2]
    · simp only [h2, if_false]  -- until EOF
      rw [appendMem_plain _ b (by simpa using hd) (by simpa using hsc)]
      simp [h1, h2]

/-- **End-to-end fields are relayed verbatim.**  Ordinary response fields (`name ": " value CRLF`,
    name not one of the fields lighttpd interprets itself, no whitespace before the colon) whose
    names differ from each other and from what is already stored are handed to the client-side
    response head in the order received, name spelling and value bytes untouched. -/
theorem c10_fields_relayed (cfg : Cfg) (st : St) (fs : List (Bytes × Bytes))
    (hp : ∀ f ∈ fs, PlainField f.1 f.2)
    (hnd : ((st.headers ++ fs).map fun kv => lower kv.1).Nodup) :
    (fs.map fun f => fieldLine f.1 f.2).foldl (applyLine cfg) st = { st with headers := st.headers ++ fs } :=
  foldl_applyLine_fresh cfg st fs hp hnd

/-- **Failure before the response head is complete ⇒ 5xx.**  Whatever the backend has sent so far,
    as long as its response head is not complete (nothing relayed yet), every way the backend
    stream can end — EOF, reset, socket error, hang-up, for FastCGI also EOF without
    END_REQUEST — makes lighttpd answer with its own complete `500` response (`OwnError`: error
    document with its exact Content-Length, keep-alive as negotiated): HTTP/1.0 and HTTP/1.1.
    (Modulo gw_recv_response_error()'s reconnect while nothing was written to the backend yet —
    C11's territory; the harness pins `wb.bytes_out`.) -/
theorem c10_failure_before_head_is_5xx (cfg : Cfg) (st : St) (e : End)
    (hv : cfg.ver ≤ 1) (hc : st.cstate = .handle) (ho : st.open_ = true) (hs : st.started = false)
    (hh : st.handler = true) (hst : st.status = 0) (he : e ≠ .none) (hfe : st.fcgi.ended = false) :
    OwnError cfg st (onEnd cfg st e) 500 := by
  rw [onEnd_active cfg st e (Or.inl ⟨hc, hh⟩) ho he,
      gwRecvEnd_pre cfg st e hc hs hh hst he hfe]
  exact ownError_conStep cfg st _ 500 hv hc rfl rfl rfl (Or.inl rfl) rfl rfl

/-- **HTTP/2: failure before the response head is complete ⇒ 5xx on the stream** — the twin of
    `c10_failure_before_head_is_5xx`: HEADERS with status 500, the error page as DATA, END_STREAM
    (`st.cerr = false`: every reachable state in the handle state, `Inv.cerrSent`). -/
theorem c10_h2_failure_before_head_is_5xx (cfg : Cfg) (st : St) (e : End)
    (hv : cfg.ver ≥ 2) (hc : st.cstate = .handle) (ho : st.open_ = true) (hs : st.started = false)
    (hh : st.handler = true) (hst : st.status = 0) (he : e ≠ .none) (hfe : st.fcgi.ended = false)
    (hce : st.cerr = false) :
    (onEnd cfg st e).status = 500 ∧ (onEnd cfg st e).cstate = .done ∧
    ∃ fields, (onEnd cfg st e).evs =
      pushW (st.evs ++ [.hdrs 500 fields]) (if cfg.head then [] else errorPage 500) ++ [.endStream] := by
  rw [onEnd_active cfg st e (Or.inl ⟨hc, hh⟩) ho he,
      gwRecvEnd_pre cfg st e hc hs hh hst he hfe]
  exact ownError_conStep_h2 cfg st _ 500 hv hc rfl rfl rfl (Or.inl rfl) rfl hce

/-- **Backend failure after the backend's head was parsed but before the client-side head was
    written ⇒ 502** (HTTP/1.x; stream-response-body = 0, or the failure arrives together with the
    head).  Whatever part of the body was buffered is discarded, the backend's fields are
    dropped, and the client gets lighttpd's own complete `502` error response — never the
    partial body under a computed Content-Length.  (Not for a response without body, `bodiless`:
    that one is complete with its head, `c10_bodiless_failure_is_clean_end`.) -/
theorem c10_failure_before_client_head_is_502 (cfg : Cfg) (st : St) (e : End)
    (hv : cfg.ver ≤ 1) (hc : st.cstate = .handle) (ho : st.open_ = true) (hs : st.started = true)
    (hh : st.handler = true) (hsent : st.hdrSent = false) (hbl : bodiless cfg st = false) (he : FailEnd cfg st e) :
    OwnError cfg st (onEnd cfg st e) 502 := by
  rw [onEnd_active cfg st e (Or.inl ⟨hc, hh⟩) ho he.ne_none,
      gwRecvEnd_fail cfg st e hs he, gwBackendError_unsent cfg st hs hsent hbl]
  exact ownError_conStep cfg st _ 502 hv hc rfl rfl rfl (Or.inr rfl) rfl rfl

/-- **A body cut short by backend EOF / hang-up before the client-side head was written ⇒ 502**
    (HTTP/1.x): fewer bytes than the announced Content-Length (`scratch > 0`) or a chunked body
    whose decoder is not done (`bodyTruncated`) when the backend closes. -/
theorem c10_truncated_before_client_head_is_502 (cfg : Cfg) (st : St) (e : End)
    (hv : cfg.ver ≤ 1) (hbe : cfg.be ≠ .fcgi) (hc : st.cstate = .handle) (ho : st.open_ = true)
    (hs : st.started = true) (hh : st.handler = true) (hf : st.finished = false)
    (hsent : st.hdrSent = false) (ht : bodyTruncated cfg st = true) (he : e = .eof ∨ e = .hup) :
    OwnError cfg st (onEnd cfg st e) 502 := by
  have hne : e ≠ .none := by rcases he with h | h <;> simp [h]
  rw [onEnd_active cfg st e (Or.inl ⟨hc, hh⟩) ho hne,
      gwRecvEnd_eofHup cfg st e hbe hs he, gwClose_handler cfg st hh,
      backendDone_truncated_unsent cfg { st with open_ := false } hc hs hf hsent ht]
  exact ownError_conStep cfg st _ 502 hv hc rfl rfl rfl (Or.inr rfl) rfl rfl

/-- **Backend failure after the response head was sent ⇒ lighttpd aborts the message** (HTTP/1.x).
    In the write state (response head already on the wire, body not finished) a reset / socket
    error of the backend connection — for FastCGI also EOF or hang-up before END_REQUEST —
    never completes the message: nothing is appended to what was queued (in particular no
    last-chunk), keep-alive is cleared and the response ends, i.e. the connection is closed.
    What the CLIENT can tell depends on the framing: a Content-Length or chunked (HTTP/1.1) message
    is left short of its announced end; a close-delimited message to an HTTP/1.0 client is NOT
    (`c10_http10_abort_invisible_witness`). -/
theorem c10_failure_after_head_aborts (cfg : Cfg) (st : St) (e : End)
    (hv : cfg.ver ≤ 1) (hc : st.cstate = .write) (ho : st.open_ = true) (hs : st.started = true)
    (hsent : st.hdrSent = true) (hbl : bodiless cfg st = false) (he : FailEnd cfg st e) :
    (onEnd cfg st e).keepAlive = false ∧ (onEnd cfg st e).cstate = .done ∧
    (onEnd cfg st e).handler = false ∧ (onEnd cfg st e).evs = pushW st.evs st.wq := by
  have hv2 : ¬ (cfg.ver ≥ 2) := by omega
  rw [onEnd_active cfg st e (Or.inr hc) ho he.ne_none,
      gwRecvEnd_fail cfg st e hs he, gwBackendError_sent cfg st hs hsent hbl]
  simp [conStep, hc, hv2, h1Progress, flush]

/-- **A body cut short by backend EOF / hang-up after the client-side head was written closes the
    connection** (HTTP/1.x): a Content-Length body with fewer bytes than announced, or a chunked
    backend body whose decoder is not done, is not completed towards the client — keep-alive is
    cleared, the response ends, and nothing is appended to what was queued except `ownLastChunk st`:
    the last-chunk http_chunk_close() writes for a body that lighttpd chunk-encodes ITSELF.  It does
    so only when no length is known, so `ownLastChunk st = []` in every state the relay reaches
    (`ownLastChunk_nil`) — an invariant that is NOT proved; the model driver checks it on the
    state every correspondence run ends in (`HPT-VIOLATED`). -/
theorem c10_truncated_after_head_closes (cfg : Cfg) (st : St) (e : End)
    (hv : cfg.ver ≤ 1) (hbe : cfg.be ≠ .fcgi) (hc : st.cstate = .write) (ho : st.open_ = true)
    (hs : st.started = true) (hh : st.handler = true) (hf : st.finished = false)
    (hsent : st.hdrSent = true) (ht : bodyTruncated cfg st = true) (he : e = .eof ∨ e = .hup) :
    (onEnd cfg st e).keepAlive = false ∧ (onEnd cfg st e).cstate = .done ∧
    (onEnd cfg st e).evs = pushW st.evs (st.wq ++ (if cfg.ver = 1 then ownLastChunk st else [])) := by
  have hne : e ≠ .none := by rcases he with h | h <;> simp [h]
  rw [onEnd_active cfg st e (Or.inr hc) ho hne, gwRecvEnd_eofHup cfg st e hbe hs he]
  exact abort_of_gwClose_truncated cfg st hv hc hh hf hsent ht

/-- **Clean EOF completes an EOF-delimited body** (HTTP/1.1, lighttpd chunk-encodes): the
    last-chunk is written then, keep-alive stays as it was. -/
theorem c10_clean_eof_terminates_chunked (cfg : Cfg) (st : St) (e : End)
    (hbe : cfg.be ≠ .fcgi) (hv : cfg.ver = 1) (hc : st.cstate = .write) (ho : st.open_ = true)
    (hs : st.started = true) (hh : st.handler = true) (hf : st.finished = false)
    (hsc : st.sendChunked = true) (hd : st.dc = none) (hsp : st.scratch < 0) (he : e = .eof ∨ e = .hup) :
    (onEnd cfg st e).keepAlive = st.keepAlive ∧ (onEnd cfg st e).cstate = .done ∧
    (onEnd cfg st e).evs = pushW st.evs (st.wq ++ ofString "0\r\n\r\n") := by
  have hv2 : ¬ (cfg.ver ≥ 2) := by omega
  have hsp2 : ¬ (st.scratch > 0) := by omega
  have hne : e ≠ .none := by rcases he with h | h <;> simp [h]
  rw [onEnd_active cfg st e (Or.inr hc) ho hne, gwRecvEnd_eofHup cfg st e hbe hs he]
  have hg : gwClose cfg st =
      { st with open_ := false, finished := true, wq := st.wq ++ ofString "0\r\n\r\n" } := by
    simp [gwClose, hh, backendDone, hc, hf, BeResp.chunkClose, hsc, hd, hv, hsp2, bodyTruncated]
  rw [hg]
  simp [conStep, hc, hv2, h1Progress, flush]

/-- **HTTP/2: a response cut off after HEADERS resets the stream.**  After the response head
    went out on an HTTP/2 stream, a backend failure flags the stream, and the stream ends with
    RST_STREAM instead of END_STREAM; what was queued but not yet framed is dropped.  (Model of
    the repaired http-header-glue.c / h2.c lines; h2.c itself is exercised end to end by the
    check's real-server stream.) -/
theorem c10_h2_failure_resets_stream (cfg : Cfg) (st : St) (e : End)
    (hv : cfg.ver ≥ 2) (hc : st.cstate = .write) (ho : st.open_ = true) (hs : st.started = true)
    (hsent : st.hdrSent = true) (hbl : bodiless cfg st = false) (he : FailEnd cfg st e) :
    (onEnd cfg st e).cstate = .done ∧ (onEnd cfg st e).evs = st.evs ++ [.rst] := by
  rw [onEnd_active cfg st e (Or.inr hc) ho he.ne_none,
      gwRecvEnd_fail cfg st e hs he, gwBackendError_sent cfg st hs hsent hbl]
  simp [conStep, hc, hv, h2Progress]

/-- ... and so does a body cut short by backend EOF / hang-up (short of Content-Length / inside a chunked body). -/
theorem c10_h2_truncated_resets_stream (cfg : Cfg) (st : St) (e : End)
    (hv : cfg.ver ≥ 2) (hbe : cfg.be ≠ .fcgi) (hc : st.cstate = .write) (ho : st.open_ = true)
    (hs : st.started = true) (hh : st.handler = true) (hf : st.finished = false)
    (hsent : st.hdrSent = true) (ht : bodyTruncated cfg st = true) (he : e = .eof ∨ e = .hup) :
    (onEnd cfg st e).cstate = .done ∧ (onEnd cfg st e).evs = st.evs ++ [.rst] := by
  have hv1 : ¬ (cfg.ver = 1) := by omega
  have hne : e ≠ .none := by rcases he with h | h <;> simp [h]
  rw [onEnd_active cfg st e (Or.inr hc) ho hne,
      gwRecvEnd_eofHup cfg st e hbe hs he, gwClose_handler cfg st hh,
      backendDone_truncated_sent cfg { st with open_ := false } hc hf hsent ht]
  simp [hv1, conStep, hc, hv, h2Progress, backendAbort]

/-- **A response without body is complete with its head** (answer to HEAD, 304): whatever way the
    backend stream ends afterwards — reset, socket error, FastCGI end of stream without
    END_REQUEST — is handled exactly like an orderly close of the backend connection; no 502, no
    abort, whatever Content-Length or Transfer-Encoding the head carries. -/
theorem c10_bodiless_failure_is_clean_end (cfg : Cfg) (st : St) (e : End)
    (hs : st.started = true) (hb : bodiless cfg st = true) (he : FailEnd cfg st e) :
    gwRecvEnd cfg st e = gwClose cfg st ∧ bodyTruncated cfg st = false := by
  refine ⟨?_, by simp [bodyTruncated, hb]⟩
  rw [gwRecvEnd_fail cfg st e hs he, backendError_bodiless cfg st hs hb]

/-- **A kept-alive HTTP/1.x response always announces its length** (failure isolation): after
    http_response_write_prepare(), for a response that may carry a body (not HEAD, not 204/304),
    keep-alive survives only if Content-Length, Transfer-Encoding or Upgrade is set — a response
    whose end the client could only recognise by connection close never leaves the connection
    open for the next request. -/
theorem c10_keepalive_requires_framing (cfg : Cfg) (st : St) (hv : cfg.ver ≤ 1) (hh : cfg.head = false)
    (hk : (writePrepare cfg st).keepAlive = true) :
    (writePrepare cfg st).status = 204 ∨ (writePrepare cfg st).status = 304 ∨
    hasHdr (writePrepare cfg st).headers nContentLength = true ∨
    hasHdr (writePrepare cfg st).headers nTransferEncoding = true ∨
    hasHdr (writePrepare cfg st).headers nUpgrade = true := by
  unfold writePrepare at hk ⊢
  generalize mergeTrailers cfg (wpStatus st) = s at hk ⊢
  rw [show wpHead cfg (wpLength cfg s) = wpLength cfg s by simp [wpHead, hh]] at hk ⊢
  unfold wpLength at hk ⊢
  by_cases hf : s.finished = true
  · rw [if_pos hf, (wpStep_wpSetLength cfg s hf).status]
    exact (wpSetLength_framed cfg s hh).imp_right fun h => h.imp_right fun h => h.imp_right .inl
  · rw [if_neg hf, if_neg (by omega)] at hk ⊢
    exact .inr (.inr (wpStartStreaming_framed cfg s hk))

/-- The relay is exact, in the case the proof covers end to end: a complete response of an HTTP
    backend — final status other than 204/205/304, ordinary end-to-end fields with pairwise different
    names, a Content-Length field (any accepted spelling `clv`), a non-empty body — received in one
    read reaches the HTTP/1.1 client byte for byte (status line, fields in order, empty line, body),
    keep-alive kept, whatever the backend does afterwards (`e`) and whatever stream-response-body is.
    MISSING for the full statement: chunked / EOF-delimited bodies, CGI-style heads, interim
    responses and trailers as universally quantified theorems (covered by the correspondence, by
    the decoder / reassembly theorems above, and as worked examples below). -/
theorem c10_relay_exact_partial (cfg : Cfg) (d1 d2 d3 : UInt8) (reason : Bytes)
    (fs : List (Bytes × Bytes)) (clv body : Bytes) (e : End)
    (hbe : cfg.be = .proxy) (hv : cfg.ver = 1) (hh : cfg.head = false)
    (hd : isDigit d1 ∧ isDigit d2 ∧ isDigit d3) (hc : codeOf d1 d2 d3 ≥ 200) (hr : lf ∉ reason)
    (hcode : codeOf d1 d2 d3 ≠ 204 ∧ codeOf d1 d2 d3 ≠ 205 ∧ codeOf d1 d2 d3 ≠ 304)
    (hfs : ∀ f ∈ fs, LineField f.1 f.2) (hnd : (fs.map fun kv => lower kv.1).Nodup)
    (hne : clv ≠ []) (hhead : isWs (clv.headD 0) = false) (hplus : clv.head? ≠ some 43)
    (htrim : trimRightWs clv = clv) (hclv : lf ∉ clv) (hnum : strtoI64 clv = some body.length)
    (hbody : body ≠ []) (hsize : (clHead d1 d2 d3 reason fs clv).length ≤ 65535) (hcount : fs.length + 2 < 8190) :
    (relay cfg [clHead d1 d2 d3 reason fs clv ++ body] e).evs =
      [.w (h1StatusLine cfg (codeOf d1 d2 d3) ++ h1FieldLines (fs ++ [(ofString "Content-Length", clv)]) ++
           crlf ++ crlf ++ body)] ∧
    (relay cfg [clHead d1 d2 d3 reason fs clv ++ body] e).keepAlive = true ∧
    (relay cfg [clHead d1 d2 d3 reason fs clv ++ body] e).cstate = .done ∧
    (relay cfg [clHead d1 d2 d3 reason fs clv ++ body] e).status = codeOf d1 d2 d3 := by
  have hbe' : cfg.be ≠ .fcgi := by rw [hbe]; decide
  have hparse := parseHeaders_cl cfg (clHead d1 d2 d3 reason fs clv ++ body).length
    { digits := hd, final := hc, reasonLf := hr, fields := hfs, distinct := hnd, cl := ⟨hne, hhead, hplus, htrim, hnum⟩,
      clLf := hclv, bodyNe := hbody, size := hsize,
      count := hcount }
  -- the state after the read
  generalize hst1 : clState d1 d2 d3 reason fs clv body = st1 at hparse
  unfold clState at hst1
  have hhs : headerStep cfg {} (clHead d1 d2 d3 reason fs clv ++ body) = (st1, .goOn) := by
    unfold headerStep
    simpa using hparse
  have hread : readPlain cfg {} (clHead d1 d2 d3 reason fs clv ++ body) = ({ st1 with hbuf := [] }, .finished) := by
    unfold readPlain
    rw [if_pos (by rfl), hhs]
    subst hst1
    simp
  have hrecv : gwRecvData cfg {} (clHead d1 d2 d3 reason fs clv ++ body) = { st1 with hbuf := [], open_ := false } := by
    unfold gwRecvData
    rw [if_neg hbe', hread]
    subst hst1
    simp [gwClose, backendDone]
  generalize hst2 : ({ st1 with hbuf := [], open_ := false } : St) = st2 at hrecv
  obtain ⟨sstatus, sfin, shandler, sdc, shdrs, swq, ska, scs, sopen, sevs⟩ :
      st2.status = codeOf d1 d2 d3 ∧ st2.finished = true ∧ st2.handler = true ∧ st2.dc = none ∧
      st2.headers = fs ++ [(ofString "Content-Length", clv)] ∧ st2.wq = body ∧ st2.keepAlive = true ∧
      st2.cstate = .handle ∧ st2.open_ = false ∧ st2.evs = [] := by
    subst hst2 hst1
    exact ⟨rfl, rfl, rfl, rfl, rfl, rfl, rfl, rfl, rfl, rfl⟩
  have hwp : writePrepare cfg st2 = st2 :=
    writePrepare_cl_id cfg st2 hh shandler sfin sdc (by rw [sstatus]; exact hcode)
      (by rw [shdrs]; exact hasHdr_cl_appended fs clv hne (fun f hf => (hfs f hf).toPlainField))
  have hset : h1HeaderSet cfg st2 = st2.headers := by
    have h0 : ¬ (cfg.ver = 0) := by omega
    simp [h1HeaderSet, ska, h0, sstatus, hcode.2.2]
  have hstart : conStep cfg st2 = startResponse cfg st2 := by
    unfold conStep
    simp [scs, handlerStarts, subrequestWaits, sopen]
  obtain ⟨rdone, rstatus, rka, revs⟩ := startResponse_h1_finished cfg st2 (by omega) (by rw [sstatus]; omega) (by rw [hwp]; exact sfin)
  rw [hwp, hset, sevs, shdrs, swq, sstatus] at revs
  rw [hwp] at rstatus rka
  have hrel : relay cfg [clHead d1 d2 d3 reason fs clv ++ body] e = startResponse cfg st2 := by
    unfold relay
    simp only [List.foldl_cons, List.foldl_nil]
    rw [onData_active cfg {} _ (Or.inl ⟨rfl, rfl⟩) rfl (by simp [hbody]), hrecv, hstart]
    unfold onEnd
    rw [if_pos (by simp [rdone])]
  rw [hrel]
  refine ⟨?_, by rw [rka, ska], rdone, by rw [rstatus, sstatus]⟩
  rw [revs]
  simp [pushW, h1StatusLine, hv, ofString]

/-! non-vacuity of `c10_relay_exact_partial`: a concrete instance of every hypothesis -/
example : LineField (ofString "X-Foo") (ofString "bar baz") :=
  { kne := by decide +kernel, kcolon := by decide +kernel, klast := by decide +kernel,
    kspecial := by decide +kernel, vne := by decide +kernel, vhead := by decide +kernel,
    klf := by decide +kernel, vlf := by decide +kernel }
example : strtoI64 (ofString "005") = some (ofString "hello").length ∧ trimRightWs (ofString "005") = ofString "005" ∧
    isWs ((ofString "005").headD 0) = false ∧ (ofString "005").head? ≠ some 43 := by decide +kernel
example : clHead 50 48 48 (ofString "OK") [(ofString "X-Foo", ofString "bar")] (ofString "5") =
    ofString "HTTP/1.1 200 OK\r\nX-Foo: bar\r\nContent-Length: 5\r\n\r\n" := by
  repeat rw [ofString_ofList]
  decide +kernel
example : codeOf 50 48 48 = 200 := by decide +kernel

/-! failures that lighttpd detects while reading (`onData`), not at the end of the stream -/

/-- **A chunked framing error of the backend after the response head was sent ⇒ abort** (HTTP/1.x):
    the read in which lighttpd's decoder meets malformed chunk framing (`dcFeed … = .err`, e.g.
    `c10_dechunk_missing_crlf_rejected`, `c10_dechunk_bad_size_line_rejected`) ends the response like
    a connection failure: what was decoded before the error is written, no last-chunk, keep-alive
    cleared, connection closed. -/
theorem c10_malformed_chunked_after_head_aborts (cfg : Cfg) (st : St) (d : DcSt) (data : Bytes)
    (hv : cfg.ver ≤ 1) (hbe : cfg.be ≠ .fcgi) (hc : st.cstate = .write) (ho : st.open_ = true)
    (hs : st.started = true) (hsent : st.hdrSent = true) (hbl : bodiless cfg st = false)
    (hdec : st.decodeChunked = true) (hd : st.dc = some d) (hdd : st.dcDone = 0) (hne : data ≠ [])
    (herr : (dcFeed { d with out := [] } data).mode = .err) :
    (onData cfg st data).keepAlive = false ∧ (onData cfg st data).cstate = .done ∧
    (onData cfg st data).evs = pushW st.evs
      (st.wq ++ (if st.sendChunked then [] else (dcFeed { d with out := [] } data).out)) := by
  have hv2 : ¬ (cfg.ver ≥ 2) := by omega
  rw [onData_active cfg st data (Or.inr hc) ho hne,
      gwRecvData_dechunk_err cfg st d data hbe hs hdec hd hdd herr,
      gwBackendError_sent cfg (dechunkErrSt st d data) hs hsent hbl]
  simp [conStep, hc, hv2, h1Progress, flush, dechunkErrSt]

/-- ... before the client-side head was written ⇒ lighttpd's own 502. -/
theorem c10_malformed_chunked_before_client_head_is_502 (cfg : Cfg) (st : St) (d : DcSt) (data : Bytes)
    (hv : cfg.ver ≤ 1) (hbe : cfg.be ≠ .fcgi) (hc : st.cstate = .handle) (ho : st.open_ = true)
    (hs : st.started = true) (hh : st.handler = true) (hsent : st.hdrSent = false) (hbl : bodiless cfg st = false)
    (hdec : st.decodeChunked = true) (hd : st.dc = some d) (hdd : st.dcDone = 0) (hne : data ≠ [])
    (herr : (dcFeed { d with out := [] } data).mode = .err) :
    OwnError cfg st (onData cfg st data) 502 := by
  rw [onData_active cfg st data (Or.inl ⟨hc, hh⟩) ho hne,
      gwRecvData_dechunk_err cfg st d data hbe hs hdec hd hdd herr,
      gwBackendError_unsent cfg (dechunkErrSt st d data) hs hsent hbl]
  exact ownError_conStep cfg st _ 502 hv hc rfl rfl rfl (Or.inr rfl) rfl rfl

/-- **FastCGI: END_REQUEST before the announced end of the body is a truncation** (HTTP/1.x, head
    already sent): when the read that delivers END_REQUEST (`readFcgi … = (st1, .finished)`)
    leaves the body short of its Content-Length or inside a chunked body, the response is aborted —
    nothing appended to what that read queued (but `ownLastChunk`, see
    `c10_truncated_after_head_closes`), keep-alive cleared, connection closed.  (A failure
    delivered through `onData`, not through the end of the stream.) -/
theorem c10_fcgi_early_end_request_aborts (cfg : Cfg) (st st1 : St) (seg : Bytes)
    (hv : cfg.ver ≤ 1) (hbe : cfg.be = .fcgi) (hc : st.cstate = .write) (ho : st.open_ = true)
    (hsent : st.hdrSent = true) (hne : seg ≠ [])
    (hr : readFcgi cfg st seg = (st1, .finished))
    (hh : st1.handler = true) (hf : st1.finished = false) (ht : bodyTruncated cfg st1 = true) :
    (onData cfg st seg).keepAlive = false ∧ (onData cfg st seg).cstate = .done ∧
    (onData cfg st seg).evs = pushW st1.evs (st1.wq ++ (if cfg.ver = 1 then ownLastChunk st1 else [])) := by
  have hfr := frame_readFcgi cfg st seg
  rw [hr] at hfr
  have hg : gwRecvData cfg st seg = gwClose cfg st1 := by
    unfold gwRecvData
    simp [hbe, hr]
  rw [onData_active cfg st seg (Or.inr hc) ho hne, hg]
  exact abort_of_gwClose_truncated cfg st1 hv (hfr.cstate.trans hc) hh hf (hfr.hdrSent.trans hsent) ht

/-- how the backend stream can break while a response is being relayed -/
inductive Broken (cfg : Cfg) (st : St) : End → Prop
  /-- the backend goes away (any way) before its response head is complete -/
  | noHead (e : End) : st.started = false → st.status = 0 → st.fcgi.ended = false → e ≠ .none → Broken cfg st e
  /-- connection reset / socket error / FastCGI end of stream without END_REQUEST, while the body
      of a response that has one is unfinished -/
  | failed (e : End) : st.started = true → bodiless cfg st = false → FailEnd cfg st e → Broken cfg st e
  /-- backend EOF / hang-up short of the announced Content-Length or inside a chunked body -/
  | truncated (e : End) : st.started = true → cfg.be ≠ .fcgi → bodyTruncated cfg st = true →
      (e = .eof ∨ e = .hup) → Broken cfg st e

/-- Broken responses never look complete (HTTP/1.x), over RUNS of the relay: after any
    sequence of backend reads (`segs` from the initial state; the reachability invariant `Inv`
    supplies the consistency of state machine, "head sent", `started`, `finished`), a backend
    stream that breaks (`Broken`) is never completed by lighttpd: while the client-side head is
    unwritten the client gets lighttpd's own complete `500`/`502` (`OwnError`); afterwards
    keep-alive is cleared, the response ends, and nothing more is written than what was queued —
    except, for an EOF truncation, `ownLastChunk` (see `c10_truncated_after_head_closes`).
    `hh`: the handler is still attached (false only after an unusable Status field inside a 1xx
    block, the behaviour reported as-is).
    `_partial`, MISSING: (1) that the abort is VISIBLE to the client — true by framing for
    Content-Length and HTTP/1.1 chunked messages (not proved: needs the accounting between
    `scratch` and the bytes written), FALSE for a close-delimited message to an HTTP/1.0 client
    (`c10_http10_abort_invisible_witness`, known finding); (2) failures that lighttpd detects
    while reading (`onData`) are separate theorems over any state, not part of `Broken`:
    `c10_malformed_chunked_*`, `c10_fcgi_early_end_request_aborts`; (3) `ownLastChunk st = []`.
    HTTP/2: `c10_h2_*`. -/
theorem c10_broken_never_complete_partial (cfg : Cfg) (segs : List Bytes) (e : End) (hv : cfg.ver ≤ 1)
    (ho : (segs.foldl (onData cfg) {}).open_ = true)
    (hact : (segs.foldl (onData cfg) {}).cstate = .handle ∨ (segs.foldl (onData cfg) {}).cstate = .write)
    (hh : (segs.foldl (onData cfg) {}).handler = true)
    (hb : Broken cfg (segs.foldl (onData cfg) {}) e) :
    (OwnError cfg (segs.foldl (onData cfg) {}) (relay cfg segs e) 500 ∨
     OwnError cfg (segs.foldl (onData cfg) {}) (relay cfg segs e) 502) ∨
    ((relay cfg segs e).keepAlive = false ∧ (relay cfg segs e).cstate = .done ∧
     ((relay cfg segs e).evs = pushW (segs.foldl (onData cfg) {}).evs (segs.foldl (onData cfg) {}).wq ∨
      (relay cfg segs e).evs = pushW (segs.foldl (onData cfg) {}).evs
        ((segs.foldl (onData cfg) {}).wq ++ ownLastChunk (segs.foldl (onData cfg) {})))) := by
  have hi : Inv (segs.foldl (onData cfg) {}) := inv_reach cfg segs {} inv_init
  unfold relay
  generalize segs.foldl (onData cfg) {} = st at *
  have hf : st.finished = false := hi.unfinished ho hact
  cases hb with
  | noHead hs h0 hfe hne =>
    rcases hact with hc | hc
    · exact Or.inl (Or.inl (c10_failure_before_head_is_5xx cfg st e hv hc ho hs hh h0 hne hfe))
    · have := hi.wstarted hc ho; rw [hs] at this; cases this
  | failed hs hbl hfail =>
    rcases hact with hc | hc
    · exact Or.inl (Or.inr (c10_failure_before_client_head_is_502 cfg st e hv hc ho hs hh (hi.handle hc) hbl hfail))
    · right
      obtain ⟨a, b, _, d⟩ := c10_failure_after_head_aborts cfg st e hv hc ho hs (hi.write hc) hbl hfail
      exact ⟨a, b, Or.inl d⟩
  | truncated hs hbe ht he =>
    rcases hact with hc | hc
    · exact Or.inl (Or.inr (c10_truncated_before_client_head_is_502 cfg st e hv hbe hc ho hs hh hf (hi.handle hc) ht he))
    · right
      obtain ⟨a, b, d⟩ := c10_truncated_after_head_closes cfg st e hv hbe hc ho hs hh hf (hi.write hc) ht he
      refine ⟨a, b, ?_⟩
      by_cases h1 : cfg.ver = 1
      · exact Or.inr (by simpa [h1] using d)
      · exact Or.inl (by simpa [h1] using d)

/-- the run of `c10_http10_abort_invisible_witness`, evaluated once -/
private theorem http10_run :
    let cfg : Cfg := { be := .proxy, ver := 0, stream := 1 }
    let seg := ofString "HTTP/1.1 200 OK\r\n\r\nhel"
    (relay cfg [seg] .rst).evs = (relay cfg [seg] .eof).evs ∧ (relay cfg [seg] .rst).keepAlive = false ∧
    (relay cfg [seg] .eof).keepAlive = false ∧ (onData cfg {} seg).started = true ∧
    bodiless cfg (onData cfg {} seg) = false := by
  repeat rw [ofString_ofList]
  decide +kernel

/-- "Visibly aborted" is FALSE for an HTTP/1.0 client with a streamed body that is delimited by
    connection close: a backend reset after part of the body gives exactly the same bytes, and
    the same orderly close, as a backend that finished (known finding; nothing short of a TCP
    reset could tell the client, and the C that would is under `#if 0`). -/
theorem c10_http10_abort_invisible_witness :
    (relay { be := .proxy, ver := 0, stream := 1 } [ofString "HTTP/1.1 200 OK\r\n\r\nhel"] .rst).evs =
      (relay { be := .proxy, ver := 0, stream := 1 } [ofString "HTTP/1.1 200 OK\r\n\r\nhel"] .eof).evs ∧
    (relay { be := .proxy, ver := 0, stream := 1 } [ofString "HTTP/1.1 200 OK\r\n\r\nhel"] .rst).keepAlive = false ∧
    (relay { be := .proxy, ver := 0, stream := 1 } [ofString "HTTP/1.1 200 OK\r\n\r\nhel"] .eof).keepAlive = false ∧
    Broken { be := .proxy, ver := 0, stream := 1 }
      (onData { be := .proxy, ver := 0, stream := 1 } {} (ofString "HTTP/1.1 200 OK\r\n\r\nhel")) .rst :=
  ⟨http10_run.1, http10_run.2.1, http10_run.2.2.1, .failed _ http10_run.2.2.2.1 http10_run.2.2.2.2 (Or.inl rfl)⟩

/-- Failure isolation (HTTP/1.x), over runs: keep-alive survives a broken
    backend response only together with lighttpd's own complete error response, whose
    Content-Length is that of the error page (`OwnError`) — in every other case the connection is
    closed, so no later response on the connection can be mistaken for the rest of this one.
    `_partial`, MISSING: HTTP/2 multiplexing (other streams untouched) — the model has one stream
    (it gets RST_STREAM: `c10_h2_failure_resets_stream`); other streams are observed end to end
    (probe stream of `e2e-beresp`). -/
theorem c10_failure_isolated_partial (cfg : Cfg) (segs : List Bytes) (e : End) (hv : cfg.ver ≤ 1)
    (ho : (segs.foldl (onData cfg) {}).open_ = true)
    (hact : (segs.foldl (onData cfg) {}).cstate = .handle ∨ (segs.foldl (onData cfg) {}).cstate = .write)
    (hh : (segs.foldl (onData cfg) {}).handler = true)
    (hb : Broken cfg (segs.foldl (onData cfg) {}) e)
    (hk : (relay cfg segs e).keepAlive = true) :
    OwnError cfg (segs.foldl (onData cfg) {}) (relay cfg segs e) 500 ∨
    OwnError cfg (segs.foldl (onData cfg) {}) (relay cfg segs e) 502 := by
  rcases c10_broken_never_complete_partial cfg segs e hv ho hact hh hb with h | ⟨a, _, _⟩
  · exact h
  · rw [a] at hk; cases hk

/-! non-vacuity of the composite theorems: concrete reachable states / complete runs -/

/-! each run that several examples speak of is evaluated once -/
private theorem partialHead_run :
    let st := onData { be := .proxy, ver := 1, stream := 1 } {} (ofString "HTTP/1.1 200 OK\r\nConte")
    st.cstate = .handle ∧ st.open_ = true ∧ st.started = false ∧ st.handler = true ∧ st.status = 0 ∧
    st.fcgi.ended = false ∧ st.finished = false := by decide +kernel
private theorem clStreaming_run :
    let st := onData { be := .proxy, ver := 1, stream := 1 } {}
                      (ofString "HTTP/1.1 200 OK\r\nContent-Length: 5\r\n\r\nhel")
    st.cstate = .write ∧ st.open_ = true ∧ st.started = true ∧ st.finished = false ∧ st.handler = true ∧
    st.scratch > 0 ∧ st.sendChunked = false ∧ st.decodeChunked = false ∧ st.hdrSent = true ∧
    bodyTruncated { be := .proxy, ver := 1, stream := 1 } st = true := by
  repeat rw [ofString_ofList]
  decide +kernel
private theorem teBuffered_run :
    let st := onData { be := .proxy, ver := 1, stream := 0 } {}
                      (ofString "HTTP/1.1 200 OK\r\nTransfer-Encoding: chunked\r\n\r\n5\r\nhello\r\n")
    st.cstate = .handle ∧ st.open_ = true ∧ st.started = true ∧ st.finished = false ∧ st.handler = true ∧
    st.hdrSent = false ∧ bodyTruncated { be := .proxy, ver := 1, stream := 0 } st = true ∧ (st.sendChunked = true → st.dc.isSome = true) := by
  repeat rw [ofString_ofList]
  decide +kernel

/-- the state after the backend sent part of a response head -/
example : let st := onData { be := .proxy, ver := 1, stream := 1 } {} (ofString "HTTP/1.1 200 OK\r\nConte")
    st.cstate = .handle ∧ st.open_ = true ∧ st.started = false ∧ st.handler = true ∧ st.status = 0 ∧
    st.fcgi.ended = false ∧ st.finished = false := partialHead_run
set_option maxRecDepth 100000 in
example : (relay { be := .proxy, ver := 1, stream := 1 } [ofString "HTTP/1.1 200 OK\r\nConte"] .rst).status = 500 := by
  obtain ⟨hc, ho, hs, hh, hst, hfe, -⟩ := partialHead_run
  simp only [relay, List.foldl_cons, List.foldl_nil]
  exact (c10_failure_before_head_is_5xx _ _ .rst (by decide +kernel) hc ho hs hh hst (by decide +kernel) hfe).1
/-- `c10_head_segmentation`: the hypothesis "still incomplete, nothing decided" -/
example : headerStep { be := .proxy, ver := 1 } {} (ofString "HTTP/1.1 2") =
    ({ hbuf := ofString "HTTP/1.1 2" }, .goOn) := by decide +kernel
/-- the state after head and part of a Content-Length body were relayed in streaming mode -/
example : let st := onData { be := .proxy, ver := 1, stream := 1 } {}
                      (ofString "HTTP/1.1 200 OK\r\nContent-Length: 5\r\n\r\nhel")
    st.cstate = .write ∧ st.open_ = true ∧ st.started = true ∧ st.finished = false ∧ st.handler = true ∧
    st.scratch > 0 ∧ st.sendChunked = false ∧ st.decodeChunked = false ∧ st.hdrSent = true ∧
    bodyTruncated { be := .proxy, ver := 1, stream := 1 } st = true := clStreaming_run
/-- ... of a chunked body passed through (decoder not done), and of an EOF-delimited body -/
example : let st := onData { be := .proxy, ver := 1, stream := 1 } {}
                      (ofString "HTTP/1.1 200 OK\r\nTransfer-Encoding: chunked\r\n\r\n5\r\nhel")
    st.cstate = .write ∧ st.open_ = true ∧ st.started = true ∧ st.finished = false ∧ st.handler = true ∧
    st.sendChunked = true ∧ st.dc.isSome = true ∧ st.dcDone = 0 ∧ st.hdrSent = true ∧
    bodyTruncated { be := .proxy, ver := 1, stream := 1 } st = true := by
  repeat rw [ofString_ofList]
  decide +kernel
example : let st := onData { be := .scgi, ver := 1, stream := 1 } {} (ofString "Status: 200\r\n\r\nhel")
    st.cstate = .write ∧ st.open_ = true ∧ st.started = true ∧ st.finished = false ∧ st.handler = true ∧
    st.sendChunked = true ∧ st.dc = none ∧ st.scratch < 0 := by decide +kernel
/-- the state after the head and part of the body were buffered (stream-response-body = 0): the
    client-side head is not written yet; `Broken` is inhabited -/
example : let st := onData { be := .proxy, ver := 1, stream := 0 } {}
                      (ofString "HTTP/1.1 200 OK\r\nTransfer-Encoding: chunked\r\n\r\n5\r\nhello\r\n")
    st.cstate = .handle ∧ st.open_ = true ∧ st.started = true ∧ st.finished = false ∧ st.handler = true ∧
    st.hdrSent = false ∧ bodyTruncated { be := .proxy, ver := 1, stream := 0 } st = true ∧ (st.sendChunked = true → st.dc.isSome = true) :=
  teBuffered_run
example : Broken { be := .proxy, ver := 1, stream := 0 }
    (onData { be := .proxy, ver := 1, stream := 0 } {}
      (ofString "HTTP/1.1 200 OK\r\nTransfer-Encoding: chunked\r\n\r\n5\r\nhello\r\n")) .hup :=
  .truncated _ teBuffered_run.2.2.1 (by decide +kernel) teBuffered_run.2.2.2.2.2.2.1 (Or.inr rfl)
/-- the invariant at work: these two states are reachable, so `Inv` holds of them -/
example : Inv (onData { be := .proxy, ver := 1, stream := 0 } {}
      (ofString "HTTP/1.1 200 OK\r\nTransfer-Encoding: chunked\r\n\r\n5\r\nhello\r\n")) := inv_onData _ _ _ inv_init
example : Inv (onData { be := .proxy, ver := 1, stream := 1 } {}
      (ofString "HTTP/1.1 200 OK\r\nContent-Length: 5\r\n\r\nhel")) := inv_onData _ _ _ inv_init
example : FailEnd { be := .fcgi, ver := 1 } {} .eof := Or.inr (Or.inr ⟨rfl, Or.inl rfl, rfl⟩)
/-! non-vacuity of the `onData` failure theorems -/
example : let cfg : Cfg := { be := .proxy, ver := 1, stream := 1 }
    let st := onData cfg {} (ofString "HTTP/1.1 200 OK\r\nTransfer-Encoding: chunked\r\n\r\n5\r\nhel")
    st.cstate = .write ∧ st.decodeChunked = true ∧ st.dcDone = 0 ∧ bodiless cfg st = false ∧
    (st.dc.map fun d => (dcFeed { d with out := [] } (ofString "loXX")).mode.isErr) = some true := by
  repeat rw [ofString_ofList]
  decide +kernel
example : let cfg : Cfg := { be := .fcgi, ver := 1, stream := 1 }
    let st := onData cfg {} (frEncode 6 1 (ofString "Content-Length: 5\r\n\r\nhel") [])
    let r := readFcgi cfg st (frEncode 3 1 [0, 0, 0, 0, 0, 0, 0, 0] [])
    st.cstate = .write ∧ st.hdrSent = true ∧ r.2 = .finished ∧ r.1.handler = true ∧ r.1.finished = false ∧
    bodyTruncated cfg r.1 = true ∧ r.1.sendChunked = false := by decide +kernel
/-! the fields of lighttpd's own 502 (HTTP/1.1, keep-alive): Content-Type, the page's Content-Length, Date -/
set_option maxRecDepth 100000 in
example : errFields { be := .proxy, ver := 1 } 502 true =
    ofString "\r\nContent-Type: text/html\r\nContent-Length: 162\r\nDate: Sun, 09 Sep 2001 01:46:40 GMT" := by
  repeat rw [ofString_ofList]
  decide +kernel
/-! a complete answer to HEAD (or a 304) followed by a backend reset is relayed -/
set_option maxRecDepth 100000 in
example : (relay { be := .proxy, ver := 1, stream := 0, head := true }
      [ofString "HTTP/1.1 200 OK\r\nContent-Length: 5\r\n\r\n"] .rst).status = 200 ∧
    (relay { be := .scgi, ver := 1, stream := 0 } [ofString "Status: 304\r\nContent-Length: 5\r\n\r\n"] .rst).status = 304 ∧
    bodiless { be := .proxy, ver := 1, head := true } {} = true := by
  refine ⟨by decide +kernel, by decide +kernel, by decide +kernel⟩
/-- `c10_dechunk_size_line_rendered` at 26 with `;x=y`: the line -/
example : encHex 26 ++ ofString ";x=y" ++ [cr, lf] = ofString "1a;x=y\r\n" := by decide +kernel
/-! runs that lighttpd without the C10 repairs presented as complete `200`s: `502` -/
set_option maxRecDepth 100000 in
example : (relay { be := .proxy, ver := 1, stream := 0 }
       [ofString "HTTP/1.1 200 OK\r\nTransfer-Encoding: chunked\r\n\r\n5\r\nhello\r\n"] .eof).status = 502 ∧
    (relay { be := .scgi, ver := 1, stream := 0 } [ofString "Status: 200\r\n\r\nhel"] .rst).status = 502 := by
  obtain ⟨hc, ho, hs, hf, hh, hsent, ht, -⟩ := teBuffered_run
  have h2 : let st := onData { be := .scgi, ver := 1, stream := 0 } {} (ofString "Status: 200\r\n\r\nhel")
      st.cstate = .handle ∧ st.open_ = true ∧ st.started = true ∧ st.handler = true ∧ st.hdrSent = false ∧
      bodiless { be := .scgi, ver := 1, stream := 0 } st = false := by decide +kernel
  simp only [relay, List.foldl_cons, List.foldl_nil]
  exact ⟨(c10_truncated_before_client_head_is_502 _ _ .eof (by decide +kernel) (by decide +kernel) hc ho hs hh hf hsent ht
            (Or.inl rfl)).1,
         (c10_failure_before_client_head_is_502 _ _ .rst (by decide +kernel) h2.1 h2.2.1 h2.2.2.1 h2.2.2.2.1 h2.2.2.2.2.1
            h2.2.2.2.2.2 (Or.inl rfl)).1⟩
/-! HTTP/2: HEADERS, DATA, then RST_STREAM -/
set_option maxRecDepth 100000 in
example : ((relay { be := .proxy, ver := 2, stream := 1 }
       [ofString "HTTP/1.1 200 OK\r\nContent-Length: 5\r\n\r\nhel"] .rst).evs.getLast?) = some .rst := by
  repeat rw [ofString_ofList]
  decide +kernel
/-- complete runs: a Content-Length response, a chunked response with a trailer (buffered: merged into
    the head, without CR), an interim response, a truncated Content-Length body (connection closed) -/
example : (relay { be := .proxy, ver := 1, stream := 0 }
      [ofString "HTTP/1.1 200 OK\r\nX-A: b\r\nContent-Le", ofString "ngth: 2\r\n\r\nok"] .eof).evs =
    [.w (ofString "HTTP/1.1 200 OK\r\nX-A: b\r\nContent-Length: 2\r\nDate: Sun, 09 Sep 2001 01:46:40 GMT\r\n\r\nok")] := by
  repeat rw [ofString_ofList]
  decide +kernel
example : (relay { be := .proxy, ver := 1, stream := 0 }
      [ofString "HTTP/1.1 200 OK\r\nTransfer-Encoding: chunked\r\nTrailer: X-T\r\n\r\n2\r\nok\r\n0\r\nX-",
       ofString "T: v\r\n\r\n"] .eof).evs =
    [.w (ofString "HTTP/1.1 200 OK\r\nX-T: v\r\nContent-Length: 2\r\nDate: Sun, 09 Sep 2001 01:46:40 GMT\r\n\r\nok")] := by
  repeat rw [ofString_ofList]
  decide +kernel
set_option maxRecDepth 100000 in
example : (relay { be := .proxy, ver := 1, stream := 1 }
      [ofString "HTTP/1.1 103 Early Hints\r\nLink: </a>\r\n\r\nHTTP/1.1 200 OK\r\nContent-Length: 2\r\n\r\nok"] .eof).evs =
    [.w (ofString ("HTTP/1.1 103 Early Hints\r\nLink: </a>\r\n\r\nHTTP/1.1 200 OK\r\nContent-Length: 2\r\n" ++
                   "Date: Sun, 09 Sep 2001 01:46:40 GMT\r\n\r\nok"))] := by
  simp only [ofString_append]
  repeat rw [ofString_ofList]
  decide +kernel
example : (relay { be := .proxy, ver := 1, stream := 1 }
      [ofString "HTTP/1.1 200 OK\r\nContent-Length: 5\r\n\r\nhel"] .eof).keepAlive = false := by
  obtain ⟨hc, ho, hs, hf, hh, -, -, -, hsent, ht⟩ := clStreaming_run
  simp only [relay, List.foldl_cons, List.foldl_nil]
  exact (c10_truncated_after_head_closes _ _ .eof (by decide +kernel) (by decide +kernel) hc ho hs hh hf hsent ht (Or.inl rfl)).1
example : PlainField (ofString "X-Foo") (ofString "bar baz") :=
  { kne := by decide +kernel, kcolon := by decide +kernel, klast := by decide +kernel,
    kspecial := by decide +kernel, vne := by decide +kernel, vhead := by decide +kernel }
example : ((([] : List (Bytes × Bytes)) ++ [(ofString "X-Foo", ofString "a"), (ofString "ETag", ofString "\"x\"")]).map
    fun kv => lower kv.1).Nodup := by decide +kernel

end LtVerif.C10
