/-
  C13 — connections always end: timeouts, limits, overload recovery, graceful stop.

  Property theorems over `LtVerif.Model.Lifecycle` (helper lemmas: `LtVerif.Proofs.Lifecycle`, `LifeSys`, `LifeAccept`, `LifeConn`, `LifeLimits`, `LifeH2`).
  The model is tied to the C code by the correspondence streams of tools/ltv/props/c13.py:
  `ct1`/`ct2`/`lc` call h1_check_timeout(), h2_check_timeout() and the load-check step directly;
  `h2d`/`h2h` call h2_recv_data() and http_request_parse_header() (HTTP/2 limits);
  `sc` runs the real server_main_loop() in virtual time against scripted clients;
  `mcl` compares `effMaxConns` with the limit measured on the real server.

  Clause map.  Timeouts: `c13_linger_in_sync`, `c13_sweep_exact`, `c13_idle_fin_sent`, `c13_idle_closed`,
  `c13_reachable_good`, `c13_idle_closed_sys` (HTTP/1.x, over all scripts), `c13_h2_sweep_exact_partial` (HTTP/2: the sweep
  function only).  Limits: `c13_limits_refuse`, `c13_limits_buffer_bounded`, `c13_h2_limits_refuse`.
  Admission: `c13_conn_cap`, `c13_accept_bounded`, `c13_overload_recovers`, `c13_no_idle_wait`,
  `c13_overload_never_permanent` (side condition necessary, witness below), `c13_configured_limit`.
  Graceful stop: `c13_graceful_no_accept`, `c13_graceful_inflight`, `c13_graceful_exit`,
  `c13_graceful_exits`.  No theorem (correspondence only): that in-flight response BYTES arrive
  complete (the model carries none), the HTTP/2 connection lifecycle after the sweep's verdict, the
  event handlers.

  Vocabulary (Model/Lifecycle.lean): `Conn.Rest`, the shapes in which the main loop leaves a connection
  between two events; `Conn.deadline`; `IdleEv`, what can happen to a connection whose client does
  nothing; `runIdle … = none`: closed and its slot returned; `Sys` driven by scripted client actions `Op`.  `Req.Valid` is in
  Proofs/LifeLimits.lean; `Stopping`, `Sys.Good`, `Op.foreign`, `dur` in Proofs/Lifecycle.lean.
-/
import LtVerif.Proofs.Lifecycle
import LtVerif.Proofs.LifeSys
import LtVerif.Proofs.LifeAccept
import LtVerif.Proofs.LifeConn
import LtVerif.Proofs.LifeLimits
import LtVerif.Proofs.LifeH2
namespace LtVerif.C13
open LtVerif.Lifecycle LtVerif.Extracted

/-! ## every connection is eventually released (timeouts) -/

/-- h1.c and connections.c each define HTTP_LINGER_TIMEOUT ("keep in sync"): they agree. -/
theorem c13_linger_in_sync : lingerTimeoutH1 = lingerTimeoutCon := by decide +kernel

/-- The sweep acts on a connection at rest exactly when its deadline has passed: no connection is
    kept beyond it, none is closed before it. -/
theorem c13_sweep_exact (cfg : Cfg) (now : Int) (c : Conn) (hr : c.Rest) :
    (tickConn cfg now c = some c ↔ now ≤ c.deadline cfg) ∧
    (c.deadline cfg < now → tickConn cfg now c = none ∨
      ∃ c', tickConn cfg now c = some c' ∧ c'.st = .close ∧ c'.cts = now) := by
  refine ⟨⟨fun h => Decidable.byContradiction fun hn => ?_, tickConn_before cfg now c hr⟩, fun h => ?_⟩
  · -- past the deadline the result is closing; then `c` was, and is released
    have hc := tickConn_closedBy cfg now c hr (by omega)
    rw [h] at hc
    rw [tickConn_after cfg now c hr (by omega), if_pos (hc c rfl).1] at h
    cases h
  · rw [tickConn_after cfg now c hr h]
    split
    · exact Or.inl rfl
    · exact toClose_cases now c

/-- FIN is sent by the first sweep after the deadline: whatever else happens to the connection
    while its client makes no progress (sweeps at earlier seconds, spurious wake-ups, graceful
    maintenance), after a sweep at a second `a` past the deadline the connection has been shut
    down (close state, lingering since `a` at the latest) or released. -/
theorem c13_idle_fin_sent (cfg : Cfg) (c : Conn) (hr : c.Rest) (e1 : List IdleEv) (a : Int)
    (hmono : ∀ t, IdleEv.tick t ∈ e1 → t ≤ a) (ha : c.deadline cfg < a) :
    ∀ c', runIdle cfg (some c) (e1 ++ [.tick a]) = some c' → c'.st = .close ∧ c'.cts ≤ a :=
  idle_fin_sent cfg c hr e1 a hmono ha

/-- C13, timeouts: a connection whose client makes no progress is released.  For every
    HTTP/1.x connection at rest (idle keep-alive, stalled request head or body, stalled response,
    lingering close) and EVERY schedule of the other events — `e1`, `e2`, `e3` are arbitrary
    interleavings of sweeps, wake-ups and graceful maintenance, the only assumption being that the
    clock does not run backwards before `a` — a sweep at a second `a` past the deadline followed by
    a sweep more than the linger timeout later leaves the connection closed and its slot free.
    With the sweep running every second this is deadline + 1, then + linger + 1. -/
theorem c13_idle_closed (cfg : Cfg) (c : Conn) (hr : c.Rest) (e1 e2 e3 : List IdleEv) (a b : Int)
    (hmono : ∀ t, IdleEv.tick t ∈ e1 → t ≤ a)
    (ha : c.deadline cfg < a) (hb : a + lingerTimeoutH1 < b) :
    runIdle cfg (some c) (e1 ++ [.tick a] ++ e2 ++ [.tick b] ++ e3) = none :=
  idle_closed cfg c hr e1 e2 e3 a b hmono ha hb

/-- Every state a client script can reach is consistent (the connection table is a map, nobody is
    both waiting and being served), its clock is past zero, a returned main loop serves nothing, and
    every one of its connections is at rest in one of the three shapes of `Conn.Rest` — so the
    liveness theorems apply to every connection of every reachable state. -/
theorem c13_reachable_good (cfg : Cfg) (ops : List Op) : ((Sys.init cfg).run cfg ops).Good :=
  run_induct cfg Sys.Good (good_step cfg) _ ops (good_init cfg)

/-- C13, timeouts, at the level of the whole server: take ANY script `pre` and any client `i` that
    has a connection afterwards, in whatever state.  Let the script go on in any way in which `i`
    itself does nothing — every other client may connect, send, stall, read, close, the signal may
    arrive, the clock may tick in any steps — as long as some tick takes the clock past the
    connection's deadline and the ticks after it add up to more than the linger timeout.  Then
    `i`'s connection has been closed and its slot returned. -/
theorem c13_idle_closed_sys (cfg : Cfg) (pre : List Op) (i : Nat) (c : Conn)
    (hc : ((Sys.init cfg).run cfg pre).conn i = some c)
    (ops1 ops2 ops3 : List Op) (n1 n2 : Nat)
    (hf1 : ∀ op ∈ ops1, op.foreign i) (hf2 : ∀ op ∈ ops2, op.foreign i) (hf3 : ∀ op ∈ ops3, op.foreign i)
    (ha : c.deadline cfg < ((Sys.init cfg).run cfg pre).now + dur ops1 + n1)
    (hb : lingerTimeoutH1 < (dur ops2 : Int) + n2) :
    ((Sys.init cfg).run cfg (pre ++ (ops1 ++ [.tick n1] ++ ops2 ++ [.tick n2] ++ ops3))).conn i = none := by
  have hg := c13_reachable_good cfg pre
  rw [run_append]
  generalize (Sys.init cfg).run cfg pre = s at hc ha hg
  exact sys_idle_closed cfg s i c hg.wf hc (hg.rest i c hc) (hg.running hc) ops1 ops2 ops3 n1 n2 hf1 hf2 hf3 ha hb

/-- HTTP/2 (partial): h2_check_timeout() acts on a connection in the write state exactly when it is idle
    (no streams) for more than keep-alive-idle, or some stream is stalled — request body outstanding
    and nothing read for more than max-read-idle, or response in progress and nothing written for more
    than max-write-idle; then the connection leaves the write state (RESPONSE_END / ERROR), whatever the
    other streams do; otherwise it is left alone.  MISSING for the planned `c13_idle_closed` on HTTP/2:
    there is no model of the HTTP/2 glue, so the step from that state to GOAWAY, close and slot release
    is not a theorem (covered end-to-end only: h2-idle, h2-idle-after-request, h2-body-stall,
    h2-window-stall). -/
theorem c13_h2_sweep_exact_partial (v : H2View) (now : Int) (hs : v.st = .write)
    (hne : ∀ s ∈ v.streams, s.st ≠ .error) :
    ((checkTimeoutH2 v now).1 = true ↔
      (v.streams = [] ∧ now - v.rts > v.kaIdle) ∨
      ∃ s ∈ v.streams, s.st ≠ .error ∧
        ((s.bodyPending = true ∧ now - v.rts > s.ri) ∨ (s.st ≠ .readPost ∧ v.wts ≠ 0 ∧ now - v.wts > v.wi))) ∧
    ((checkTimeoutH2 v now).1 = true → (checkTimeoutH2 v now).2.1 ≠ .write) := by
  show (_ ↔ _ ∨ ∃ s ∈ v.streams, s.fires v now) ∧ _
  rw [checkTimeoutH2_eq v now hs hne]
  by_cases he : v.streams = []
  · rw [if_pos he]
    by_cases ht : now - v.rts > v.kaIdle <;> simp [he, ht]
  · rw [if_neg he]
    by_cases hf : ∃ s ∈ v.streams, s.fires v now <;> simp [he, hf]

/-! ## limits are enforced by refusing, not by buffering -/

/-- C13, limits: the answer does not depend on how a request arrives.  For every request (exact head
    length, Content-Length or chunked body, any sizes) and EVERY way of cutting it into pieces arriving
    at arbitrary seconds on a connection waiting for it, exactly one answer is written, and it is the
    one `expectedStatus` reads off the request alone: 431 iff the head is longer than
    max-request-field-size, else 413 iff the declared or the decoded chunked body exceeds
    max-request-size, else 200. -/
theorem c13_limits_refuse (cfg : Cfg) (r : Req) (hv : r.Valid) (segs : List (Int × Nat)) (c : Conn)
    (hs : c.st = .read) (hb : c.hdrBuf = 0) (hp : ∀ x ∈ segs, 0 < x.2) (hsum : segSum segs = reqLen r) :
    (feed cfg r (some c) segs).2 = [expectedStatus cfg r] :=
  feed_expected cfg r hv segs c hs (by rw [hb]; exact hv.1) (by rw [hb]; exact Nat.zero_le _) hp
    (by rw [hb, Nat.zero_add]; exact hsum)

/-- … and what waits in memory between two events is bounded by the limits: an incomplete head
    never occupies more than max-request-field-size; a Content-Length body still being read is
    shorter than its declared length; a chunked body still being read is short of the size line that
    would be refused (about max-request-size plus chunk framing).  A refusal takes nothing of the
    body. -/
theorem c13_limits_buffer_bounded (cfg : Cfg) (now : Int) (c : Conn) (r : Req) (n : Nat) :
    (c.st = .read → ∀ c', (recv cfg now c r n).1 = some c' → c'.st = .read → c'.hdrBuf ≤ cfg.fs) ∧
    (∀ c', (bodyStep cfg now c n).1 = some c' → c'.st = .readPost →
      (c.req.kind = .post → c'.bodyGot < c.req.B) ∧
      (c.req.kind = .chunked → cfg.rs ≠ 0 → c.req.csz ≠ 0 →
        c'.bodyGot < (cfg.rs * 1024 / c.req.csz) * chunkUnit c.req.csz + hexLen c.req.csz + 7)) ∧
    (c.st = .read → r.kind = .post → r.H ≤ c.hdrBuf + n → r.H ≤ cfg.fs → cfg.rs ≠ 0 → cfg.rs * 1024 < r.B →
      ∀ c', (recv cfg now c r n).1 = some c' → c'.st = .close ∧ c'.bodyGot = 0) :=
  ⟨recv_hdrBuf_le cfg now c r n, bodyStep_rest_bounded cfg now c n,
   fun hs hk hh hf hr hb => (recv_cl_413 cfg now c r n hs hk hh hf hr hb).2⟩

/-- C13, limits, HTTP/2: (a) a header list is refused with 431 exactly when the sum of name + value +
    4 over its fields exceeds max-request-field-size (`h2HeadScan` = http_request_parse_header as
    h2_parse_headers_frame drives it); (b) for every sequence of DATA frames of at most `F` bytes on a
    stream, what h2_recv_data buffers never exceeds max-request-size + the 64 kB it sinks so that the
    413 can be sent + one frame, and it exceeds max-request-size only after the 413 has been prepared
    or with the stream's final frame. -/
theorem c13_h2_limits_refuse :
    (∀ (fs : Nat) (fields : List (Nat × Nat)),
      h2HeadStatus fs fields = if (fields.map fun f => f.1 + f.2 + 4).sum > fs then 431 else 0) ∧
    (∀ (max F : Nat) (frames : List (Nat × Bool)), max ≠ 0 → (∀ f ∈ frames, f.1 ≤ F) →
      let b := h2DataRun max {} frames
      b.bytesIn ≤ max + h2SinkAllowance + F ∧ (max < b.bytesIn → b.status = 413 ∨ b.isOpen = false)) :=
  ⟨fun fs fields => (h2HeadScan_eq fs fields 0 0 (Nat.zero_le _)).trans (by rw [Nat.zero_add]),
   fun max F frames hm hf =>
    (h2DataRun_bounded max F hm frames hf {} ⟨Or.inl rfl, fun _ => ⟨Nat.zero_le _, nofun⟩, nofun⟩).seen⟩

/-! ## admission control -/

/-- C13, cap: whatever the clients do (any script of connects, sends, reads, closes, clock ticks,
    signals), the number of connections being served never exceeds the limit the server runs with
    (`cfg.mc`: server.max-connections as server_main_setup clamps it); until the main loop returns,
    connections in use plus free slots is exactly that limit. -/
theorem c13_conn_cap (cfg : Cfg) (ops : List Op) :
    ((Sys.init cfg).run cfg ops).conns.length ≤ cfg.mc ∧
    (((Sys.init cfg).run cfg ops).exited = false →
      ((Sys.init cfg).run cfg ops).conns.length + ((Sys.init cfg).run cfg ops).lim = cfg.mc) := by
  have h := run_total cfg (Sys.init cfg) ops
  have h0 : (Sys.init cfg).total = cfg.mc := by simp [Sys.init, Sys.total]
  rw [h0] at h
  refine ⟨?_, h.2⟩
  have := h.1
  simp only [Sys.total] at this
  omega

/-- One readiness event of the listen socket accepts at most lim_conns (and at most 100)
    connections. -/
theorem c13_accept_bounded (lim : Nat) : acceptCount lim ≤ lim ∧ acceptCount lim ≤ acceptLoopCap :=
  ⟨acceptCount_le lim, acceptCount_le_cap lim⟩

/-- C13, overload recovery, one iteration: once the load has dropped (descriptors below the low
    watermark, a free slot) the very next main-loop iteration re-enables the listen sockets and accepts
    a waiting client in that same iteration — from ANY state, reachable or not. -/
theorem c13_overload_recovers (cfg : Cfg) (s : Sys) (hd : s.disabled = 1) (hf : s.curFds < cfg.lowat)
    (hl : s.lim ≠ 0) (hb : s.backlog ≠ []) :
    (s.round cfg).disabled = 0 ∧ (s.round cfg).backlog.length < s.backlog.length :=
  round_accepts cfg s hf hl hb

/-- C13, a waiting client is accepted once load drops — over whole scripts.  In EVERY state a script
    reaches outside graceful shutdown, the main loop has come to rest (the model's iteration budget is
    proved sufficient) with nobody waiting in the listen queue unless there is no free slot or the
    descriptors in use have not fallen below the low watermark; the descriptor count is the start
    level plus one per connection. -/
theorem c13_no_idle_wait (cfg : Cfg) (ops : List Op)
    (hg : ((Sys.init cfg).run cfg ops).graceful = false) (he : ((Sys.init cfg).run cfg ops).exited = false) :
    (((Sys.init cfg).run cfg ops).backlog ≠ [] →
      ((Sys.init cfg).run cfg ops).lim = 0 ∨ cfg.lowat ≤ ((Sys.init cfg).run cfg ops).curFds) ∧
    ((Sys.init cfg).run cfg ops).curFds = cfg.cf + ((Sys.init cfg).run cfg ops).conns.length := by
  have h := run_noIdleWait cfg (Sys.init cfg) ops (good_init cfg)
    (fun _ _ => ⟨fun hb => absurd rfl hb, by simp [Sys.fdsBase, Sys.init]⟩) hg he
  refine ⟨h.1, ?_⟩
  have := h.2
  simp only [Sys.fdsBase] at this
  omega

/-- C13, overload is never a permanent stall — with the side condition it needs.  If the descriptors
    the server holds apart from client connections are below the low watermark (`cf < lowat`) and the
    connection limit is not zero, then in every reachable state outside graceful shutdown: whenever a
    slot is free and the connections in use leave the descriptor count below the low watermark, nobody
    is waiting — in particular nobody waits beside an empty connection table.  Since every connection
    whose client makes no progress is released (`c13_idle_closed_sys`), waiting ends.  The side
    condition is necessary (see the witness below: with `cf ≥ lowat` a client waits forever beside an
    empty table, in the model and at server.c server_overload_check alike); `mc ≠ 0` holds for every
    configuration the server accepts (`c13_configured_limit`). -/
theorem c13_overload_never_permanent (cfg : Cfg) (ops : List Op)
    (hg : ((Sys.init cfg).run cfg ops).graceful = false) (he : ((Sys.init cfg).run cfg ops).exited = false) :
    (((Sys.init cfg).run cfg ops).conns.length < cfg.mc →
      cfg.cf + ((Sys.init cfg).run cfg ops).conns.length < cfg.lowat →
      ((Sys.init cfg).run cfg ops).backlog = []) ∧
    (cfg.cf < cfg.lowat → cfg.mc ≠ 0 → ((Sys.init cfg).run cfg ops).conns = [] →
      ((Sys.init cfg).run cfg ops).backlog = []) := by
  have h1 := c13_no_idle_wait cfg ops hg he
  have h2 := (c13_conn_cap cfg ops).2 he
  generalize (Sys.init cfg).run cfg ops = s at h1 h2
  have key : s.conns.length < cfg.mc → cfg.cf + s.conns.length < cfg.lowat → s.backlog = [] := by
    intro hs hf
    apply Decidable.byContradiction
    intro hb
    have := h1.2
    rcases h1.1 hb with h | h <;> omega
  refine ⟨key, fun hcf hmc hc => key ?_ ?_⟩
  · rw [hc]; simp; omega
  · rw [hc]; simpa using hcf

/-- server_main_setup(): the connection limit the server runs with is never zero and at most half the
    descriptor limit, whatever server.max-connections says (0 = unset) — every configuration the
    server accepts meets the `mc ≠ 0` side condition above. -/
theorem c13_configured_limit (configured : Nat) (cfg : Cfg) :
    effMaxConns configured cfg.maxFds ≠ 0 ∧ 2 * effMaxConns configured cfg.maxFds ≤ cfg.maxFds :=
  effMaxConns_pos configured cfg.maxFds (cfg_maxFds_ge cfg)

/-! ## graceful stop -/

/-- C13, graceful stop, no new connection: the first signal closes the listen sockets (nobody is
    left waiting in the queue) and fixes the deadline at `now + graceful-shutdown-timeout` (0 = none);
    from then on every step keeps the listen sockets closed, the queue empty and the deadline, and
    serves no client it did not serve before. -/
theorem c13_graceful_no_accept (cfg : Cfg) (s : Sys) :
    (s.graceful = false → s.exited = false → s.disabled ≠ 3 →
      Stopping (s.step cfg .graceful) ∧
      (s.step cfg .graceful).expireTs = (if cfg.gt = 0 then 0 else s.now + cfg.gt) ∧
      (s.step cfg .graceful).conns.length ≤ s.conns.length) ∧
    (Stopping s → ∀ op, Stopping (s.step cfg op) ∧ (s.step cfg op).expireTs = s.expireTs ∧
      ∀ i, (s.step cfg op).conn i ≠ none → s.conn i ≠ none) := by
  refine ⟨fun hg he hd => ?_, fun h op => ?_⟩
  · have hact : s.act cfg .graceful = { s with graceful := true } := by simp [Sys.act, hg, he]
    unfold Sys.step
    rw [hact]
    have := settle_graceful_first cfg { s with graceful := true } rfl he hd
    exact ⟨this.1, this.2.2, this.2.1⟩
  · have h1 := step_stopping cfg s op h
    refine ⟨h1.stopping, h1.expireTs, fun i hi hn => hi ?_⟩
    rw [Sys.conn, lookup_none_iff] at hn ⊢
    exact fun hk => hn (h1.sub.subset hk)

/-- C13, graceful stop, in-flight work is left alone (as far as the model can say it: it carries no
    response bytes — that the bytes arrive complete is checked end to end only).  While stopping and
    before the deadline, for every reachable state and every connection with a request being read or a
    response being written: whatever any other client does, whatever the clock does short of that
    connection's own timeout, the step leaves the connection exactly as it was except that keep-alive is
    switched off, and the main loop keeps running. -/
theorem c13_graceful_inflight (cfg : Cfg) (pre : List Op) (op : Op) (i : Nat) (c : Conn)
    (hs : Stopping ((Sys.init cfg).run cfg pre)) (hc : ((Sys.init cfg).run cfg pre).conn i = some c)
    (hst : c.st = .write ∨ c.st = .readPost) (hf : op.foreign i) (hsig : op ≠ .graceful)
    (hexp : ((Sys.init cfg).run cfg pre).expireTs = 0 ∨
      ((Sys.init cfg).run cfg pre).now + op.dt ≤ ((Sys.init cfg).run cfg pre).expireTs)
    (hdl : ((Sys.init cfg).run cfg pre).now + op.dt ≤ c.deadline cfg) :
    (((Sys.init cfg).run cfg pre).step cfg op).conn i = some { c with keepAlive := false } ∧
    (((Sys.init cfg).run cfg pre).step cfg op).exited = false :=
  graceful_inflight_step cfg _ op i c (c13_reachable_good cfg pre) hs hc hst hf hsig hexp hdl

/-- C13, graceful stop, one step: the first clock tick that takes the time past the deadline drops
    every remaining connection — in-flight responses included: the timeout bounds the exit, not the
    other way round — and the main loop returns; with or without a deadline the loop returns as soon
    as the connection table is empty. -/
theorem c13_graceful_exit (cfg : Cfg) (s : Sys) (h : Stopping s) :
    (∀ n : Nat, s.exited = false → s.expireTs ≠ 0 ∧ s.expireTs < s.now + n → (s.step cfg (.tick n)).exited = true) ∧
    (∀ op, (s.step cfg op).conns = [] → (s.step cfg op).exited = true) :=
  ⟨fun n he hx => step_tick_expired cfg s n h he hx, fun op hc => (step_stopping cfg s op h).exits hc⟩

/-- C13, graceful stop, the process exits within the graceful timeout — over whole scripts.  Take any
    script `pre` after which the server is running normally, send the signal, and let anything at all
    happen (`post`: all clients, further ticks, wake-ups): once the clock has advanced by more than
    graceful-shutdown-timeout (≠ 0) the main loop has returned. -/
theorem c13_graceful_exits (cfg : Cfg) (pre post : List Op) (hgt : cfg.gt ≠ 0)
    (hg : ((Sys.init cfg).run cfg pre).graceful = false) (he : ((Sys.init cfg).run cfg pre).exited = false)
    (hd : (cfg.gt : Int) < dur post) :
    ((Sys.init cfg).run cfg (pre ++ [.graceful] ++ post)).exited = true := by
  have hopen := run_listen_open cfg (Sys.init cfg) pre (fun _ => by simp [Sys.init]) hg
  have hgood := c13_reachable_good cfg pre
  rw [run_append, run_append]
  generalize (Sys.init cfg).run cfg pre = s at hg he hopen hgood
  have h1 := (c13_graceful_no_accept cfg s).1 hg he hopen
  have hrun : s.run cfg [.graceful] = s.step cfg .graceful := rfl
  rw [hrun]
  have hnow : (s.step cfg .graceful).now = s.now := by rw [step_now]; simp [Op.dt]
  have hE : (s.step cfg .graceful).expireTs = s.now + cfg.gt := by rw [h1.2.1, if_neg hgt]
  refine stopping_run_exits cfg _ post h1.1 ?_ (Or.inr ?_) ?_
  · rw [hE]; have := hgood.now; omega
  · rw [hE, hnow]; omega
  · rw [hE, hnow]; omega

/-! ## non-vacuity: concrete instances of the hypotheses -/

/-- an idle keep-alive connection (second request awaited, keep-alive-idle 1 s, last activity at
    second 1000) under the default scenario configuration -/
def exKeepAlive : Conn := { st := .read, n := 2, inEv := true, rts := 1000, kaIdle := 1 }

example : exKeepAlive.Rest := Or.inl ⟨rfl, rfl⟩
example : exKeepAlive.deadline {} = 1001 := by decide +kernel

example : (tickConn {} 1001 exKeepAlive = some exKeepAlive ↔ (1001 : Int) ≤ exKeepAlive.deadline {}) :=
  (c13_sweep_exact {} 1001 exKeepAlive (Or.inl ⟨rfl, rfl⟩)).1

/-- sweeps at 1001 (too early), a wake-up, the decisive sweep at 1002, graceful maintenance, sweeps
    up to 1008: closed and released -/
example : runIdle {} (some exKeepAlive)
    ([.tick 1001, .wake] ++ [.tick 1002] ++ [.graceful false, .tick 1005] ++ [.tick 1008] ++ [.wake]) = none :=
  c13_idle_closed {} exKeepAlive (Or.inl ⟨rfl, rfl⟩) [.tick 1001, .wake] [.graceful false, .tick 1005] [.wake]
    1002 1008 (by intro t ht; simp at ht; omega) (by decide +kernel) (by decide +kernel)

example : ∀ c', runIdle {} (some exKeepAlive) ([.tick 1001, .wake] ++ [.tick 1002]) = some c' →
    c'.st = .close ∧ c'.cts ≤ 1002 :=
  c13_idle_fin_sent {} exKeepAlive (Or.inl ⟨rfl, rfl⟩) [.tick 1001, .wake] 1002
    (by intro t ht; simp at ht; omega) (by decide +kernel)

/-- client 0 connects and never sends anything (max-read-idle 2); meanwhile client 1 connects, sends a
    request, reads the answer, the signal does NOT arrive, the clock ticks 1+2 and later 3+3 seconds -/
example : ((Sys.init {}).run {} ([.open_ 0] ++ ([.open_ 1, .tick 1, .prepare 1 { H := 100 }, .send 1 0] ++ [.tick 2] ++
    [.read 1, .tick 3] ++ [.tick 3] ++ [.close 1]))).conn 0 = none :=
  c13_idle_closed_sys {} [.open_ 0] 0 { rts := 1000 } rfl
    [.open_ 1, .tick 1, .prepare 1 { H := 100 }, .send 1 0] [.read 1, .tick 3] [.close 1] 2 3
    (by intro op h; simp at h; rcases h with rfl | rfl | rfl | rfl <;> simp [Op.foreign, Op.client])
    (by intro op h; simp at h; rcases h with rfl | rfl <;> simp [Op.foreign, Op.client])
    (by intro op h; simp at h; rcases h with rfl; simp [Op.foreign, Op.client])
    (by decide +kernel) (by decide +kernel)

example : ((Sys.init { mc := 2 }).run { mc := 2 } [.open_ 0, .open_ 1, .open_ 2]).Good :=
  c13_reachable_good { mc := 2 } [.open_ 0, .open_ 1, .open_ 2]

/-- a response blocked since second 1000 (max-write-idle 3): released after the sweeps 1004 and 1010 -/
def exBlocked : Conn := { st := .write, n := 1, inEv := false, outEv := true, wts := 1000, rts := 1000 }
example : runIdle {} (some exBlocked) ([] ++ [.tick 1004] ++ [] ++ [.tick 1010] ++ []) = none :=
  c13_idle_closed {} exBlocked (Or.inr (Or.inr (Or.inl ⟨rfl, rfl, by decide +kernel⟩))) [] [] [] 1004 1010
    (by intro t ht; cases ht) (by decide +kernel) (by decide +kernel)

/-- idle: acts at 1003, not at 1002; a stalled upload beside a healthy stream: acts -/
example : (checkTimeoutH2 { st := .write, streams := [], rts := 1000, wts := 1000, kaIdle := 2, wi := 3 } 1003).1 = true ∧
    (checkTimeoutH2 { st := .write, streams := [], rts := 1000, wts := 1000, kaIdle := 2, wi := 3 } 1002).1 = false := by
  constructor
  · exact ((c13_h2_sweep_exact_partial _ 1003 rfl (by simp)).1).mpr (Or.inl ⟨rfl, by decide +kernel⟩)
  · decide +kernel

example : (checkTimeoutH2 { st := .write, streams := [⟨.handleReq, false, 2⟩, ⟨.readPost, true, 2⟩],
                            rts := 1000, wts := 1002, kaIdle := 2, wi := 3 } 1003).1 = true :=
  ((c13_h2_sweep_exact_partial _ 1003 rfl (by decide +kernel)).1).mpr
    (Or.inr ⟨⟨.readPost, true, 2⟩, by simp, by decide +kernel, Or.inl ⟨rfl, by decide +kernel⟩⟩)

/-- a 300-byte head against a 256-byte limit in pieces of 200 + 100 bytes at seconds 1000, 1001: 431;
    a 1025-byte Content-Length against 1 kB, head and body dribbling in: 413; three 512-byte chunks
    against 1 kB in 7 pieces: 413; two of them: 200 -/
example : (feed { fs := 256 } { H := 300 } (some {}) [(1000, 200), (1001, 100)]).2 = [431] :=
  c13_limits_refuse { fs := 256 } { H := 300 } ⟨by decide +kernel, by simp, by simp⟩ _ {} rfl rfl
    (by intro x hx; simp at hx; rcases hx with rfl | rfl <;> decide +kernel) (by decide +kernel)
example : expectedStatus { fs := 256 } { H := 300 } = 431 := by decide +kernel
example : (feed { rs := 1 } { kind := .post, H := 100, B := 1025 } (some {}) [(1000, 60), (1000, 50), (1003, 1015)]).2 = [413] :=
  c13_limits_refuse { rs := 1 } { kind := .post, H := 100, B := 1025 } ⟨by decide +kernel, fun _ => by decide +kernel, by simp⟩ _ {} rfl rfl
    (by intro x hx; simp at hx; rcases hx with rfl | rfl | rfl <;> decide +kernel) (by decide +kernel)
example : expectedStatus { rs := 1 } { kind := .chunked, H := 100, B := 1536, csz := 512 } = 413 ∧
    expectedStatus { rs := 1 } { kind := .chunked, H := 100, B := 1024, csz := 512 } = 200 := by decide +kernel
example : (feed { rs := 1 } { kind := .chunked, H := 100, B := 1024, csz := 512 } (some {})
    [(1000, 100), (1000, 500), (1001, 543)]).2 = [200] :=
  c13_limits_refuse { rs := 1 } { kind := .chunked, H := 100, B := 1024, csz := 512 } ⟨by decide +kernel, by simp, fun _ => by decide +kernel⟩ _ {} rfl rfl
    (by intro x hx; simp at hx; rcases hx with rfl | rfl | rfl <;> decide +kernel) (by decide +kernel)

example : ∀ c', (recv { fs := 256 } 1000 {} { H := 300 } 200).1 = some c' → c'.st = .read → c'.hdrBuf ≤ 256 :=
  (c13_limits_buffer_bounded { fs := 256 } 1000 {} { H := 300 } 200).1 rfl

/-- HTTP/2: the four pseudo-header fields plus a 600-byte field against 256: 431; DATA 500+500+500
    against 1 kB: the third frame is refused (413 prepared, 1000 bytes kept) -/
example : h2HeadStatus 256 [(7, 3), (7, 4), (5, 2), (10, 1), (5, 600)] = 431 := by
  rw [c13_h2_limits_refuse.1]; decide +kernel
example : (h2DataRun 1024 {} [(500, false), (500, false), (500, false)]).bytesIn = 1000 ∧
    (h2DataRun 1024 {} [(500, false), (500, false), (500, false)]).status = 413 := by decide +kernel
example : (h2DataRun 1024 {} [(1024, false), (1, false), (60000, false), (10000, false)]).bytesIn ≤ 1024 + h2SinkAllowance + 60000 :=
  (c13_h2_limits_refuse.2 1024 60000 _ (by decide +kernel) (by intro f hf; simp at hf; rcases hf with rfl | rfl | rfl | rfl <;> decide +kernel)).1

/-- five clients against two slots: two are served, three wait -/
example : let s := (Sys.init { mc := 2 }).run { mc := 2 } [.open_ 0, .open_ 1, .open_ 2, .open_ 3, .open_ 4]
    s.conns.length = 2 ∧ s.lim = 0 ∧ s.disabled = 1 ∧ s.backlog = [2, 3, 4] := by decide +kernel

example : ((Sys.init { mc := 2 }).run { mc := 2 } [.open_ 0, .open_ 1, .open_ 2]).conns.length ≤ 2 :=
  (c13_conn_cap { mc := 2 } [.open_ 0, .open_ 1, .open_ 2]).1

example : acceptCount 250 = 100 ∧ acceptCount 3 = 3 := by decide +kernel

/-- sockets disabled, one slot free again, a client waiting: re-enabled and accepted -/
def exOverloaded : Sys :=
  { lim := 1, curFds := 11, disabled := 1, backlog := [2], conns := [(0, { rts := 1000 })],
    clients := List.replicate maxClients {} }
example : (exOverloaded.round { mc := 2 }).disabled = 0 ∧
    (exOverloaded.round { mc := 2 }).backlog.length < exOverloaded.backlog.length :=
  c13_overload_recovers { mc := 2 } exOverloaded rfl (by decide +kernel) (by decide +kernel) (by decide +kernel)

/-- three clients against one slot, the first leaves: the second is let in, the third still waits —
    because no slot is free -/
example : let s := (Sys.init { mc := 1 }).run { mc := 1 } [.open_ 0, .open_ 1, .open_ 2, .close 0]
    s.backlog = [2] ∧ s.lim = 0 ∧ s.conns.length = 1 := by decide +kernel
example : let s := (Sys.init { mc := 1 }).run { mc := 1 } [.open_ 0, .open_ 1, .open_ 2, .close 0]
    (s.backlog ≠ [] → s.lim = 0 ∨ ({ mc := 1 } : Cfg).lowat ≤ s.curFds) ∧ s.curFds = 10 + s.conns.length :=
  c13_no_idle_wait { mc := 1 } [.open_ 0, .open_ 1, .open_ 2, .close 0] (by decide +kernel) (by decide +kernel)
example : ((Sys.init { mc := 1 }).run { mc := 1 } [.open_ 0, .open_ 1, .close 0, .close 1]).backlog = [] :=
  (c13_overload_never_permanent { mc := 1 } [.open_ 0, .open_ 1, .close 0, .close 1] (by decide +kernel) (by decide +kernel)).2
    (by decide +kernel) (by decide +kernel) (by decide +kernel)

/-- the side condition is necessary: 26 descriptors in use at start against a low watermark of 25 —
    after the only client has left, the next one waits beside an empty connection table, for ever -/
example : let cfg : Cfg := { mc := 1, mf := 32, cf := 26 }
    let s := (Sys.init cfg).run cfg [.open_ 0, .open_ 1, .close 0, .tick 100, .tick 100, .wake]
    s.conns = [] ∧ s.lim = 1 ∧ s.backlog = [1] ∧ s.disabled = 1 ∧ ¬ (cfg.cf < cfg.lowat) := by decide +kernel

example : effMaxConns 0 1024 = 341 ∧ effMaxConns 1000 64 = 32 ∧ effMaxConns 20 1024 = 20 := by decide +kernel
example : effMaxConns 0 ({ mf := 10 } : Cfg).maxFds ≠ 0 := (c13_configured_limit 0 { mf := 10 }).1

/-- a download in progress when the signal arrives -/
def exServing : Sys :=
  { lim := 3, curFds := 11, backlog := [1], conns := [(0, exBlocked)], clients := List.replicate maxClients {} }
example : Stopping (exServing.step {} .graceful) ∧ (exServing.step {} .graceful).expireTs = 1004 := by
  have := (c13_graceful_no_accept {} exServing).1 rfl rfl (by decide +kernel)
  exact ⟨this.1, this.2.1⟩
example : (exServing.step {} .graceful).conns.length = 1 ∧ (exServing.step {} .graceful).backlog = [] := by decide +kernel

/-- a client connects and asks for a big response, the signal arrives, another client tries to connect,
    two seconds pass: the response is still being written, untouched -/
def exPre : List Op := [.open_ 0, .prepare 0 { H := 100, big := true }, .send 0 0, .graceful]
def exWriting : Conn := { st := .write, inEv := false, outEv := true, rts := 1000, wts := 1000, kaIdle := 1,
                          req := { H := 100, big := true } }
example : ((Sys.init {}).run {} exPre).conn 0 = some exWriting := rfl
example : ((((Sys.init {}).run {} exPre).step {} (.tick 2)).conn 0).isSome = true ∧
    (((Sys.init {}).run {} exPre).step {} (.tick 2)).exited = false := by
  have h := c13_graceful_inflight {} exPre (.tick 2) 0 exWriting
    ⟨by decide +kernel, by decide +kernel, by decide +kernel⟩ rfl (Or.inl rfl) (by simp [Op.foreign, Op.client]) (by simp)
    (by decide +kernel) (by decide +kernel)
  exact ⟨by rw [h.1]; rfl, h.2⟩

example : ((exServing.step {} .graceful).step {} (.tick 5)).exited = true :=
  (c13_graceful_exit {} (exServing.step {} .graceful)
    ((c13_graceful_no_accept {} exServing).1 rfl rfl (by decide +kernel)).1).1 5 (by decide +kernel) (by decide +kernel)

/-- the signal while a download is blocked and its client never reads: five seconds later
    (timeout 4) the loop has returned, whatever else happened -/
example : ((Sys.init {}).run {} ([.open_ 0, .prepare 0 { H := 100, big := true }, .send 0 0] ++ [.graceful] ++
    [.tick 2, .open_ 1, .wake, .tick 3])).exited = true :=
  c13_graceful_exits {} [.open_ 0, .prepare 0 { H := 100, big := true }, .send 0 0] [.tick 2, .open_ 1, .wake, .tick 3]
    (by decide +kernel) (by decide +kernel) (by decide +kernel) (by decide +kernel)

end LtVerif.C13
