/-
  C06 — HTTP/2 flow control: never exceed the peer's window, never deadlock.
  Property theorems over Model/H2Flow.lean (send side; lemmas in Proofs/H2Flow.lean) and, for uploads,
  over `creditRun` of Model/H2.lean.  `credit` / `sent` are ghost fields from the CLIENT's point of view
  (RFC 9113 §6.9): initial window 65 535, SETTINGS_INITIAL_WINDOW_SIZE applied retroactively, plus increments.
-/
import LtVerif.Proofs.H2Flow
import LtVerif.Model.H2
namespace LtVerif.C06
open LtVerif

/-- the send windows the server starts from are the RFC 9113 §6.9.2 defaults for the peer
    (constants read back from the real h2_init_con() on every run) -/
theorem c06_initial_windows_are_rfc_defaults :
    Extracted.h2ConnSendWindow = rfcInitialWindow ∧ Extracted.h2PeerInitialWindow = rfcInitialWindow := by
  decide +kernel

/-- **Exact accounting**: after every history of stream openings, SETTINGS changes,
    WINDOW_UPDATEs and write opportunities, each send window equals the credit the client has
    granted minus the DATA sent, on every stream and on the connection. -/
theorem c06_accounting_exact (evs : List FcEv) : CInv (fcRun FcConn.init evs).1 :=
  (CInv.init_holds c06_initial_windows_are_rfc_defaults).run evs

/-- **int32 safety**: after every history the connection window is in [0, 2^31-1], every stream
    window in [-(2^31-1), 2^31-1] (negative only through SETTINGS decreases) and the initial window in
    [0, 2^31-1]: no addition or subtraction in the window logic can wrap. -/
theorem c06_windows_fit_int32 (evs : List FcEv) : RInv (fcRun FcConn.init evs).1 :=
  (RInv.init_holds c06_initial_windows_are_rfc_defaults).run evs

/-- **Stream credit bound**: whenever a stream gets to send (any reachable state, any
    connection window value, any write budget), the DATA it has sent afterwards is at most the
    credit the client has granted on that stream by then. -/
theorem c06_stream_credit_bound (evs : List FcEv) (s : FcStream) (cswin : Int) (budget : Nat)
    (hs : s ∈ (fcRun FcConn.init evs).1.streams) (hsent : 0 < (streamTurn cswin budget s).2) :
    ((streamTurn cswin budget s).1.sent : Int) ≤ (streamTurn cswin budget s).1.credit := by
  have inv := (c06_accounting_exact evs).streams s hs
  have hc := (streamTurn_spec cswin budget s).credit
  have hse := (streamTurn_spec cswin budget s).sent
  have hn := (streamTurn_bound cswin budget s).fits
  unfold SInv at inv
  omega

/-- **Connection credit bound**: after any write pass that sent something, total DATA sent on
    the connection is at most the connection-level credit granted by then. -/
theorem c06_conn_credit_bound (evs : List FcEv) (budget : Nat) :
    let c := (fcRun FcConn.init evs).1
    (writePass c budget).1.sent = c.sent ∨
      ((writePass c budget).1.sent : Int) ≤ (writePass c budget).1.credit := by
  have h1 := ((c06_accounting_exact evs).writePass budget).conn
  have h2 := ((c06_windows_fit_int32 evs).writePass budget).conn
  exact .inr (by omega)

/-- pass-level form of the stream bound: after a write pass every stream either sent nothing or is
    within its credit -/
theorem c06_pass_respects_windows : ∀ (ss : List FcStream) (cswin : Int) (budget : Nat),
    (∀ s ∈ ss, SInv s) →
    ∀ s' ∈ (writePassAux cswin budget ss).streams,
      (∃ s ∈ ss, s'.sent = s.sent ∧ s'.credit = s.credit) ∨ ((s'.sent : Int) ≤ s'.credit) := by
  intro ss cswin budget hall s' hs'
  obtain ⟨s, hs, cw, b, rfl⟩ := writePassAux_mem ss cswin budget s' hs'
  have hc := (streamTurn_spec cw b s).credit
  have hse := (streamTurn_spec cw b s).sent
  have hn := (streamTurn_bound cw b s).fits
  have hinv := hall s hs
  unfold SInv at hinv
  rcases hn with h0 | ⟨_, ha, _⟩
  · exact .inl ⟨s, hs, by omega, hc⟩
  · exact .inr (by omega)

/-- **Mandated errors**.  RFC 9113 §6.9: an increment of 0 on stream 0 is a connection error
    PROTOCOL_ERROR -/
theorem c06_update_zero_conn (c : FcConn) :
    (windowUpdate c 0 0).2 = [.goaway errProtocol] := by
  simp [windowUpdate]

/-- RFC 9113 §6.9.1: an increment that takes the connection window above 2^31−1 is a connection
    error FLOW_CONTROL_ERROR -/
theorem c06_update_overflow_conn (c : FcConn) (inc : Nat) (hi : inc ≠ 0) (ho : c.swin > int32Max - inc) :
    (windowUpdate c 0 inc).2 = [.goaway errFlowControl] := by
  simp [windowUpdate, hi, ho]

/-- RFC 9113 §6.9: an increment of 0 on a stream is a stream error PROTOCOL_ERROR -/
theorem c06_update_zero_stream (c : FcConn) (sid : Nat) (s : FcStream) (h0 : sid ≠ 0)
    (hf : c.streams.find? (·.id = sid) = some s) (hst : s.st = .open) :
    (windowUpdate c sid 0).2 = [.rst sid errProtocol] := by
  simp [windowUpdate, h0, hf, hst]

/-- RFC 9113 §6.9.1: an increment that takes a stream window above 2^31−1 is a stream error
    FLOW_CONTROL_ERROR -/
theorem c06_update_overflow_stream (c : FcConn) (sid inc : Nat) (s : FcStream) (h0 : sid ≠ 0) (hi : inc ≠ 0)
    (hf : c.streams.find? (·.id = sid) = some s) (hst : s.st = .open) (ho : s.swin > int32Max - inc) :
    (windowUpdate c sid inc).2 = [.rst sid errFlowControl] := by
  simp [windowUpdate, h0, hf, hst, hi, ho]

/-- RFC 9113 §6.5.2 / §6.9.2: a SETTINGS_INITIAL_WINDOW_SIZE above 2^31−1 is a connection error
    FLOW_CONTROL_ERROR -/
theorem c06_settings_overflow (c : FcConn) (v : Nat) (hv : (v : Int) > int32Max) :
    (applyInitialWindow c v).2 = [.goaway errFlowControl] := by
  simp [applyInitialWindow, hv]

/-- a SETTINGS_INITIAL_WINDOW_SIZE change that would push the window of any live stream out
    of range is a connection error FLOW_CONTROL_ERROR (RFC 9113 §6.9.2) and changes nothing else -/
theorem c06_settings_overflow_stream (c : FcConn) (v : Nat) (s : FcStream) (hv : ¬ (v : Int) > int32Max)
    (hs : s ∈ c.streams) (hl : s.live = true) (ho : winOverflows s.swin ((v : Int) - c.initWin) = true) :
    (applyInitialWindow c v).2 = [.goaway errFlowControl] ∧
    (applyInitialWindow c v).1 = { c with goaway := some errFlowControl } := by
  have hany : c.streams.any (fun s => s.live && winOverflows s.swin ((v : Int) - c.initWin)) = true := by
    simp only [List.any_eq_true, Bool.and_eq_true]
    exact ⟨s, hs, hl, ho⟩
  simp [applyInitialWindow, hv, hany]

/-- **Resume**: a stream with data pending sends a positive amount at its next turn as soon as
    both windows are positive and allow either the whole remainder or at least 2048 bytes
    (the deferral threshold of h2_send_cqdata).  A client that grants less than
    min(2048, remainder) is NOT guaranteed progress by this implementation. -/
theorem c06_resume (s : FcStream) (cswin : Int) (budget : Nat)
    (hopen : s.st = .open) (hp : 0 < s.pending)
    (hbudget : 2048 ≤ budget ∨ s.pending ≤ budget) (hb0 : 0 < budget)
    (hwin : (2048 ≤ s.swin ∧ 2048 ≤ cswin) ∨ ((s.pending : Int) ≤ s.swin ∧ (s.pending : Int) ≤ cswin)) :
    0 < (streamTurn cswin budget s).2 := by
  have := streamTurn_progress s cswin budget hopen hbudget hwin
  omega

/-- progress measure -/
theorem c06_turn_decreases_pending (s : FcStream) (cswin : Int) (budget : Nat) :
    (streamTurn cswin budget s).1.pending + (streamTurn cswin budget s).2 = s.pending := by
  rw [(streamTurn_spec cswin budget s).pending]
  exact Nat.sub_add_cancel (streamTurn_bound cswin budget s).le_pending

/-- **Completion**: once the credit granted covers the remainder on the stream and on the connection,
    every sequence of write opportunities of at least 2048 octets each (the deferral threshold) drains
    the body: after ⌊pending/2048⌋+1 turns the stream has sent exactly its remaining body and is ended.
    (`turns` charges the connection window with what the stream itself sends; other streams only
    matter through the hypothesis on the connection window.) -/
theorem c06_completes (s : FcStream) (cw : Int) (bs : List Nat)
    (hopen : s.st = .open) (hs : (s.pending : Int) ≤ s.swin) (hc : (s.pending : Int) ≤ cw)
    (hb : ∀ b ∈ bs, 2048 ≤ b) (hl : s.pending < 2048 * bs.length) :
    (turns s cw bs).1.st = .closed ∧ (turns s cw bs).1.pending = 0 ∧
    (turns s cw bs).1.sent = s.sent + s.pending :=
  turns_complete bs s cw hopen hs hc hb hl

/-- non-vacuity: a 5000-octet body with 5000 octets of credit completes in 3 turns of 2048 -/
example : (turns { id := 1, swin := 5000, credit := 5000, pending := 5000 } 5000
            [2048, 2048, 2048]).1.pending = 0 ∧
          (turns { id := 1, swin := 5000, credit := 5000, pending := 5000 } 5000
            [2048, 2048, 2048]).1.sent = 5000 := by decide +kernel

/-- **Pass progress** with any number of streams: if some open stream has data pending and
    the credit for it on both levels, a write pass with a budget of at least 2048 octets sends
    something, wherever that stream sits in the scheduler's order. -/
theorem c06_pass_progress (ss : List FcStream) (cswin : Int) (budget : Nat) (hb : 2048 ≤ budget)
    (h : ∃ s ∈ ss, s.st = .open ∧ 0 < s.pending ∧ (s.pending : Int) ≤ s.swin ∧ (s.pending : Int) ≤ cswin) :
    0 < (writePassAux cswin budget ss).total :=
  writePassAux_progress ss cswin budget hb h

/-- **Every response completes** (connection level): once the credit granted covers what is still to
    be sent, per stream and on the connection (`Ample`), every sequence of write passes with budgets of
    at least 2048 octets drains all open streams: after at most as many passes as octets were pending
    nothing is pending on any open stream and exactly those octets were sent.  (That a write pass
    happens at all is the event loop's business.) -/
theorem c06_all_streams_complete (c : FcConn) (bs : List Nat) (ha : Ample c)
    (hb : ∀ b ∈ bs, 2048 ≤ b) (hl : openPending c.streams ≤ bs.length) :
    openPending (passes c bs).streams = 0 ∧ (passes c bs).sent = c.sent + openPending c.streams :=
  passes_complete bs c ha hb hl

/-- non-vacuity: two streams, ample credit, three passes of 4096 octets -/
example :
    let c : FcConn := { swin := 9000, initWin := 65535, credit := 9000, clientInit := 65535,
                        streams := [{ id := 1, swin := 5000, credit := 5000, pending := 5000 },
                                    { id := 3, swin := 3000, credit := 3000, pending := 3000 }] }
    openPending (passes c [4096, 4096, 4096]).streams = 0 ∧ (passes c [4096, 4096, 4096]).sent = 8000 := by
  decide +kernel

/-! non-vacuity: the boundary history that distinguishes 65535 from 65536 -/
example : (fcRun FcConn.init [.windowUpdate 0 100000, .openStream 1 65536 false,
                              .write 262144, .write 262144, .write 262144]).1.streams.map (·.sent) = [65535] := by
  decide +kernel
example : 0 < (streamTurn 100000 262144 { id := 1, swin := 65535, pending := 65536, credit := 65535 }).2 := by
  decide +kernel

/-- **Upload progress**: for every sequence of DATA frames of legal size (≤ 16384, the advertised
    SETTINGS_MAX_FRAME_SIZE) the 16 KiB accumulator of h2_send_window_update_unit() stays in [0, 16384)
    and the credit returned differs from the bytes received by exactly its change.  From lighttpd's
    start value 0 the credit returned is at least what was received and ahead by less than one frame,
    so a client that respects the window can always send more. -/
theorem c06_upload_credit_returned (lens : List Nat) (hl : ∀ l ∈ lens, l ≤ 16384) :
    ∀ (f : Int), 0 ≤ f → f < 16384 →
      let r := creditRun f lens
      0 ≤ r.1 ∧ r.1 < 16384 ∧ (r.2 : Int) - (lens.sum : Int) = r.1 - f := by
  induction lens with
  | nil => intro f h0 h1; simp [creditRun, h0, h1]
  | cons l rest ih =>
    intro f h0 h1
    obtain ⟨hl0, hrest⟩ := List.forall_mem_cons.1 hl
    have ih := ih hrest
    simp only [creditRun, List.sum_cons]
    by_cases h : f - l < 0
    · rw [show fudgeUpdate f l = (f - l + 16384, true) from if_pos h]
      have := ih (f - l + 16384) (by omega) (by omega)
      simp only [if_true] at this ⊢
      omega
    · rw [show fudgeUpdate f l = (f - l, false) from if_neg h]
      have := ih (f - l) (by omega) (by omega)
      simp only [Bool.false_eq_true, if_false] at this ⊢
      omega

/-- the windows advertised in the server connection preface (read back from the code) -/
theorem c06_advertised_windows :
    Extracted.h2AdvInitialWindow = 65536 ∧ Extracted.h2AdvConnWindowUpdate + 65535 = 262144 ∧
    Extracted.h2ConnRecvWindow = 262144 ∧ Extracted.h2AdvMaxFrameSize = 16384 := by decide +kernel

end LtVerif.C06
