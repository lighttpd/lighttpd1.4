/-
  C18 — WebDAV operations match a reference tree; PUT is all-or-nothing.

  Part 1 is about the tree model `Dav.step` (one request = one transition of the collection),
  part 2 about the system-call protocol of PUT (`DavPut.stepEv`),
  part 3 about the C function behind the conditional headers (`DavCond.precond`).
-/
import LtVerif.Proofs.DavSeq
import LtVerif.Proofs.DavStatus
import LtVerif.Proofs.DavDest
import LtVerif.Proofs.DavPut
import LtVerif.Proofs.DavExamples
import LtVerif.Proofs.DavCond
namespace LtVerif.C18
open LtVerif LtVerif.B LtVerif.Dav

/-! ## 1. the tree -/

/-- A request that is not answered 2xx leaves the tree unchanged (the very same tree, not merely an equal one). -/
theorem c18_error_unchanged (t : Tree) (r : Req) (h : ¬ Success (step t r).1) : (step t r).2 = t :=
  step_error h

example : (step Ex.t0 Ex.putBad).1 = 409 ∧ ¬ Success (step Ex.t0 Ex.putBad).1 := by decide +kernel

/-- A request answered 2xx (other than 207 Multi-Status) has exactly the effect RFC 4918 prescribes:
    for every well-formed tree and every request the reference covers (`Conforming`: the
    destination of a COPY/MOVE is not an existing non-empty collection — lighttpd's documented
    merge — and a file is not copied "into" a collection). -/
theorem c18_success_effect (t : Tree) (r : Req) (hwf : WF t) (hc : Conforming t r)
    (hs : Success (step t r).1) (h207 : (step t r).1 ≠ 207) :
    ∀ q, get (step t r).2 q = rfcEffect (get t) r q :=
  step_effect hwf hc hs h207

example : WF Ex.t0 := wfb_sound (by decide +kernel)
example : Conforming Ex.t0 Ex.copyDtoF := by decide +kernel
example : Success (step Ex.t0 Ex.copyDtoF).1 ∧ (step Ex.t0 Ex.copyDtoF).1 ≠ 207 ∧
    get (step Ex.t0 Ex.copyDtoF).2 (Ex.p ["f", "x"]) = some (.file (ofString "dx")) := by decide +kernel

/-- WHICH status must occur: a covered request is answered with success (2xx other than 207) exactly
    when the RFC 4918 preconditions hold — `rfcPre`, an independent specification stated on the
    lookup function alone (parent collection exists, target/destination kind, Overwrite, source ≠
    destination, Depth and slash rules, conditional headers). -/
theorem c18_status_rfc (t : Tree) (r : Req) (hwf : WF t) (hc : Conforming t r) (hg : r.m ≠ .get) :
    isSuccess (step t r).1 = rfcPre (get t) r :=
  step_status hwf hc hg

example : rfcPre (get Ex.t0) Ex.putA = true ∧ rfcPre (get Ex.t0) Ex.putBad = false ∧
    rfcPre (get Ex.t0) Ex.moveAtoDz = true := by decide +kernel

/-- For a covered request 207 Multi-Status only reports a refusal at the top level: the tree is the
    very same tree (partial effects exist only in lighttpd's merge, which is not covered). -/
theorem c18_multistatus_unchanged (t : Tree) (r : Req) (hc : Conforming t r) (h : (step t r).1 = 207) :
    (step t r).2 = t :=
  step_207_unchanged hc h

theorem c18_frame (t : Tree) (r : Req) (q : Path) (hs : under r.src.segs q = false)
    (hd : ∀ d, r.dst = .ok d → under d.segs q = false) : get (step t r).2 q = get t q :=
  step_frame hs hd

/-- Nothing outside the WebDAV root is touched by any sequence of requests addressed below the
    root (and `mkDest` only produces destinations below the root). -/
theorem c18_confined (root : Path) (t : Tree) (reqs : List Req) (hb : ∀ r ∈ reqs, Below root r)
    (q : Path) (hq : under root q = false) : get (run t reqs) q = get t q :=
  run_confined reqs t hb hq

example : get (run Ex.t0 Ex.seq1) [Ex.sg "canary"] = some (.file (ofString "C")) ∧
    under Ex.R [Ex.sg "canary"] = false := by decide +kernel

/-- PARTIAL.  The same statement for a URL space narrower than the document root (the part of the
    tree where `webdav.activate` / `!webdav.is-readonly` holds): nothing outside `scope` changes —
    provided every Destination lies in `scope` as well.  What is missing for the full clause
    "nothing outside the configured WebDAV tree is touched": mod_webdav_copymove_b never re-evaluates
    the configuration for the Destination (documented upstream), so that proviso is not enforced by
    the code; see the witness below. -/
theorem c18_confined_scope_partial (scope : Path) (t : Tree) (r : Req) (hs : under scope r.src.segs = true)
    (hd : ∀ d, r.dst = .ok d → under scope d.segs = true) (q : Path) (hq : under scope q = false) :
    get (step t r).2 q = get t q :=
  step_confined ⟨hs, hd⟩ hq

/-- Witness of the negation without the proviso: a COPY addressed inside the scope `/d/` whose
    Destination `/a` lies outside of it (inside the document root) is accepted and overwrites `/a`. -/
theorem c18_destination_scope_unchecked :
    under Ex.scope Ex.copyDxToA.src.segs = true ∧ under Ex.scope (Ex.p ["a"]) = false ∧
    isSuccess (step Ex.t0 Ex.copyDxToA).1 = true ∧
    get (step Ex.t0 Ex.copyDxToA).2 (Ex.p ["a"]) ≠ get Ex.t0 (Ex.p ["a"]) := by
  decide +kernel

/-- Every Destination value that mod_webdav_copymove_b accepts is a canonical absolute path: its
    segments are non-empty, not "." or "..", and free of '/', and the physical destination is the
    root followed by these segments. -/
theorem c18_dest_contained (root : Path) (scheme authority raw : Bytes) (d : RPath)
    (h : mkDest root scheme authority (some raw) = .ok d) :
    under root d.segs = true ∧ ∃ p, parseDest scheme authority raw = .ok p ∧ CanonicalAbs p ∧
      d.segs = root ++ (toRPath p).segs ∧ AllClean (toRPath p).segs := by
  obtain ⟨v, p, hv, hp, rfl⟩ := mkDest_ok h
  cases hv
  exact ⟨under_append _ _, p, hp, parseDest_canonical hp, rfl, toRPath_clean (parseDest_canonical hp)⟩

example : mkDest Ex.R (ofString "http") (ofString "dav.test") (some (ofString "http://dav.test/x/../../%2e%2e/b?q"))
    = .ok ⟨Ex.p ["b"], false⟩ := by decide +kernel

theorem c18_wf_preserved (t : Tree) (r : Req) (hwf : WF t) (hc : Conforming t r) : WF (step t r).2 :=
  step_wf hwf hc

/-- After any sequence of covered requests the tree is the RFC 4918 reference tree of that sequence,
    where the reference decides by itself (`rfcPre`) which requests take effect — it does not consume
    the statuses of the implementation — and the success/failure answers are exactly the reference's
    decisions (sequences without GET, whose status is about the read, not the tree). -/
theorem c18_matches_reference (t : Tree) (reqs : List Req) (hwf : WF t) (hc : CoveredRun t reqs) :
    get (run t reqs) = refRunPre (get t) reqs ∧ WF (run t reqs) ∧
    ((∀ r ∈ reqs, r.m ≠ .get) → (statuses t reqs).map isSuccess = refDecisions (get t) reqs) :=
  ⟨(run_matches_pre reqs t hwf hc).1, (run_matches_pre reqs t hwf hc).2, run_decisions reqs t hwf hc⟩

example : CoveredRun Ex.t0 Ex.seq1 := by decide +kernel
example : statuses Ex.t0 Ex.seq1 = [204, 409, 201, 200, 201, 204] := by decide +kernel
example : refDecisions (get Ex.t0) Ex.seq1 = [true, false, true, true, true, true] := by decide +kernel

/-- The documented exception is real: a collection copied onto an existing non-empty collection
    is merged (here `/e/y` survives), which is not the RFC 4918 effect. -/
theorem c18_merge_not_reference :
    Success (step Ex.t0 Ex.copyDtoE).1 ∧
    get (step Ex.t0 Ex.copyDtoE).2 (Ex.p ["e", "y"]) ≠ rfcEffect (get Ex.t0) Ex.copyDtoE (Ex.p ["e", "y"]) := by
  decide +kernel

/-- …and in a merge a member that cannot be placed (file onto a collection) is reported (207) and,
    for MOVE, stays at the source (repaired behaviour: DESIGN.md §6/C18, D30). -/
theorem c18_merge_member_failure :
    (step Ex.t0 Ex.moveDtoE).1 = 207 ∧
    get (step Ex.t0 Ex.moveDtoE).2 (Ex.p ["d", "x"]) = some (.file (ofString "dx")) := by
  decide +kernel

/-! ## 2. PUT as a system-call protocol -/

open LtVerif.DavPut

/-- At every state of every run — any schedule of write sizes, failed system calls and client
    aborts — the target name holds its complete previous content or the complete new content. -/
theorem c18_put_atomic (c : Cfg) (evs : List Ev) (s : PSt) (h : runEvs c (init c) evs = some s) :
    s.read = c.old ∨ s.read = some c.new :=
  (inv_run (inv_init c) (invS_init c) h).1.1

/-- A crash or SIGKILL after the k-th system call: acceptance is prefix closed. -/
theorem c18_put_atomic_at_crash (c : Cfg) (evs : List Ev) (s : PSt) (h : runEvs c (init c) evs = some s)
    (k : Nat) : ∃ s', runEvs c (init c) (evs.take k) = some s' ∧ (s'.read = c.old ∨ s'.read = some c.new) := by
  obtain ⟨s', hs'⟩ := runEvs_take k h
  exact ⟨s', hs', c18_put_atomic c _ s' hs'⟩

example : (runEvs Ex.cRepl (init Ex.cRepl) Ex.runRepl).map (·.read) = some (some (ofString "hello")) := by decide +kernel
example : (runEvs Ex.cRepl (init Ex.cRepl) (Ex.runRepl.take 5)).map (·.read) = some (some (ofString "old")) := by
  decide +kernel

/-- A completed or aborted (not crashed) upload leaves neither a staged name nor the anonymous
    staging file behind. -/
theorem c18_no_tmp_left (c : Cfg) (evs : List Ev) (s : PSt) (h : runEvs c (init c) evs = some s)
    (hd : s.pc = .done) : s.tmp = none ∧ s.anon = none := by
  have := (inv_run (inv_init c) (invS_init c) h).1.2
  rw [hd] at this
  exact this

example : (runEvs Ex.cRepl (init Ex.cRepl) Ex.runEnospc).map (fun s => (s.pc, s.tmp, s.anon, s.read)) =
    some (.done, none, none, some (ofString "old")) := by decide +kernel
example : (runEvs Ex.cNew (init Ex.cNew) Ex.runAbort).map (fun s => (s.pc, s.tmp, s.anon, s.read)) =
    some (.done, none, none, none) := by decide +kernel
example : (runEvs Ex.cNew (init Ex.cNew) Ex.runByName).map (fun s => (s.pc, s.tmp, s.anon, s.read)) =
    some (.done, none, none, some (ofString "hello")) := by decide +kernel

/-- Success is decided exactly when the new content has been published: status class 2 means the
    target holds the new content, anything else means it still holds the old content. -/
theorem c18_put_status_exact (c : Cfg) (evs : List Ev) (s : PSt) (h : runEvs c (init c) evs = some s) :
    (s.status = 2 → s.read = some c.new) ∧ (s.status ≠ 2 → s.read = c.old) := by
  have := (inv_run (inv_init c) (invS_init c) h).2
  exact ⟨fun h2 => (this.1 h2).1, this.2⟩

/-- While the staged name of the O_TMPFILE protocol exists it holds the complete new content. -/
theorem c18_put_staged_complete (c : Cfg) (evs : List Ev) (s : PSt) (h : runEvs c (init c) evs = some s)
    (hp : s.pc = .linked ∨ s.pc = .needRename ∨ s.pc = .byNameC) : s.tmp = some c.new := by
  have := (inv_run (inv_init c) (invS_init c) h).1.2
  rcases hp with hp | hp | hp <;> rw [hp] at this <;> exact this

/-- Progress / totality of the code-shaped reading of the automaton: under EVERY schedule of
    kernel answers every call the code issues (`next`) is accepted, and the
    request terminates in state `done` within `21·span` calls — where no staged name and no staging
    file is left, the target is complete-old or complete-new, and the status says which. -/
theorem c18_put_progress (c : Cfg) (res : Nat → Res) :
    ∃ s, runGen c res (21 * span c) 0 (init c) = some s ∧ s.pc = .done ∧ s.tmp = none ∧ s.anon = none ∧
      (s.read = c.old ∨ s.read = some c.new) ∧ (s.status = 2 → s.read = some c.new) ∧
      (s.status ≠ 2 → s.read = c.old) := by
  obtain ⟨s, h1, h2, h3, h4⟩ := runGen_done res (21 * span c) 0 (init c) (inv_init c) (invS_init c) (rank_init c)
  have hp := h3.2
  rw [h2] at hp
  exact ⟨s, h1, h2, hp.1, hp.2, h3.1, fun h => (h4.1 h).1, h4.2⟩

example : (runGen Ex.cRepl (fun _ => {}) (21 * span Ex.cRepl) 0 (init Ex.cRepl)).map (fun s => (s.pc, s.status, s.read)) =
    some (.done, 2, some (ofString "hello")) := by decide +kernel
example : (runGen Ex.cRepl Ex.sched (21 * span Ex.cRepl) 0 (init Ex.cRepl)).map (fun s => (s.pc, s.status, s.read)) =
    some (.done, 4, some (ofString "old")) := by decide +kernel

/-- Witnesses about the shape of the protocol: Content-Range PUT (copy, modify, close, rename) and
    zero-length replacement are accepted and atomic, also with a failed write or a failed close();
    what the code as found did — rename after a failed write, rename before close(), truncating the
    target in place — is not a word of the protocol. -/
theorem c18_put_protocol_witnesses :
    (runEvs Ex.cPart (init Ex.cPart) Ex.runPart).map (·.read) = some (some (ofString "0AB3")) ∧
    (runEvs Ex.cPart (init Ex.cPart) Ex.runPartFail).map (fun s => (s.pc, s.tmp, s.read)) =
      some (.done, none, some (ofString "0123")) ∧
    (runEvs Ex.cPart (init Ex.cPart) Ex.runPartCloseFail).map (fun s => (s.pc, s.tmp, s.status, s.read)) =
      some (.done, none, 4, some (ofString "0123")) ∧
    runEvs Ex.cPart (init Ex.cPart) Ex.runPartBug = none ∧
    runEvs Ex.cPart (init Ex.cPart) Ex.runPartBug2 = none ∧
    (runEvs Ex.cZero (init Ex.cZero) Ex.runZero).map (fun s => (s.pc, s.tmp, s.read)) = some (.done, none, some []) ∧
    runEvs Ex.cZero (init Ex.cZero) Ex.runZeroBug = none := by
  refine ⟨by decide +kernel, by decide +kernel, by decide +kernel, by decide +kernel, by decide +kernel, by decide +kernel, by decide +kernel⟩

/-! ## 3. conditional request headers (webdav_if_match_or_unmodified_since, http_etag_create)

  `DavCond.precond` is the C function on concrete header bytes, a concrete `struct stat` / errno and the
  configured etag flags; part 1 uses only the truth values (`Dav.Pre`). -/

section Conditional
open DavCond Cond Date

/-- The Bool record `Dav.Pre` of the tree model is the verdict of the C function: with entity tags enabled,
    If-None-Match absent or "*", and a lookup that found the resource or failed with ENOENT/ENOTDIR, the
    function answers 0 iff `Pre.holds` of the abstracted truth values holds — so `c18_status_rfc` /
    `c18_matches_reference` speak about the real evaluation. -/
theorem c18_precond_refines_pre (now : Int) (flags : Nat) (im inm ius : Option Bytes) (lk : Lk)
    (hf : flags ≠ 0) (hlk : lk ≠ .other) (hinm : inm = none ∨ inm = some [42]) :
    precond now flags im inm ius lk = 0 ↔ (toPre now flags im inm ius lk).holds lk.ex = true := by
  rw [precond_zero_iff now flags im inm ius lk hf]
  simp only [Dav.Pre.holds, toPre, Bool.and_eq_true]
  rw [and_assoc]
  refine and_congr ?_ (and_congr ?_ ?_)
  · cases im <;> cases lk <;> simp [imFails, Lk.ex]
  · rcases hinm with rfl | rfl <;> cases lk <;> simp_all [inmFails, Lk.ex, etagMatches_star]
  · cases ius <;> cases lk <;> simp [iusFails, Lk.ex]

example : precond 0 7 (some (ofString "\"1\"")) (some [42]) none .enoent = 412 ∧
    (toPre 0 7 (some (ofString "\"1\"")) (some [42]) none .enoent).holds false = false := by decide +kernel

theorem c18_precond_none (now : Int) (flags : Nat) (lk : Lk) : precond now flags none none none lk = 0 := by
  simp [precond]

example : precond 5 7 none none none .other = 0 := by decide +kernel

/-- If-Match with a well-formed entity-tag list (RFC 9110 `#entity-tag`, any separators/whitespace, weak
    and strong members) on an existing resource passes iff some listed tag is STRONG and has the opaque
    tag of the current validator (RFC 9110 13.1.1, strong comparison) — for every stat record and flags. -/
theorem c18_ifmatch_list (now : Int) (flags : Nat) (st : Stat) (hf : flags ≠ 0) (sep0 : Bytes)
    (items : List (ETag × Bytes)) (h0 : AllDelim sep0) (hok : ItemsOk items) :
    precond now flags (some (etagListText sep0 items)) none none (.found st) = 0 ↔
      items.any (fun x => ETag.cmp false (curTag st flags) x.1) = true := by
  rw [precond_zero_iff _ _ _ _ _ _ hf]
  simp only [imFails, inmFails, iusFails, and_true, Bool.not_eq_false']
  rw [etagCreate_text st flags hf, etagMatches_list _ (curTag_wf st flags) false sep0 items h0 hok]

/-- If-None-Match with a well-formed list on an existing resource passes iff NO listed tag (weak
    comparison) has the opaque tag of the current validator. -/
theorem c18_ifnonematch_list (now : Int) (flags : Nat) (st : Stat) (hf : flags ≠ 0) (sep0 : Bytes)
    (items : List (ETag × Bytes)) (h0 : AllDelim sep0) (hok : ItemsOk items) :
    precond now flags none (some (etagListText sep0 items)) none (.found st) = 0 ↔
      items.any (fun x => ETag.cmp true (curTag st flags) x.1) = false := by
  rw [precond_zero_iff _ _ _ _ _ _ hf]
  simp only [imFails, inmFails, iusFails, and_true, true_and]
  rw [etagCreate_text st flags hf, etagMatches_list _ (curTag_wf st flags) true sep0 items h0 hok]

example : AllDelim (ofString " ") ∧
    ItemsOk [(⟨true, ofString "7"⟩, ofString ", "), (curTag ⟨1, 2, 3, 4⟩ 7, [])] := by
  refine ⟨by unfold AllDelim; decide, by unfold ETag.WF; decide, by unfold ETag.NoDelim; decide,
    by unfold AllDelim; decide, fun _ => by decide, single_ok _ _⟩

/-- The entity tag the server hands out for the current state passes If-Match on that state … -/
theorem c18_ifmatch_current (now : Int) (flags : Nat) (st : Stat) (hf : flags ≠ 0) :
    precond now flags (some (etagCreate st flags)) none none (.found st) = 0 := by
  rw [precond_zero_iff _ _ _ _ _ _ hf]
  simp [imFails, inmFails, iusFails, etagMatches_cur st st flags hf]

/-- … and an entity tag handed out for a state whose tag differs from the current one is refused with
    412 whatever the other two headers say (lost-update protection: the PUT/DELETE/MOVE handlers return
    before touching the tree, `c18_error_unchanged`).  The hypothesis is about TAGS, not states:
    see `c18_etag_not_injective`. -/
theorem c18_ifmatch_stale (now : Int) (flags : Nat) (st0 st : Stat) (inm ius : Option Bytes) (hf : flags ≠ 0)
    (hne : etagCreate st flags ≠ etagCreate st0 flags) :
    precond now flags (some (etagCreate st0 flags)) inm ius (.found st) = 412 := by
  have h : imFails flags (some (etagCreate st0 flags)) (.found st) = true := by
    simp [imFails, etagMatches_cur st st0 flags hf, hne]
  unfold precond
  simp [hf, h]

example : etagCreate ⟨1234, 11, 1700000000, 0⟩ 7 ≠ etagCreate ⟨1234, 10, 1700000000, 0⟩ 7 := by decide +kernel

/-- The validator is a 32-bit rotate-xor hash of (inode, size, mtime, nanoseconds), linear over GF(2):
    different states can carry the same entity tag, so If-Match is a probabilistic guard.  Witness with the
    default flags: same inode and second, 10 bytes vs 14 bytes written 33.554432 ms later. -/
theorem c18_etag_not_injective :
    etagCreate ⟨1234, 10, 1700000000, 0⟩ 7 = etagCreate ⟨1234, 14, 1700000000, 33554432⟩ 7 ∧
    precond 0 7 (some (etagCreate ⟨1234, 10, 1700000000, 0⟩ 7)) none none
      (.found ⟨1234, 14, 1700000000, 33554432⟩) = 0 := by
  refine ⟨by decide +kernel, by decide +kernel⟩

/-- `If-Match: *` passes exactly on an existing resource, `If-None-Match: *` exactly when the lookup failed
    with ENOENT/ENOTDIR (create-only PUT; any other lstat error is answered 412). -/
theorem c18_star_iff_exists (now : Int) (flags : Nat) (lk : Lk) (hf : flags ≠ 0) :
    (precond now flags (some [42]) none none lk = 0 ↔ lk.ex = true) ∧
    (precond now flags none (some [42]) none lk = 0 ↔ (lk = .enoent ∨ lk = .enotdir)) := by
  constructor
  all_goals
    rw [precond_zero_iff _ _ _ _ _ _ hf]
    cases lk <;> simp [imFails, inmFails, iusFails, Lk.ex, etagMatches_star]

example : precond 0 2 none (some [42]) none .other = 412 ∧ precond 0 2 none (some [42]) none .enotdir = 0 := by
  decide +kernel

/-- If-Unmodified-Since alone (independent of the etag flags) passes iff the resource exists, the value
    parses as an HTTP-date `t` (any of the three formats) ≠ -1 and the modification time is not later. -/
theorem c18_ius_iff (now : Int) (flags : Nat) (d : Bytes) (lk : Lk) :
    precond now flags none none (some d) lk = 0 ↔
      ∃ st t, lk = .found st ∧ dateToTime now d = some t ∧ st.mtime ≤ t ∧ t ≠ -1 := by
  have h : precond now flags none none (some d) lk = if iusFails now (some d) lk then 412 else 0 := by
    unfold precond
    by_cases hf : flags = 0 <;> simp [hf, imFails, inmFails]
  rw [h]
  cases lk with
  | found st =>
    simp only [iusFails, Lk.found.injEq, exists_and_left, exists_eq_left', ← ifModifiedSince_false_iff]
    by_cases hm : ifModifiedSince now d st.mtime = true <;> simp [hm]
  | _ => simp [iusFails]

/-- With the date the server itself renders (http_date_time_to_str, years 1000–9999) the test is the
    comparison of instants: a client echoing Last-Modified of the current state passes, one echoing an
    older Last-Modified gets 412. -/
theorem c18_ius_rendered (now : Int) (flags : Nat) (st : Stat) (t : Int)
    (h0 : -30610224000 ≤ t) (h1 : t ≤ 253402300799) (hm1 : t ≠ -1) :
    precond now flags none none (some (timeToStr t)) (.found st) = 0 ↔ st.mtime ≤ t := by
  rw [c18_ius_iff, timeToStr_eq t h0 h1]
  have hr := (imf_roundtrip now t h0 h1).2
  constructor
  · rintro ⟨st', t', hst, hd, hle, _⟩
    cases hst
    rw [hr] at hd
    cases hd
    exact hle
  · intro hle
    exact ⟨st, t, rfl, hr, hle, hm1⟩

example : precond 0 0 none none (some (timeToStr 1700000000)) (.found ⟨1, 2, 1700000001, 0⟩) = 412 := by decide +kernel

/-- server.etag-flags empty (`etag_flags = 0`): If-Match and If-None-Match are not evaluated at all. -/
theorem c18_flags0_ignores_entity_tags (now : Int) (im inm ius : Option Bytes) (lk : Lk) :
    precond now 0 im inm ius lk = precond now 0 none none ius lk := by
  rw [precond_flags0, precond_flags0]

example : precond 0 0 (some (ofString "\"x\"")) none none .enoent = 0 := by decide +kernel

end Conditional

end LtVerif.C18
