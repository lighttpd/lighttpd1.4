/-
  C09 — backends receive exactly the client's request (env, headers, body).
  Property theorems and examples (helper lemmas live in LtVerif/Proofs).

  Models: Model/Cgi.lean, Model/Fcgi.lean, Model/Scgi.lean (with `ScgiBuf`), Model/ProxyReq.lean;
  borrowed: `parseTarget` (Model/Burl.lean), `singleHeader` (Model/H1Parse.lean).

  Clause map (property statement -> theorem): header->variable mapping: c09_varname,
  c09_header_vars_sound/_complete, c09_no_override, c09_header_ids; meta-variables: c09_meta_rfc3875,
  c09_content_length_first, c09_env_nonempty, c09_script_name_path_info,
  c09_query_after_first_qmark_partial;
  well-formed + exact + length-delimited message: c09_fcgi_roundtrip/_e2e/_truncated_never_complete/
  _authorizer, c09_scgi_roundtrip/_e2e/_buffer, c09_uwsgi_roundtrip/_e2e/_buffer,
  c09_cgi_envp_roundtrip, c09_hop_by_hop, c09_proxy_framing, c09_proxy_chunked_http11, c09_proxy_head_hop_by_hop, c09_proxy_fields_complete,
  c09_proxy_head_decodes(_partial), c09_proxy_request, c09_te_consumed_not_stored;
  HTTP/2 DATA: c09_h2_data_body, c09_h2_content_length_bound.  Correspondence-only: client framing
  (Content-Length / chunked) and network segmentation, temp-file spooling, stream-request-body
  modes, the mod_cgi stdin path, everything about timing.
-/
import LtVerif.Proofs.Cgi
import LtVerif.Proofs.FcgiRun
import LtVerif.Proofs.Scgi
import LtVerif.Proofs.ScgiBuf
import LtVerif.Proofs.Proxy
import LtVerif.Proofs.ProxyHead
import LtVerif.Proofs.ProxyWf
import LtVerif.Proofs.CgiE2E
import LtVerif.Proofs.Burl
import LtVerif.Extracted.H1Tables
import LtVerif.Proofs.H1Fields
namespace LtVerif.C09
open LtVerif B

/-! ## header names -> variable names -/

/-- http_cgi_encode_varname(): for EVERY field name the variable starts with "HTTP_", so it
    is never one of the server-defined meta-variables, and it is HTTP_PROXY exactly for the
    field "Proxy" (any letter case) -/
theorem c09_varname (n : Bytes) :
    httpPrefix <+: encodeVarname true n ∧
    encodeVarname true n ∉ metaNames ∧
    (encodeVarname true n = ofString "HTTP_PROXY" ↔ eqIcase n (ofString "Proxy") = true) ∧
    (∀ b ∈ encodeVarname true n, isUpper b = true ∨ isDigit b = true ∨ b = uscore) := by
  refine ⟨?_, encodeVarname_not_meta n, encodeVarname_proxy_iff n, ?_⟩
  · rw [encodeVarname_hdr]; exact List.prefix_append _ _
  · intro b hb
    rw [encodeVarname_hdr] at hb
    rcases List.mem_append.mp hb with h | h
    · have : ∀ x ∈ httpPrefix, isUpper x = true ∨ isDigit x = true ∨ x = uscore := by decide
      exact this b h
    · obtain ⟨c, _, rfl⟩ := List.mem_map.mp h
      exact enc_charset c

example : encodeVarname true (ofString "X-Forwarded_For.1") = ofString "HTTP_X_FORWARDED_FOR_1" := by decide +kernel
example : encodeVarname true (ofString "pRoXy") = ofString "HTTP_PROXY" := by decide +kernel
example : encodeVarname true (ofString "Remote-Addr") = ofString "HTTP_REMOTE_ADDR" := by decide +kernel

/-- what the client's fields become (the header loop of http_cgi_headers(), for every field
    list): never HTTP_PROXY; a server-defined name is impossible; CONTENT_TYPE only from a
    Content-Type field and with its value; every variable comes from a field of the request -/
theorem c09_header_vars_sound (hs : List (Bytes × Bytes)) :
    ∀ p ∈ headerVars hs,
      p.1 ≠ ofString "HTTP_PROXY" ∧ p.1 ∉ metaNames ∧
      ∃ k, (k, p.2) ∈ hs ∧ p.2 ≠ [] ∧ eqIcase k (ofString "Proxy") = false ∧
        ((eqIcase k (ofString "Content-Type") = true ∧ p.1 = ofString "CONTENT_TYPE") ∨
         (eqIcase k (ofString "Content-Type") = false ∧ p.1 = encodeVarname true k)) :=
  headerVars_sound hs

/-- ... and nothing is lost: every field with a value, other than Proxy, is passed with
    its value unchanged -/
theorem c09_header_vars_complete (hs : List (Bytes × Bytes)) (k v : Bytes)
    (hmem : (k, v) ∈ hs) (hv : v ≠ []) (hp : eqIcase k (ofString "Proxy") = false) :
    (if eqIcase k (ofString "Content-Type") then ofString "CONTENT_TYPE" else encodeVarname true k, v)
      ∈ headerVars hs := by
  simp only [headerVars, List.mem_filterMap]
  refine ⟨(k, v), hmem, ?_⟩
  have h1 := List.isEmpty_eq_false_iff.mpr hv
  simp only [headerVar, h1, Bool.false_eq_true, ↓reduceIte, hp]
  split <;> rfl

example : headerVars [(ofString "Proxy", ofString "evil"), (ofString "content-TYPE", ofString "a/b"),
                      (ofString "Content_Length", ofString "9"), (ofString "X-Empty", [])] =
    [(ofString "CONTENT_TYPE", ofString "a/b"), (ofString "HTTP_CONTENT_LENGTH", ofString "9")] := by decide +kernel

/-- the name -> id assumptions the models make hold for the http_headers[] table of the
    current source (regenerated each run): the fields the code special-cases by id are in
    the table, "Proxy" / "Proxy-Connection" are not (they are HTTP_HEADER_OTHER) -/
theorem c09_header_ids :
    (∀ n ∈ ["content-type", "content-length", "host", "connection", "te", "upgrade", "set-cookie",
            "transfer-encoding", "forwarded", "x-forwarded-for", "x-forwarded-proto"],
       n ∈ Extracted.headerNames) ∧
    "proxy" ∉ Extracted.headerNames ∧ "proxy-connection" ∉ Extracted.headerNames := by decide +kernel

/-! ## meta-variables (RFC 3875 4.1) -/

/-- http_cgi_headers(): in the WHOLE variable list handed to the backend (fixed part, client
    fields, module variables) the request-line, body-length and script variables occur with
    exactly one value: the corresponding component of the parsed request.  No client field can
    supply a second QUERY_STRING, SCRIPT_NAME, ...; `henv`: no module put a variable with a
    server-defined name into r->env (setenv.add-environment could — administrator's choice).
    (How query / path derive from the raw target: `c09_query_after_first_qmark_partial`, C01, C02.) -/
theorem c09_meta_rfc3875 (o : CgiOpts) (r : CgiReq) (v : Bytes)
    (henv : ∀ e ∈ r.env, encodeVarname false e.1 ∉ metaNames) :
    ((ofString "QUERY_STRING", v) ∈ cgiEnv o r ↔ v = r.query) ∧
    ((ofString "REQUEST_URI", v) ∈ cgiEnv o r ↔ v = requestUri o.stripRequestUri r.targetOrig) ∧
    ((ofString "CONTENT_LENGTH", v) ∈ cgiEnv o r ↔ o.authorizer = false ∧ v = intDec r.bodyLen) ∧
    ((ofString "SCRIPT_NAME", v) ∈ cgiEnv o r ↔ o.authorizer = false ∧ v = r.path) ∧
    ((ofString "PATH_INFO", v) ∈ cgiEnv o r ↔ o.authorizer = false ∧ r.pathinfo ≠ [] ∧ v = r.pathinfo) ∧
    ((ofString "REQUEST_METHOD", v) ∈ cgiEnv o r ↔
        v = if r.h2ConnectExt then ofString "GET" else r.method) ∧
    ((ofString "SERVER_PROTOCOL", v) ∈ cgiEnv o r ↔
        v = if r.h2ConnectExt then ofString "HTTP/1.1" else versionName r.version) ∧
    ((ofString "REMOTE_ADDR", v) ∈ cgiEnv o r ↔ v = r.remoteAddr) := by
  have hm := cgiEnv_meta_iff o r v henv
  obtain ⟨hquery, huri, hlen, hscript, hpinfo, hmethod, hproto, haddr⟩ := cgiMetaS_values o r v
  exact ⟨(hm _ (by decide)).trans hquery, (hm _ (by decide)).trans huri, (hm _ (by decide)).trans hlen,
    (hm _ (by decide)).trans hscript, (hm _ (by decide)).trans hpinfo, (hm _ (by decide)).trans hmethod,
    (hm _ (by decide)).trans hproto, (hm _ (by decide)).trans haddr⟩

/-- a client that sends fields named like meta-variables and a module variable: each
    server-defined name keeps its single server-given value -/
example :
    let r : CgiReq := { query := ofString "a", path := ofString "/x", method := ofString "GET",
                        headers := [(ofString "Query-String", ofString "evil"), (ofString "Script_Name", ofString "/evil")],
                        env := [(ofString "REMOTE_USER", ofString "bob")] }
    ((cgiEnv {} r).filter fun p => p.1 = ofString "QUERY_STRING" || p.1 = ofString "SCRIPT_NAME") =
      [(ofString "QUERY_STRING", ofString "a"), (ofString "SCRIPT_NAME", ofString "/x")] := by decide +kernel

/-- CONTENT_LENGTH is the first variable (SCGI requires it) -/
theorem c09_content_length_first (o : CgiOpts) (r : CgiReq) (h : o.authorizer = false) :
    (cgiEnv o r).head? = some (ofString "CONTENT_LENGTH", intDec r.bodyLen) := by
  simp [cgiEnv, cgiMeta, cgiMetaS, optE, h]

example : (cgiEnv {} { bodyLen := 7 }).head? = some (ofString "CONTENT_LENGTH", ofString "7") := by decide +kernel

/-- the variables of an actual request are never an empty list (the PARAMS stream has content) -/
theorem c09_env_nonempty (o : CgiOpts) (r : CgiReq) : cgiEnv o r ≠ [] := by
  have hq : (ofString "QUERY_STRING", r.query) ∈ cgiMeta o r :=
    List.mem_map.mpr ⟨_, (cgiMetaS_values o r r.query).1.mpr rfl, rfl⟩
  exact List.ne_nil_of_mem (List.mem_append_left _ (List.mem_append_left _ hq))

example : cgiEnv {} {} ≠ [] := c09_env_nonempty {} {}

/-- no client field can add or replace a server-defined variable: a variable made from a client
    field never has the name of a variable of the fixed part — except, for an HTTP/2 extended
    CONNECT, the three request-header look-alikes lighttpd synthesises itself (HTTP_UPGRADE,
    HTTP_CONNECTION, HTTP_SEC_WEBSOCKET_KEY; h2 forbids the first two as client fields) -/
theorem c09_no_override (o : CgiOpts) (r : CgiReq) :
    ∀ q ∈ cgiMeta o r, ∀ p ∈ headerVars r.headers, p.1 = q.1 →
      r.h2ConnectExt = true ∧ q.1 ∈ h2ExtNamesS.map ofString := by
  intro q hq p hp e
  simp only [cgiMeta, List.mem_map] at hq
  obtain ⟨s, hs, rfl⟩ := hq
  rcases cgiMetaS_names o r s hs with h | ⟨h1, h2⟩
  · have := (headerVars_sound r.headers p hp).2.1
    rw [e] at this
    exact absurd (List.mem_map.mpr ⟨s.1, h, rfl⟩) this
  · exact ⟨h1, List.mem_map.mpr ⟨s.1, h2, rfl⟩⟩

example :
    (cgiEnv {} { bodyLen := 3, query := ofString "a?b", targetOrig := ofString "/x/y?a?b",
                 target := ofString "/x/y?a?b", path := ofString "/x", pathinfo := ofString "/y",
                 method := ofString "POST",
                 headers := [(ofString "Script-Name", ofString "/evil")] }).filter
      (fun p => p.1 = ofString "SCRIPT_NAME" || p.1 = ofString "QUERY_STRING"
                || p.1 = ofString "HTTP_SCRIPT_NAME")
    = [(ofString "QUERY_STRING", ofString "a?b"), (ofString "SCRIPT_NAME", ofString "/x"),
       (ofString "HTTP_SCRIPT_NAME", ofString "/evil")] := by decide +kernel

/-- gw_check_extension(), the "/prefix" kind of extension with check-local off (the only place where
    the backend modules themselves split the path): SCRIPT_NAME ++ PATH_INFO is the request path, for
    every prefix and path; PATH_INFO is empty or starts with '/'.  (With check-local on the split is
    http_response_physical_pathinfo()'s — property C03 — and an input here.) -/
theorem c09_script_name_path_info (key : Bytes) (fixRoot : Bool) (path : Bytes)
    (hp : path.head? = some slash) :
    (gwPathinfoSplit key fixRoot path).1 ++ (gwPathinfoSplit key fixRoot path).2 = path ∧
    ((gwPathinfoSplit key fixRoot path).2 = [] ∨
     (gwPathinfoSplit key fixRoot path).2.head? = some slash) :=
  ⟨gwPathinfoSplit_concat key fixRoot path, gwPathinfoSplit_pathinfo key fixRoot path hp⟩

example : gwPathinfoSplit (ofString "/cgi-bin/") false (ofString "/cgi-bin/foo/bar") =
    (ofString "/cgi-bin/foo", ofString "/bar") := by decide +kernel
example : gwPathinfoSplit (ofString "/") true (ofString "/a/b") = ([], ofString "/a/b") := by decide +kernel

/-- http_request_parse_target() with URL normalisation off: the query is what follows the
    FIRST '?' of the target (fragment cut off), the path what precedes it.
    FULL STATEMENT (c09_meta_rfc3875, query part): the same for every parseopts set.
    `_partial`: the normalising variants (burl_normalize) are covered by the correspondence
    and the oracle of the url stream only (defect D4 lived there). -/
theorem c09_query_after_first_qmark_partial (o : Opts) (t : Bytes) (tg : Target)
    (hn : o.urlNormalize = false) (h : parseTarget o false t = .ok tg) :
    (qmark ∉ t.takeWhile (· ≠ hash) ∧ tg.query = [] ∧ tg.target = t.takeWhile (· ≠ hash)) ∨
    (∃ pre, qmark ∉ pre ∧ t.takeWhile (· ≠ hash) = pre ++ qmark :: tg.query) := by
  simp only [parseTarget, Bool.false_eq_true, ↓reduceIte, hn] at h
  rcases findIdx_cut (· = qmark) (t.takeWhile (· ≠ hash)) 0 with ⟨e, hall⟩ | ⟨a, x, r, e, hl, ha, hx⟩
  · left
    rw [e] at h
    simp only at h
    split at h
    · cases h
      exact ⟨fun hm => by simpa using hall qmark hm, rfl, rfl⟩
    · cases h
  · right
    rw [e] at h
    simp only at h
    split at h
    · cases h
      refine ⟨a, fun hm => by simpa using ha qmark hm, ?_⟩
      rw [hl, of_decide_eq_true hx]
      simp
    · cases h

example : (match parseTarget ⟨0⟩ false (ofString "/x?a?b#f?c") with
           | .ok tg => tg.target == ofString "/x?a?b" && tg.path == ofString "/x" && tg.query == ofString "a?b"
           | .error _ => false) = true := by decide +kernel

/-! ## FastCGI -/

/-- fcgi_create_env() + fcgi_stdin_append() under EVERY arrival schedule of the body
    (`seg0` queued when the backend request is created, `segs` arriving later, any sizes,
    any number of refills): the request is refused (400) exactly when the variables do not fit
    one PARAMS record; otherwise the bytes queued for the backend decode to exactly (role, env, body): one
    BEGIN_REQUEST, PARAMS closed once, STDIN closed once with nothing after it, nothing left in the request-body
    queue and the gateway's expected request length equal to what was queued. -/
theorem c09_fcgi_roundtrip (role : Nat) (hrole : role < 256) (hresp : role ≠ Extracted.C09.gwAuthorizer)
    (env : List (Bytes × Bytes)) (henv : env ≠ []) (seg0 : Bytes) (segs : List Bytes) :
    (Fcgi.run role false env (((seg0 :: segs).flatten.length : Nat) : Int) seg0 segs = none ↔
      Fcgi.maxLen < (Fcgi.nvPairs env).length) ∧
    ∀ st, Fcgi.run role false env (((seg0 :: segs).flatten.length : Nat) : Int) seg0 segs = some st →
      Fcgi.decode st.out =
        some { role := role, flags := 0, env := env, stdin := (seg0 :: segs).flatten } ∧
      st.pending = [] ∧ st.reqlen = (st.out.length : Int) := by
  open Fcgi in
  by_cases hfit : (nvPairs env).length ≤ maxLen
  · obtain ⟨st, hrun, hinv, hp⟩ := run_inv role hresp env hfit seg0 segs []
    rw [List.append_nil] at hrun hinv
    obtain ⟨cs, hcs, hout, hflat, hreq⟩ := runInv_final hinv hp
    refine ⟨⟨fun hn => ?_, fun hl => absurd hl (by omega)⟩, fun st' hst' => ?_⟩
    · rw [hrun] at hn; exact absurd hn (by simp)
    · rw [hrun, Option.some.injEq] at hst'
      subst hst'
      exact ⟨by rw [hout, decode_closed role hrole env henv hfit cs hcs, hflat], hp, hreq⟩
  · have hnone : run role false env (((seg0 :: segs).flatten.length : Nat) : Int) seg0 segs = none := by
      rcases addAll_spec env [] (by decide) with ⟨_, h2⟩ | ⟨h1, _⟩
      · simp only [List.nil_append] at h2; exact absurd h2 hfit
      · simp only [run, createEnv, h1]
    exact ⟨⟨fun _ => by omega, fun _ => hnone⟩, fun st hst => by rw [hnone] at hst; exact absurd hst (by simp)⟩

example :
    (Fcgi.run 1 false [(ofString "CONTENT_LENGTH", ofString "3")] 3 (ofString "a") [ofString "bc"]).map
      (fun st => (Fcgi.decode st.out, st.pending, st.reqlen)) =
    some (some { role := 1, flags := 0, env := [(ofString "CONTENT_LENGTH", ofString "3")],
                 stdin := ofString "abc" }, [], 76) := by decide +kernel

/-- FastCGI end to end for the variables lighttpd actually builds (responder / any non-authorizer
    role): the first variable the backend decodes is CONTENT_LENGTH and its value is the decimal
    length of the STDIN stream it decodes — the declared and the delivered length agree -/
theorem c09_fcgi_e2e (role : Nat) (hrole : role < 256) (hresp : role ≠ Extracted.C09.gwAuthorizer)
    (o : CgiOpts) (ha : o.authorizer = false) (r : CgiReq) (seg0 : Bytes) (segs : List Bytes)
    (hb : r.bodyLen = (((seg0 :: segs).flatten.length : Nat) : Int)) :
    ∀ st, Fcgi.run role false (cgiEnv o r) r.bodyLen seg0 segs = some st →
      ∃ m, Fcgi.decode st.out = some m ∧ m.role = role ∧ m.env = cgiEnv o r ∧
        m.env.head? = some (ofString "CONTENT_LENGTH", natDec m.stdin.length) ∧
        m.stdin = (seg0 :: segs).flatten ∧ st.pending = [] ∧ st.reqlen = (st.out.length : Int) := by
  intro st hst
  rw [hb] at hst
  obtain ⟨h1, h2, h3⟩ :=
    (c09_fcgi_roundtrip role hrole hresp (cgiEnv o r) (c09_env_nonempty o r) seg0 segs).2 st hst
  refine ⟨_, h1, rfl, rfl, ?_, rfl, h2, h3⟩
  show (cgiEnv o r).head? = _
  rw [c09_content_length_first o r ha, hb, intDec_ofNat]

/-- a body that ends early (client abort, HTTP/2 stream ended short of Content-Length — see
    `c09_h2_content_length_bound`): whatever part arrived, under every arrival schedule the bytes
    queued for the backend never form a complete request — STDIN is never closed, and the gateway
    keeps expecting more than it queued — so the backend cannot mistake a truncated body for the
    whole one -/
theorem c09_fcgi_truncated_never_complete (role : Nat) (hresp : role ≠ Extracted.C09.gwAuthorizer)
    (env : List (Bytes × Bytes)) (henv : env ≠ []) (hfit : (Fcgi.nvPairs env).length ≤ Fcgi.maxLen)
    (seg0 : Bytes) (segs : List Bytes) (bodyLen : Nat)
    (hlt : (seg0 :: segs).flatten.length < bodyLen) :
    ∃ st, Fcgi.run role false env (bodyLen : Int) seg0 segs = some st ∧ Fcgi.decode st.out = none ∧
      st.reqlen ≠ (st.out.length : Int) ∧ st.pending = [] := by
  open Fcgi in
  obtain ⟨st, hrun, ⟨cs, hcs, _, hout, hreq⟩, hp⟩ := run_inv role hresp env hfit seg0 segs
    (List.replicate (bodyLen - (seg0 :: segs).flatten.length) 0)
  rw [List.length_append, List.length_replicate, Nat.add_sub_cancel' (Nat.le_of_lt hlt)] at hrun
  -- something announced is still owed, so STDIN was not closed
  have hmiss : st.pending ++ List.replicate (bodyLen - (seg0 :: segs).flatten.length) (0 : UInt8) ≠ [] :=
    fun e => by
      have := congrArg List.length (List.append_eq_nil_iff.mp e).2
      rw [List.length_replicate, List.length_nil] at this; omega
  rw [closing, if_neg hmiss, List.append_nil] at hout
  refine ⟨st, hrun, by rw [hout]; exact decode_open role env henv hfit cs hcs, ?_, hp⟩
  have := List.length_pos_iff.mpr hmiss
  rw [hreq]; omega

example : (Fcgi.run 1 false [(ofString "CONTENT_LENGTH", ofString "3")] 3 (ofString "a") [ofString "b"]).map
    (fun st => (Fcgi.decode st.out, decide (st.reqlen = (st.out.length : Int)))) = some (none, false) := by decide +kernel

/-- FastCGI authorizer: the backend gets the variables and an empty, closed STDIN; the request
    body — however it arrives — stays queued for the real handler, none of it is sent -/
theorem c09_fcgi_authorizer (env : List (Bytes × Bytes)) (henv : env ≠ [])
    (hfit : (Fcgi.nvPairs env).length ≤ Fcgi.maxLen) (bodyLen : Int) (seg0 : Bytes) (segs : List Bytes) :
    ∃ st, Fcgi.run Extracted.C09.gwAuthorizer false env bodyLen seg0 segs = some st ∧
      Fcgi.decode st.out =
        some { role := Extracted.C09.gwAuthorizer, flags := 0, env := env, stdin := [] } ∧
      st.pending = (seg0 :: segs).flatten := by
  open Fcgi in
  rcases addAll_spec env [] (by decide) with ⟨h1, _⟩ | ⟨_, h2⟩
  · simp only [List.nil_append] at h1
    have hk : Extracted.C09.fcgiHeaderLen = 8 := rfl
    have hce : createEnv Extracted.C09.gwAuthorizer false env bodyLen seg0 =
        some { out := head Extracted.C09.gwAuthorizer (nvPairs env) ++ header tStdin 1 0 0,
               reqlen := ((head Extracted.C09.gwAuthorizer (nvPairs env)).length : Int) + 8,
               pending := seg0 } := by
      simp only [createEnv, h1, decide_true, Bool.not_true, Bool.false_eq_true, and_false, ↓reduceIte]
      simp [stdinAppend, chunksOf, stdinRecs, hk]
    have hrun : run Extracted.C09.gwAuthorizer false env bodyLen seg0 segs =
        some { out := head Extracted.C09.gwAuthorizer (nvPairs env) ++ header tStdin 1 0 0,
               reqlen := ((head Extracted.C09.gwAuthorizer (nvPairs env)).length : Int) + 8,
               pending := seg0 ++ segs.flatten } := by
      simp only [run, hce, decide_true, foldl_arrive_authorizer]
      simp [flush]
    refine ⟨_, hrun, ?_, by simp⟩
    have := decode_closed Extracted.C09.gwAuthorizer (by decide) env henv hfit [] (by intro c hc; simp at hc)
    simpa [stdinRecs] using this
  · simp only [List.nil_append] at h2
    omega

example : (Fcgi.run Extracted.C09.gwAuthorizer false [(ofString "A", ofString "b")] 3 (ofString "a") [ofString "bc"]).map
    (fun st => (Fcgi.decode st.out, st.pending)) =
    some (some { role := Extracted.C09.gwAuthorizer, flags := 0, env := [(ofString "A", ofString "b")], stdin := [] },
          ofString "abc") := by decide +kernel

/-! ## SCGI, uwsgi, CGI -/

/-- scgi_create_env() (SCGI) + body hand-over under every arrival schedule: the backend reads a
    netstring holding exactly the variables (plus SCGI=1 last) and then exactly the body -/
theorem c09_scgi_roundtrip (env : List (Bytes × Bytes)) (h : EnvNulFree env) (seg0 : Bytes)
    (segs : List Bytes) (bodyLen : Int) :
    Scgi.decode (RawSt.run (Scgi.encodeHeader env) bodyLen seg0 segs).out =
      some (env ++ [(ofString "SCGI", ofString "1")], (seg0 :: segs).flatten) ∧
    (RawSt.run (Scgi.encodeHeader env) bodyLen seg0 segs).pending = [] := by
  rw [rawRun_out]
  exact ⟨scgi_decode_header env h _, rawRun_pending _ _ _ _⟩

example : Scgi.decode (RawSt.run (Scgi.encodeHeader [(ofString "CONTENT_LENGTH", ofString "2")]) 2
                         (ofString "h") [ofString "i"]).out =
    some ([(ofString "CONTENT_LENGTH", ofString "2"), (ofString "SCGI", ofString "1")], ofString "hi") := by
  decide +kernel

/-- SCGI end to end for the variables lighttpd actually builds from a request whose byte strings
    are NUL-free: the backend reads the variables, SCGI=1, and the
    body; the FIRST variable is CONTENT_LENGTH and its value is the decimal
    length of the body that follows the netstring; the gateway announced exactly what it queued -/
theorem c09_scgi_e2e (o : CgiOpts) (ha : o.authorizer = false) (r : CgiReq) (hn : ReqNulFree o r)
    (seg0 : Bytes) (segs : List Bytes)
    (hb : r.bodyLen = (((seg0 :: segs).flatten.length : Nat) : Int)) :
    ∃ env body, Scgi.decode (RawSt.run (Scgi.encodeHeader (cgiEnv o r)) r.bodyLen seg0 segs).out =
        some (env, body) ∧
      env = cgiEnv o r ++ [(ofString "SCGI", ofString "1")] ∧
      env.head? = some (ofString "CONTENT_LENGTH", natDec body.length) ∧
      body = (seg0 :: segs).flatten ∧
      (RawSt.run (Scgi.encodeHeader (cgiEnv o r)) r.bodyLen seg0 segs).pending = [] ∧
      (RawSt.run (Scgi.encodeHeader (cgiEnv o r)) r.bodyLen seg0 segs).reqlen =
        ((RawSt.run (Scgi.encodeHeader (cgiEnv o r)) r.bodyLen seg0 segs).out.length : Int) := by
  obtain ⟨h1, h2⟩ := c09_scgi_roundtrip (cgiEnv o r) (cgiEnv_nulFree o r hn) seg0 segs r.bodyLen
  refine ⟨_, _, h1, rfl, ?_, rfl, h2, by rw [hb]; exact rawRun_reqlen _ seg0 segs⟩
  rw [List.head?_append, c09_content_length_first o r ha, hb, intDec_ofNat]; rfl

/-! ## scgi_create_env() as it is written: placeholder, in-place header, chunk offset -/

/-- mod_scgi.c:scgi_create_env(), LI_PROTOCOL_SCGI, step by step (`ScgiBuf.scgi`): for EVERY variable list below 10^9 bytes, body length and queued
    body the queue a reader sees, wb_reqlen and the rest of reqbody_queue are exactly those of the
    front-to-back encoder `Scgi.createEnv` (so c09_scgi_roundtrip / c09_scgi_e2e speak about the
    bytes of the real buffer); the hidden bytes are the 9 - digits unused blanks, bytes_out is
    0 again and bytes_in counts exactly the visible bytes.
    (At 10^9 bytes or more `ScgiBuf.scgi` = none, see Model/Scgi.lean; no theorem.) -/
theorem c09_scgi_buffer (env : List (Bytes × Bytes)) (bodyLen : Int) (pending : Bytes)
    (h : (Scgi.pairs (env ++ [(ofString "SCGI", ofString "1")])).length < 10 ^ 9) :
    let k := 9 - (natDec (Scgi.pairs (env ++ [(ofString "SCGI", ofString "1")])).length).length
    ScgiBuf.scgi env bodyLen pending =
      some { hidden := List.replicate k 32, offset := k,
             bytesIn := ((Scgi.createEnv env bodyLen pending).out.length : Int), bytesOut := 0,
             st := Scgi.createEnv env bodyLen pending } ∧
    k + (natDec (Scgi.pairs (env ++ [(ofString "SCGI", ofString "1")])).length).length + 1 = 10 := by
  unfold ScgiBuf.scgi Scgi.createEnv Scgi.encodeHeader
  generalize Scgi.pairs (env ++ [(ofString "SCGI", ofString "1")]) = P at h ⊢
  intro k
  have hl := natDec_length_le _ 8 h
  have hpos : 0 < (natDec P.length).length := List.length_pos_iff.mpr (natDec_eq _ ▸ natToDec_ne_nil _)
  refine ⟨?_, by omega⟩
  have hb : (ScgiBuf.placeholder ++ P).length - 10 = P.length := by simp [ScgiBuf.placeholder]
  simp only [hb]
  have htl : (natDec P.length ++ [colon]).length ≤ 10 := by
    simp only [List.length_append, List.length_singleton]; omega
  have hk : 10 - (natDec P.length ++ [colon]).length = k := by
    simp only [List.length_append, List.length_singleton]; omega
  rw [if_neg (by omega), ScgiBuf.poke_placeholder _ _ htl, hk]
  have he : List.replicate k 32 ++ (natDec P.length ++ [colon]) ++ P ++ [44]
      = List.replicate k 32 ++ (natDec P.length ++ colon :: P ++ [44]) := by
    simp [List.append_assoc]
  rw [he, ScgiBuf.commit_eq]

example : ScgiBuf.scgi [(ofString "CONTENT_LENGTH", ofString "2")] 2 (ofString "hi") =
    some { hidden := List.replicate 7 32, offset := 7, bytesIn := 30, bytesOut := 0,
           st := { out := ofString "24:CONTENT_LENGTH\x002\x00SCGI\x001\x00,hi", reqlen := 30, pending := [] } } := by
  decide +kernel

example : (Scgi.pairs ([(ofString "CONTENT_LENGTH", ofString "2")] ++ [(ofString "SCGI", ofString "1")])).length
    < 10 ^ 9 := by decide +kernel

/-- scgi_create_env(), LI_PROTOCOL_UWSGI, step by step (`ScgiBuf.uwsgi`, header poked into
    b[6..9]): for EVERY variable list the outcome is that of
    `Uwsgi.createEnv` - the same refusal (400 / 431), otherwise the same visible queue, wb_reqlen
    and reqbody_queue, with exactly 6 hidden blanks, bytes_out 0, bytes_in = visible bytes -/
theorem c09_uwsgi_buffer (env : List (Bytes × Bytes)) (bodyLen : Int) (pending : Bytes) :
    ScgiBuf.uwsgi env bodyLen pending =
      match Uwsgi.createEnv env bodyLen pending with
      | .status c => .status c
      | .ok st => .ok { hidden := List.replicate 6 32, offset := 6, bytesIn := (st.out.length : Int),
                        bytesOut := 0, st := st } := by
  unfold ScgiBuf.uwsgi Uwsgi.createEnv
  have hp := uwsgi_addAll_prefix env ScgiBuf.placeholder []
  rw [List.append_nil] at hp
  rw [hp]
  cases ha : Uwsgi.addAll [] env with
  | none => simp
  | some vars =>
    have hlen : (ScgiBuf.placeholder ++ vars).length - 10 = vars.length := by simp [ScgiBuf.placeholder]
    simp only [Option.map_some, hlen]
    by_cases hfit : vars.length > Extracted.C09.ushrtMax
    · simp [hfit]
    · simp only [hfit, ↓reduceIte]
      have hpk := ScgiBuf.poke_placeholder vars
        [0, (vars.length % 256).toUInt8, (vars.length / 256 % 256).toUInt8, 0] (by simp)
      simp only [List.length_cons, List.length_nil] at hpk
      rw [hpk]
      have he : List.replicate (10 - (0 + 1 + 1 + 1 + 1)) (32 : UInt8) ++
            [0, (vars.length % 256).toUInt8, (vars.length / 256 % 256).toUInt8, 0] ++ vars
          = List.replicate 6 32 ++ Uwsgi.encodeHeader vars := by
        simp [Uwsgi.encodeHeader, Uwsgi.le16]
      rw [he, ScgiBuf.commit_eq]

example : ScgiBuf.uwsgi [(ofString "A", ofString "bc")] 0 [] =
    .ok { hidden := List.replicate 6 32, offset := 6, bytesIn := 11, bytesOut := 0,
          st := { out := [0, 7, 0, 0, 1, 0, 65, 2, 0, 98, 99], reqlen := 11, pending := [] } } := by
  decide +kernel

/-- scgi_create_env() (uwsgi): when the request is accepted the packet decodes to exactly the
    variables and the body; it is refused (400 / 431) only when a name, a value or the whole
    block does not fit the 16-bit size fields -/
theorem c09_uwsgi_roundtrip (env : List (Bytes × Bytes)) (seg0 : Bytes) (segs : List Bytes)
    (bodyLen : Int) :
    (∀ st, Uwsgi.createEnv env bodyLen seg0 = .ok st →
      Uwsgi.decode ((segs.foldl RawSt.arrive st).moveAll).out = some (env, (seg0 :: segs).flatten)) ∧
    (∀ c, Uwsgi.createEnv env bodyLen seg0 = .status c →
      (∃ p ∈ env, p.1.length > 65535 ∨ p.2.length > 65535) ∨
      (env.flatMap fun p => Uwsgi.pair p.1 p.2).length > 65535) := by
  rcases uwsgi_createEnv_cases env bodyLen seg0 with ⟨vars, ha, hfit, hce⟩ | ⟨ha, hce⟩ | ⟨vars, ha, hbig, hce⟩
  · refine ⟨fun st hst => ?_, fun c hst => by rw [hce] at hst; cases hst⟩
    rw [hce] at hst
    cases hst
    have := rawRun_out (Uwsgi.encodeHeader vars) bodyLen seg0 segs
    simp only [RawSt.run] at this
    rw [this]
    exact uwsgi_decode_header env vars _ ha hfit
  · exact ⟨fun st hst => (by rw [hce] at hst; cases hst), fun _ _ => Or.inl (uwsgi_addAll_none env [] ha)⟩
  · refine ⟨fun st hst => (by rw [hce] at hst; cases hst), fun _ _ => Or.inr ?_⟩
    obtain ⟨h1, _⟩ := uwsgi_addAll_spec env [] vars ha
    simp only [List.nil_append] at h1
    rw [← h1]; exact hbig

example : Uwsgi.decode (Uwsgi.encodeHeader (Uwsgi.pair (ofString "K") (ofString "v")) ++ ofString "body") =
    some ([(ofString "K", ofString "v")], ofString "body") := by decide +kernel

/-- uwsgi end to end, same reading: accepted requests decode to exactly lighttpd's variables and
    the body, with CONTENT_LENGTH first and equal to the length of that body -/
theorem c09_uwsgi_e2e (o : CgiOpts) (ha : o.authorizer = false) (r : CgiReq)
    (seg0 : Bytes) (segs : List Bytes)
    (hb : r.bodyLen = (((seg0 :: segs).flatten.length : Nat) : Int)) :
    ∀ st, Uwsgi.createEnv (cgiEnv o r) r.bodyLen seg0 = .ok st →
      ∃ env body, Uwsgi.decode ((segs.foldl RawSt.arrive st).moveAll).out = some (env, body) ∧
        env = cgiEnv o r ∧ env.head? = some (ofString "CONTENT_LENGTH", natDec body.length) ∧
        body = (seg0 :: segs).flatten := by
  intro st hst
  refine ⟨_, _, (c09_uwsgi_roundtrip (cgiEnv o r) seg0 segs r.bodyLen).1 st hst, rfl, ?_, rfl⟩
  rw [c09_content_length_first o r ha, hb, intDec_ofNat]

/-- mod_cgi: the envp block handed to execve() splits back into exactly the variables (names
    without '=' / NUL, values without NUL — what the request parser guarantees) -/
theorem c09_cgi_envp_roundtrip (env : List (Bytes × Bytes))
    (h : ∀ p ∈ env, (61 : UInt8) ∉ p.1 ∧ NulFree p.1 ∧ NulFree p.2) :
    envpDecode (envpEncode env) = some env := by
  have e : envpEncode env = env.flatMap fun p => envpEntry p.1 p.2 := rfl
  unfold envpDecode
  rw [e]
  exact decode_flatMap_list _ envpDecodeAux env (fun _ _ => by simp [envpEntry]) (fun _ => rfl)
    (fun p hp fuel rest => envpDecodeAux_entry fuel p.1 p.2 rest (h p hp).1 (h p hp).2.1 (h p hp).2.2)
    _ (Nat.lt_succ_self _)

example : envpDecode (envpEncode [(ofString "QUERY_STRING", ofString "a=b"), (ofString "X", [])]) =
    some [(ofString "QUERY_STRING", ofString "a=b"), (ofString "X", [])] := by decide +kernel

/-! ## HTTP/2 request bodies -/

/-- h2_recv_data() / h2_recv_end_data() on frame BYTES: a request body sent as DATA frames — any
    number of frames, any data sizes, each frame with or without a Pad Length octet and that many
    padding octets, END_STREAM on the last, Content-Length absent or equal to the amount of data,
    total within server.max-request-size, backend side consuming or not — arrives as exactly the
    concatenated data: no Pad Length octet, no padding, nothing lost, no RST_STREAM / GOAWAY /
    status, reqbody_length = the amount of data, and the backend side is told "complete".
    (Independence of the segmentation of the frame bytes into network reads: correspondence,
    stream 4, against h2_parse_frames().) -/
theorem c09_h2_data_body (c : H2Cfg) (streaming : Bool) (cl : Int)
    (ds : List (Bytes × Option Nat)) (dl : Bytes) (pl : Option Nat)
    (hp : ∀ x ∈ ds, ∀ n, x.2 = some n → n < 256) (hpl : ∀ n, pl = some n → n < 256)
    (hcl : cl = -1 ∨ cl = ((((ds.map (·.1)).flatten ++ dl).length : Nat) : Int))
    (hmax : c.maxSize = 0 ∨ ((ds.map (·.1)).flatten ++ dl).length ≤ c.maxSize * 1024) :
    h2Body c cl ((ds.map fun x => DataFrame.mk' x.1 x.2 false) ++ [DataFrame.mk' dl pl true]) =
      { out := (ds.map (·.1)).flatten ++ dl,
        bodyLen := ((((ds.map (·.1)).flatten ++ dl).length : Nat) : Int),
        state := .halfClosedRemote } ∧
    h2ReqbodyRead streaming
      (h2Body c cl ((ds.map fun x => DataFrame.mk' x.1 x.2 false) ++ [DataFrame.mk' dl pl true])) = .ready := by
  have hne : ∀ f ∈ ds.map (fun x => DataFrame.mk' x.1 x.2 false),
      f.endStream = false ∧ f.data.isSome = true := by
    intro f hf
    obtain ⟨x, hx, rfl⟩ := List.mem_map.mp hf
    exact ⟨mk'_endStream _ _ _, by rw [data_mk' x.1 x.2 false (hp x hx)]; rfl⟩
  have hbody := h2Body_frames c cl _ (DataFrame.mk' dl pl true) dl hne (data_mk' dl pl true hpl)
    (mk'_endStream _ _ _) (by rw [framesData_mk' ds hp]; exact hcl) (by rw [framesData_mk' ds hp]; exact hmax)
  rw [framesData_mk' ds hp] at hbody
  refine ⟨hbody, ?_⟩
  rw [hbody]
  simp [h2ReqbodyRead]

example : h2Body {} (-1) [DataFrame.mk' (ofString "he") none false, DataFrame.mk' (ofString "llo") (some 3) true] =
    { out := ofString "hello", bodyLen := 5, state := .halfClosedRemote } := by decide +kernel

example : (DataFrame.mk' (ofString "llo") (some 3) true).raw = 3 :: ofString "llo" ++ [0, 0, 0] := by decide +kernel

/-- with a Content-Length, for ARBITRARY frames (malformed padding, frames after END_STREAM,
    too much, too little, over max-request-size, consuming backend or not): never more than
    Content-Length bytes are passed on, the announced length is never changed, and the backend
    side is told "complete" only when exactly Content-Length bytes were passed; when the stream
    has ended with less it is told "error" (the request is aborted; for the backend that is
    `c09_fcgi_truncated_never_complete`) -/
theorem c09_h2_content_length_bound (c : H2Cfg) (streaming : Bool) (cl : Int) (hcl : cl ≥ 0)
    (fs : List DataFrame) :
    ((h2Body c cl fs).out.length : Int) ≤ cl ∧ (h2Body c cl fs).bodyLen = cl ∧
    (h2ReqbodyRead streaming (h2Body c cl fs) = .ready ↔ ((h2Body c cl fs).out.length : Int) = cl) ∧
    (((h2Body c cl fs).out.length : Int) < cl → (h2Body c cl fs).state ≠ .open →
      h2ReqbodyRead streaming (h2Body c cl fs) = .error) := by
  obtain ⟨h1, h2⟩ := foldl_inv (fun st : H2Body => st.bodyLen = cl ∧ (st.out.length : Int) ≤ cl) (h2RecvData c) fs
    { bodyLen := cl } ⟨rfl, by simpa using hcl⟩ (h2_bounded_step c cl hcl)
  have e : h2Body c cl fs = fs.foldl (h2RecvData c) { bodyLen := cl } := rfl
  rw [e]
  refine ⟨h2, h1, by rw [h2ReqbodyRead_ready_iff, h1], fun hlt hst => ?_⟩
  rw [h2ReqbodyRead, h1, if_neg (Int.ne_of_lt hlt), if_pos hst]

/-- a streamed body that ends two bytes short, consuming backend: accepted by h2_recv_end_data(),
    reported as an error to the backend side -/
example : let st := h2Body { consumer := true } 5 [DataFrame.mk' (ofString "he") none false, DataFrame.mk' (ofString "l") none true]
    (st.out, st.rst, st.state, h2ReqbodyRead true st) = (ofString "hel", 0, .halfClosedRemote, .error) := by decide +kernel

/-! ## reverse proxy -/

/-- proxy_create_env(): for every configuration and field, a field that is forwarded is not a
    connection-management field (Connection, Proxy-Connection, Proxy; also Host and Set-Cookie,
    which are regenerated / response-only), it has a name and a value, and TE is forwarded only
    as "trailers" to an HTTP/1.1 backend. -/
theorem c09_hop_by_hop (c : Proxy.Cfg) (version : Nat) (k v : Bytes)
    (h : Proxy.fieldAct c version k v = .emit) :
    Proxy.nameIs k "Connection" = false ∧ Proxy.nameIs k "Proxy-Connection" = false ∧
    Proxy.nameIs k "Proxy" = false ∧ Proxy.nameIs k "Host" = false ∧
    Proxy.nameIs k "Set-Cookie" = false ∧ k ≠ [] ∧ v ≠ [] ∧
    (Proxy.nameIs k "TE" = true →
      eqIcase v (ofString "trailers") = true ∧ version ≠ 0 ∧ c.forceHttp10 = false) :=
  have e := Proxy.fieldAct_emit c version k v h
  ⟨e.connection, e.proxyConnection, e.proxy, e.host, e.setCookie, e.name, e.value, e.te⟩

example : Proxy.emitFields {} 1 [(ofString "Connection", ofString "keep-alive, X"),
    (ofString "X", ofString "1"), (ofString "Proxy-Connection", ofString "keep-alive"),
    (ofString "TE", ofString "gzip"), (ofString "proxy", ofString "evil")] =
    ofString "\r\nX: 1" := by decide +kernel

/-- proxy_create_env(), framing of the request sent to the backend (RFC 9112 6.1 / 6.2; request
    smuggling surface).  `WfReq`: what the request parser guarantees (Transfer-Encoding is consumed,
    never stored; with a chunked client body no Content-Length survives).  Then
    Transfer-Encoding is sent exactly when the body is re-chunked, as lighttpd's single "chunked" (no
    client-supplied one is forwarded); a chunked request carries no Content-Length; a body of known
    length (or a bodiless non-GET/HEAD) is not chunked and carries a Content-Length, lighttpd's own
    decimal when the client sent none (HTTP/2 without content-length, HTTP/1.1 chunked and buffered). -/
theorem c09_proxy_framing (c : Proxy.Cfg) (r : Proxy.Req) (hw : Proxy.WfReq r)
    (line : Bytes) (fs : Proxy.Hdrs) (ch : Bool) (h : Proxy.headFields c r = some (line, fs, ch)) :
    (ch = true → (ofString "Transfer-Encoding", ofString "chunked") ∈ fs) ∧
    (∀ p ∈ fs, Proxy.nameIs p.1 "Transfer-Encoding" = true →
      ch = true ∧ p = (ofString "Transfer-Encoding", ofString "chunked")) ∧
    (ch = true → ∀ p ∈ fs, Proxy.nameIs p.1 "Content-Length" = false) ∧
    (c.authorizer = false → (r.bodyLen > 0 ∨ (r.bodyLen = 0 ∧ r.isGetOrHead = false)) →
      ch = false ∧ ∃ p ∈ fs, Proxy.nameIs p.1 "Content-Length" = true ∧ p.2 ≠ [] ∧
        (Proxy.getHdr r.headers "Content-Length" = none → p.2 = intDec r.bodyLen)) := by
  obtain ⟨h1, h2⟩ := Proxy.head_te c r hw line fs ch h
  refine ⟨h1, h2, ?_, ?_⟩
  · intro hch; subst hch
    exact Proxy.head_no_cl_when_chunked c r hw line fs h
  · intro ha hneed
    exact Proxy.head_cl c r ha hneed line fs ch h

/-- a streamed upload of unknown length to an HTTP/1.1 backend: chunked, no Content-Length;
    the client's "Connection: X" option is replaced -/
example : (Proxy.headFields { streaming := true }
      { method := ofString "POST", isGetOrHead := false, target := ofString "/u", host := some (ofString "h"),
        bodyLen := -1, scheme := ofString "http", remoteAddr := ofString "10.0.0.9",
        headers := [(ofString "X", ofString "1"), (ofString "Connection", ofString "X")] }) =
    some (ofString "POST /u HTTP/1.1",
      [(ofString "Host", ofString "h"), (ofString "Transfer-Encoding", ofString "chunked"),
       (ofString "X", ofString "1"), (ofString "X-Forwarded-For", ofString "10.0.0.9"),
       (ofString "X-Host", ofString "h"), (ofString "X-Forwarded-Host", ofString "h"),
       (ofString "X-Forwarded-Proto", ofString "http"), (ofString "Connection", ofString "close")],
      true) := by decide +kernel

/-- where `WfReq.noTE` comes from — C01's model of http_request_parse_single_header(), checked
    against the C parser there: a Transfer-Encoding field line is consumed by the request parser
    (HTTP/1.1 only, value "chunked" only, once only): it sets reqbody_length = -1 and is NOT stored
    among the request fields, so no backend module ever sees it.  (HTTP/2: the field is refused
    with 400, C05/C07.) -/
theorem c09_te_consumed_not_stored (r r' : PReq) (v : Bytes)
    (h : singleHeader r (ofString "transfer-encoding") v = .ok r') :
    r'.headers = r.headers ∧ r'.bodyLen = -1 ∧ r.version = 1 ∧
    eqIcase v (ofString "chunked") = true ∧ r.bodyLen ≠ -1 := by
  cases (singleHeader_spec r _ v).1 r' h with
  | te _ hver hch hdup => exact ⟨rfl, rfl, hver, hch, hdup⟩
  | cl _ hn => exact absurd hn.symm nCL_ne_nTE
  | _ => exact absurd rfl ‹_ ≠ nTE›

example : (match singleHeader { version := 1, headers := [(ofString "x", ofString "1")] }
             (ofString "transfer-encoding") (ofString "chunked") with
           | .ok r' => decide (r'.headers = [(ofString "x", ofString "1")] ∧ r'.bodyLen = -1)
           | .error _ => false) = true := by decide +kernel

/-- Transfer-Encoding is only ever sent in an HTTP/1.1 request that names a Host (RFC 9112 6.1: a
    client must not send Transfer-Encoding to a recipient it speaks HTTP/1.0 to).  `hhost`: a
    request without Host is an HTTP/1.0 request (HTTP/1.1 and HTTP/2 requests without Host /
    :authority are refused with 400), and an HTTP/1.0 request cannot have a body of unknown length
    (Transfer-Encoding in HTTP/1.0 is refused with 400) — C01. -/
theorem c09_proxy_chunked_http11 (c : Proxy.Cfg) (r : Proxy.Req) (hhost : r.host = none → r.bodyLen ≥ 0)
    (line : Bytes) (fs : Proxy.Hdrs) (h : Proxy.headFields c r = some (line, fs, true)) :
    ofString " HTTP/1.1" <:+ line ∧ ∃ hv, (ofString "Host", hv) ∈ fs := by
  obtain ⟨ff, hs0, (_ | _ | _ | ⟨_, hneg, h10⟩), hl, hfs⟩ := Proxy.headFields_inv c r line fs true h
  have hh : r.host ≠ none := fun hn => by have := hhost hn; omega
  obtain ⟨hv, hhv⟩ := Option.ne_none_iff_exists'.mp hh
  have hrl : Proxy.reqLine c r =
      ((if r.h2ConnectExt then ofString "GET" else r.method) ++ [sp] ++ r.target ++ ofString " HTTP/1.1",
       some (ofString "Host", match c.replaceHost with | some x => x | none => hv)) := by
    unfold Proxy.reqLine
    simp only [h10, hhv, Bool.false_eq_true, ↓reduceIte]
    cases c.replaceHost <;> rfl
  rw [hrl] at hl hfs
  refine ⟨?_, (match c.replaceHost with | some x => x | none => hv), ?_⟩
  · rw [hl]; exact List.suffix_append _ _
  · rw [hfs]; simp

/-- proxy_create_env(), connection management of the request sent to the backend: no Proxy /
    Proxy-Connection field, and exactly one Connection field, written by lighttpd, whose value
    starts with "close" (followed only by ", upgrade" / ", te" when lighttpd itself forwards
    Upgrade / TE) — nothing the client listed in its own Connection field survives -/
theorem c09_proxy_head_hop_by_hop (c : Proxy.Cfg) (r : Proxy.Req) (line : Bytes) (fs : Proxy.Hdrs)
    (ch : Bool) (h : Proxy.headFields c r = some (line, fs, ch)) :
    (∀ p ∈ fs, Proxy.nameIs p.1 "Proxy" = false ∧ Proxy.nameIs p.1 "Proxy-Connection" = false) ∧
    ∃ v, fs.filter (fun p => Proxy.nameIs p.1 "Connection") = [(ofString "Connection", v)] ∧
      ofString "close" <+: v := by
  open Proxy in
  constructor
  · intro p hp
    cases head_field_origin c r line fs ch h p hp with
    | own n v hn =>
      exact (by decide +kernel : ∀ n ∈ ownNames, nameIs (ofString n) "Proxy" = false ∧
        nameIs (ofString n) "Proxy-Connection" = false) n hn
    | authCL _ => exact ⟨by decide +kernel, by decide +kernel⟩
    | chunkedTE => exact ⟨by decide +kernel, by decide +kernel⟩
    | forwarded _ hem => exact ⟨hem.proxy, hem.proxyConnection⟩
    | ownCL hk =>
      exact ⟨nameIs_excl p.1 "Content-Length" "Proxy" (by decide +kernel) hk,
        nameIs_excl p.1 "Content-Length" "Proxy-Connection" (by decide +kernel) hk⟩
    | stored _ hem => exact ⟨hem.proxy, hem.proxyConnection⟩
  · obtain ⟨ff, hs0, hfr, _, rfl⟩ := headFields_inv c r line fs ch h
    obtain ⟨v, hv1, hv2⟩ := connTail_connection c r (setForwarded c.forwarded r hs0)
    refine ⟨v, ?_, hv2⟩
    simp only [List.filter_append]
    -- only `connTail` contributes a Connection field
    have e1 : (reqLine c r).2.toList.filter (fun p => nameIs p.1 "Connection") = [] := by
      rw [List.filter_eq_nil_iff]
      intro p hp
      rw [reqLine_host c r p hp]; decide +kernel
    have e2 : ff.toList.filter (fun p => nameIs p.1 "Connection") = [] := by
      cases hfr <;> decide +kernel
    have e3 : ((setForwarded c.forwarded r hs0).filter
        (fun (k, v) => fieldAct c r.version k v = .emit)).filter (fun p => nameIs p.1 "Connection") = [] := by
      rw [List.filter_eq_nil_iff]
      intro p hp
      simp only [List.mem_filter, decide_eq_true_eq] at hp
      simp [(fieldAct_emit c r.version p.1 p.2 hp.2).connection]
    rw [e1, e2, e3, hv1]
    rfl

/-- proxy_create_env(), completeness: every client field that the per-field filter lets through
    (`c09_hop_by_hop` says which are not), that is not one of the forwarding fields lighttpd
    rewrites (Forwarded, X-Forwarded-For, X-Forwarded-Proto, X-Forwarded-Host, X-Host) and not Content-Length (regenerated
    by the framing), is in the request sent to the backend, name and value unchanged -/
theorem c09_proxy_fields_complete (c : Proxy.Cfg) (r : Proxy.Req) (line : Bytes) (fs : Proxy.Hdrs)
    (ch : Bool) (h : Proxy.headFields c r = some (line, fs, ch)) (p : Bytes × Bytes)
    (hp : p ∈ r.headers) (hem : Proxy.fieldAct c r.version p.1 p.2 = .emit)
    (hf : Proxy.isFwdName p.1 = false) (hcl : Proxy.nameIs p.1 "Content-Length" = false) : p ∈ fs := by
  open Proxy in
  obtain ⟨ff, hs0, hfr, _, hfs⟩ := headFields_inv c r line fs ch h
  have h0 : p ∈ hs0 := by
    cases hfr with
    | ownCL _ _ => exact mem_setHdr_other _ _ _ _ hp hcl
    | _ => exact hp
  rw [hfs]
  simp only [List.mem_append, List.mem_filter, decide_eq_true_eq]
  exact Or.inl (Or.inr ⟨mem_setForwarded_other _ _ _ _ h0 hf, hem⟩)

/-- the serialisation of the request head is faithful: a receiver following RFC 9112 (request
    line up to CRLF, field lines "name:" OWS value CRLF, empty line) reads back exactly the
    request line, exactly the fields in order, and finds the body right after the empty line.
    `_partial`: CR-freeness / token names of the fields are hypotheses here; they are discharged
    from the request in `c09_proxy_head_decodes` when proxy.forwarded is off; for a generated
    "Forwarded" value (proxy.forwarded options) they are checked by the correspondence oracle only. -/
theorem c09_proxy_head_decodes_partial (line : Bytes) (fs : Proxy.Hdrs) (body : Bytes)
    (hl : cr ∉ line) (hf : ∀ f ∈ fs, Proxy.WfField f) :
    Proxy.decodeHead (Proxy.renderHead line fs ++ body) = some (line, fs, body) :=
  Proxy.decodeHead_render line fs body hl hf

example : Proxy.decodeHead (ofString "POST /u HTTP/1.1\r\nHost: h\r\nX: 1\r\n\r\nbody") =
    some (ofString "POST /u HTTP/1.1", [(ofString "Host", ofString "h"), (ofString "X", ofString "1")],
          ofString "body") := by decide +kernel

/-- ... and with proxy.forwarded off (the default: no "Forwarded" field is generated) the
    hypotheses follow from `HeadWf` (what the request parser and the configuration guarantee: stored
    fields token-named and CR-free; host, proxy host id, peer address, scheme, method, target CR-free) -/
theorem c09_proxy_head_decodes (c : Proxy.Cfg) (r : Proxy.Req) (hw : Proxy.HeadWf c r)
    (h0 : c.forwarded = 0) (line : Bytes) (fs : Proxy.Hdrs) (ch : Bool)
    (h : Proxy.headFields c r = some (line, fs, ch)) (rest : Bytes) :
    Proxy.decodeHead (Proxy.renderHead line fs ++ rest) = some (line, fs, rest) := by
  open Proxy in
  obtain ⟨ff, hs0, hfr, hline, hfs⟩ := headFields_inv c r line fs ch h
  obtain ⟨w0, wff⟩ := wf_framing c r hw ff hs0 ch hfr
  refine decodeHead_render line fs rest (by rw [hline]; exact cr_not_reqLine c r hw) fun f hf => ?_
  rw [hfs, h0] at hf
  simp only [List.mem_append, List.mem_filter] at hf
  rcases hf with ((hf | hf) | hf) | hf
  · exact wf_reqLine_host c r hw f hf
  · exact wff f (by simpa [Option.mem_toList] using hf)
  · exact wf_setForwarded0 c r hw hs0 w0 f hf.1
  · exact wf_connTail c r _ f hf

set_option maxRecDepth 100000 in
example : (Proxy.headFields {}
      { method := ofString "POST", isGetOrHead := false, target := ofString "/u", host := some (ofString "h"),
        bodyLen := 4, scheme := ofString "http", remoteAddr := ofString "10.0.0.9",
        headers := [(ofString "X", ofString "1"), (ofString "Content-Length", ofString "4")] }).bind
      (fun x => Proxy.decodeHead (Proxy.renderHead x.1 x.2.1 ++ ofString "body")) =
    some (ofString "POST /u HTTP/1.1",
      [(ofString "Host", ofString "h"), (ofString "X", ofString "1"), (ofString "Content-Length", ofString "4"),
       (ofString "X-Forwarded-For", ofString "10.0.0.9"), (ofString "X-Host", ofString "h"),
       (ofString "X-Forwarded-Host", ofString "h"), (ofString "X-Forwarded-Proto", ofString "http"),
       (ofString "Connection", ofString "close")],
      ofString "body") := by decide +kernel

/-- the whole proxied request under EVERY arrival schedule of the body: what is queued for the
    backend is the serialised head followed by
    * Content-Length framing: exactly the body bytes, and the gateway announced exactly what it
      queued (the body has the length the request announced);
    * chunked framing (proxy_stdin_append()): a chunked coding that decodes to exactly the body,
      one last-chunk, nothing after it;
    and nothing is left in the request-body queue. -/
theorem c09_proxy_request (c : Proxy.Cfg) (r : Proxy.Req) (ha : c.authorizer = false)
    (line : Bytes) (fs : Proxy.Hdrs) (ch : Bool) (h : Proxy.headFields c r = some (line, fs, ch))
    (seg0 : Bytes) (segs : List Bytes)
    (hlen : ch = false → r.bodyLen = (((seg0 :: segs).flatten.length : Nat) : Int)) :
    ∃ st, Proxy.run c r seg0 segs = some (st, ch) ∧ st.pending = [] ∧
      (ch = false → st.out = Proxy.renderHead line fs ++ (seg0 :: segs).flatten ∧
                    st.reqlen = (st.out.length : Int)) ∧
      (ch = true → ∃ stream, st.out = Proxy.renderHead line fs ++ stream ∧
                    Proxy.dechunk (stream.length + 1) stream = some ((seg0 :: segs).flatten, [])) := by
  open Proxy in
  have hb : headerBlock c r = some (renderHead line fs, ch) := by simp [headerBlock, h]
  cases ch with
  | false =>
    have hl := hlen rfl
    rw [run_raw c r ha _ hb (by omega) seg0 segs]
    refine ⟨_, rfl, rawRun_pending _ _ _ _, fun _ => ⟨rawRun_out _ _ _ _, ?_⟩, fun x => absurd x (by simp)⟩
    rw [hl]; exact rawRun_reqlen _ seg0 segs
  | true =>
    obtain ⟨_, _, (_ | _ | _ | ⟨_, hneg, _⟩), _⟩ := headFields_inv c r line fs true h
    have hce : createEnv c r seg0 =
        .ok (stdinAppend { out := renderHead line fs, reqlen := -((renderHead line fs).length : Int),
                           pending := seg0 }) true := by
      unfold createEnv
      rw [hb]
      have h1 : r.bodyLen ≠ 0 := by omega
      have h2 : ¬ (r.bodyLen > 0) := by omega
      simp [ha, h1, h2]
    obtain ⟨stream, s1, s2, s3⟩ := runChunked_spec (renderHead line fs)
      (by simp [renderHead, crlf]; omega) seg0 segs
    -- `runChunked` fixes the default config; `arrive` reads only its `authorizer`
    have hfold : ∀ st, segs.foldl (arrive c true) st = segs.foldl (arrive {} true) st := by
      intro st; congr 1; funext st seg; simp [arrive, ha]
    unfold run
    rw [hce]
    simp only [hfold]
    have hrc : complete true (segs.foldl (arrive {} true) (stdinAppend
        { out := renderHead line fs, reqlen := -((renderHead line fs).length : Int), pending := seg0 })) =
        runChunked (renderHead line fs) seg0 segs := by
      simp [runChunked]
    rw [hrc]
    simp only [s3, List.isEmpty_nil, true_or, ↓reduceIte]
    exact ⟨_, rfl, s3, fun x => absurd x (by simp), fun _ => ⟨stream, s1, s2⟩⟩

set_option maxRecDepth 100000 in
example : (Proxy.run { streaming := true }
      { method := ofString "POST", isGetOrHead := false, target := ofString "/", host := some (ofString "h"),
        bodyLen := -1 }
      (ofString "ab") [[], ofString "c"]).map (fun x => (x.1.out, x.1.pending, x.2)) =
    some (ofString "POST / HTTP/1.1\r\nHost: h\r\nTransfer-Encoding: chunked\r\nX-Host: h\r\nX-Forwarded-Host: h\r\nConnection: close\r\n\r\n02\r\nab\r\n01\r\nc\r\n0\r\n\r\n",
          [], true) := by
  repeat rw [ofString_ofList]
  decide +kernel

end LtVerif.C09
