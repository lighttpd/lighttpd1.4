/-
  C20 — url.rewrite*, url.redirect, alias.url and the virtual-host modules map a request as
  their documented rules say.  Property theorems only (lemmas in
  Proofs/KeyValue.lean, the specification `Spec.*` and its lemmas in Proofs/KeyValueSpec.lean).  The model (Model/KeyValue.lean, Model/BurlAppend.lean) is
  tied to keyvalue.c / burl.c / base64.c / mod_rewrite.c / mod_redirect.c / mod_alias.c /
  mod_simple_vhost.c / mod_evhost.c by the h_keyvalue correspondence; the modifier -> flag map
  and the base64url tables are regenerated from the C on every run (Extracted/KvModifiers.lean).
-/
import LtVerif.Proofs.KeyValueSpec
namespace LtVerif.C20
open LtVerif B

/-! ## first matching rule -/

/-- pcre_keyvalue_buffer_process(): the first rule (in configuration order) whose pattern
    matches is the one that is applied — its template is expanded with its own captures; a
    blank template stops the search without a substitution; rules behind it are not
    consulted; if no pattern matches, nothing is applied. -/
theorem c20_first_match (cond : Option Caps) (url : UrlParts) (subject : Bytes)
    (pre post : List (Bytes × MatchRes)) (tmpl : Bytes) (ov : OVec)
    (hpre : ∀ r ∈ pre, r.2 = .nomatch) :
    process cond url subject (pre ++ (tmpl, .matched ov) :: post) =
      (if tmpl.isEmpty then .goOn (some pre.length)
       else .finished pre.length
              (subst { rule := { subject := subject, ovec := ov }, cond := cond, url := url } tmpl)) ∧
    process cond url subject pre = .goOn none := by
  refine ⟨(process_skip cond url subject pre _ hpre).trans rfl, ?_⟩
  have h := process_skip cond url subject pre [] hpre
  rw [List.append_nil] at h
  exact h

example : process none ⟨none, none, 80, ofString "/b/x", none⟩ (ofString "/b/x")
    [(ofString "/A/$1", .nomatch), (ofString "/B/$1", .matched [some (0, 4), some (3, 4)]),
     (ofString "/C/$1", .matched [some (0, 4), some (1, 4)])] = .finished 1 (ofString "/B/x") := by decide +kernel

/-- a PCRE2 error on a rule reached before any match is an error of the whole lookup (the
    request fails; no later rule is tried) -/
theorem c20_first_match_error (cond : Option Caps) (url : UrlParts) (subject : Bytes)
    (pre post : List (Bytes × MatchRes)) (tmpl : Bytes) (hpre : ∀ r ∈ pre, r.2 = .nomatch) :
    process cond url subject (pre ++ (tmpl, .error) :: post) = .error :=
  process_skip cond url subject pre _ hpre

example : process none ⟨none, none, 80, ofString "/x", none⟩ (ofString "/x")
    [(ofString "/A", .nomatch), (ofString "/B", .error), (ofString "/C", .matched [some (0, 2)])] = .error := by decide +kernel

/-- url.redirect: the Location header is the expansion of the first matching rule's template, the
    status is url.redirect-code if configured, else 301 for GET/HEAD or HTTP/1.0 requests and 308
    otherwise; no matching rule (or a blank template) means no redirect. -/
theorem c20_redirect (code : Nat) (getOrHead http10 : Bool) (cond : Option Caps) (url : UrlParts)
    (pre post : List (Bytes × MatchRes)) (tmpl : Bytes) (ov : OVec)
    (hpre : ∀ r ∈ pre, r.2 = .nomatch) (ht : tmpl ≠ []) :
    redirect code getOrHead http10 cond url (pre ++ (tmpl, .matched ov) :: post) =
      .ok (some (if code ≠ 0 then code else if getOrHead || http10 then 301 else 308,
                 subst { rule := { subject := url.path, ovec := ov }, cond := cond, url := url } tmpl)) ∧
    redirect code getOrHead http10 cond url pre = .ok none := by
  have h := c20_first_match cond url url.path pre post tmpl ov hpre
  have hne : tmpl.isEmpty = false := by cases tmpl <;> simp_all
  constructor
  · simp only [redirect, h.1, hne, Bool.false_eq_true, if_false, redirectStatus]
  · simp only [redirect, h.2]

example : (match redirect 0 false false none
                   ⟨some (ofString "http"), some (ofString "h"), 80, ofString "/old/x", none⟩
                   [(ofString "${url.scheme}://${url.authority}/new/$1", .matched [some (0, 6), some (5, 6)])] with
           | .ok r => r
           | .error _ => none) = some (308, ofString "http://h/new/x") := by decide +kernel

/-! ## modifiers -/

/-- The modifier-name -> recoding map of pcre_keyvalue_buffer_subst_ext(), *extracted from the C
    function of the current tree* (Extracted/KvModifiers.lean), is the documented one: esc/escape
    select "encode all", escnde "no double encoding", escpsnde the same preserving '/', noesc/noescape
    "no encoding", tolower / toupper the case mappings, encb64u / decb64u the base64url codec; a
    capture without any modifier is recoded like escpsnde, and so is a capture with only a case
    modifier (`${tolower:1}` reaches burl_append with tolower|escpsnde, observed on the real function).  A wrong mapping in keyvalue.c (e.g.
    "upper:" selecting BURL_TOLOWER) makes exactly this theorem unprovable. -/
theorem c20_modifier_map : ModifierMapAsDocumented := by
  refine ⟨?_, by decide, by decide, by decide⟩
  intro m
  cases m <;> decide

/-- pcre_keyvalue_buffer_subst_ext(): every documented modifier name (`documentedModifiers` pairs
    each name with the burl.h recoding it is documented to select), at any position of the modifier
    list of a `${...}` / `%{...}`, selects exactly that recoding and consumes exactly its own name. -/
theorem c20_modifiers_as_named : ∀ m ∈ documentedModifiers,
    ∀ (env : Env) (sigil : UInt8) (out p : Bytes) (pos fl : Nat),
      extGo env sigil out (m.1 ++ p) 0 pos fl = extGo env sigil out p 0 (pos + m.1.length) (fl ||| m.2) := by
  intro m hm env sigil out p pos fl
  simp only [documentedModifiers, List.mem_map] at hm
  obtain ⟨md, _, rfl⟩ := hm
  rw [← c20_modifier_map.flag md]
  exact extGo_modifier md env sigil out p pos fl

example : (ofString "toupper:", Extracted.burlToUpper) ∈ documentedModifiers ∧
    (ofString "esc:", Extracted.burlEncodeAll) ∈ documentedModifiers := by decide +kernel

/-- `${toupper:noesc:1}` upper-cases the capture, `${tolower:noesc:1}` lower-cases it -/
example : subst ⟨⟨ofString "/Foo", [some (0, 4), some (1, 4)]⟩, none, ⟨none, none, 80, ofString "/Foo", none⟩⟩
    (ofString "/${toupper:noesc:1}/${tolower:noesc:1}") = ofString "/FOO/foo" := by decide +kernel

/-- `${noesc:…}`: the string is inserted unchanged -/
theorem c20_noesc_identity (s look : Bytes) : burlAppend Extracted.burlEncodeNone s look = s :=
  burlAppend_spec_one .noesc s look (fun h => absurd h (by decide))

example : burlAppend Extracted.burlEncodeNone (ofString "a b/%zz?") [] = ofString "a b/%zz?" := by decide +kernel

/-- `${esc:…}` / `${escape:…}`: what is inserted is the per-byte percent-encoding of the value (every
    byte that is not unreserved becomes %HH, '%' included); it consists of unreserved characters and
    %HH triplets only, and nothing is lost: percent-decoding it gives the value back -/
theorem c20_esc_transform (s look : Bytes) :
    burlAppend Extracted.burlEncodeAll s look = Spec.escAll s ∧
    PctSafe (burlAppend Extracted.burlEncodeAll s look) ∧
    Spec.decode (burlAppend Extracted.burlEncodeAll s look) = s := by
  have e : burlAppend Extracted.burlEncodeAll s look = Spec.escAll s :=
    burlAppend_spec_one .esc s look (fun h => absurd h (by decide))
  refine ⟨e, ?_, ?_⟩
  · rw [e, ← encAll_spec]; exact encAll_safe s
  · rw [e]; exact decode_escAll s

/-- `${escnde:…}` / `${escpsnde:…}` (and `${N}` without modifier): the per-token recoding of the
    specification — existing %XX escapes are not encoded again (decoded when they stand for an
    unreserved character), all other bytes but unreserved ones (and '/' for escpsnde) become %HH — and
    the meaning is kept: the result percent-decodes to what the value percent-decodes to. -/
theorem c20_escnde_transform (s look : Bytes) :
    burlAppend Extracted.burlEncodeNde s look = Spec.escNde false s ∧
    burlAppend Extracted.burlEncodePsnde s look = Spec.escNde true s ∧
    Spec.decode (burlAppend Extracted.burlEncodeNde s look) = Spec.decode s ∧
    Spec.decode (burlAppend Extracted.burlEncodePsnde s look) = Spec.decode s := by
  have e1 : burlAppend Extracted.burlEncodeNde s look = Spec.escNde false s :=
    burlAppend_spec_one .escnde s look (fun h => absurd h (by decide))
  have e2 : burlAppend Extracted.burlEncodePsnde s look = Spec.escNde true s :=
    burlAppend_spec_one .escpsnde s look (fun h => absurd h (by decide))
  exact ⟨e1, e2, by rw [e1]; exact decode_escNde false s, by rw [e2]; exact decode_escNde true s⟩

/-- `$N` / `${…N}` insert the capture and nothing but the capture: what is appended for a string is the
    same whatever bytes follow it in the subject it is a slice of (burl_append never looks behind the
    `len` bytes it is given) — for every flag set.  E.g. the capture "x%" of the subject "x%41" expands
    to "x%25", not to "xA". -/
theorem c20_capture_only (flags : Nat) (s look look' : Bytes) :
    burlAppend flags s look = burlAppend flags s look' := rfl

example : burlAppend Extracted.burlEncodePsnde (ofString "x%") (ofString "41") = ofString "x%25" := by decide +kernel

/-- `${tolower:…}` / `${toupper:…}` with any sequence of further modifiers, for URL parts (`flagsOf
    mods` are the flags pcre_keyvalue_buffer_subst_ext hands to burl_append): what is inserted is
    the case mapping of the specification (ASCII letters outside %XX escapes) applied to the encoded
    value — the value itself when no encoding modifier is given, never nothing; it has no upper-case
    (lower-case) letter outside %XX and differs from the encoded value in letter case only. -/
theorem c20_case_modifiers (mods : List Modifier) (s look : Bytes)
    (hnul : (0 : UInt8) ∉ Spec.encode id mods s) :
    (Spec.has mods .tolower = true →
        burlAppend (flagsOf mods) s look = Spec.lower (Spec.encode id mods s) ∧
        NoUpperOutsidePct (burlAppend (flagsOf mods) s look) ∧
        (burlAppend (flagsOf mods) s look).map toLower = (Spec.encode id mods s).map toLower) ∧
    (Spec.has mods .tolower = false → Spec.has mods .toupper = true →
        burlAppend (flagsOf mods) s look = Spec.upper (Spec.encode id mods s) ∧
        NoLowerOutsidePct (burlAppend (flagsOf mods) s look) ∧
        (burlAppend (flagsOf mods) s look).map toLower = (Spec.encode id mods s).map toLower) := by
  have h := burlAppend_spec_url mods s look (fun _ => hnul)
  constructor
  · intro hl
    have e := h.trans (if_pos hl)
    exact ⟨e, e ▸ lower_noUpper _, e ▸ caseTok_caseOnly toLower toLower_idem _⟩
  · intro hl hu
    have e := h.trans ((if_neg (hl ▸ Bool.false_ne_true)).trans (if_pos hu))
    exact ⟨e, e ▸ upper_noLower _, e ▸ caseTok_caseOnly toUpper (fun b => (case_table b).2.2) _⟩

/-- a case modifier ON ITS OWN transforms as named: `${tolower:url.authority}` inserts the lower-cased
    authority (same length, same letters up to case), `${tolower:N}` / `${toupper:N}` insert the
    case-mapped DEFAULT encoding (escpsnde) of the capture — not the empty string -/
theorem c20_bare_case_modifier (s look : Bytes) (hnul : (0 : UInt8) ∉ s) :
    burlAppend Extracted.burlToLower s look = Spec.lower s ∧
    (burlAppend Extracted.burlToLower s look).map toLower = s.map toLower ∧
    burlAppend Extracted.burlToUpper s look = Spec.upper s ∧
    (burlAppend Extracted.burlToUpper s look).map toLower = s.map toLower ∧
    burlAppend (capFlags Extracted.burlToLower) s look = Spec.lower (Spec.escNde true s) ∧
    burlAppend (capFlags Extracted.burlToUpper) s look = Spec.upper (Spec.escNde true s) := by
  have hl : burlAppend Extracted.burlToLower s look = Spec.lower s :=
    burlAppend_spec_one .tolower s look (fun _ => hnul)
  have hu : burlAppend Extracted.burlToUpper s look = Spec.upper s :=
    burlAppend_spec_one .toupper s look (fun _ => hnul)
  exact ⟨hl, hl ▸ caseTok_caseOnly toLower toLower_idem s,
    hu, hu ▸ caseTok_caseOnly toUpper (fun b => (case_table b).2.2) s,
    burlAppend_spec_cap c20_modifier_map.default [.tolower] s look (fun _ => escNde_nul_free true s),
    burlAppend_spec_cap c20_modifier_map.default [.toupper] s look (fun _ => escNde_nul_free true s)⟩

example : subst ⟨⟨ofString "/Foo Bar", [some (0, 8), some (1, 8)]⟩, none,
                 ⟨none, some (ofString "Www.Example"), 80, ofString "/Foo Bar", none⟩⟩
    (ofString "/${tolower:1}|${toupper:1}|${tolower:url.authority}") = ofString "/foo%20bar|FOO%20BAR|www.example" := by
  decide +kernel

example : burlAppend (Extracted.burlToLower ||| Extracted.burlEncodePsnde) (ofString "/A b/%4A") []
    = ofString "/a%20b/j" := by decide +kernel
example : burlAppend (Extracted.burlToUpper ||| Extracted.burlEncodeAll) (ofString "a/b") []
    = ofString "A%2FB" := by decide +kernel

/-- `${decb64u:…}` inverts `${encb64u:…}` (base64url without padding, tables taken from base64.c) -/
theorem c20_b64u_roundtrip (x : Bytes) : b64uDec (b64uEnc x) = x := by
  simpa [b64uDec] using b64uDecGo_enc x []

example : b64uEnc (ofString "hello") = ofString "aGVsbG8" := by decide +kernel
example : b64uDec (ofString "aGVs!bG8") = [] := by decide +kernel

/-! ## the reference interpreter -/

/-- pcre_keyvalue_buffer_subst() equals the reference interpreter `Spec.interpret` on every
    well-formed template.  `Spec.interpret` (Proofs/KeyValueSpec.lean) is written from the documented
    semantics and shares no recoding code with the model: percent-escapes are found by a tokeniser,
    esc / escnde / escpsnde / tolower / toupper are per-token maps, modifiers are looked up by NAME in
    the modifier list (no flags), captures default to escpsnde and URL parts to no encoding, `${qsa}`
    joins with '?' or '&'.  Tokens: literal text, `$$` / `%%`, `$N` / `%N`, `${…}` / `%{…}` with ANY
    sequence of documented modifiers before N, NN, url.scheme|authority|port|path|query or qsa.
    Side condition (`Spec.tokOk`): a case modifier does not meet a NUL byte.  (base64url
    is the textbook codec of Model/BurlAppend.lean, characterised by `c20_b64u_roundtrip`.) -/
theorem c20_template_interpreter (env : Env) (toks : List Tok) (hw : ∀ tk ∈ toks, tk.WF)
    (hok : ∀ tk ∈ toks, Spec.tokOk env tk) :
    subst env (toks.flatMap Tok.render) = Spec.interpret env toks [] := by
  have h1 := substGo_interpret c20_modifier_map env toks hw [] []
  have h2 := interpret_spec c20_modifier_map.default env toks [] hok
  rw [← h2]
  simpa [subst, substGo] using h1

example : [Tok.lit (ofString "/n/"), .ext dollar [.tolower, .noesc] (.cap 49), .sigil pct, .raw pct 49,
           .ext dollar [.esc] .path, .ext dollar [.toupper] (.cap 49), .ext dollar [] .qsa].flatMap Tok.render
    = ofString "/n/${tolower:noesc:1}%%%1${esc:url.path}${toupper:1}${qsa}" := by decide +kernel
example : ∀ tk ∈ [Tok.lit (ofString "/n/"), .ext dollar [.tolower, .noesc] (.cap 49), .sigil pct, .raw pct 49,
                  .ext dollar [.esc] .path, .ext dollar [.toupper] (.cap 49), .ext dollar [] .qsa], tk.WF := by
  intro tk h
  simp only [List.mem_cons, List.not_mem_nil, or_false] at h
  rcases h with h | h | h | h | h | h | h <;> subst h <;>
    simp [Tok.WF, Item.WF, isSigil, dollar, pct, isDigit, ofString]
example : Spec.interpret ⟨⟨ofString "/Foo/x", [some (0, 6), some (1, 4)]⟩, some ⟨ofString "www.h", [some (0, 5), some (0, 3)]⟩,
                     ⟨none, none, 80, ofString "/Foo/x?a=1", some (ofString "a=1")⟩⟩
    [Tok.lit (ofString "/n/"), .ext dollar [.tolower, .noesc] (.cap 49), .sigil pct, .raw pct 49,
     .ext dollar [.esc] .path, .ext dollar [.toupper] (.cap 49), .ext dollar [] .qsa] []
    = ofString "/n/foo%www%2FFoo%2FxFOO?a=1" := by decide +kernel

/-! ## literals -/

/-- template text without `$` / `%` is copied verbatim (anywhere in a template) -/
theorem c20_literals (env : Env) (lit t out : Bytes) (h : ∀ c ∈ lit, c ≠ dollar ∧ c ≠ pct) :
    substGo env (lit ++ t) 0 out = substGo env t 0 (out ++ lit) ∧ subst env lit = lit := by
  have h' : ∀ c ∈ lit, isSigil c = false := by
    intro c hc; simp [isSigil, (h c hc).1, (h c hc).2]
  constructor
  · exact substGo_literal env lit t out h'
  · have := substGo_literal env lit [] [] h'
    simpa [subst, substGo] using this

/-- `$$` gives `$`, `%%` gives `%`; a `$` / `%` followed by anything but a digit, `{` or itself is
    literal together with that byte; a `$` / `%` at the very end is literal -/
theorem c20_escaped_sigils (env : Env) (c d : UInt8) (t out : Bytes) (hc : c = dollar ∨ c = pct)
    (hd : isDigit d = false) (hb : d ≠ lbrace) :
    substGo env (c :: d :: t) 0 out = substGo env t 0 (out ++ (if c = d then [c] else [c, d])) ∧
    substGo env [c] 0 out = out ++ [c] := by
  have hs : isSigil c = true := by rcases hc with h | h <;> subst h <;> rfl
  refine ⟨substGo_pair env c d t out hs hd hb, ?_⟩
  conv => lhs; unfold substGo
  simp [show (c = dollar || c = pct) = true from hs]

example : subst ⟨⟨[], []⟩, none, ⟨none, none, 80, [], none⟩⟩ (ofString "/a$$b%%c%zd$") = ofString "/a$b%c%zd$" := by
  decide +kernel

/-! ## captures -/

/-- `$N` inserts capture N of the matching rule, `%N` capture N of the enclosing condition (nothing
    if there is no enclosing condition), unmodified -/
theorem c20_captures (env : Env) (d : UInt8) (t out : Bytes) (hd : isDigit d = true) :
    substGo env (dollar :: d :: t) 0 out = substGo env t 0 (out ++ (env.rule.get (d.toNat - 48)).1) ∧
    substGo env (pct :: d :: t) 0 out =
      substGo env t 0 (out ++ (match env.cond with | some c => (c.get (d.toNat - 48)).1 | none => [])) := by
  refine ⟨substGo_digit env dollar d t out rfl hd, (substGo_digit env pct d t out rfl hd).trans ?_⟩
  simp only [capOf, show pct ≠ dollar by decide, if_false]
  cases env.cond <;> rfl

example : subst ⟨⟨ofString "/foo/bar", [some (0, 8), some (1, 4), none]⟩,
                 some ⟨ofString "www.example.com", [some (0, 15), some (0, 3)]⟩,
                 ⟨none, none, 80, ofString "/foo/bar", none⟩⟩
    (ofString "/$1-$2-$7-%1") = ofString "/foo---www" := by decide +kernel

/-- `${N}` (no modifier) inserts capture N with the default recoding, which is the one named
    escpsnde: percent-encode everything but unreserved characters and '/', keep existing %XX -/
theorem c20_braced_capture (env : Env) (d : UInt8) (t out : Bytes) (hd : isDigit d = true) :
    substGo env (dollar :: lbrace :: d :: rbrace :: t) 0 out =
      substGo env t 0 (out ++ burlAppend Extracted.burlEncodePsnde (env.rule.get (d.toNat - 48)).1
                                         (env.rule.get (d.toNat - 48)).2) := by
  exact substGo_tok c20_modifier_map env (.ext dollar [] (.cap d)) ⟨rfl, hd⟩ t out

example : subst ⟨⟨ofString "/a b/%41%2f", [some (0, 11), some (1, 11)]⟩, none, ⟨none, none, 80, [], none⟩⟩
    (ofString "/${1}") = ofString "/a%20b/A%2f" := by decide +kernel

/-! ## ${qsa} and ${url.*} -/

/-- `${qsa}` appends the query string of the request: introduced by '?' if the result so far has
    no '?', by '&' otherwise (nothing if the query string is empty then); nothing at all if the
    request-target has no query part -/
theorem c20_qsa (env : Env) (t out : Bytes) (hnul : (0 : UInt8) ∉ out) :
    substGo env (ofString "${qsa}" ++ t) 0 out =
      substGo env t 0
        (match env.url.query with
         | none => out
         | some q =>
           if qmark ∈ out then (if q = [] then out else out ++ [38] ++ q)
           else out ++ [qmark] ++ q) := by
  refine (substGo_tok c20_modifier_map env (.ext dollar [] .qsa) ⟨rfl, trivial⟩ t out).trans ?_
  simp only [Tok.interp, List.foldl_nil, Item.apply, qsaAppend, cstr_eq_self out hnul, burlAppend_zero]
  cases env.url.query with
  | none => rfl
  | some q => by_cases hq : qmark ∈ out <;> by_cases hqe : q = [] <;> simp [hq, hqe]

example : subst ⟨⟨[], []⟩, none, ⟨none, none, 80, ofString "/x?a=1", some (ofString "a=1")⟩⟩
    (ofString "/y?z${qsa}") = ofString "/y?z&a=1" := by decide +kernel
example : subst ⟨⟨[], []⟩, none, ⟨none, none, 80, ofString "/x?a=1", some (ofString "a=1")⟩⟩
    (ofString "/y${qsa}") = ofString "/y?a=1" := by decide +kernel

/-- `${url.scheme}`, `${url.authority}`, `${url.port}`, `${url.path}`, `${url.query}` insert the
    corresponding part of the request URL; the path is the request-target up to the first '?' -/
theorem c20_url_parts (env : Env) (t out : Bytes) :
    substGo env (ofString "${url.scheme}" ++ t) 0 out = substGo env t 0 (out ++ env.url.scheme.getD []) ∧
    substGo env (ofString "${url.authority}" ++ t) 0 out = substGo env t 0 (out ++ env.url.authority.getD []) ∧
    substGo env (ofString "${url.port}" ++ t) 0 out = substGo env t 0 (out ++ natToDec env.url.port) ∧
    substGo env (ofString "${url.path}" ++ t) 0 out =
      substGo env t 0 (out ++ env.url.path.takeWhile (· ≠ qmark)) ∧
    substGo env (ofString "${url.query}" ++ t) 0 out = substGo env t 0 (out ++ env.url.query.getD []) := by
  have key (item : Item) (lit : String) (hw : item.WF) (e : ofString lit = Tok.render (.ext dollar [] item)) :
      substGo env (ofString lit ++ t) 0 out = substGo env t 0 (item.apply env dollar 0 out) :=
    e ▸ substGo_tok c20_modifier_map env (.ext dollar [] item) ⟨rfl, hw⟩ t out
  have hs := key .scheme "${url.scheme}" trivial (by decide +kernel)
  have ha := key .authority "${url.authority}" trivial (by decide +kernel)
  have hp := key .port "${url.port}" trivial (by decide +kernel)
  have hpa := key .path "${url.path}" trivial (by decide +kernel)
  have hq := key .query "${url.query}" trivial (by decide +kernel)
  simp only [Item.apply, burlAppend_zero] at hs ha hp hpa hq
  exact ⟨hs, ha, hp, hpa, hq⟩

example : subst ⟨⟨[], []⟩, none, ⟨some (ofString "https"), some (ofString "h.example"), 8443, ofString "/p/q?x=1",
                                   some (ofString "x=1")⟩⟩
    (ofString "${url.scheme}://${url.authority}:${url.port}${url.path}?${url.query}")
    = ofString "https://h.example:8443/p/q?x=1" := by decide +kernel

/-! ## rewrite-once / rewrite-repeat / -if-not-file -/

/-- The rewrite stage is bounded for EVERY configuration and every behaviour of the regular
    expressions and of the filesystem: `pass target` may give a different pair of rule lists
    (url.rewrite-once and -repeat for the uri hook, the -if-not-file lists for the physical hook), other
    repeat indices, other %N captures and another file kind on every pass (after a rewrite other
    conditions may hold), yet the loop of HANDLER_COMEBACK re-dispatches ends within 102 passes (more
    fuel never changes the outcome) after at most 101 rewrites — both hooks count in the same
    per-request counter. -/
theorem c20_repeat_bounded (pass : Bytes → RwPass) (opts : Opts) (scheme authority serverName : Bytes)
    (port : Nat) (target : Bytes) (k : Nat) :
    rwRunG pass opts scheme authority serverName port (102 + k) target none 0 =
      rwRunG pass opts scheme authority serverName port 102 target none 0 ∧
    rwRunG pass opts scheme authority serverName port 102 target none 0 ≠ .outOfFuel ∧
    (rwRunG pass opts scheme authority serverName port 102 target none 0).rewrites ≤ 101 := by
  exact rwRunG_bounded pass opts scheme authority serverName port 102 target none 0 k
    (Nat.le_add_left 1 101) (Nat.le_refl 102)

/-- the same for the loop the in-process correspondence drives (uri hook only, one rule list) -/
theorem c20_repeat_bounded_uri (matcher : Bytes → List MatchRes) (templates : List Bytes) (repeatIdx : Nat)
    (cond : Option Caps) (opts : Opts) (scheme authority serverName : Bytes) (port : Nat) (target : Bytes)
    (k : Nat) :
    rwRun matcher templates repeatIdx cond opts scheme authority serverName port (102 + k) target none 0 =
      rwRun matcher templates repeatIdx cond opts scheme authority serverName port 102 target none 0 ∧
    rwRun matcher templates repeatIdx cond opts scheme authority serverName port 102 target none 0 ≠ .outOfFuel ∧
    (rwRun matcher templates repeatIdx cond opts scheme authority serverName port 102 target none 0).rewrites ≤ 101 := by
  exact rwRun_bounded matcher templates repeatIdx cond opts scheme authority serverName port 102 target none 0 k
    (Nat.le_add_left 1 101) (Nat.le_refl 102)

/-- the bound is reached: a rewrite-repeat rule that always matches is stopped by the loop limit;
    so is an -if-not-file repeat rule whose result never names a regular file -/
example : rwRun (fun _ => [.matched [some (0, 1)]]) [ofString "/x"] 0 none ⟨0⟩ (ofString "http") [] (ofString "srv") 80
    200 (ofString "/a") none 0 = .failed .loopError 101 := by decide +kernel
example : rwRunG (fun t => ⟨[], 0, [(ofString "/x", .matched [some (0, t.length)])], 0, none, false, .directory⟩)
    ⟨0⟩ (ofString "http") [] (ofString "srv") 80 200 (ofString "/a") none 0 = .failed .loopError 101 := by decide +kernel
-- `${url.authority}` is the server name when the request has no Host
example : rwRun (fun t => if t = ofString "/a" then [.matched [some (0, 2)]] else [.nomatch])
    [ofString "/${url.authority}"] 0 none ⟨0⟩ (ofString "http") [] (ofString "srv") 80 200 (ofString "/a") none 0
    = .served (ofString "/srv") 1 := by decide +kernel

/-- url.rewrite-once: once a rule below `repeatIdx` has been applied, the request is not
    rewritten again — the next pass through mod_rewrite returns without consulting any rule
    (HANDLER_GO_ON; or the loop-limit error if the limit is exhausted at that very moment) -/
theorem c20_rewrite_once (repeatIdx : Nat) (cond : Option Caps) (url : UrlParts)
    (rules : List (Bytes × MatchRes)) (h h' : Option RwState) (t' : Bytes) (m : Nat)
    (hcall : rwCall repeatIdx cond url rules h = (.comeback t', h'))
    (hm : process cond url url.path rules = .finished m t') (honce : m < repeatIdx) :
    ∀ (url2 : UrlParts) (rules2 : List (Bytes × MatchRes)),
      (rwCall repeatIdx cond url2 rules2 h').1 = .goOn ∨
      (rwCall repeatIdx cond url2 rules2 h').1 = .loopError := by
  intro url2 rules2
  obtain ⟨m', hp, _, rfl⟩ := rwCall_comeback hcall
  cases hm.symm.trans hp
  simp only [rwCall, Option.map_some, decide_eq_true honce, if_true]
  split
  · exact .inr rfl
  · exact .inl rfl

example : rwRun (fun t => if t = ofString "/a" then [.matched [some (0, 2)], .nomatch]
                          else [.nomatch, .matched [some (0, 2)]])
    [ofString "/b", ofString "/c"] 1 none ⟨0⟩ (ofString "http") (ofString "h") [] 80 200 (ofString "/a") none 0
    = .served (ofString "/b") 1 := by decide +kernel
example : rwRun (fun t => if t = ofString "/a" then [.matched [some (0, 2)], .nomatch]
                          else if t = ofString "/b" then [.nomatch, .matched [some (0, 2)]] else [.nomatch, .nomatch])
    [ofString "/b", ofString "/c"] 0 none ⟨0⟩ (ofString "http") (ofString "h") [] 80 200 (ofString "/a") none 0
    = .served (ofString "/c") 2 := by decide +kernel

/-- url.rewrite-if-not-file / url.rewrite-repeat-if-not-file on the first pass of a request: the
    request is rewritten — to the expansion of the FIRST matching rule of the list, marked final if
    that rule is a rewrite-if-not-file (not -repeat-) rule — exactly when the physical path is NOT a
    regular file (a directory, a missing path, any other object do not exempt it) and no module has
    taken the request; a regular file is served untouched whatever the rules say. -/
theorem c20_if_not_file (handlerSet : Bool) (kind : FsKind) (repeatIdx : Nat) (cond : Option Caps) (url : UrlParts)
    (pre post : List (Bytes × MatchRes)) (tmpl : Bytes) (ov : OVec) (hpre : ∀ r ∈ pre, r.2 = .nomatch)
    (hres : (subst { rule := { subject := url.path, ovec := ov }, cond := cond, url := url } tmpl).head? = some slash) :
    rwPhysical handlerSet kind repeatIdx cond url (pre ++ (tmpl, .matched ov) :: post) none =
      if handlerSet || kind = .regular then (.goOn, none)
      else (.comeback (subst { rule := { subject := url.path, ovec := ov }, cond := cond, url := url } tmpl),
            some { count := 0, finished := pre.length < repeatIdx }) := by
  have hte : tmpl.isEmpty = false := by
    cases tmpl with
    | nil => cases hres
    | cons _ _ => rfl
  have hfm := (c20_first_match cond url url.path pre post tmpl ov hpre).1
  simp only [hte, Bool.false_eq_true, if_false] at hfm
  unfold rwPhysical
  cases handlerSet <;> by_cases hk : kind = .regular <;> simp [hk, rwCall_first hfm hres]

example : rwPhysical false .directory 1 none ⟨none, none, 80, ofString "/app/", none⟩
    [(ofString "/front.txt", .matched [some (0, 5)])] none
    = (.comeback (ofString "/front.txt"), some ⟨0, true⟩) := by decide +kernel
example : rwPhysical false .regular 1 none ⟨none, none, 80, ofString "/app/real.txt", none⟩
    [(ofString "/front.txt", .matched [some (0, 13)])] none = (.goOn, none) := by decide +kernel

/-! ## alias.url -/

/-- mod_alias_remap(): the alias applied is the first one (in configuration order) whose key is a
    prefix of the url-path — compared byte for byte, or ASCII-case-insensitively with
    server.force-lowercase-filenames (`nocase`); exactly the document root and the matched prefix `k'`
    (as long as the key) are replaced by the alias value, everything behind is kept byte for byte; the
    value becomes the new basedir. -/
theorem c20_alias_exact_prefix (nocase : Bool) (aliases : List (Bytes × Bytes)) (basedir path p' b' : Bytes)
    (h : aliasRemap nocase aliases basedir path = .remapped p' b') :
    ∃ (pre post : List (Bytes × Bytes)) (k v k' rest : Bytes),
      aliases = pre ++ (k, v) :: post ∧
      (∀ kv ∈ pre, ¬ ∃ k'' r, path.drop (baseLen basedir) = k'' ++ r ∧ k''.length = kv.1.length ∧
          (if nocase then eqIcase k'' kv.1 = true else k'' = kv.1)) ∧
      path.drop (baseLen basedir) = k' ++ rest ∧ k'.length = k.length ∧
      (if nocase then eqIcase k' k = true else k' = k) ∧ p' = v ++ rest ∧ b' = v := by
  unfold aliasRemap at h
  split at h
  · cases h
  · cases hf : List.find? (aliasKeyMatches nocase (path.drop (baseLen basedir))) aliases with
    | none => simp [hf] at h
    | some kv =>
      obtain ⟨k, v⟩ := kv
      simp only [hf] at h
      split at h
      · cases h
      · simp only [AliasRes.remapped.injEq] at h
        obtain ⟨hm, pre, post, hl, hpre⟩ := List.find?_eq_some_iff_append.mp hf
        obtain ⟨k', rest, e, hlen, hcmp⟩ := (aliasKeyMatches_iff _ _ _).mp hm
        refine ⟨pre, post, k, v, k', rest, hl, fun kv hkv hex => ?_, e, hlen, hcmp, ?_, h.2.symm⟩
        · simpa [(aliasKeyMatches_iff _ _ _).mpr hex] using hpre kv hkv
        · rw [← h.1, e, ← hlen, List.drop_left]

example : aliasRemap false [(ofString "/cgi-bin/", ofString "/usr/lib/cgi-bin/"), (ofString "/doc", ofString "/usr/share/doc")]
    (ofString "/var/www/") (ofString "/var/www/doc/x.html")
    = .remapped (ofString "/usr/share/doc/x.html") (ofString "/usr/share/doc") := by decide +kernel
example : aliasRemap false [(ofString "/doc", ofString "/usr/share/doc/")] (ofString "/var/www") (ofString "/var/www/doc../x")
    = .forbidden := by decide +kernel
example : aliasRemap true [(ofString "/Doc/", ofString "/usr/share/doc/")] (ofString "/var/www/") (ofString "/var/www/doc/X.html")
    = .remapped (ofString "/usr/share/doc/X.html") (ofString "/usr/share/doc/") := by decide +kernel

/-! ## virtual hosts -/

/-- mod_simple_vhost: the document root is server-root ++ host name ++ (a tail that depends on
    simple-vhost.document-root only); the host name used is the Host value up to the port, so it
    contains no ':' and — the validated host containing no '/' — no '/' either: the request's
    host selects a single directory level below the server root. -/
theorem c20_simple_vhost_root (sroot host : Bytes) (droot : Option Bytes) :
    ∃ tail, simpleVhostRoot sroot (some host) droot = sroot ++ hostNoPort host ++ tail ∧
      (droot = none → tail = [] ∨ tail = [slash]) ∧
      (∀ d, droot = some d → tail = d ∨ tail = d.drop 1 ∨ tail = slash :: d) ∧
      hostNoPort host <+: host ∧ colon ∉ hostNoPort host ∧ (slash ∉ host → slash ∉ hostNoPort host) := by
  have hp : hostNoPort host <+: host := List.takeWhile_prefix _
  have hc : colon ∉ hostNoPort host := by
    intro hm
    simpa using List.all_eq_true.mp List.all_takeWhile _ hm
  have hs : slash ∉ host → slash ∉ hostNoPort host := fun h hm => h (hp.subset hm)
  cases droot with
  | none =>
    obtain ⟨tail, e, ht⟩ := appendSlash_tail (sroot ++ hostNoPort host)
    exact ⟨tail, e, fun _ => ht, nofun, hp, hc, hs⟩
  | some d =>
    obtain ⟨tail, e, ht⟩ := appendPath_tail (sroot ++ hostNoPort host) d
    exact ⟨tail, e, nofun, fun d' hd => Option.some.inj hd ▸ ht, hp, hc, hs⟩

example : simpleVhostRoot (ofString "/srv/www/") (some (ofString "example.com:8080")) (some (ofString "/htdocs/"))
    = ofString "/srv/www/example.com/htdocs/" := by decide +kernel

/-- mod_evhost: whatever a %-piece of evhost.path-pattern expands to (%0..%9, %{N}, %{N.M}, %_) is a
    part of the Host value — it contains no '/' when the validated host contains none — so only
    the literal text of the configured pattern decides how deep below which directory the
    document root lies. -/
theorem c20_evhost_pieces_from_host (authority piece : Bytes) (hs : slash ∉ authority)
    (hp : piece.head? = some pct) :
    slash ∉ evPiece (evParseHost authority) authority piece := by
  intro hm
  rcases evPiece_bytes authority piece hp slash hm with h | h | h
  · exact hs h
  · exact absurd h (by decide)
  · exact absurd h (by decide)

example : (evParsePattern (ofString "/srv/%0/%3/%{2.1}/%_/%%")).map (fun p => evhostRoot p (ofString "sub2.sub1.domain.tld:81"))
    = some (ofString "/srv/domain.tld/sub1/d/sub2.sub1.domain.tld/%/") := by decide +kernel

end LtVerif.C20
