/-
  C01 — HTTP/1.x request framing is unambiguous; malformed framing is rejected.
  Property theorems, the notions their statements need, and the evaluations behind the examples;
  lemmas live in LtVerif/Proofs/H1*.lean and Proofs/Burl.lean (`isCtl`, `parseTarget_ctl`).
-/
import LtVerif.Model.H1Parse
import LtVerif.Proofs.Burl
import LtVerif.Proofs.H1Chunked
import LtVerif.Proofs.H1Fields
import LtVerif.Proofs.H1Block
import LtVerif.Proofs.H1Parse
import LtVerif.Proofs.H1Conn
namespace LtVerif.C01
open LtVerif B

/-! ## chunked request bodies (h1_chunked) -/

/-- segmentation independence of the chunked decoder automaton: feeding a stream in two
    pieces is the same as feeding it at once (hence the same for any segmentation). -/
theorem c01_chunked_segmentation (cfg : CkCfg) (s : CkSt) (a b : Bytes) :
    ckFeed cfg (ckFeed cfg s a) b = ckFeed cfg s (a ++ b) :=
  (ckFeed_append cfg s a b).symm

/-- wire form of a chunked body whose chunks use arbitrary accepted size lines -/
def wire (cs : List (Bytes × Bytes)) (last : Bytes) : Bytes :=
  cs.flatMap (fun c => c.1 ++ c.2 ++ [cr, lf]) ++ (last ++ [cr, lf])

/-- wire form with a trailer section `tr` behind the last-chunk line (everything up to and including the
    final CRLF; `wire cs last = wireT cs last [cr, lf]`) -/
def wireT (cs : List (Bytes × Bytes)) (last tr : Bytes) : Bytes :=
  cs.flatMap (fun c => c.1 ++ c.2 ++ [cr, lf]) ++ (last ++ tr)

/-- **Chunked bodies with trailers are framed exactly.**  Any chunks in any accepted spelling, a last-chunk
    line, and a trailer section (`TrailerOk`: NUL-free, ending at its first CRLFCRLF, within
    max-request-field-size): the decoder ends exactly at the end of the trailer section with the concatenated
    chunk data, keep-alive on, and every following byte only counts as `after`: trailer bytes are never the start
    of a request. -/
theorem c01_chunked_trailers_framed (cfg : CkCfg) (hcfg : cfg.maxSize = 0)
    (cs : List (Bytes × Bytes)) (last tr next : Bytes)
    (hcs : ∀ c ∈ cs, GoodLine c.1 c.2.length ∧ c.2 ≠ []) (hlast : GoodLine last 0) (ht : TrailerOk cfg last tr) :
    ckFeed cfg {} (wireT cs last tr ++ next) =
      { mode := .done, out := cs.flatMap (·.2), ka := true, after := next.length } := by
  unfold wireT
  rw [ckFeed_append, ckFeed_append, show ({} : CkSt) = { mode := .hdr [] false, out := [], ka := true, after := 0 } from rfl,
      ckFeed_chunks cfg hcfg true 0 cs [] hcs, ckFeed_final_trailers cfg hlast ht, ckFeed_after cfg next _ rfl]
  simp

/-- Round trip: every chunked message (any number of non-empty chunks, any accepted spelling
    of the chunk-size lines incl. chunk extensions, no trailers) decodes to exactly the
    concatenation of the chunk data, consumes exactly the message, and leaves keep-alive on. -/
theorem c01_chunked_roundtrip (cfg : CkCfg) (hcfg : cfg.maxSize = 0) (hmf : cfg.maxField ≥ 1026)
    (cs : List (Bytes × Bytes)) (last : Bytes)
    (hcs : ∀ c ∈ cs, GoodLine c.1 c.2.length ∧ c.2 ≠ []) (hlast : GoodLine last 0) :
    ckFeed cfg {} (wire cs last) =
      { mode := .done, out := cs.flatMap (·.2), ka := true, after := 0 } := by
  have := c01_chunked_trailers_framed cfg hcfg cs last [cr, lf] [] hcs hlast (TrailerOk.plain cfg hmf hlast)
  rwa [List.append_nil] at this

/-- Bytes that follow a complete chunked body are not consumed by it (they are the next
    request): they only advance the `after` counter. -/
theorem c01_chunked_no_overread (cfg : CkCfg) (hcfg : cfg.maxSize = 0) (hmf : cfg.maxField ≥ 1026)
    (cs : List (Bytes × Bytes)) (last next : Bytes)
    (hcs : ∀ c ∈ cs, GoodLine c.1 c.2.length ∧ c.2 ≠ []) (hlast : GoodLine last 0) :
    ckFeed cfg {} (wire cs last ++ next) =
      { mode := .done, out := cs.flatMap (·.2), ka := true, after := next.length } :=
  c01_chunked_trailers_framed cfg hcfg cs last [cr, lf] next hcs hlast (TrailerOk.plain cfg hmf hlast)

/-- Malformed framing: chunk data not followed by CRLF is a 400 and clears keep-alive. -/
theorem c01_chunked_missing_crlf_rejected (cfg : CkCfg) (s : CkSt) (d : Bytes) (x y : UInt8)
    (hd : d ≠ []) (hm : s.mode = .data d.length) (hxy : ¬ (x = cr ∧ y = lf)) :
    (ckFeed cfg s (d ++ [x, y])).mode = .err 400 ∧ (ckFeed cfg s (d ++ [x, y])).ka = false := by
  obtain ⟨mode, out, ka, after⟩ := s
  simp only at hm
  subst hm
  rw [ckFeed_append, ckFeed_data cfg d d.length out ka after hd rfl]
  simp only [ckFeed_cons, ckFeed_nil, ckStep]
  by_cases h1 : x = cr <;> by_cases h2 : y = lf <;> simp_all

/-- **Chunk-size lines against the grammar (soundness).**  Whatever line the decoder accepts as a chunk-size
    line of value `n` is a `SizeLine` (Proofs/H1Chunked.lean, stated without reference to the decoder): RFC 9112
    §7.1 with chunk-ext relaxed to "no control characters". -/
theorem c01_chunked_size_line_grammar (p : Bytes) (n : Nat) (h : ckParseLine (p ++ [lf]) = .ok n) :
    SizeLine (p ++ [lf]) n :=
  ckParseLine_sound p n h

/-- **Malformed chunk framing is rejected.**  A complete line (NUL-free, shorter than 1024) where a chunk-size
    line is expected that is NOT a `SizeLine` of any value puts the decoder into its error state -- status 400,
    keep-alive off (and by `c01_reject_closes` the connection closes). -/
theorem c01_chunked_malformed_size_line_rejected (cfg : CkCfg) (p : Bytes) (out : Bytes) (ka : Bool)
    (hlf : lf ∉ p) (hnul : (0 : UInt8) ∉ p) (hlen : p.length + 1 < 1024)
    (hbad : ∀ n, ¬ SizeLine (p ++ [lf]) n) :
    ∃ e, (ckFeed cfg { mode := .hdr [] false, out := out, ka := ka, after := 0 } (p ++ [lf])).mode = .err e ∧
         (ckFeed cfg { mode := .hdr [] false, out := out, ka := ka, after := 0 } (p ++ [lf])).ka = false := by
  cases hp : ckParseLine (p ++ [lf]) with
  | ok n => exact absurd (ckParseLine_sound p n hp) (hbad n)
  | error e => exact ⟨e, stage_chunked_bad_size_line_rejected cfg p e out ka hlf hnul hlen hp⟩

/-- the validator rejects a line that does not begin with a hex digit (a bare LF included); junk behind the
    size is `c01_chunked_malformed_size_line_rejected` -/
theorem c01_chunked_line_no_hex (l : Bytes) (h : (l.head?.bind hexVal) = none) :
    ckParseLine l = .error 400 := by
  unfold ckParseLine
  cases l with
  | nil => simp [ckHex]
  | cons b rest =>
    simp only [List.head?_cons, Option.bind_some] at h
    simp [ckHex, h]

/-- every reachable error state has keep-alive cleared (invariant over all inputs) -/
theorem c01_chunked_error_closes (cfg : CkCfg) (bs : Bytes) :
    ∀ (s : CkSt), ((∃ e, s.mode = .err e) → s.ka = false) →
      ((∃ e, (ckFeed cfg s bs).mode = .err e) → (ckFeed cfg s bs).ka = false) := by
  induction bs with
  | nil => intro s hs; simpa [ckFeed_nil] using hs
  | cons b rest ih =>
    intro s hs
    rw [ckFeed_cons]
    apply ih
    intro ⟨e', he'⟩
    by_cases hs' : ∃ e0, s.mode = .err e0
    · obtain ⟨e0, h0⟩ := hs'
      rw [show ckStep cfg s b = s from ckFeed_err cfg s e0 [b] h0]
      exact hs ⟨e0, h0⟩
    · exact (ckStep_err cfg s b e' (fun e0 h0 => hs' ⟨e0, h0⟩) he').2

/-- from the initial state: an error outcome always has keep-alive cleared -/
theorem c01_chunked_error_closes_init (cfg : CkCfg) (bs : Bytes) (e : Nat)
    (h : (ckFeed cfg {} bs).mode = .err e) : (ckFeed cfg {} bs).ka = false :=
  c01_chunked_error_closes cfg bs {} (by simp) ⟨e, h⟩

/-- the error state is absorbing: after malformed chunk framing no further byte is decoded -/
theorem c01_chunked_error_absorbing (cfg : CkCfg) (s : CkSt) (e : Nat) (bs : Bytes)
    (h : s.mode = .err e) : ckFeed cfg s bs = s :=
  ckFeed_err cfg s e bs h

/-! non-vacuity: concrete accepted size lines, incl. a chunk extension and leading zeros -/
example : GoodLine (ofString "5;x=y\r\n") 5 :=
  ⟨by rfl, ⟨ofString "5;x=y\r", by decide +kernel, by decide +kernel, by decide +kernel⟩, by decide +kernel⟩
example : GoodLine (ofString "000\r\n") 0 :=
  ⟨by rfl, ⟨ofString "000\r", by decide +kernel, by decide +kernel, by decide +kernel⟩, by decide +kernel⟩
example : ckFeed {} {} (ofString "5\r\nhello\r\n0\r\n\r\nGET") =
    { mode := .done, out := ofString "hello", ka := true, after := 3 } := by decide +kernel
example : (ckFeed {} {} (ofString "5\r\nhello\rX")).mode = .err 400 := by decide +kernel
example : ckParseLine (ofString "5 x\r\n") = .error 400 := by rfl
-- bare CR / control character inside a chunk-size line (accepted before the repair of h1_chunked)
example : (ckFeed {} {} (ofString "5\rXYZ\r\nhello")).mode = .err 400 := by decide +kernel
example : (ckFeed {} {} (ofString "5;\x01\r\nhello")).mode = .err 400 := by decide +kernel
example : SizeLine (ofString "5;x=y\r\n") 5 :=
  ⟨⟨ofString "5", [], ofString ";x=y", by decide +kernel, by decide +kernel, by decide +kernel, by decide +kernel, by decide +kernel, .inr ⟨by decide +kernel, by decide +kernel⟩⟩,
   by decide +kernel⟩

/-! ## request head (request.c): what an ACCEPTED head looks like, read off the byte block

  What each stage rejects on its own: the theorems `stage_*` of Proofs/H1Parse.lean.  Here `parseHead` on a byte
  block: each clause of the "always rejected" list is the contrapositive of one conjunct of a `c01_accepted_*`. -/

/-- a reading of the first `len` bytes of a block: request line, physical field lines, blank line,
    and the records after the request line (`r0`) and after the field section (`r1`), the latter
    produced from the tokenised fields `fs` -/
structure Reading where
  rl : Bytes
  fields : List Bytes
  bl : Bytes
  len : Nat
  r0 : PReq
  r1 : PReq
  fs : List (Bytes × Bytes)

/-- `R` is how `parseHead` read the block it accepted as `r`, `t` -/
structure IsReading (o : Opts) (mf p : Nat) (block : Bytes) (r : PReq) (t : Target) (R : Reading) : Prop where
  /-- the lines ARE the first `len` bytes of the block, up to and including its first blank line -/
  bytes : block.take R.len = (R.rl :: R.fields).flatten ++ R.bl
  blank : isBlankLine R.bl = true
  size : R.len ≤ mf
  lines : ∀ l ∈ R.rl :: R.fields, isBlankLine l = false ∧ l.getLast? = some lf
  termStrict : o.headerStrict = true → R.bl = [cr, lf]
  reqline : parseReqline o R.rl (block.take R.len) = .ok R.r0
  tokens : (groupFolds R.fields).map (fieldOf o) = R.fs.map Except.ok
  applied : applyFields o R.r0 R.fs = .ok R.r1
  post : parsePost o p R.r1 = .ok r t

/-- **Decomposition.**  Whatever byte block `parseHead` accepts has a reading: its first bytes are a
    request line, field lines and a blank line (CRLF in strict mode); the request line step accepts the
    first, every logical field line tokenises, the fields are accepted in order starting from the
    request line's record, and the cross-field step accepts the result. -/
theorem c01_parseHead_ok_decompose (o : Opts) (mf p : Nat) (block : Bytes) (r : PReq) (t : Target)
    (h : parseHead o mf p block = .ok r t) : ∃ R, IsReading o mf p block r t R := by
  obtain ⟨rl, fields, len, r0, r1, hrh, hrl, hterm, hph, hpp⟩ := (parseHead_spec o mf p block).1 r t h
  obtain ⟨bl, hb⟩ := recvHead_head_bytes hrh
  obtain ⟨fs, htok, happ⟩ := (parseHeaders_ok_iff o r0 r1 fields).mp hph
  exact ⟨⟨rl, fields, bl, len, r0, r1, fs⟩,
    ⟨hb.bytes, hb.blank, hb.size, hb.eachLine, fun hs => strict_terminator_crlf hb (hterm hs), hrl, htok, happ, hpp⟩⟩

/-- the records of a reading: the request line's record is fresh and carries a known method; fields and the
    cross-field step leave method, target and version alone -/
theorem c01_reading_records {o : Opts} {mf p : Nat} {block : Bytes} {r : PReq} {t : Target} {R : Reading}
    (hR : IsReading o mf p block r t R) :
    Fresh R.r0 ∧ methodTable.contains r.method = true ∧ r.method = R.r0.method ∧ r.target = R.r0.target ∧
    r.target ≠ [] ∧ r.bodyLen = R.r1.bodyLen := by
  have hq := parseReqline_ok hR.reqline
  obtain ⟨k1, k2, _⟩ := applyFields_keeps o R.fs R.r0 R.r1 hR.applied
  have pk := parsePost_ok_keeps hR.post
  refine ⟨hq.fresh, ?_, pk.method.trans k2, pk.target.trans k1, ?_, pk.bodyLen⟩
  · rw [pk.method, k2]; exact hq.method
  · rw [pk.target, k1]; exact hq.target

/-- **Accepted heads are framed unambiguously (every mode).**  Among the tokenised fields of an accepted
    block: at most one Content-Length, non-empty, all digits, < 2^63; at most one Transfer-Encoding, non-empty,
    exactly `chunked` (any case), and only on HTTP/1.1; the framing reported is the RFC 9112 §6.3 rule
    (chunked iff Transfer-Encoding present, else the Content-Length value, else no body); and a request with
    both fields is accepted only outside strict mode and then loses keep-alive.
    Contrapositives: repeated / empty / non-numeric / overflowing Content-Length, empty or repeated
    Transfer-Encoding, Transfer-Encoding other than chunked or on HTTP/1.0, and (strict) Content-Length
    together with Transfer-Encoding are rejected. -/
theorem c01_accepted_head_framing {o : Opts} {mf p : Nat} {block : Bytes} {r : PReq} {t : Target} {R : Reading}
    (hR : IsReading o mf p block r t R) :
    (R.fs.filter (fun f => f.1 = nCL)).length ≤ 1 ∧
    (∀ v, (nCL, v) ∈ R.fs → v ≠ [] ∧ ∃ k : Nat, strtoInt64 v = some k) ∧
    (R.fs.filter (fun f => f.1 = nTE)).length ≤ 1 ∧
    (∀ v, (nTE, v) ∈ R.fs → v ≠ [] ∧ eqIcase v vChunked = true ∧ r.version = 1) ∧
    (r.bodyLen = -1 ↔ ∃ v, (nTE, v) ∈ R.fs) ∧
    (r.bodyLen ≠ -1 → ∀ v, (nCL, v) ∈ R.fs → strtoInt64 v = some r.bodyLen.toNat ∧ 0 ≤ r.bodyLen) ∧
    (r.bodyLen ≠ -1 → (¬ ∃ v, (nCL, v) ∈ R.fs) → r.bodyLen = 0) ∧
    ((∃ v, (nTE, v) ∈ R.fs) → (∃ v, (nCL, v) ∈ R.fs) → o.headerStrict = false ∧ r.keepAlive = false) := by
  have hq := parseReqline_ok hR.reqline
  have inv := FramingInv.of_fresh hq.fresh hR.applied
  have pk := parsePost_ok_keeps hR.post
  rw [pk.bodyLen]
  refine ⟨inv.clOnce, ?_, inv.teOnce, ?_, inv.chunked, ?_, ?_, ?_⟩
  · intro v hv
    obtain ⟨h1, k, hk, _⟩ := inv.clNum v hv
    exact ⟨h1, k, hk⟩
  · intro v hv
    obtain ⟨h1, h2, h3⟩ := inv.te v hv
    exact ⟨h1, h2, by rw [pk.version, inv.version]; exact h3⟩
  · intro hne v hv
    obtain ⟨_, k, hk, hb⟩ := inv.clNum v hv
    rcases hb with hb | hb
    · rw [hb]; simp [hk]
    · exact absurd hb hne
  · intro hne hno
    rcases inv.noCl hno with h0 | h1
    · exact h0
    · exact absurd h1 hne
  · intro hte hcl
    exact pk.teCl (inv.chunked.mpr hte) (inv.clSeen.mpr hcl)

/-- **Strict mode (default): line ends, whitespace, control characters.**  In an accepted block the request
    line ends in CRLF, the blank line that ends the head is CRLF, every logical field line -- folded or not --
    unfolds to a line ending in CRLF with CRLF at every fold, no field has whitespace before its colon, and no
    field value holds a control character other than HT.
    Contrapositives: bare LF anywhere (request line, field line, fold, terminating blank line), whitespace before
    the colon, control character in a field value are rejected. -/
theorem c01_accepted_head_strict {o : Opts} {mf p : Nat} {block : Bytes} {r : PReq} {t : Target} {R : Reading}
    (hR : IsReading o mf p block r t R) (hs : o.headerStrict = true) :
    R.bl = [cr, lf] ∧ R.rl.getD (R.rl.length - 2) 0 = cr ∧
    (∀ g ∈ groupFolds R.fields, ∃ j body, joinFolds true g = some j ∧ stripEol true j = some body ∧
        j.length ≥ 2 ∧ j.getD (j.length - 2) 0 = cr) ∧
    (∀ first conts ci, (first :: conts) ∈ groupFolds R.fields → findIdx (· = colon) first 0 = some ci →
        ((first.take ci).getLast?.map isWs).getD false = false) ∧
    (∀ f ∈ R.fs, f.2.any lineCharInvalidStrict = false) := by
  have hq := parseReqline_ok hR.reqline
  have inv := FramingInv.of_fresh hq.fresh hR.applied
  -- every logical line tokenises
  have htokAll : ∀ g ∈ groupFolds R.fields, ∃ f, fieldOf o g = .ok f := by
    intro g hg
    have hm : fieldOf o g ∈ (groupFolds R.fields).map (fieldOf o) := List.mem_map_of_mem hg
    rw [hR.tokens] at hm
    obtain ⟨f, _, hf⟩ := List.mem_map.mp hm
    exact ⟨f, hf.symm⟩
  refine ⟨hR.termStrict hs, hq.strictEol hs, ?_, ?_, inv.strictVal hs⟩
  · intro g hg
    obtain ⟨f, hf⟩ := htokAll g hg
    obtain ⟨_, j, body, _, _, hj, hb⟩ := (fieldOf_spec o g).1 f hf
    rw [hs] at hj hb
    obtain ⟨h1, h2⟩ := stripEol_strict_crlf j body hb
    exact ⟨j, body, hj, hb, h1, h2⟩
  · intro first conts ci hg hci
    obtain ⟨f, hf⟩ := htokAll _ hg
    cases hw : ((first.take ci).getLast?.map isWs).getD false with
    | false => rfl
    | true =>
      have := stage_ws_before_colon_rejected_strict o first conts ci hs hci hw
      rw [this] at hf
      simp at hf

/-- **Missing Host on HTTP/1.1.**  An accepted HTTP/1.1 block has a Host field among its tokenised fields, or
    its request-target is in absolute form (the request line step then records the authority as host). -/
theorem c01_accepted_head_host {o : Opts} {mf p : Nat} {block : Bytes} {r : PReq} {t : Target} {R : Reading}
    (hR : IsReading o mf p block r t R) (hv : r.version = 1) :
    (∃ v, (nHost, v) ∈ R.fs) ∨ R.r0.host ≠ none := by
  have pk := parsePost_ok_keeps hR.post
  obtain ⟨_, _, k3⟩ := applyFields_keeps o R.fs R.r0 R.r1 hR.applied
  by_cases hex : ∃ v, (nHost, v) ∈ R.fs
  · exact .inl hex
  · right
    intro hnh
    have h1 : R.r1.host = R.r0.host :=
      k3 (fun f hf hfe => hex ⟨f.2, by rw [← hfe]; exact hf⟩)
    have h2 := pk.host (by rw [← pk.version, hv]; exact Nat.le_refl 1)
    exact h2 (by rw [h1, hnh])

/-- **Control characters in the request-target (strict mode, every option set configfile.c can produce).**
    The request-target of an accepted block carries no control character (0x00-0x1f, DEL) anywhere: before a
    '#' by URL normalisation (`burlNormalize` percent-encodes it and `containsCtrls` rejects) or by the strict
    scan, behind the '#' -- which normalisation drops unread -- by the fragment check of the request line step;
    behind the '#', with url-ctrls-reject, also no SP and no 0xff.  `o.ctrlsReject → o.urlNormalize` is what
    config_http_parseopts() guarantees (any url option forces url-normalize); the raw bit set ⟨0x41⟩ would
    accept `/a\x01`. -/
theorem c01_accepted_target_ctl_free {o : Opts} {mf p : Nat} {block : Bytes} {r : PReq} {t : Target} {R : Reading}
    (hR : IsReading o mf p block r t R) (hs : o.headerStrict = true)
    (hreach : o.ctrlsReject = true → o.urlNormalize = true) :
    (∀ c ∈ r.target, isCtl c = false) ∧
    (o.ctrlsReject = true → r.method ≠ ofString "CONNECT" → fragmentInvalidStrict r.target = false) := by
  obtain ⟨k1, k2, _⟩ := applyFields_keeps o R.fs R.r0 R.r1 hR.applied
  have pk := parsePost_ok_keeps hR.post
  have ht : r.target = R.r0.target := pk.target.trans k1
  have hm : r.method = R.r0.method := pk.method.trans k2
  rw [ht, hm]
  exact ⟨accepted_target_ctl_free hR.reqline k1 k2 hR.post hs hreach,
         fun hc hnc => (parseReqline_checks hR.reqline).2.2 hs hc hnc⟩

/-- **NUL.**  Lenient mode: an accepted block has no NUL anywhere in its head (request line, field lines,
    blank line).  Strict mode (reachable option sets): no NUL in the method, in the request-target, in any
    field name (every mode) or in any field value.
    `_partial`: for strict mode the clause "a NUL byte anywhere in the request line or header section" is
    proved for these token positions only; that the remaining bytes of a line (the two SP and `HTTP/1.x` of the
    request line, the colon, optional whitespace, fold whitespace and line ends of a field line) partition it
    together with the tokens -- i.e. that a NUL can sit nowhere else -- is the tokenisers' (`parseReqlineCore`,
    `fieldOf`) specification, validated by the correspondence, not proved. -/
theorem c01_nul_rejected_partial {o : Opts} {mf p : Nat} {block : Bytes} {r : PReq} {t : Target} {R : Reading}
    (hR : IsReading o mf p block r t R) :
    (o.headerStrict = false → (0 : UInt8) ∉ block.take R.len) ∧
    (∀ f ∈ R.fs, (0 : UInt8) ∉ f.1) ∧
    (0 : UInt8) ∉ r.method ∧
    (o.headerStrict = true → (o.ctrlsReject = true → o.urlNormalize = true) →
       (0 : UInt8) ∉ r.target ∧ ∀ f ∈ R.fs, (0 : UInt8) ∉ f.2) := by
  have hq := parseReqline_ok hR.reqline
  obtain ⟨_, hmeth, _, _, _, _⟩ := c01_reading_records hR
  refine ⟨fun hs => ?_, ?_, ?_, fun hs hreach => ⟨?_, ?_⟩⟩
  · have := (parseReqline_checks hR.reqline).1 hs
    simpa using this
  · intro f hf
    have hm : (Except.ok f : Except Nat (Bytes × Bytes)) ∈ R.fs.map Except.ok := List.mem_map_of_mem hf
    rw [← hR.tokens] at hm
    obtain ⟨g, _, hg⟩ := List.mem_map.mp hm
    exact fieldOf_name_nul_free (lc := f.1) (v := f.2) hg
  · exact methodTable_nul_free _ (by simpa using hmeth)
  · intro hz
    have := (c01_accepted_target_ctl_free hR hs hreach).1 0 hz
    simp [isCtl] at this
  · intro f hf hz
    have := (FramingInv.of_fresh hq.fresh hR.applied).strictVal hs f hf
    rw [List.any_eq_false] at this
    exact this 0 hz (by decide)

/-! non-vacuity -/
example : parseReqline ⟨0x255f⟩ (ofString "GET /a#\x01 HTTP/1.1\r\n") [] = .error 400 :=
  errWith_spec (by decide +kernel)
example : ∃ r, parseReqline ⟨0x255f⟩ (ofString "GET /a#b HTTP/1.1\r\n") [] = .ok r ∧ r.target = ofString "/a#b" :=
  okWith_spec (by decide +kernel)
example : Fresh { version := 1, keepAlive := true, method := ofString "POST" } := ⟨rfl, rfl⟩
example : ∃ r, parseHeaders ⟨1⟩ { version := 1 } [ofString "Content-Length: 5\r\n"] = .ok r ∧ r.bodyLen = 5 :=
  okWith_spec (by decide +kernel)
example : parseHeaders ⟨1⟩ { version := 1 }
    [ofString "Content-Length: 5\r\n", ofString "Content-Length: 5\r\n"] = .error 400 :=
  errWith_spec (by decide +kernel)
example : parseHeaders ⟨1⟩ { version := 0 } [ofString "Transfer-Encoding: chunked\r\n"] = .error 400 :=
  errWith_spec (by decide +kernel)
example : parseHeaders ⟨1⟩ { version := 1 } [ofString "Transfer-Encoding: gzip, chunked\r\n"] = .error 501 :=
  errWith_spec (by decide +kernel)
example : parseHeaders ⟨1⟩ { version := 1 }
    [ofString "Transfer-Encoding: \r\n", ofString "Content-Length: 3\r\n"] = .error 400 :=
  errWith_spec (by decide +kernel)
example : parseHeaders ⟨1⟩ { version := 1 }
    [ofString "Transfer-Encoding: chunked\r\n", ofString "Transfer-Encoding: chunked\r\n"] = .error 400 :=
  errWith_spec (by decide +kernel)

/-! ## connection level: pipelines, keep-alive, close after rejection (Model/H1Conn.lean) -/

/-- feeding a connection segment by segment (what TCP delivers) -/
def feedSegs (cfg : ConnCfg) : ConnSt → List Bytes → ConnSt × List Event
  | s, [] => (s, [])
  | s, seg :: rest =>
    ((feedSegs cfg (h1Feed cfg s seg).1 rest).1, (h1Feed cfg s seg).2 ++ (feedSegs cfg (h1Feed cfg s seg).1 rest).2)

/-- **Independence from TCP segmentation.**  However the byte stream of a connection is cut into
    segments, the final state and the sequence of events (requests with their bodies, rejections,
    close) are those of the uncut stream. -/
theorem c01_segmentation_conn (cfg : ConnCfg) (segs : List Bytes) (s : ConnSt) :
    feedSegs cfg s segs = h1Feed cfg s segs.flatten := by
  induction segs generalizing s with
  | nil => rfl
  | cons seg rest ih =>
    simp only [feedSegs, List.flatten_cons]
    rw [h1Feed_append, ih]

/-- a message as sent by a client, together with the parser's reading of its head (`r`, `t`)
    and the payload its body carries -/
structure Msg where
  head : Bytes
  body : Bytes
  r : PReq
  t : Target
  payload : Bytes

def Msg.bytes (m : Msg) : Bytes := m.head ++ m.body

def Msg.event (cfg : ConnCfg) (m : Msg) : Event :=
  .request (cfg.handler m.r m.t).status m.r.method m.r.target m.t.path m.payload (m.r.bodyLen == -1)

/-- A well-formed message on a kept-alive connection; its body is what the accepted framing announces: nothing,
    exactly Content-Length bytes (ANY bytes), or a chunked coding of the payload with any trailer section. -/
structure WellFormed (cfg : ConnCfg) (m : Msg) : Prop where
  minimal : MinimalHead m.head
  first : firstOk m.head = true
  size : m.head.length ≤ cfg.maxField
  nlines : m.head.count lf + 1 < 8191
  parse : parseHead cfg.opts cfg.maxField cfg.port m.head = .ok m.r m.t
  keep : m.r.keepAlive = true
  handler : (cfg.handler m.r m.t).close = false ∧ (cfg.handler m.r m.t).readsBody = true
  framing :
      (m.r.bodyLen = 0 ∧ m.body = [] ∧ m.payload = [])
    ∨ (m.r.bodyLen > 0 ∧ m.body.length = m.r.bodyLen.toNat ∧ m.payload = m.body)
    ∨ (m.r.bodyLen = -1 ∧ ∃ cs last tr, (∀ c ∈ cs, GoodLine c.1 c.2.length ∧ c.2 ≠ []) ∧ GoodLine last 0 ∧
         TrailerOk (ckCfgOf cfg) last tr ∧ m.body = wireT cs last tr ∧ m.payload = cs.flatMap (·.2))

/-- One well-formed message, received at the start of a request, yields exactly one request event
    carrying exactly its payload, consumes exactly the message (the automaton is back at the start
    of a request with an empty buffer) and advances the request counter by one. -/
theorem c01_message_framed_exactly (cfg : ConnCfg) (hmf : cfg.maxField ≥ 1026) (hms : cfg.maxSize = 0)
    (hidle : cfg.kaIdle ≠ 0) (m : Msg) (hw : WellFormed cfg m) (count : Nat) (bo : Bool)
    (hcount : count ≤ cfg.maxKaReqs) :
    h1Feed cfg { phase := .head [] 0 bo, count := count } m.bytes
      = ({ phase := .head [] 0 true, count := count + 1 }, [m.event cfg]) := by
  have hka : ∀ ckKa, keepAliveAfter cfg count m.r (cfg.handler m.r m.t) true ckKa = ckKa := by
    intro ckKa
    simp [keepAliveAfter, hw.keep, hidle, hcount, hw.handler.1]
  unfold Msg.bytes
  rw [h1Feed_append, headFeed cfg count bo m.head hw.minimal hw.first hw.size hw.nlines]
  have hdisp : dispatch cfg count m.head =
      if m.r.bodyLen = 0 then respond cfg count m.r m.t (cfg.handler m.r m.t) [] true true
      else if m.r.bodyLen > 0 then
        ({ phase := .bodyCL m.r m.t (cfg.handler m.r m.t) m.r.bodyLen.toNat [], count := count }, [])
      else ({ phase := .bodyCk m.r m.t (cfg.handler m.r m.t) {}, count := count }, []) := by
    unfold dispatch
    rw [hw.parse]
    simp [hms, hw.handler.2]
  rw [hdisp]
  rcases hw.framing with ⟨h0, hb, hp⟩ | ⟨hpos, hlen, hp⟩ | ⟨hck, cs, last, tr, hcs, hlast, htr, hb, hp⟩
  · -- no body
    rw [if_pos h0, hb, h1Feed_nil]
    simp [respond, hka, Msg.event, hp, h0]
  · -- Content-Length
    have hne0 : m.r.bodyLen ≠ 0 := by omega
    rw [if_neg hne0, if_pos hpos]
    have hbne : m.body ≠ [] := by
      intro e; rw [e] at hlen; simp at hlen; omega
    simp only
    rw [clFeed cfg count m.r m.t _ m.body _ [] hbne hlen]
    have hnck : (m.r.bodyLen == -1) = false := by
      simp; omega
    simp [respond, hka, Msg.event, hp, hnck]
  · -- chunked
    have hne0 : m.r.bodyLen ≠ 0 := by omega
    have hnpos : ¬ m.r.bodyLen > 0 := by omega
    rw [if_neg hne0, if_neg hnpos]
    have hrt := c01_chunked_trailers_framed (ckCfgOf cfg) (by simp [ckCfgOf, hms]) cs last tr [] hcs hlast htr
    simp only [List.append_nil, List.length_nil] at hrt
    have hwne : wireT cs last tr ≠ [] := by
      have := htr.nonempty
      simp [wireT, this]
    simp only
    rw [hb, ckConnFeed cfg count m.r m.t _ (wireT cs last tr) {} hwne (by rw [hrt]) (by rw [hrt]), hrt]
    simp [respond, hka, Msg.event, hp, hck]

/-- **No request smuggling.**  For every list of well-formed messages `ms` (no body, Content-Length
    body of arbitrary bytes, or chunked body in any accepted spelling), feeding their concatenation
    on one connection yields exactly `ms.length` request events, in order, each with exactly its
    payload, and consumes exactly the bytes: no body byte is ever parsed as part of a request head.
    (Configuration hypotheses: no server.max-request-size limit, keep-alive enabled, the pipeline within
    server.max-keep-alive-requests -- otherwise the server closes earlier by design.) -/
theorem c01_no_smuggling (cfg : ConnCfg) (hmf : cfg.maxField ≥ 1026) (hms : cfg.maxSize = 0)
    (hidle : cfg.kaIdle ≠ 0) (ms : List Msg) (hw : ∀ m ∈ ms, WellFormed cfg m) (count : Nat) (bo : Bool)
    (hcount : count + ms.length ≤ cfg.maxKaReqs + 1) :
    h1Feed cfg { phase := .head [] 0 bo, count := count } (ms.flatMap Msg.bytes)
      = ({ phase := .head [] 0 (bo || !ms.isEmpty), count := count + ms.length }, ms.map (Msg.event cfg)) := by
  induction ms generalizing count bo with
  | nil => simp [h1Feed_nil]
  | cons m rest ih =>
    simp only [List.flatMap_cons, List.length_cons] at hcount ⊢
    rw [h1Feed_append, c01_message_framed_exactly cfg hmf hms hidle m (hw m (by simp)) count bo (by omega)]
    simp only
    rw [ih (fun x hx => hw x (by simp [hx])) (count + 1) true (by omega)]
    simp
    omega

/-- the bytes of a Content-Length body are opaque: whatever they are (e.g. a complete request), the
    next `n` bytes after the head become the body of this request and produce no event of their own -/
theorem c01_cl_body_opaque (cfg : ConnCfg) (count : Nat) (r : PReq) (t : Target) (h : Handler) (d : Bytes)
    (hd : d ≠ []) :
    h1Feed cfg { phase := .bodyCL r t h d.length [], count := count } d = respond cfg count r t h d true true := by
  simpa using clFeed cfg count r t h d d.length [] hd rfl

/-- **A rejected head closes the connection.**  If the parser rejects a (minimal) request head with
    status `e` — all the rejections of the head-level theorems above — the connection answers with
    exactly that status and closes: `[reject e, close]`, nothing else, from this head or later bytes. -/
theorem c01_rejected_head_closes (cfg : ConnCfg) (count : Nat) (bo : Bool) (H next : Bytes) (e : Nat)
    (hmin : MinimalHead H) (hfirst : firstOk H = true) (hsize : H.length ≤ cfg.maxField)
    (hnl : H.count lf + 1 < 8191) (hrej : parseHead cfg.opts cfg.maxField cfg.port H = .err e) :
    h1Feed cfg { phase := .head [] 0 bo, count := count } (H ++ next)
      = ({ phase := .closed, count := count }, [.reject e, .close]) := by
  rw [h1Feed_append, headFeed cfg count bo H hmin hfirst hsize hnl]
  have : dispatch cfg count H = rejectWith count e := by
    unfold dispatch; rw [hrej]
  rw [this]
  simp [rejectWith, h1Feed_closed]

/-- **Rejections are 4xx/5xx.**  Every rejection the connection emits, on ANY byte stream, carries one of
    the statuses 400, 411, 413, 431, 501 (`RejSt`) -- from the first request of a connection and from every
    state in which an embedded chunked decoder is not already in its error state (`ConnSt.Live`, an
    invariant of the automaton). -/
theorem c01_reject_status (cfg : ConnCfg) (bs : Bytes) (s : ConnSt) (hs : s.Live) (st : Nat)
    (h : Event.reject st ∈ (h1Feed cfg s bs).2) :
    st = 400 ∨ st = 411 ∨ st = 413 ∨ st = 431 ∨ st = 501 := by
  obtain ⟨reqs, tail, h1, hr⟩ := h1Feed_run cfg bs s
  rw [h1, List.mem_append] at h
  exact h.elim (fun h => absurd (hr.allReq _ h) (by simp)) (hr.status hs st)

/-- **A trailer section that outgrows max-request-field-size closes the connection.**  When the bytes
    after the last-chunk line reach the limit without their terminating empty line, the request is
    answered with the body decoded so far and the connection is closed: whatever follows (the rest of
    the trailer section, crafted or not to look like a request) produces no event. -/
theorem c01_trailer_overflow_closes (cfg : ConnCfg) (count : Nat) (r : PReq) (t : Target) (h : Handler)
    (ck : CkSt) (acc : Bytes) (off : Nat) (b : UInt8) (next : Bytes)
    (hmode : ck.mode = .trailer acc off false) (hb : b ≠ 0)
    (hnoend : endsCrlfCrlf ((acc ++ [b]).drop off) = false) (hlen : acc.length + 1 ≥ cfg.maxField) :
    h1Feed cfg { phase := .bodyCk r t h ck, count := count } (b :: next)
      = ({ phase := .closed, count := count },
         [.request h.status r.method r.target t.path ck.out (r.bodyLen == -1), .close]) := by
  obtain ⟨mode, out, ka, after⟩ := ck
  simp only at hmode
  subst hmode
  rw [h1Feed_cons]
  have hstep : ckStep (ckCfgOf cfg) { mode := .trailer acc off false, out := out, ka := ka, after := after } b
      = { mode := .done, out := out, ka := false, after := after } := by
    simp [ckStep, hb, hnoend, ckCfgOf]
    omega
  simp [h1Step, hstep, respond, keepAliveAfter, h1Feed_closed]

/-- **Hostile streams: the shape of every event sequence.**  For ANY byte stream from ANY state the events
    are: request events only, then -- if the connection was closed -- exactly one last event (a request that
    does not keep the connection alive, a rejection, or the not-modelled marker) followed by `close`.  In
    particular at most one rejection, nothing after `close`, and no request after a rejection. -/
theorem c01_event_shape (cfg : ConnCfg) (bs : Bytes) : ∀ (s : ConnSt),
    ∃ reqs tail, (h1Feed cfg s bs).2 = reqs ++ tail ∧ (∀ e ∈ reqs, e.isRequest = true) ∧
      (tail = [] ∨ ((h1Feed cfg s bs).1.isClosed = true ∧
        ∃ ev, tail = [ev, Event.close] ∧
          (ev.isRequest = true ∨ (∃ st, ev = Event.reject st) ∨ ev = Event.unmodelled))) := by
  intro s
  obtain ⟨reqs, tail, h1, hr⟩ := h1Feed_run cfg bs s
  exact ⟨reqs, tail, h1, hr.allReq, hr.shape⟩

/-- **After a rejection nothing more is accepted.**  In the event sequence of ANY byte stream from ANY
    state, a `reject` is followed by `close` and nothing else (in particular by no request), and the
    connection is closed. -/
theorem c01_reject_closes (cfg : ConnCfg) (bs : Bytes) : ∀ (s : ConnSt) (pre post : List Event) (st : Nat),
    (h1Feed cfg s bs).2 = pre ++ Event.reject st :: post →
    post = [Event.close] ∧ (h1Feed cfg s bs).1.isClosed = true := by
  intro s pre post st h
  obtain ⟨reqs, tail, h1, h2, h3⟩ := c01_event_shape cfg bs s
  obtain ⟨mid, hmid⟩ := split_in_tail (h.symm.trans h1) fun hm => by simpa using h2 _ hm
  rcases h3 with rfl | ⟨hcl, ev, rfl, _⟩
  · simp at hmid
  · rcases mid with _ | ⟨m, _ | ⟨m', mid'⟩⟩ <;> simp at hmid
    exact ⟨hmid.2.symm, hcl⟩

/-- `close` is final: no event of any kind follows it -/
theorem c01_close_final (cfg : ConnCfg) (bs : Bytes) : ∀ (s : ConnSt) (pre post : List Event),
    (h1Feed cfg s bs).2 = pre ++ Event.close :: post →
    post = [] ∧ (h1Feed cfg s bs).1.isClosed = true := by
  intro s pre post h
  obtain ⟨reqs, tail, h1, h2, h3⟩ := c01_event_shape cfg bs s
  obtain ⟨mid, hmid⟩ := split_in_tail (h.symm.trans h1) fun hm => by simpa using h2 _ hm
  rcases h3 with rfl | ⟨hcl, ev, rfl, hev⟩
  · simp at hmid
  · rcases mid with _ | ⟨m, _ | ⟨m', mid'⟩⟩ <;> simp at hmid
    · rw [hmid.1] at hev
      simp at hev
    · exact ⟨hmid.2, hcl⟩

/-- ... and prefix-closed: more input only ever appends events -/
theorem c01_events_prefix_closed (cfg : ConnCfg) (s : ConnSt) (a b : Bytes) :
    (h1Feed cfg s a).2 <+: (h1Feed cfg s (a ++ b)).2 := by
  rw [h1Feed_append]
  exact ⟨_, rfl⟩

/-- number of responses (answers to accepted requests + rejections) in an event sequence -/
def nResp (evs : List Event) : Nat := (evs.filter Event.isResponse).length

/-- **One response per request, in order.**  `count` is the number of the request being received
    (`con->request_count`).  For ANY byte stream from ANY state: the counter never decreases; while the
    connection is open every response emitted so far advanced it by exactly one (so the k-th response
    answers the k-th request and no request is answered twice or skipped); and in every case the number
    of responses never exceeds the number of requests begun. -/
theorem c01_one_response_per_request (cfg : ConnCfg) (bs : Bytes) : ∀ (s : ConnSt),
    s.count ≤ (h1Feed cfg s bs).1.count ∧
    ((h1Feed cfg s bs).1.isClosed = false → (h1Feed cfg s bs).1.count = s.count + nResp (h1Feed cfg s bs).2) ∧
    nResp (h1Feed cfg s bs).2 ≤ (h1Feed cfg s bs).1.count - s.count + 1 := by
  intro s
  obtain ⟨reqs, tail, h1, hr⟩ := h1Feed_run cfg bs s
  rw [h1, hr.count]
  unfold nResp
  -- every request event is a response; of the last two events at most the first is one
  rw [List.filter_append, List.length_append, List.filter_eq_self.mpr fun e he => isResponse_of_isRequest (hr.allReq e he)]
  rcases hr.shape with rfl | ⟨hc, ev, rfl, _⟩
  · simp
  · rw [hc]
    refine ⟨by omega, nofun, ?_⟩
    cases hr : ev.isResponse <;> simp [hr]

theorem c01_step_one_response (cfg : ConnCfg) (s : ConnSt) (b : UInt8) : nResp (h1Step cfg s b).2 ≤ 1 := by
  have ho := h1Step_out cfg s b
  generalize h1Step cfg s b = out at ho ⊢
  cases ho with
  | silent _ _ _ _ => simp [nResp]
  | closedIdle _ => simp [nResp]
  | answered ev hr => simp [nResp, isResponse_of_isRequest hr]
  | answeredClose ev hr => simp [nResp, isResponse_of_isRequest hr]
  | rejected e _ => simp [nResp, List.filter_cons]
  | unmodelled => simp [nResp]

/-- one CRLF (or bare LF) before a keep-alive request is skipped -- independently of how it is cut into
    segments, by `c01_segmentation_conn` -- and a second blank line is rejected -/
theorem c01_blank_line_between_requests (cfg : ConnCfg) (count : Nat) (H : Bytes)
    (hmin : MinimalHead H) (hfirst' : firstOk H = true) (hsize : H.length ≤ cfg.maxField)
    (hnl : H.count lf + 1 < 8191) :
    h1Feed cfg { phase := .head [] 0 true, count := count } ([cr, lf] ++ H) = dispatch cfg count H ∧
    h1Feed cfg { phase := .head [] 0 true, count := count } ([lf] ++ H) = dispatch cfg count H ∧
    h1Feed cfg { phase := .head [] 0 true, count := count } ([cr, lf, cr, lf] ++ H)
      = ({ phase := .closed, count := count }, [.reject 400, .close]) := by
  -- after the skipped blank line the first byte of the head is treated as at the empty buffer
  have skip : ∀ rbuf, rbuf = [lf] ∨ rbuf = [lf, cr] →
      h1Feed cfg { phase := .head rbuf 0 true, count := count } H = dispatch cfg count H := by
    intro rbuf hr
    refine headFeed_from cfg count _ (fun b hcr hlf => ?_) H hmin hfirst' hsize hnl
    have hcr' : b ≠ 13 := hcr
    have hlf' : b ≠ 10 := hlf
    rcases hr with rfl | rfl <;> simp [h1Step, headState, hcr', hlf', cr, lf]
  refine ⟨?_, ?_, ?_⟩
  · rw [h1Feed_append, h1Feed_cons, h1Feed_single]
    simpa [h1Step, cr, lf] using skip _ (.inr rfl)
  · rw [h1Feed_append, h1Feed_single]
    simpa [h1Step, cr, lf] using skip _ (.inl rfl)
  · simp only [List.cons_append, List.nil_append]
    rw [h1Feed_cons, h1Feed_cons, h1Feed_cons]
    simp [h1Step, cr, lf, rejectWith, h1Feed_closed]

/-! non-vacuity (connection level) -/
section Examples
/-- the default server.http-parseopts (0x255f); every request is handled by a body-reading handler -/
def exCfg : ConnCfg := { opts := ⟨9567⟩, handler := fun _ _ => { status := 200, readsBody := true } }

/-- what the parser reads from a head (dummy values if it does not accept it) -/
def parsed (head : Bytes) : PReq × Target :=
  match parseHead exCfg.opts exCfg.maxField exCfg.port head with
  | .ok r t => (r, t)
  | _ => ({}, { target := [], path := [], query := [] })

def rejectedWith (head : Bytes) (e : Nat) : Bool :=
  match parseHead exCfg.opts exCfg.maxField exCfg.port head with
  | .err e' => e' == e
  | _ => false

private theorem rejectedWith_spec (head : Bytes) (e : Nat) (h : rejectedWith head e = true) :
    parseHead exCfg.opts exCfg.maxField exCfg.port head = .err e := by
  unfold rejectedWith at h
  cases hX : parseHead exCfg.opts exCfg.maxField exCfg.port head <;> simp_all

/-- a message whose `r`,`t` are what the parser reads from its head -/
def msgOf (head body payload : Bytes) : Msg :=
  { head := head, body := body, r := (parsed head).1, t := (parsed head).2, payload := payload }

def exGet : Bytes := ofString "GET /a HTTP/1.1\r\nHost: h\r\n\r\n"
def exPost : Bytes := ofString "POST /e HTTP/1.1\r\nHost: h\r\nContent-Length: 18\r\n\r\n"
def exBody : Bytes := ofString "GET /x HTTP/1.1\r\n\r"     -- an 18-byte body that looks like a request
def exChunked : Bytes := ofString "POST /e HTTP/1.1\r\nHost: h\r\nTransfer-Encoding: chunked\r\n\r\n"
def mGet : Msg := msgOf exGet [] []
def mPost : Msg := msgOf exPost exBody exBody
def mChunked : Msg :=
  msgOf exChunked (wireT [(ofString "3;x=y\r\n", ofString "abc")] (ofString "0\r\n") (ofString "X-T: GET / HTTP/1.1\r\n\r\n"))
    (ofString "abc")

private theorem parsed_eq {head : Bytes} {r : PReq} {t : Target}
    (h : parseHead exCfg.opts exCfg.maxField exCfg.port head = .ok r t) : parsed head = (r, t) := by
  unfold parsed; rw [h]

-- one kernel evaluation per message: the parser runs once, and the head's bytes are spelt out once
private theorem wfGet : WellFormed exCfg mGet := by
  have h : (MinimalHead exGet ∧ firstOk exGet = true ∧ exGet.length ≤ exCfg.maxField ∧ exGet.count lf + 1 < 8191) ∧
      headOkWith (parseHead exCfg.opts exCfg.maxField exCfg.port exGet)
        (fun r => r.keepAlive = true ∧ r.bodyLen = 0) = true := by decide +kernel
  obtain ⟨r, t, hp, hk, hb⟩ := headOkWith_spec h.2
  have hm : mGet = { head := exGet, body := [], r := r, t := t, payload := [] } := by
    unfold mGet msgOf; rw [parsed_eq hp]
  rw [hm]
  exact { minimal := h.1.1, first := h.1.2.1, size := h.1.2.2.1, nlines := h.1.2.2.2, parse := hp, keep := hk,
          handler := ⟨rfl, rfl⟩,
          framing := .inl ⟨hb, rfl, rfl⟩ }
private theorem wfPost : WellFormed exCfg mPost := by
  have h : (MinimalHead exPost ∧ firstOk exPost = true ∧ exPost.length ≤ exCfg.maxField ∧ exPost.count lf + 1 < 8191) ∧
      headOkWith (parseHead exCfg.opts exCfg.maxField exCfg.port exPost)
        (fun r => r.keepAlive = true ∧ r.bodyLen = 18) = true := by decide +kernel
  obtain ⟨r, t, hp, hk, hb⟩ := headOkWith_spec h.2
  have hm : mPost = { head := exPost, body := exBody, r := r, t := t, payload := exBody } := by
    unfold mPost msgOf; rw [parsed_eq hp]
  rw [hm]
  exact { minimal := h.1.1, first := h.1.2.1, size := h.1.2.2.1, nlines := h.1.2.2.2, parse := hp, keep := hk,
          handler := ⟨rfl, rfl⟩,
          framing := .inr (.inl ⟨by show r.bodyLen > 0; rw [hb]; decide,
            by show exBody.length = r.bodyLen.toNat; rw [hb]; decide +kernel, rfl⟩) }
private theorem wfChunked : WellFormed exCfg mChunked := by
  have h : (MinimalHead exChunked ∧ firstOk exChunked = true ∧ exChunked.length ≤ exCfg.maxField ∧ exChunked.count lf + 1 < 8191) ∧
      headOkWith (parseHead exCfg.opts exCfg.maxField exCfg.port exChunked)
        (fun r => r.keepAlive = true ∧ r.bodyLen = -1) = true := by decide +kernel
  obtain ⟨r, t, hp, hk, hb⟩ := headOkWith_spec h.2
  have hm : mChunked =
      { head := exChunked, r := r, t := t, payload := ofString "abc",
        body := wireT [(ofString "3;x=y\r\n", ofString "abc")] (ofString "0\r\n") (ofString "X-T: GET / HTTP/1.1\r\n\r\n") } := by
    unfold mChunked msgOf; rw [parsed_eq hp]
  rw [hm]
  exact { minimal := h.1.1, first := h.1.2.1, size := h.1.2.2.1, nlines := h.1.2.2.2, parse := hp, keep := hk,
          handler := ⟨rfl, rfl⟩,
          framing := .inr (.inr ⟨hb, [(ofString "3;x=y\r\n", ofString "abc")], ofString "0\r\n",
            ofString "X-T: GET / HTTP/1.1\r\n\r\n",
            by
              intro c hc
              simp only [List.mem_singleton] at hc
              subst hc
              exact ⟨⟨by rfl, ⟨ofString "3;x=y\r", by decide +kernel, by decide +kernel, by decide +kernel⟩, by decide +kernel⟩, by decide +kernel⟩,
            ⟨by rfl, ⟨ofString "0\r", by decide +kernel, by decide +kernel, by decide +kernel⟩, by decide +kernel⟩,
            ⟨by decide +kernel, by decide +kernel, by decide +kernel, by decide +kernel, by decide +kernel⟩, rfl, rfl⟩) }

-- the hypotheses of `c01_no_smuggling` are satisfiable: GET, POST whose Content-Length body looks like a
-- request, chunked POST -- exactly three request events carrying [], the look-alike body, "abc"
example : (h1Feed exCfg {} ([mGet, mPost, mChunked].flatMap Msg.bytes)).2
    = [mGet.event exCfg, mPost.event exCfg, mChunked.event exCfg] := by
  have := c01_no_smuggling exCfg (by decide) rfl (by decide) [mGet, mPost, mChunked]
    (by intro m hm
        simp only [List.mem_cons, List.not_mem_nil, or_false] at hm
        rcases hm with rfl | rfl | rfl
        · exact wfGet
        · exact wfPost
        · exact wfChunked) 1 false (by decide)
  rw [show ({ } : ConnSt) = { phase := .head [] 0 false, count := 1 } from rfl, this]
  rfl
example : mPost.payload = ofString "GET /x HTTP/1.1\r\n\r" := rfl
-- HTTP/1.1 without Host is rejected (`c01_rejected_head_closes`), and the request after it is never looked at
example : (h1Feed exCfg {} (ofString "GET / HTTP/1.1\r\n\r\nGET /a HTTP/1.1\r\nHost: h\r\n\r\n")).2
    = [.reject 400, .close] := by decide +kernel
example : MinimalHead (ofString "GET / HTTP/1.1\r\n\r\n") ∧
    parseHead exCfg.opts exCfg.maxField exCfg.port (ofString "GET / HTTP/1.1\r\n\r\n") = .err 400 :=
  ⟨by decide +kernel, rejectedWith_spec _ _ (by decide +kernel)⟩
example : ({} : ConnSt).Live := by simp [ConnSt.Live]
-- a blank line cut between CR and LF is skipped like an uncut one (`c01_segmentation_conn`)
example : (feedSegs exCfg {} [exGet ++ [cr], [lf] ++ exGet]).2.length = 2 := by decide +kernel
end Examples

end LtVerif.C01
