/-
  C12 — untrusted input never causes undefined behaviour, abort or unbounded growth.
  Property theorems only; helper lemmas in Proofs/Arith*.lean.  Vocabulary: `CkGood`, `H1Inv`, `H1Wait`, `ckBuffered`
  (ArithChunk), `Legal`, `LegalRun` (ArithBuf), `padOf` (ArithH2), `TbInv`, `TbLegalAll` (ArithTmpBuf).

  PROVED, over the machine-arithmetic models (Model/Arith.lean, ArithRange.lean, ArithTmpBuf.lean: explicit C widths, every
  intermediate value and array index checked, `ub …` where the C computation would leave its type or its array): no signed
  overflow, unintended unsigned wrap, 32-bit truncation or out-of-range index, for every input and — for the two chunked
  decoders — every history of reads; and the bounds on the accumulators that carry partial input across reads.
  Routines: li_restricted_strtoint64, h1_chunked and http_chunk_decode_append_data (whole calls), http_header_parse_hoff
  + its four callers' limit tests, buffer.c growth, ck_realloc_u32 (conditional), the pad/priority/CONTINUATION lengths of
  h2.c, http_range.c, srv->tmp_buf.
  NOT proved (sanitizer exploration by the correspondence check only): out-of-bounds / use-after-free / null dereference in
  the pointer code, every other routine, descriptors, liveness after hostile input.  Planned in DESIGN §6 and not proved:
  `c12_hpack_output_bound`, `c12_bounded_state`.
-/
import LtVerif.Model.Arith
import LtVerif.Model.ArithRange
import LtVerif.Model.H1Parse
import LtVerif.Proofs.Arith
import LtVerif.Proofs.ArithChunk
import LtVerif.Proofs.ArithBuf
import LtVerif.Proofs.ArithH2
import LtVerif.Proofs.ArithRange
import LtVerif.Model.ArithTmpBuf
import LtVerif.Proofs.ArithTmpBuf
namespace LtVerif.C12
open LtVerif LtVerif.B LtVerif.Arith

/-! ## li_restricted_strtoint64() -/

/-- For every byte string `v`: no intermediate of li_restricted_strtoint64() leaves int64 (`rv*10`,
    `INT64_MAX - c`, `rv + c`); the result is in `[0, INT64_MAX]`; the whole string is consumed (the callers' success test
    `*err == v+vlen`) exactly when it consists of digits whose decimal value fits int64, and then the result IS that value. -/
theorem c12_strtoint64_no_overflow (v : Bytes) :
    ∃ rv i : Nat, strtoI64 v = .ok ((rv : Int), i) ∧ (rv : Int) ≤ i64Max ∧ i ≤ v.length ∧
      (i = v.length ↔ (v.all isDigit = true ∧ (decValue v : Int) ≤ i64Max)) ∧
      (i = v.length → rv = decValue v) := by
  obtain ⟨rv, i, h1, fits, _, hi, all, val⟩ := strtoI64Go_spec v 0 0 (by omega)
  have e : decFrom 0 v = decValue v := rfl
  rw [e, Nat.zero_add] at all val
  refine ⟨rv, i, h1, ?_, by omega, ?_, val⟩
  · rw [i64Max_eq]; omega
  · rw [i64Max_eq]
    constructor
    · intro h; have := all.mp h; exact ⟨this.1, by omega⟩
    · intro ⟨a, b⟩; exact all.mpr ⟨a, by omega⟩

/-- C01's Content-Length parser is exactly the success case of the machine-level loop -/
theorem c12_strtoint64_refines_c01 (v : Bytes) (n : Nat) :
    LtVerif.strtoInt64 v = some n ↔ strtoI64 v = .ok ((n : Int), v.length) := by
  obtain ⟨rv, i, h1, _, _, h4, h5⟩ := c12_strtoint64_no_overflow v
  rw [i64Max_eq] at h4
  show (if v.all isDigit = true then (if decValue v ≤ 9223372036854775807 then some (decValue v) else none) else none)
    = some n ↔ _
  rw [h1, R.ok.injEq, Prod.mk.injEq]
  by_cases hc : v.all isDigit = true ∧ (decValue v : Int) ≤ 9223372036854775807
  · -- digits that fit
    have hi := h4.mpr hc
    have := h5 hi
    rw [if_pos hc.1, if_pos (by omega), Option.some.injEq]
    omega
  · -- else neither side holds
    refine ⟨fun h => ?_, fun h => absurd (h4.mp h.2) hc⟩
    split at h
    · split at h
      · exact absurd ⟨‹_›, by omega⟩ hc
      · cases h
    · cases h

example : strtoI64 (ofString "9223372036854775807") = .ok (9223372036854775807, 19) := by decide +kernel
example : strtoI64 (ofString "9223372036854775808") = .ok (9223372036854775800, 18) := by decide +kernel
example : strtoI64 (ofString "12a") = .ok (12, 2) := by decide +kernel

/-! ## chunk-size accumulation: h1_chunked(), http_chunk_decode_append_data() -/

/-- With the guard found in the source (`te_chunked > (1<<59)-1-2` tested before every shift), for every chunk
    header line and both decoders' guards: `te_chunked <<= 4; te_chunked |= u` never leaves off_t, the value is
    non-negative and equals that of the hex digits, and `te_chunked + 2` (the CRLF after the chunk data) still fits. -/
theorem c12_chunk_size_guard (line : Bytes) :
    (∀ w, Arith.ckHex Extracted.ckGuardH1 line 0 0 ≠ .ub w) ∧ (∀ w, Arith.ckHex Extracted.ckGuardGw line 0 0 ≠ .ub w) ∧
    (∀ g, g = Extracted.ckGuardH1 ∨ g = Extracted.ckGuardGw → ∀ te k r, Arith.ckHex g line 0 0 = .ok te k r →
      0 ≤ te ∧ te + 2 ≤ i64Max ∧ te = (hexValue line 0 : Int)) := by
  have a (g : Int) (hg : g ≤ ckGuardMax) : HexOk _ (Arith.ckHex g line 0 0) := ckHex_ok _ hg line 0 0 (Nat.zero_le _)
  refine ⟨fun w h => by have := a _ ckGuardH1_le; rwa [h] at this, fun w h => by have := a _ ckGuardGw_le; rwa [h] at this,
    fun g hg te k r h => ?_⟩
  have := a g (hg.elim (· ▸ ckGuardH1_le) (· ▸ ckGuardGw_le))
  rw [h] at this
  obtain ⟨h1, h2⟩ := this
  rw [i64Max_eq]
  unfold ckTeMax at h2; subst h1; omega

/-- PARTIAL (`c12_h1_chunked_histories` / `c12_gw_dechunk_histories` say more; here the bytes-received
    counter is an arbitrary parameter): the FIRST chunk-header step of one call that starts with
    `te_chunked = 0`.  `CkGood` accepts `.unmodelled`, which `ck1`/`ck2` return as soon as a chunk completes inside the
    call — nothing is said about those inputs. -/
theorem c12_chunk_first_step_no_overflow_partial (msKB : Nat) (bytesIn : Int) (data : Bytes) (hms : msKB ≤ u32Max)
    (hin0 : 0 ≤ bytesIn) (hin : bytesIn + data.length ≤ i64Max) :
    CkGood data.length (ck1 msKB bytesIn data) ∧ CkGood data.length (ck2 data) := by
  rw [u32Max_eq] at hms
  rw [i64Max_eq] at hin
  exact ⟨ck1_good msKB bytesIn data hms hin0 hin, ck2_good data (by omega)⟩

/-- **h1_chunked(), whole calls, every history.**  For every server.max-request-size, max-request-field-size and
    EVERY sequence of reads whose total length fits off_t (each read is appended to the read queue and h1_chunked()
    resumes with the carried `te_chunked`, `bytes_in` and unconsumed bytes; any number of chunks, the last chunk and
    the trailer scan inside one call): no step leaves off_t (`te<<4|u`, `max_request_size<<10`, the 413 test, `te+2`,
    `te-2`, `64*1024 - bytes_in`, `bytes_in += len`, `te -= len`), the loop terminates; after every call
    `0 ≤ te_chunked ≤ 2^63-31`, `te_chunked ≠ 1`, bytes are conserved; and a call that returns with the body
    incomplete leaves FEWER than max(1024, max-request-field-size) bytes in the read queue — the partial chunk-size
    line / trailer accumulator cannot grow without bound, whatever the read sizes. -/
theorem c12_h1_chunked_histories (msKB maxField : Nat) (hms : msKB ≤ u32Max) (reads : List Bytes)
    (htot : (((reads.map List.length).sum : Nat) : Int) ≤ i64Max) :
    let r := h1Run msKB maxField reads
    (r.fail = none ∨ ∃ e : Nat, r.fail = some ("err " ++ toString e)) ∧
    0 ≤ r.st.te ∧ r.st.te ≤ 9223372036854775777 ∧ r.st.te ≠ 1 ∧ 0 ≤ r.st.bytesIn ∧
    r.st.bytesIn + r.st.q.length ≤ ((reads.map List.length).sum : Nat) ∧
    r.maxrest < Nat.max 1024 maxField ∧ (r.st.done = false → r.st.q.length < Nat.max 1024 maxField) := by
  rw [u32Max_eq] at hms
  rw [i64Max_eq] at htot
  have := h1Run_inv msKB maxField hms reads {} 0 (by omega) (.init maxField)
  simp only [Int.zero_add] at this
  have hte := this.st.teMax
  unfold gwTeMax at hte
  exact ⟨this.noUb, this.st.te0, hte, this.st.te1, this.st.in0, this.st.sum, this.maxrest, this.wait⟩

/-- one resumed call from ANY carried state that satisfies the invariant: never `ub`, and the invariant and the wait bound hold again -/
theorem c12_h1_chunked_call (budget : Int) (hbud : budget ≤ i64Max) (msKB maxField : Nat) (hms : msKB ≤ u32Max)
    (st : H1St) (m : Bytes) (hi : H1Inv (budget - m.length) st) (hw : H1Wait maxField st) :
    (∀ w, h1Call msKB maxField st m ≠ .ub w) ∧
    (∀ st', h1Call msKB maxField st m = .ok st' → H1Inv budget st' ∧ H1Wait maxField st') := by
  rw [u32Max_eq] at hms; rw [i64Max_eq] at hbud
  have h := h1Call_ok budget hbud msKB maxField hms st m hi hw
  exact ⟨fun w e => by rw [e] at h; exact h, fun st' e => by rw [e] at h; exact h⟩

/-- **http_chunk_decode_append_data(), whole calls, every history.**  For every max-request-field-size and EVERY
    sequence of reads from a backend (any sizes): no step leaves its type (`te<<4|u`, `te+2`, the uint32 difference
    `1024 - hlen` of the partial-line bound, `mem += hsz`), the loop terminates; `0 ≤ gw_chunked ≤ 2^63-31` after every
    read; the header buffer `gw_dechunk->b` never holds more than 1024 bytes of an unterminated chunk-size line (`maxp`),
    never more than max(1024, max-request-field-size)+4 bytes at all (`maxh`: last-chunk line + trailers + the
    appended CRLFs), and at most max(1024, max-request-field-size) while the body is incomplete. -/
theorem c12_gw_dechunk_histories (maxField : Nat) (reads : List Bytes) :
    let r := gwRun maxField reads
    (r.fail = none ∨ r.fail = some "err") ∧ 0 ≤ r.st.te ∧ r.st.te ≤ 9223372036854775777 ∧
    r.maxp ≤ 1024 ∧ r.maxh ≤ Nat.max 1024 maxField + 4 ∧
    (r.st.done = false → r.st.h.length ≤ Nat.max 1024 maxField) ∧
    (noLf r.st.h = true → r.st.h.length ≤ 1024) := by
  have h := gwRun_inv maxField reads
  have hte := h.st.teMax
  unfold gwTeMax at hte
  exact ⟨h.noUb, h.st.te0, hte, h.maxp, h.maxh, h.st.live, h.st.partialLine⟩

/-- the same accumulator bound over C01's byte-at-a-time automaton (`ckFeed`, validated against
    h1_chunked for all segmentations): in every reachable state the bytes kept unconsumed (partial chunk-size line, one CR,
    last-chunk line + trailers) are fewer than max(1024, max-request-field-size) -/
theorem c12_h1_chunk_buffer_bounded_c01 (cfg : CkCfg) (bs : Bytes) :
    ckBuffered (ckFeed cfg {} bs).mode < Nat.max 1024 cfg.maxField :=
  ckFeed_buffered cfg bs {} (Nat.lt_of_lt_of_le (by decide) (le_max1024 cfg.maxField).1)

/-- The sum as the source had it before the repair (`dst_cq->bytes_in + te_chunked`, h1.c:725) DOES leave
    off_t on values the accepting path produces: 31 body bytes received, then a chunk header `7fffffffffffffdf` (below the
    guard before its last digit).  Hence `te_chunked <= 64*1024 - bytes_in` in the model and the repaired source. -/
theorem c12_chunk_body_sum_as_written_overflows :
    ck1 0 31 (ofString "7fffffffffffffdf\r\n") = .ok 9223372036854775777 0 0 false ∧
    inI64 (ck1SumAsWritten 31 9223372036854775777) = false := by
  constructor <;> decide +kernel

example : Arith.ckHex Extracted.ckGuardH1 (ofString "7fffffffffffffdf\r\n") 0 0
    = .ok 9223372036854775775 16 [cr, lf] := by decide +kernel
example : Arith.ckHex Extracted.ckGuardH1 (ofString "7fffffffffffffe0\r\n") 0 0 = .tooLarge := by decide +kernel
example : ck1 1 0 (ofString "401\r\nab") = .err 413 := by decide +kernel
example : ck2 (ofString "5;x\r\nab") = .ok 5 2 0 false := by decide +kernel

/-! ## http_header_parse_hoff() and the 431 limits -/

/-- For every header block shorter than 4 GiB and every initial `hoff[0]` below the line limit (all callers
    pass 1): no `hoff[]` index reaches the dimension (8192), `hoff[0]` stays within the line limit, `hlen` does not wrap,
    a non-zero return lies inside the block and was stored at `hoff[hoff[0]+1]`, and when the caller's size check passes
    (`(hlen ? hlen : clen) <= limit`, limit ≤ USHRT_MAX) every stored offset fits `unsigned short` un-truncated. -/
theorem c12_hoff_bounds (init0 : Nat) (block : Bytes) (h0 : init0 < Extracted.hoffBreak)
    (hlen : block.length ≤ u32Max) :
    ∃ ret st, hoffScan init0 block = .ok (ret, st) ∧
      (∀ iv ∈ st.writes, init0 < iv.1 ∧ iv.1 < Extracted.hoffDim) ∧
      st.cnt ≤ Extracted.hoffBreak ∧ ret ≤ block.length ∧
      (ret ≠ 0 → (st.cnt + 1, ret) ∈ st.writes ∧ st.cnt < Extracted.hoffBreak) ∧
      (∀ limit, limit ≤ u16Max → (if ret ≠ 0 then ret else block.length) ≤ limit →
        ∀ iv ∈ st.writes, iv.2 ≤ u16Max) := by
  have hinv : HoffInv init0 { cnt := init0, hlen := 0, writes := [] } :=
    ⟨Nat.le_refl _, h0, by intro iv h; simp at h⟩
  obtain ⟨ret, st, he, hp⟩ := hoffGo_post init0 block.length hlen block 0 0 _ hinv (by simp)
  have h2 := hp.hlen
  refine ⟨ret, st, he, ?_, hp.cnt_hi, ?_, ?_, ?_⟩
  · intro iv h; have := hp.idx iv h; exact ⟨this.1, this.2.1⟩
  · rcases hp.ret with h | h <;> omega
  · exact fun hne => (hp.ret.resolve_left hne).2
  · intro limit hl hchk iv hiv
    have := (hp.idx iv hiv).2.2
    rcases hp.ret with h | h <;> split at hchk <;> omega

/-- all FOUR callers of http_header_parse_hoff() (h1_recv_headers, http_response_parse_headers,
    h2_send_headers_block, h2_send_end_stream_trailers — the last three parse backend-controlled bytes): their arrays have
    the prototype's dimension; the scan stops (return 0) at the line count the HTTP/1 caller answers with 431, below the
    dimension; every caller's byte limit is at most USHRT_MAX — `MAX_HTTP_RESPONSE_FIELD_SIZE`, the literal
    `rc > USHRT_MAX` of the two HTTP/2 callers (presence checked by the extractor), and server.max-request-field-size, which
    configfile.c reads through a 16-bit config value — so every caller meets `limit ≤ u16Max` of `c12_hoff_bounds`. -/
theorem c12_hoff_callers :
    Extracted.hoffDimH1 = Extracted.hoffDim ∧ Extracted.hoffDimResp = Extracted.hoffDim ∧
    Extracted.hoffDimH2Hdr = Extracted.hoffDim ∧ Extracted.hoffDimH2Trl = Extracted.hoffDim ∧
    Extracted.hoff431 ≤ Extracted.hoffBreak ∧ Extracted.hoffBreak < Extracted.hoffDim ∧
    Extracted.maxRespFieldSize ≤ u16Max ∧ Extracted.ushrtMax ≤ u16Max ∧
    2 ^ Extracted.maxRequestFieldSizeBits - 1 ≤ u16Max := by decide +kernel

/-- **Header accumulation across reads is bounded.**  Both kinds of caller keep the bytes received so far and
    call the stateless http_header_parse_hoff() on all of them after every read.  For every accumulated block (< 4 GiB) and
    every limit: the decision never involves `ub`, and "wait for more bytes" means the block is no longer than the limit —
    so, over every sequence of reads, the header buffer is at most `limit` bytes before the read that completes or
    rejects it. -/
theorem c12_header_wait_bounded (limit : Nat) (lineCheck : Bool) (block : Bytes) (hlen : block.length ≤ u32Max) :
    (∀ w, headDecision limit lineCheck block ≠ .ub w) ∧
    (headDecision limit lineCheck block = .ok .wait → block.length ≤ limit) ∧
    (∀ n, headDecision limit lineCheck block = .ok (.complete n) → n ≤ limit ∧ n ≤ block.length ∧ n ≠ 0) := by
  obtain ⟨ret, st, he, _, _, hret, _, _⟩ := c12_hoff_bounds 1 block (by decide) hlen
  unfold headDecision
  rw [he]; simp only
  by_cases hc : (decide ((if ret ≠ 0 then ret else block.length) > limit) ||
      (lineCheck && decide (st.cnt ≥ Extracted.hoff431))) = true
  · rw [if_pos hc]  -- reject
    exact ⟨nofun, nofun, nofun⟩
  · rw [if_neg hc]
    simp only [Bool.or_eq_true, decide_eq_true_eq, not_or, Nat.not_lt] at hc
    have hc1 := hc.1
    by_cases hz : ret = 0
    · rw [if_pos hz]  -- wait
      rw [if_neg (by omega)] at hc1
      exact ⟨nofun, fun _ => hc1, nofun⟩
    · rw [if_neg hz]  -- complete
      rw [if_pos hz] at hc1
      exact ⟨nofun, nofun, fun n h => by cases h; exact ⟨hc1, hret, hz⟩⟩

example : hoffScan 1 (ofString "GET / HTTP/1.1\r\nHost: a\r\n\r\n")
    = .ok (27, { cnt := 3, hlen := 27, writes := [(2, 16), (3, 25), (4, 27)] }) := by decide +kernel

/-! ## buffer.c growth, ck_realloc_u32() -/

/-- buffer_string_prepare_append() + buffer_commit(), and buffer_extend(): for a well-formed buffer of size
    ≤ 2^31-32 and a resulting length ≤ 2^32-65, no force_assert fires, no size_t or 32-bit computation wraps, the size fits
    its 32-bit field, the string is kept, there is room for `n` bytes plus the NUL, and committing any `m ≤ n` bytes
    yields exactly length `len + m`. -/
theorem c12_buffer_growth (b : Buf) (n : Nat) (hwf : b.used ≤ b.size) (hsz : b.size ≤ 2147483616)
    (hn : b.used + n ≤ 4294967231) :
    (∃ b', prepareAppend b n = .ok b' ∧ bufLen b' = bufLen b ∧ bufLen b' + n + 1 ≤ b'.size ∧
      b'.used ≤ b'.size ∧ b'.size ≤ u32Max ∧
      ∀ m, m ≤ n → commit b' m = .ok ⟨bufLen b + m + 1, b'.size⟩ ∧ bufLen b + m + 1 ≤ b'.size) ∧
    (∃ b', extend b n = .ok b' ∧ b'.used = bufLen b + n + 1 ∧ b'.used ≤ b'.size ∧ b'.size ≤ u32Max) := by
  rw [u32Max_eq]
  constructor
  · obtain ⟨b', h1, hp⟩ := prepareAppend_spec b n hwf hsz hn
    have hroom := hp.room
    have hfits := hp.fits
    refine ⟨b', h1, hp.len, hroom, hp.wf, hfits, ?_⟩
    intro m hm
    have := commit_spec b' m (by omega)
    rw [hp.len] at this hroom
    exact ⟨this, by omega⟩
  · obtain ⟨b1, hp, e⟩ := extend_spec b n hwf hsz hn
    exact ⟨_, e, rfl, hp.len ▸ hp.room, hp.fits⟩

/-- buffer_realloc(): for every request up to 2^32-65 bytes the `force_assert(sz > len)` holds, the
    allocation has room for the string plus NUL, and the size is stored un-truncated -/
theorem c12_buffer_realloc (b : Buf) (len : Nat) (h : len ≤ 4294967231) :
    ∃ sz, bufRealloc b len = .ok { b with size := sz } ∧ len + 1 ≤ sz ∧ sz ≤ u32Max ∧
      bufReallocSz len = some sz := by
  obtain ⟨sz, h1, h2, h3, _⟩ := bufReallocSz_spec len h
  exact ⟨sz, bufRealloc_eq b h1 h3, h2, by rw [u32Max_eq]; exact h3, h1⟩

/-- the hypotheses are needed: one byte beyond the length bound the 32-bit `size` records 1 for a 4 GiB
    allocation, and a buffer beyond 2 GiB records a size below `used` at its next growth (the doubling request passes
    2^32).  Both are outside what `c12_buffer_closure` shows reachable. -/
theorem c12_buffer_realloc_bound_tight :
    bufRealloc ⟨0, 0⟩ 4294967232 = .ok ⟨0, 1⟩ ∧ bufReallocSz 4294967232 = some 4294967297 ∧
    prepareAppend ⟨2147483650, 2147483651⟩ 10 = .ok ⟨2147483650, 65⟩ := by
  refine ⟨by decide +kernel, by decide +kernel, by decide +kernel⟩

/-- **Closure under a length limit** (discharges the size hypotheses of `c12_buffer_growth` from what callers
    control).  For every limit `L ≤ 2^28` and EVERY sequence of buffer operations (prepare_append / commit / extend =
    append / prepare_copy = copy / truncate / clear) on a fresh buffer in which each operation keeps the string at most
    `L` long and respects the API contract (commit only what was prepared, truncate within the string): no operation
    aborts, and after every prefix `size ≤ 6·L + 300 < 2^31−32` — the window of `c12_buffer_growth` is never left.
    The request / response / frame paths cap their buffers far below 2^28 (request fields ≤ 65535, HPACK scratch 64 KiB,
    frames ≤ 16 KiB, reads ≤ 256 KiB: caps NOT derived here, they are the callers' limits). -/
theorem c12_buffer_closure (L : Nat) (hL : L ≤ 268435456) (ops : List BufOp) (hl : LegalRun L ⟨0, 0⟩ ops) :
    ∃ b, bufRun ⟨0, 0⟩ ops = .ok b ∧ b.used ≤ b.size ∧ b.size ≤ 6 * L + 300 ∧ bufLen b ≤ L ∧
      b.size ≤ 2147483616 := by
  obtain ⟨b, h1, h2⟩ := bufRun_inv L hL ops ⟨0, 0⟩ ⟨by simp, by simp, by simp [bufLen]⟩ hl
  exact ⟨b, h1, h2.wf, h2.size, h2.len, by have := h2.size; omega⟩

/-- ck_realloc_u32() (CONDITIONAL: when the assertion fires, not that callers never make it fire): for
    `elt_sz > 0` it passes exactly when `x` and `n + x` fit uint32_t and `(n+x)*elt_sz` fits size_t, and then the size
    passed to realloc() is that product, un-wrapped. -/
theorem c12_ck_realloc_u32 (n x elt : Nat) (helt : 0 < elt) :
    (∀ bytes, ckReallocU32 n x elt = some bytes → n + x ≤ u32Max ∧ bytes = (n + x) * elt ∧ bytes ≤ uszMax) ∧
    (ckReallocU32 n x elt = none ↔ ¬ (x ≤ u32Max ∧ n ≤ u32Max - x ∧ (n + x) * elt ≤ uszMax)) := by
  have hiff : n + x ≤ uszMax / elt ↔ (n + x) * elt ≤ uszMax := Nat.le_div_iff_mul_le helt
  unfold ckReallocU32
  split
  · -- passes
    rename_i hc
    simp only [Bool.and_eq_true, decide_eq_true_eq] at hc
    exact ⟨fun _ h => by cases h; exact ⟨by omega, rfl, hiff.mp hc.2⟩, nofun,
      fun h => absurd ⟨hc.1.1, hc.1.2, hiff.mp hc.2⟩ h⟩
  · -- it fires
    rename_i hc
    simp only [Bool.and_eq_true, decide_eq_true_eq, not_and] at hc
    exact ⟨nofun, fun _ ⟨a, b, c⟩ => hc ⟨a, b⟩ (hiff.mpr c), fun _ => rfl⟩

example : prepareAppend ⟨0, 0⟩ 10 = .ok ⟨0, 65⟩ ∧ commit ⟨0, 65⟩ 10 = .ok ⟨11, 65⟩ := by decide +kernel
example : extend ⟨11, 65⟩ 100 = .ok ⟨111, 129⟩ := by decide +kernel
example : ckReallocU32 4294967295 1 8 = none ∧ ckReallocU32 10 5 8 = some 120 := by decide +kernel
example : bufRun ⟨0, 0⟩ [.prep 10, .commit 10, .extend 50, .trunc 3, .copy 100, .clear] = .ok ⟨0, 129⟩ := by decide +kernel
example : Legal 100 ⟨61, 65⟩ (.extend 40) ∧ Legal 100 ⟨0, 65⟩ (.commit 10) := by simp [Legal, bufLen]

/-! ## HTTP/2 frame, padding, priority and CONTINUATION lengths -/

/-- HTTP/2 length arithmetic.
    (1),(2) h2_recv_headers() / h2_recv_data(): the subtractions `alen -= 1+pad`, `alen -= 5` are reached only when exact,
    and an accepted fragment / data plus its padding fill the frame.  NOTE: these conjuncts restate the guards as written in
    the model (hand-copied, not extracted); their tie to the C is the h2h / h2d correspondence under ASan.
    (3) h2_recv_continuation(), every buffer below 2 GiB holding a complete first frame, every frame-size limit: no
    offset wraps, nothing is read or moved outside the data present (the scan validates exactly the frames the merge
    walks), a merged HEADERS frame has encoded length `9 ≤ m < 65536`, the buffer does not grow; and a decision to WAIT
    means fewer bytes are held than `need ≤ 65536+8` (or the first frame's own end + 9): as everything received is
    re-scanned, this bounds what one HEADERS+CONTINUATION sequence accumulates over every sequence of reads.
    (4) the limit on received frames is the advertised default (16384), in the legal range.
    (The bound on the DECODED header size is lshpack's own output check — not modelled.) -/
theorem c12_h2_sizes :
    (∀ flen flags pad, (∀ w, h2HeadersLen flen flags pad ≠ .ub w) ∧
      ∀ off alen, h2HeadersLen flen flags pad = .ok off alen → off + alen + padOf flags pad = flen) ∧
    (∀ len flags pad, (∀ w, h2DataLen len flags pad ≠ .ub w) ∧
      ∀ off alen, h2DataLen len flags pad = .ok off alen → off + alen + padOf flags pad = len) ∧
    (∀ fsize buf, 9 + u24 buf 0 ≤ buf.length → buf.length ≤ 2147483648 →
      (∀ w, h2Cont fsize buf ≠ .ub w) ∧
      (∀ m out calm, h2Cont fsize buf = .merged m out calm →
        9 ≤ m ∧ m < Extracted.h2ContCap ∧ m ≤ out.length ∧ out.length ≤ buf.length) ∧
      (∀ need calm, h2Cont fsize buf = .incomplete need calm →
        buf.length < need ∧ (need ≤ Extracted.h2ContCap + 8 ∨ need ≤ 9 + u24 buf 0 + 9))) ∧
    (Extracted.h2RecvFrameMax = Extracted.h2FrameSizeDefault ∧ Extracted.h2FrameSizeMin ≤ Extracted.h2RecvFrameMax ∧
      Extracted.h2RecvFrameMax ≤ Extracted.h2FrameSizeMax ∧ Extracted.h2FrameSizeMax < 16777216 ∧
      9 + Extracted.h2RecvFrameMax < Extracted.h2ContCap) :=
  ⟨h2HeadersLen_spec, h2DataLen_spec, h2Cont_spec, by decide +kernel⟩

example : h2HeadersLen 10 (flagPadded ||| flagPriority ||| flagEndHeaders) 3 = .ok 6 1 := by decide +kernel
example : h2HeadersLen 3 flagPadded 3 = .protoErr := by decide +kernel
example : h2DataLen 5 flagPadded 4 = .ok 1 0 ∧ h2DataLen 5 flagPadded 5 = .protoErr := by decide +kernel
example : h2Cont 16384 [0, 0, 2, 1, 0, 0, 0, 0, 1, 0x82, 0x86, 0, 0, 1, 9, 4, 0, 0, 0, 1, 0x84]
    = .merged 12 [0, 0, 3, 1, 4, 0, 0, 0, 1, 0x82, 0x86, 0x84] false := by decide +kernel

/-! ## the shared scratch buffer (srv->tmp_buf) over histories of two modules -/

/-- **HPACK scratch buffer never below what h2.c asserts, over every history.**  `srv->tmp_buf` is ONE buffer
    shared by every request; `h2_init_con` sizes it (131071+1), `h2_parse_headers_frame` / `h2_send_headers` /
    `h2_send_headers_block` `force_assert` 64 KiB / 128 KiB before HPACK coding, and mod_fastcgi logs FCGI_STDERR records
    through it (`buffer_clear` + prepare_append + truncate).  For EVERY interleaving of {connection set-up, retire, HEADERS
    decode, FCGI_STDERR record (content ≤ 65535, padding ≤ 255: what the record header can carry), FCGI_STDOUT record} from
    every well-formed buffer state: no step aborts (h2 size assertion, buffer.c assertions), the buffer stays well-formed,
    its size never decreases and never exceeds 786684 octets [growth], and while an HTTP/2 connection is open it is
    ≥ 131072.  Not covered: other users of `r->tmp_buf` (required to leave `size` alone — `buffer_clear`, never
    `buffer_reset`/`buffer_free_ptr`: not derived for them). -/
theorem c12_tmpbuf_histories (ops : List TbOp) (hl : TbLegalAll ops) (s : TbSt) (hi : TbInv s) :
    ∃ sf tr, tbRun s ops = some (sf, tr) ∧ sf.b.used ≤ sf.b.size ∧ s.b.size ≤ sf.b.size ∧
      (∀ x ∈ tr, s.b.size ≤ x ∧ x ≤ 786684) ∧ (sf.h2open = true → h2EncodeNeed ≤ sf.b.size) := by
  obtain ⟨sf, tr, h1, h2, h3, h4⟩ := tbRun_inv ops s hi hl
  exact ⟨sf, tr, h1, h2.1, h3, h4, h2.2.2⟩

example : TbInv ⟨⟨0, 0⟩, false⟩ := ⟨by decide +kernel, by decide +kernel, by intro h; cases h⟩
example : TbLegalAll [.fcgiErr 5000 3, .h2init, .fcgiErr 100 0, .h2hdr, .fcgiErr 65535 255, .h2hdr, .h2retire] := by
  simp [TbLegalAll, TbLegal]
example : (tbRun ⟨⟨0, 0⟩, false⟩ [.fcgiErr 5000 3, .h2init, .fcgiErr 100 0, .h2hdr, .h2retire]).map (·.2)
    = some [8193, 131073, 131073, 131073, 131073] := by decide +kernel
/-- the assertion is in the model: a scratch buffer that was shrunk behind h2's back aborts the decode -/
example : tbStep ⟨⟨31, 129⟩, true⟩ .h2hdr = none := by decide +kernel

/-! ## http_range.c -/

/-- **http_range_parse(), composed.**  For EVERY Range header text and every representation length
    `0 < len ≤ LLONG_MAX`, the whole parser in checked form (Model/ArithRange.lean: strtoll clamping, http_range_parse_next
    incl. the suffix form with its `n != LLONG_MIN` short-circuit, the do-while loop with sorted coalescing and the unsorted
    limit, http_range_coalesce_unsorted with restarts) returns `ok`: no off_t value leaves int64 (`-n`, `len+n`, `len-1`,
    `ranges[n-2]-80`, `ranges[j]-80`, `b-80`), no `ranges[]` access is outside `off_t ranges[RMAX*2]`; every returned range
    has `0 ≤ first ≤ last < len`; at most RMAX are returned. -/
theorem c12_range_arith (s : Bytes) (len : Int) (hlen : 0 < len) (hmax : len ≤ Rg.llMax) :
    ∃ rs, Rg.parse s len = .ok rs ∧ (∀ r ∈ rs, 0 ≤ r.1 ∧ r.1 ≤ r.2 ∧ r.2 < len) ∧ rs.length ≤ Rg.rmax :=
  Rg.parse_spec s len hlen hmax

example : Rg.parse (ofString "0-1,500-600,-5") 1000 = .ok [(0, 1), (500, 600), (995, 999)] := by decide +kernel
example : Rg.parse (ofString "-9223372036854775808") 1000 = .ok [(0, 999)] := by decide +kernel
example : Rg.parse (ofString "5-9223372036854775807,2-3") 9223372036854775807 =
    .ok [(2, 9223372036854775806)] := by decide +kernel
example : Rg.parse (ofString "500-,2-3") 1000 = .ok [(500, 999), (2, 3)] := by decide +kernel

end LtVerif.C12
