/-
  C14 — conditional configuration applies exactly as the config language defines.
  Property theorems only.

  Vocabulary (the model's names are listed at the head of Model/Cond.lean; each notion below is
  explained at its definition: the last three in Proofs/Cond.lean, the others in Proofs/CondSpec.lean):
    `WF t`             the tree is linked as configparser.y links it
    `Applies t e i`    block i contributes for attributes e; `spec t e i` the same, four-valued
    `Coh t e c`        cache c is coherent with attributes e
    `DepsValid`, `TreeValid`   the fields block i depends on / all tested fields are available
    `Disciplined`, `SlotsOk`   no evaluation on a stream between h2_init_stream() and its first
                       full reset; all other requests have coherent caches
    `LastWins t e dirs d x`  x is the value of the last contributing block that assigns d
-/
import LtVerif.Proofs.Cond
import LtVerif.Proofs.SockAddr
import LtVerif.Proofs.CondSimplify
namespace LtVerif.C14
open LtVerif B LtVerif.Cond LtVerif.SockAddr

/-! ## 1. cached evaluation = the language semantics, for every interleaving -/

/-- For every well-formed condition tree, every connection state in which the requests that
    are not fresh streams have coherent caches (in particular one fresh request), and EVERY
    disciplined sequence of operations
    {check any block on any request, rewrite an attribute then reset_item, full reset,
     change of validity bits (any mask, growing or shrinking), next request, spawn an HTTP/2
     stream (cache copied into a request with other attributes), a module's patch_config}:
      * `config_check_cond` returns `true` only for a block that applies to the attributes
        the request has at that moment; any decided result is the specified one;
      * if the fields the block depends on are available — in particular under the masks of
        the first pass and of the pass after HANDLER_COMEBACK — the result is `true` iff the
        block applies (so it does not depend on evaluation order, cached results, earlier
        requests of the connection, other streams, or rewrites in between);
      * every patch_config observed in the history gives each directive the value of the
        last contributing block (when every field tested in the configuration is available). -/
theorem c14_cache_coherent (t : Tree) (hwf : WF t) (st0 : List Req) (pend0 : List Nat) (n : Nat)
    (hlen : st0.length = n) (hn : 1 ≤ n) (hnodes : 0 < t.length) (h0 : SlotsOk t st0 pend0)
    (ops : List Op) (hd : Disciplined n pend0 ops) :
    ∀ so ∈ run true t st0 ops,
      (∀ s i r, so.2 = .result s i r → ∀ rq, so.1[s]? = some rq →
        (r = .true_ → Applies t rq.env i) ∧
        (r ≠ .unset → r = spec t rq.env i) ∧
        (DepsValid t rq.valid i → (r = .true_ ↔ Applies t rq.env i))) ∧
      (∀ s dirs conf, so.2 = .conf s dirs conf → ∀ rq, so.1[s]? = some rq →
        TreeValid t rq.valid → ∀ d, LastWins t rq.env dirs d (conf d)) := by
  intro so hso
  have h2 := run_ok hwf ops st0 pend0 n ⟨hlen, hn, h0⟩ hd so hso
  constructor
  · intro s i r hr rq hrq
    rw [hr] at h2
    obtain ⟨hi, h3⟩ := h2
    obtain ⟨p1, p2⟩ := h3 rq hrq
    have hiff := spec_true_iff_applies hwf rq.env i hi
    refine ⟨fun hrt => hiff.mp ((p1 (by rw [hrt]; decide)) ▸ hrt), p1, fun hv => ?_⟩
    rw [p2 hv]; exact hiff
  · intro s dirs conf hc rq hrq hv d
    rw [hc] at h2
    rw [h2 rq hrq hv]
    exact specMerge_lastWins hwf rq.env dirs d hnodes

/-- The four-valued specification is the recursion of the property statement:
    `true` exactly for the blocks that apply. -/
theorem c14_spec_is_language (t : Tree) (hwf : WF t) (e : Env) (i : Nat) (hi : i < t.length) :
    spec t e i = .true_ ↔ Applies t e i :=
  spec_true_iff_applies hwf e i hi

/-- A check is decided, and correct, as soon as the fields the block depends on are
    available — whatever else is (not) available: connection-level masks (socket + peer
    address, + SNI host/scheme), the 8-field mask after a request restart, or all bits. -/
theorem c14_decided_iff_language (t : Tree) (hwf : WF t) (e : Env) (valid : Comp → Bool) (c : Cache)
    (hc : Coh t e c) (i : Nat) (hi : i < t.length) (hv : DepsValid t valid i) :
    ((check t e valid t.length i c).1 = .true_ ↔ Applies t e i) ∧
    (check t e valid t.length i c).1 ≠ .unset := by
  rw [check_decided hwf e hi hc hv]
  exact ⟨spec_true_iff_applies hwf e i hi, spec_ne_unset hwf e i hi⟩

/-- every field tested in the configuration available ⇒ every block's dependencies are -/
theorem c14_tree_valid_suffices (t : Tree) (hwf : WF t) (valid : Comp → Bool) (hv : TreeValid t valid)
    (i : Nat) (h1 : 1 ≤ i) (hi : i < t.length) : DepsValid t valid i :=
  depsValid_of_treeValid hwf hv h1 hi

/-- Re-evaluation after a rewrite: changing the attribute of one field and calling
    config_cond_cache_reset_item() for that field leaves a cache that is coherent with
    the NEW attributes (every entry that could depend on the field was cleared; nothing
    stale survives), for every tree and every prior cache state. -/
theorem c14_reset_item_coherent (t : Tree) (hwf : WF t) (e : Env) (c : Cache) (hc : Coh t e c)
    (a : Comp) (v : AttrVal) :
    Coh t (e.set a v) (resetItem true t a c) :=
  resetItem_coh hwf a hc (fun _ _ hj => evalLocal_set_other _ _ _ _ hj)

/-- The result of a check is independent of evaluation order: whatever blocks were
    evaluated before, in whatever order, on whatever coherent cache. -/
theorem c14_order_independent (t : Tree) (hwf : WF t) (e : Env) (valid : Comp → Bool)
    (c1 c2 : Cache) (h1 : Coh t e c1) (h2 : Coh t e c2)
    (ks1 ks2 : List Nat) (hk1 : ∀ k ∈ ks1, k < t.length) (hk2 : ∀ k ∈ ks2, k < t.length)
    (i : Nat) (hi : i < t.length) (hv : DepsValid t valid i) :
    (check t e valid t.length i (checkAll t e valid ks1 c1)).1 =
    (check t e valid t.length i (checkAll t e valid ks2 c2)).1 := by
  rw [check_decided hwf e hi (checkAll_coh hwf e valid ks1 hk1 c1 h1) hv,
    check_decided hwf e hi (checkAll_coh hwf e valid ks2 hk2 c2 h2) hv]

/-- Connection-level results copied into streams: whatever the connection's request
    evaluated (any blocks, any order) while only the listening socket and the peer address
    were available is, taken over by a stream of that connection, coherent with the STREAM's
    attributes `e'` (which share socket and peer address and differ arbitrarily otherwise). -/
theorem c14_stream_inherits_connection_level (t : Tree) (hwf : WF t) (e e' : Env)
    (hs : e'.socket = e.socket) (ha : e'.addr = e.addr) (hi : e'.ipStr = e.ipStr)
    (valid : Comp → Bool) (hv : ∀ k, valid k = true → k = .socket ∨ k = .remoteIp)
    (ks : List Nat) (hks : ∀ k ∈ ks, k < t.length) :
    Coh t e' (checkAll t e valid ks (Cache.empty t.length)) := by
  rw [checkAll, ← check_env_agree t e e' valid
    fun i hvi => evalLocal_conn_level _ e e' hs ha hi (hv _ hvi)]
  exact checkAll_coh hwf e' valid ks hks _ (coh_empty t e')

/-! ## 2. merge in context order: the last contributing block wins, per directive
   ("file order" = order of the contexts = order in which each distinct condition first
    occurs in the file) -/

/-- A module's patch_config() (defaults from the global scope, then every block of its
    cvlist in order whose check is true): each directive gets the value of the last
    contributing block, the built-in default if none — for every tree, request and prior
    (coherent) cache state, whenever every field tested in the configuration is available. -/
theorem c14_merge_last_wins (t : Tree) (hwf : WF t) (e : Env) (valid : Comp → Bool)
    (hv : TreeValid t valid) (dirs : List Nat) (c : Cache) (hc : Coh t e c) (d : Nat)
    (hn : 0 < t.length) :
    LastWins t e dirs d ((patch t e valid dirs c).1 d) := by
  rw [(patch_post hwf e valid dirs c hc).2 hv]
  exact specMerge_lastWins hwf e dirs d hn

/-! ## 3. CIDR matching (`$HTTP["remoteip"] == "net/n"`, sock_addr_is_addr_eq_bits) -/

/-- IPv4 network, IPv4 peer: the block's condition holds iff the first `n` bits agree. -/
theorem c14_cidr_v4 (nd : Node) (e : Env) (a b : List UInt8) (n : Nat)
    (hc : nd.comp = .remoteIp) (ho : nd.cond = .eq) (hs : nd.str.head? ≠ some slash)
    (hn : nd.cidr = some (.v4 a, n)) (he : e.addr = .v4 b)
    (ha : a.length = 4) (hb : b.length = 4) (h1 : 1 ≤ n) (h2 : n ≤ 32) :
    evalLocal nd e = true ↔ beVal a >>> (32 - n) = beVal b >>> (32 - n) := by
  rw [evalLocal_remoteip_eq nd e _ n hc ho hs hn, if_pos (by omega), he]
  exact addrEqBits_v4_iff ha hb h1 h2

/-- IPv6 network, IPv6 peer: the block's condition holds iff the first `n` bits agree. -/
theorem c14_cidr_v6 (nd : Node) (e : Env) (a b : List UInt8) (n : Nat)
    (hc : nd.comp = .remoteIp) (ho : nd.cond = .eq) (hs : nd.str.head? ≠ some slash)
    (hn : nd.cidr = some (.v6 a, n)) (he : e.addr = .v6 b)
    (ha : a.length = 16) (hb : b.length = 16) (h1 : 1 ≤ n) (h2 : n ≤ 128) :
    evalLocal nd e = true ↔ beVal a >>> (128 - n) = beVal b >>> (128 - n) := by
  rw [evalLocal_remoteip_eq nd e _ n hc ho hs hn, if_pos (by omega), he]
  exact addrEqBits_v6_iff ha hb h1 h2

/-- IPv4 network, IPv6 peer: holds iff the peer is IPv4-mapped (::ffff:a.b.c.d) and the first
    `n` bits of the embedded IPv4 address agree. -/
theorem c14_cidr_v4_net_mapped_peer (nd : Node) (e : Env) (a b : List UInt8) (n : Nat)
    (hc : nd.comp = .remoteIp) (ho : nd.cond = .eq) (hs : nd.str.head? ≠ some slash)
    (hn : nd.cidr = some (.v4 a, n)) (he : e.addr = .v6 b)
    (ha : a.length = 4) (hb : b.length = 16) (h1 : 1 ≤ n) (h2 : n ≤ 32) :
    evalLocal nd e = true ↔
      isV4Mapped b = true ∧ beVal a >>> (32 - n) = beVal (low4 b) >>> (32 - n) := by
  rw [evalLocal_remoteip_eq nd e _ n hc ho hs hn, if_pos (by omega), he]
  exact addrEqBits_v4_v6_iff ha hb h1 h2

/-- IPv6 network, IPv4 peer: the peer is compared as its IPv4-mapped form ::ffff:a.b.c.d —
    first `n` of 128 bits — and never matches a network whose base is not IPv4-mapped. -/
theorem c14_cidr_mapped_net_v4_peer (nd : Node) (e : Env) (a b : List UInt8) (n : Nat)
    (hc : nd.comp = .remoteIp) (ho : nd.cond = .eq) (hs : nd.str.head? ≠ some slash)
    (hn : nd.cidr = some (.v6 a, n)) (he : e.addr = .v4 b)
    (ha : a.length = 16) (hb : b.length = 4) (h1 : 1 ≤ n) (h2 : n ≤ 128) :
    evalLocal nd e = true ↔
      isV4Mapped a = true ∧ beVal a >>> (128 - n) = beVal (v4mapped b) >>> (128 - n) := by
  rw [evalLocal_remoteip_eq nd e _ n hc ho hs hn, if_pos (by omega), he]
  exact addrEqBits_v6_v4_iff ha hb h1 h2

/-! ## 4. host[:port] -/

/-- `$HTTP["host"] == "d"` holds iff the request's authority equals `d`, or is `d` plus a
    ":port" suffix of at most 5 characters, or `d` is the authority plus a ":port" suffix —
    and in no other case; `!=` holds exactly when none of these does. -/
theorem c14_host_port_rule (nd : Node) (e : Env) (hc : nd.comp = .host)
    (hs : nd.str.head? ≠ some slash) :
    (nd.cond = .eq → (evalLocal nd e = true ↔
      e.host = nd.str ∨
      (e.host ≠ [] ∧ ((∃ p, e.host = nd.str ++ colon :: p ∧ p.length ≤ 5) ∨
                      (∃ p, nd.str = e.host ++ colon :: p))))) ∧
    (nd.cond = .ne → (evalLocal nd e = true ↔
      ¬ (e.host = nd.str ∨
      (e.host ≠ [] ∧ ((∃ p, e.host = nd.str ++ colon :: p ∧ p.length ≤ 5) ∨
                      (∃ p, nd.str = e.host ++ colon :: p)))))) := by
  have h : eqLike nd e = true ↔ HostMatches e.host nd.str := host_eq_iff nd e hc hs
  constructor
  · intro ho
    exact (by simp [evalLocal, ho, hc] : evalLocal nd e = true ↔ eqLike nd e = true).trans h
  · intro ho
    exact (by simp [evalLocal, ho, hc] : evalLocal nd e = true ↔ ¬ eqLike nd e = true).trans
      (not_congr h)

/-! ## 5. the selective reset must walk the whole else-chain
   (scenario `Ex.tree`, `Ex.ops` in Proofs/Cond.lean:
    `$HTTP["host"] == "h2" { $HTTP["url"] =^ "/a" {…} else $HTTP["url"] =^ "/b" {…} }`,
    request host h1 url /b/x; the else-branch is evaluated; host rewritten to h2 + reset_item;
    the else-branch is evaluated again) -/

/-- With the walk of config_cond_clear_node() as it was before fix f0e74a5 (stop at a node
    that is already unset, without following `next`), the cache is NOT coherent: in the
    scenario `Ex.ops` the else-branch keeps a stale "skip" although the block applies.
    (So `c14_cache_coherent` does not hold for `run false`; the theorem is about the
    walk that always follows the else-chain.) -/
theorem c14_old_clear_walk_stale :
    Ex.lastResult (run false Ex.tree [Req.fresh Ex.tree.length] Ex.ops) = some .skip ∧
    Ex.lastResult (run true Ex.tree [Req.fresh Ex.tree.length] Ex.ops) = some .true_ := by
  decide +kernel

/-! ## non-vacuity of the hypotheses of §1–§5 -/

example : WF Ex.tree := by decide +kernel
example : SlotsOk Ex.tree [Req.fresh Ex.tree.length] [] := by
  intro s rq hs _
  cases s with
  | zero => simp only [List.getElem?_cons_zero, Option.some.injEq] at hs; subst hs; exact coh_empty _ _
  | succ s => simp at hs
example : Disciplined 1 [] Ex.ops := ⟨by decide +kernel, by decide +kernel, trivial⟩
/-- a history with a stream: evaluated on the connection's request, spawned, given its
    request (full reset), evaluated -/
example : Disciplined 1 []
    [.check 0 1, .spawn, .newReq 1 [(.host, .str (ofString "h2"))] Ex.allValid, .check 1 3] :=
  ⟨by decide +kernel, by decide +kernel, trivial⟩
/-- the 8-field mask of http_response_comeback() (no bit for COMP_UNSET) makes every field of
    the configuration available, although it is not "all bits" -/
example : TreeValid Ex.tree (validOf Ex.allValid) := by
  intro i h1 hi
  have hl : Ex.tree.length = 4 := by decide +kernel
  rw [hl] at hi
  rcases (by omega : i = 1 ∨ i = 2 ∨ i = 3) with rfl | rfl | rfl <;> decide +kernel
example : ¬ ∀ k, validOf Ex.allValid k = true := by
  intro h; exact absurd (h .unset) (by decide)
/-- connection-level mask: only blocks depending on socket / peer address are decided -/
example : DepsValid [{}, { comp := .remoteIp, cond := .eq }] (validOf [.socket, .remoteIp]) 1 := by
  intro k hk
  cases hk with
  | self => decide
  | parent h _ => exact absurd rfl h
  | prev h _ => cases h
/-- the interesting run really produces observations, and block 3 applies at its end -/
example : (run true Ex.tree [Req.fresh Ex.tree.length] Ex.ops).length = 4 := by decide +kernel
example : evalLocal (Ex.tree.node 3) { host := ofString "h2", url := ofString "/b/x" } = true := by decide +kernel
example : evalLocal (Ex.tree.node 2) { host := ofString "h2", url := ofString "/b/x" } = false := by decide +kernel
example : evalLocal (Ex.tree.node 1) { host := ofString "h2:8080", url := ofString "/b/x" } = true := by decide +kernel
-- merge: a block that assigns directive 0
example : lastSet (ownSets [0, 1, 2] { sets := [(0, 7), (3, 9), (0, 8)] }) 0 = some 8 := by decide +kernel
-- CIDR: 10.1.2.3 is inside 10.0.0.0/8, 11.0.0.1 is not; ::ffff:10.1.2.3 is, as a mapped peer
example : addrEqBits (.v4 [10, 0, 0, 0]) (.v4 [10, 1, 2, 3]) 8 = true := by decide +kernel
example : addrEqBits (.v4 [10, 0, 0, 0]) (.v4 [11, 0, 0, 1]) 8 = false := by decide +kernel
example : addrEqBits (.v4 [10, 0, 0, 0]) (.v6 [0,0,0,0,0,0,0,0,0,0,0xff,0xff,10,1,2,3]) 8 = true := by decide +kernel
example : addrEqBits (.v6 [0,0,0,0,0,0,0,0,0,0,0xff,0xff,10,1,2,0]) (.v4 [10,1,2,77]) 120 = true := by decide +kernel
example : isV4Mapped (v4mapped [10, 1, 2, 3]) = true := by decide +kernel

/-! ## 6. `=~` conditions rewritten by the parser (configparser_simplify_regex) and turned back
   into a regex by config_finalize() keep the meaning of the condition as written
   (`Plain`, `litRegex`, `regexText`, `Simplified` in Proofs/CondSimplify.lean) -/

/-- For EVERY regex string `b` of a `=~` condition: if configparser_simplify_regex() replaces it
    (result `(cond, str)` with `cond ≠ MATCH`), then `b` is the text `^`? literal `$`? of an
    anchored literal regular expression (regex characters escaped: the `\.ext$` case), and the
    block's condition as STORED (`=^`, `=$`, `==` on `str`) holds for a request iff that regular
    expression matches the request's attribute — for every request and every block that tests a field
    (`comp ≠ unset`), except that `==` is a different comparison on host and remote address (see the
    next theorem). -/
theorem c14_simplify_regex_preserves (b : Bytes) (nd : Node) (e : Env)
    (hs : simplifyRegex b = (nd.cond, nd.str)) (hc : nd.cond ≠ .match_) (hu : nd.comp ≠ .unset)
    (hh : nd.cond = .eq → nd.comp ≠ .host ∧ nd.comp ≠ .remoteIp) :
    ∃ bol body eol, b = regexText bol body eol ∧ (∀ x ∈ body, x ≠ 0) ∧
      evalLocal nd e = (litRegex bol body eol).matches (attr nd e) := by
  obtain ⟨hcd, h0, hb⟩ := (simplifyRegex_shape b nd.cond nd.str hs hc).text
  exact ⟨_, _, _, hb, h0, evalLocal_literal nd e hu (hcd.imp_right (Or.imp_right fun h => ⟨h, hh h⟩))⟩

/-- The exception is real (upstream behaviour, candidate known finding):
    `$HTTP["host"] =~ "^h1$"` is stored as `$HTTP["host"] == "h1"`, and `==` on the host applies
    the host[:port] rule (`c14_host_port_rule`), so the block holds for `Host: h1:8080`, which
    the regular expression as written does not match. -/
theorem c14_simplified_host_eq_matches_port :
    simplifyRegex (ofString "^h1$") = (.eq, ofString "h1") ∧
    evalLocal { comp := .host, cond := .eq, str := ofString "h1" } { host := ofString "h1:8080" } = true ∧
    (litRegex true (ofString "h1") true).matches (ofString "h1:8080") = false := by
  decide +kernel

/-- config_finalize() (blocks whose captures are used by a redirect/rewrite rule): the regex
    text rebuilt from a simplified condition is exactly the text the configuration had —
    for every `b` that configparser_simplify_regex() rewrote. -/
theorem c14_finalize_restores_regex (b : Bytes) (c : CondOp) (s : Bytes)
    (hs : simplifyRegex b = (c, s)) (hc : c ≠ .match_) :
    unsimplify c s = (.match_, b) := by
  cases simplifyRegex_shape b c s hs hc with
  | suf s hp =>
    have : s.head? ≠ some 46 := fun h => absurd (hp 46 (List.mem_of_mem_head? h)).2 (by decide)
    simp [unsimplify, this]
  | pre s hp | exact s hp | ext s hp => simp [unsimplify]

/-- Exactly the anchored plain literals are rewritten: configparser_simplify_regex() returns
    a non-regex condition iff `b` is `^lit`, `^lit$`, `lit$` or `\.lit$` with `lit` free of NUL
    and of regex characters — and then returns that comparison on `lit` (`.lit`). -/
theorem c14_simplify_regex_exactly_literals (b : Bytes) (c : CondOp) (s : Bytes) (hc : c ≠ .match_) :
    simplifyRegex b = (c, s) ↔ Simplified b c s := by
  constructor
  · intro h; exact simplifyRegex_shape b c s h hc
  · intro h
    cases h with
    | pre s hp => exact simplifyRegex_pre s hp
    | exact s hp => exact simplifyRegex_exact s hp
    | suf s hp => exact simplifyRegex_suf s hp
    | ext s hp => exact simplifyRegex_ext s hp

example : Simplified (ofString "^/a$") .eq (ofString "/a") :=
  Simplified.exact (ofString "/a") (by unfold Plain; decide +kernel)
example : simplifyRegex (ofString "^/a") = (.prefix_, ofString "/a") := by decide +kernel
example : simplifyRegex (ofString "\\.php$") = (.suffix, ofString ".php") := by decide +kernel
example : simplifyRegex (ofString "php$") = (.suffix, ofString "php") := by decide +kernel
example : simplifyRegex (ofString "^/a$") = (.eq, ofString "/a") := by decide +kernel
example : simplifyRegex (ofString "^/a/.*\\.php$") = (.match_, ofString "^/a/.*\\.php$") := by decide +kernel
example : simplifyRegex (ofString "^$") = (.eq, []) := by decide +kernel
example : simplifyRegex (ofString "$") = (.suffix, []) := by decide +kernel
example : simplifyRegex (ofString "\\.$") = (.suffix, ofString ".") := by decide +kernel
example : simplifyRegex (ofString "\\$") = (.match_, ofString "\\$") := by decide +kernel
example : unsimplify .suffix (ofString ".php") = (.match_, ofString "\\.php$") := by decide +kernel
/-- hypotheses of `c14_simplify_regex_preserves` on a concrete block: `$HTTP["url"] =~ "\.php$"` -/
example : simplifyRegex (ofString "\\.php$") =
    (({ comp := .url, cond := .suffix, str := ofString ".php" } : Node).cond,
     ({ comp := .url, cond := .suffix, str := ofString ".php" } : Node).str) := by decide +kernel
example : evalLocal { comp := .url, cond := .suffix, str := ofString ".php" } { url := ofString "/x.php" } = true := by
  decide +kernel
example : (litRegex false (ofString ".php") true).matches (ofString "/x.php") = true := by decide +kernel
example : (litRegex false (ofString ".php") true).matches (ofString "/xaphp") = false := by decide +kernel

end LtVerif.C14
