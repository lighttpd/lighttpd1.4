/-
  C11 — backend pool: only live backends are used, failures fail over, load is accounted.
  Property theorems only; helper lemmas in LtVerif/Proofs/Gw*.lean.
  `run w ops` folds `step` (Model/Gw.lean) over an arbitrary list of operations (request arrives, socket
  event, spurious wake-up, client abort, clock tick + trigger), each with an arbitrary *script* of kernel /
  response-reader answers: quantifying over `ops` quantifies over every interleaving of arrivals,
  completions and aborts with every backend behaviour, for every pool shape and balance mode.

  Kinds of statement:
  * ∀-history (`run (initWorld …) ops`): c11_load_exact, _load_nonneg_zero_idle, _stats_exact_labelled,
    _no_ctx_leak, _active_exact, _dispatch_history, _disable_window_reachable, _retry_bounded;
  * ∀-continuation (from any world meeting a stated invariant): c11_load_exact_step, _stats_exact_partial,
    _disable_window, _failover_elsewhere, _static;
  * witness (one evaluated history): c11_stats_alias_witness;
  * key builder (gw_status_get_counter(), Model/GwStat.lean, all ids and tags): c11_stat_key_inj,
    _stat_entry_inj, _stat_entry_case_alias, _stat_key_dotted_alias;
  * per call (one C function on an arbitrary world: a decision, not a history): c11_only_available,
    _dispatch_running, _lc_min, _rr_fair, _hash_max, _connect_failure_disables, _reenable_after,
    _trigger_settles, _retry_budget, _comeback_terminates, _giveup_5xx, _giveup_502_incomplete,
    _timeout_releases, _driver_compact.
-/
import LtVerif.Proofs.GwAct
import LtVerif.Proofs.GwReach
import LtVerif.Proofs.GwPick
import LtVerif.Proofs.GwRetry
import LtVerif.Proofs.GwBound
import LtVerif.Proofs.GwStat
namespace LtVerif.C11
open LtVerif LtVerif.Gw

/-! ## load figures = requests in flight -/

/-- **c11_load_exact** (invariant form): the accounting invariant is preserved by every
    operation, whatever the kernel and the backends answer. -/
theorem c11_load_exact_step (w : World) (op : Op) (h : Acct none w) : Acct none (step w op) :=
  acct_step op h

/-- **c11_load_exact**: after every history, from every configuration, host->load, proc->load
    (the struct fields the balancer reads) and the global "gw.active-requests" figure equal
    the number of request contexts holding that host / that proc / any proc.  (The figures
    mod_status prints per host and per proc are a different matter: c11_stats_exact_partial.) -/
theorem c11_load_exact (balance : Nat) (wkr : Bool) (nslots : Nat) (specs : List HostSpec) (ops : List Op) :
    let w := run (initWorld balance wkr nslots specs) ops
    (∀ h, (w.host h).load = hostCnt w h) ∧
    (∀ h p, (w.proc h p).load = procCnt w h p) ∧
    w.globalActive = anyProcCnt w := by
  intro w
  have hA : Acct none w := acct_run ops (acct_init balance wkr nslots specs)
  exact ⟨hA.hostLoad, hA.procLoad, hA.global⟩

/-- **c11_stats_exact_partial**: the reported figures.  lighttpd keeps them in a table keyed by
    text, "gw.backend.<host label>.load" and "gw.backend.<host label>.<proc index>.load", and
    stores the struct field into the entry whenever the field changes (`World.hstat`,
    `World.pstat`).  PARTIAL: if no two hosts carry
    the same label (`LabelInj`; `initWorld` labels host i with i+1), then after every history the entry of every host and
    proc equals the number of requests in flight on it.  Without that hypothesis the claim is
    false of model and code alike: c11_stats_alias_witness. -/
theorem c11_stats_exact_partial (w0 : World) (hi : LabelInj w0) (hS : StatExact w0) (hA0 : Acct none w0)
    (ops : List Op) :
    let w := run w0 ops
    (∀ h, w.hstat (w.host h).label = hostCnt w h) ∧
    (∀ h p, w.pstat (w.host h).label p = procCnt w h p) := by
  intro w
  have hA : Acct none w := acct_run ops hA0
  have hS' : StatExact w := stat_reach (reach_run w0 ops) hi hS
  exact ⟨fun h => (hS'.1 h).trans (hA.hostLoad h), fun h p => (hS'.2 h p).trans (hA.procLoad h p)⟩

/-- … in particular from every configuration with labelled hosts -/
theorem c11_stats_exact_labelled (balance : Nat) (wkr : Bool) (nslots : Nat) (specs : List HostSpec)
    (ops : List Op) :
    let w := run (initWorld balance wkr nslots specs) ops
    (∀ h, w.hstat (w.host h).label = hostCnt w h) ∧
    (∀ h p, w.pstat (w.host h).label p = procCnt w h p) :=
  c11_stats_exact_partial _ (labelInj_init balance wkr nslots specs) (stat_init balance wkr nslots specs)
    (acct_init balance wkr nslots specs) ops

/-- **c11_stats_alias_witness**: the negation of c11_stats_exact_partial without its hypothesis.
    Two hosts written as an anonymous list `(( … ), ( … ))` have no label, so both use the
    entry "gw.backend..load".  One request arrives and is connected to host 0: the entry that
    is also host 1's now reads 1 while no request is on host 1. -/
theorem c11_stats_alias_witness :
    let w0 := anonymize (initWorld 0 false 2 [⟨1, 1, 0, 0, 0, 'r'⟩, ⟨1, 1, 0, 0, 0, 'r'⟩])
    let w := run w0 [.arrive 0 1 { conn := ['k'] }]
    (w0.host 0).label = (w0.host 1).label ∧ Acct none w ∧
    w.hstat (w.host 1).label = 1 ∧ hostCnt w 1 = 0 ∧
    w.pstat (w.host 1).label 0 = 1 ∧ procCnt w 1 0 = 0 := by
  intro w0 w
  refine ⟨rfl, ?_, by decide +kernel, by decide +kernel, by decide +kernel, by decide +kernel⟩
  have h0 : Acct none (initWorld 0 false 2 [⟨1, 1, 0, 0, 0, 'r'⟩, ⟨1, 1, 0, 0, 0, 'r'⟩]) := acct_init _ _ _ _
  exact acct_run _ (acct_frame h0 ⟨rfl, fun _ => ⟨rfl, rfl⟩, fun _ _ => ⟨rfl, rfl⟩, rfl⟩)

/-! ## the statistics key (gw_status_get_counter) -/

/-- **c11_stat_key_inj**: for ALL host ids without a '.', all proc ids and all tags of the shape
    gw_backend.c uses (a dot, then a non-digit), the key "gw.backend.<id>[.<n>]<tag>" built by gw_status_get_counter()
    determines host id, proc (or host-level) and tag. -/
theorem c11_stat_key_inj (id id' : Bytes) (pr pr' : Option Nat) (t t' : Bytes)
    (hid : GwStat.dot ∉ id) (hid' : GwStat.dot ∉ id') (ht : GwStat.TagOk t) (ht' : GwStat.TagOk t')
    (h : GwStat.statKey id pr t = GwStat.statKey id' pr' t') : id = id' ∧ pr = pr' ∧ t = t' :=
  GwStat.statKey_inj hid hid' ht ht' h

/-- **c11_stat_entry_inj**: … and the plugin_stats ENTRY (array_get_int_ptr: `sameEntry`) determines them up
    to letter case: two counters are one entry only if they are the same counter of hosts whose ids
    differ at most in letter case.  This is the side condition of c11_stats_exact_partial in the real key
    space: the numeric `Host.label` of the world model stands for the case-folded host id. -/
theorem c11_stat_entry_inj (id id' : Bytes) (pr pr' : Option Nat) (t t' : Bytes)
    (hid : GwStat.dot ∉ id) (hid' : GwStat.dot ∉ id') (ht : t ∈ GwStat.tags) (ht' : t' ∈ GwStat.tags)
    (h : GwStat.sameEntry (GwStat.statKey id pr t) (GwStat.statKey id' pr' t') = true) :
    GwStat.lower id = GwStat.lower id' ∧ pr = pr' ∧ GwStat.lower t = GwStat.lower t' :=
  GwStat.sameEntry_inj hid hid' (GwStat.tags_ok t ht) (GwStat.tags_ok t' ht') h

/-- conversely ids that differ only in letter case DO share every entry (no hypothesis on dots) -/
theorem c11_stat_entry_case_alias (id id' : Bytes) (pr : Option Nat) (t : Bytes)
    (h : GwStat.lower id = GwStat.lower id') :
    GwStat.sameEntry (GwStat.statKey id pr t) (GwStat.statKey id' pr t) = true :=
  GwStat.sameEntry_of_fold h rfl

/-- **c11_stat_key_dotted_alias**: the hypothesis "no '.' in the host id" cannot be dropped, in the
    model as in the code (the harness finds the same int* for both): the host-level load entry
    of a host named "a.1" IS the load entry of proc 1 of a host named "a" — distinct labels, one
    counter.  (A variant of the known finding `statistics label shared by unlabeled hosts`.) -/
theorem c11_stat_key_dotted_alias :
    GwStat.statKey (B.ofString "a.1") none (B.ofString ".load") =
      GwStat.statKey (B.ofString "a") (some 1) (B.ofString ".load") ∧
    GwStat.lower (B.ofString "a.1") ≠ GwStat.lower (B.ofString "a") := by
  constructor
  · decide +kernel
  · decide +kernel

/-! ## load figures, continued: sign, idle pool, descriptors -/

/-- never negative; zero when idle (no request context left) -/
theorem c11_load_nonneg_zero_idle (balance : Nat) (wkr : Bool) (nslots : Nat) (specs : List HostSpec)
    (ops : List Op) :
    let w := run (initWorld balance wkr nslots specs) ops
    (∀ h, 0 ≤ (w.host h).load) ∧
    (∀ h p, 0 ≤ (w.proc h p).load) ∧ 0 ≤ w.globalActive ∧
    ((∀ s, w.slot s = none) →
      (∀ h, (w.host h).load = 0) ∧
      (∀ h p, (w.proc h p).load = 0) ∧ w.globalActive = 0 ∧ w.curFds = 0) := by
  intro w
  have hA : Acct none w := acct_run ops (acct_init balance wkr nslots specs)
  have hpc : w.pendClose = 0 := run_pendClose _ ops rfl
  clear_value w
  refine ⟨fun h => hA.hostLoad h ▸ sumTo_nonneg _ _ fun _ _ => hostC_nonneg _ _,
    fun h p => hA.procLoad h p ▸ sumTo_nonneg _ _ fun _ _ => procC_nonneg _ _ _,
    hA.global ▸ sumTo_nonneg _ _ fun _ _ => anyProcC_nonneg _, fun hidle => ?_⟩
  have z := sumTo_idle hidle
  refine ⟨fun h => (hA.hostLoad h).trans (z _ rfl), fun h p => (hA.procLoad h p).trans (z _ rfl),
    hA.global.trans (z _ rfl), ?_⟩
  rw [hA.fds, hpc, fdCnt, z _ rfl]; rfl

/-- **c11_no_ctx_leak**: after every history no descriptor is waiting to be closed,
    srv->cur_fds equals the number of contexts holding a backend socket, and every
    socket ever opened is either still held by a context or was closed exactly once
    (`opened`/`closed` are ghost counters of socket() and close()). -/
theorem c11_no_ctx_leak (balance : Nat) (wkr : Bool) (nslots : Nat) (specs : List HostSpec) (ops : List Op) :
    let w := run (initWorld balance wkr nslots specs) ops
    w.pendClose = 0 ∧ w.curFds = fdCnt w ∧ (w.opened : Int) = w.closed + fdCnt w := by
  intro w
  have hA : Acct none w := acct_run ops (acct_init balance wkr nslots specs)
  have hpc : w.pendClose = 0 := run_pendClose _ ops rfl
  have h1 := hA.fds
  have h2 := hA.ghost
  rw [hpc] at h1 h2
  exact ⟨hpc, by simpa using h1, by simpa using h2⟩

/-! ## only available backends are used -/

/-- **c11_active_exact**: host->active_procs always equals the number of RUNNING procs,
    so "active_procs > 0" means "some proc of the host is RUNNING". -/
theorem c11_active_exact (balance : Nat) (wkr : Bool) (nslots : Nat) (specs : List HostSpec) (ops : List Op) :
    let w := run (initWorld balance wkr nslots specs) ops
    (∀ h, (w.host h).active = runningCnt w h) ∧
    (∀ h, (w.host h).active ≠ 0 ↔ ∃ p, p < (w.host h).nprocs ∧ (w.proc h p).state = .running) := by
  intro w
  have hA : Avail w := avail_reach (reach_run _ ops) (avail_init balance wkr nslots specs)
  exact ⟨hA, fun h => avail_pos_iff hA h⟩

/-- **c11_only_available** (host choice): in every balance mode gw_host_get() returns a
    configured host with active_procs ≠ 0 — or none, and none only if no host is
    available (⇒ 503 instead of a dead backend). -/
theorem c11_only_available (w : World) (key : Nat) :
    (∀ h, (hostPick w key).1 = some h → h < w.nhosts ∧ (w.host h).active ≠ 0) ∧
    (w.balance ≤ 3 → (∃ j, j < w.nhosts ∧ (w.host j).active ≠ 0 ∧ (w.host j).load < intMax) →
      ∃ h, (hostPick w key).1 = some h) :=
  ⟨fun h hh => hostPick_available w key h hh, fun hb hex => hostPick_complete w key hb hex⟩

/-- **c11_only_available** (proc choice): GW_STATE_INIT connects only to a RUNNING proc of
    the host, and (availability being exact) finds one on every host gw_host_get() returned. -/
theorem c11_dispatch_running (w : World) (h : Nat) :
    (∀ p, pickProc w h = some p → p < (w.host h).nprocs ∧ (w.proc h p).state = .running) ∧
    (Avail w → (w.host h).active ≠ 0 → ∃ p, pickProc w h = some p) :=
  ⟨fun _ hp => pickProc_running hp, fun hA hact => pickProc_complete hA h hact⟩

/-- **c11_dispatch_history**: every connect() a history ever issues —
    `Ev.dispatch s h p` in the log of `run (initWorld …) ops`, arrival, retry or timeout
    restart alike — was issued from a world `w'` lying on the way (its log is exactly what
    precedes the entry) in which proc p of host h existed and was RUNNING, hence in which
    host h had active_procs ≠ 0.  An OVERLOADED proc whose disable time has lapsed but which
    no trigger has re-enabled yet is therefore not dialled either. -/
theorem c11_dispatch_history (balance : Nat) (wkr : Bool) (nslots : Nat) (specs : List HostSpec)
    (ops : List Op) (post pre : List Ev) (s h p : Nat)
    (hlog : (run (initWorld balance wkr nslots specs) ops).log = post ++ Ev.dispatch s h p :: pre) :
    ∃ w', Reach (initWorld balance wkr nslots specs) w' ∧
      Reach w' (run (initWorld balance wkr nslots specs) ops) ∧ w'.log = pre ∧
      p < (w'.host h).nprocs ∧ (w'.proc h p).state = .running ∧ (w'.host h).active ≠ 0 := by
  obtain ⟨new, e, H⟩ := reach_dispatch_running (reach_run (initWorld balance wkr nslots specs) ops)
  have e0 : (initWorld balance wkr nslots specs).log = [] := rfl
  rw [e0, List.append_nil] at e
  obtain ⟨w', r1, r2, c0, c1, c2⟩ := H post pre s h p (e.symm.trans hlog)
  rw [e0, List.append_nil] at c0
  have hAv : Avail w' := avail_reach r1 (avail_init balance wkr nslots specs)
  exact ⟨w', r1, r2, c0, c1, c2, (avail_pos_iff hAv h).mpr ⟨p, c1, c2⟩⟩

/-- **c11_lc_min**: least-connection returns the first available host of minimal load. -/
theorem c11_lc_min (w : World) (key h : Nat) (hn : 1 < w.nhosts) (hb : w.balance = 0)
    (hh : (hostPick w key).1 = some h) :
    (∀ j, j < w.nhosts → (w.host j).active ≠ 0 → (w.host h).load ≤ (w.host j).load) ∧
    (∀ j, j < h → (w.host j).active ≠ 0 → (w.host h).load < (w.host j).load) := by
  unfold hostPick at hh
  rw [if_neg (by omega), if_pos hb] at hh
  obtain ⟨a1, _, a3, a4⟩ := (lc_range w _).pick h hh
  refine ⟨fun j hj hact => by rw [a3]; exact (lc_range w _).least j hj hact, fun j hj hact => ?_⟩
  rw [a3]; exact a4 j (by omega) hj hact

/-- **c11_rr_fair**: round-robin returns the next available host after last_used_ndx,
    cyclically, and remembers it. -/
theorem c11_rr_fair (w : World) (key h : Nat) (hn : 1 < w.nhosts) (hb : w.balance = 1)
    (hh : (hostPick w key).1 = some h) :
    (hostPick w key).2 = h ∧
    (((w.lastUsed + 1).toNat ≤ h ∧ ∀ i, (w.lastUsed + 1).toNat ≤ i → i < h → (w.host i).active = 0) ∨
     (h < (w.lastUsed + 1).toNat ∧ (∀ i, (w.lastUsed + 1).toNat ≤ i → i < w.nhosts → (w.host i).active = 0) ∧
        ∀ i, i < h → (w.host i).active = 0)) := by
  unfold hostPick at hh ⊢
  rw [if_neg (by omega), if_neg (by omega), if_pos hb] at hh ⊢
  cases hp : rrPick w with
  | none => simp [hp] at hh
  | some j =>
    simp only [hp] at hh ⊢
    simp at hh; subst hh
    exact ⟨rfl, ((rrPick_spec w).1 j hp).2.2⟩

/-- hash / sticky: the available host maximising `request hash XOR host hash`. -/
theorem c11_hash_max (w : World) (key h : Nat) (hn : 1 < w.nhosts) (hb : w.balance = 2 ∨ w.balance = 3)
    (hh : (hostPick w key).1 = some h) :
    ∀ j, j < w.nhosts → (w.host j).active ≠ 0 →
      baseHash w.balance key ^^^ (w.host j).gwHash ≤ baseHash w.balance key ^^^ (w.host h).gwHash := by
  unfold hostPick at hh
  rw [if_neg (by omega), if_neg (by omega), if_neg (by omega), if_pos hb] at hh
  obtain ⟨_, _, a3⟩ := (hash_range w (baseHash w.balance key) _).pick h hh
  intro j hj hact
  rw [a3]; exact (hash_range w (baseHash w.balance key) _).greatest j hj hact

/-! ## failed backends leave the rotation for their disable-time, and come back -/

/-- disable and re-enable (1): a connect failure on a remote proc (or the first one
    reported for a local proc) marks it OVERLOADED until now + disable-time. -/
theorem c11_connect_failure_disables (w : World) (h p pid : Nat)
    (hc : (w.proc h p).isLocal = false ∨ ((w.proc h p).pid = pid ∧ (w.proc h p).state = .running)) :
    ((connectError w h p pid).proc h p).state = .overloaded ∧
    ((connectError w h p pid).proc h p).disabledUntil = w.now + (w.host h).disableTime :=
  connectError_disables w h p pid hc

/-- disable and re-enable (2), the window: a proc that is OVERLOADED with
    `disabled_until ≥ D` stays OVERLOADED, keeps `disabled_until ≥ D`, and receives **no**
    connect() in any continuation of the history, for as long as the clock has not passed
    D — whatever else fails, times out or is re-enabled meanwhile.  (`WInv`: an OVERLOADED
    proc was disabled at most disable-time into the future; true of every reachable world.) -/
theorem c11_disable_window (w : World) (hW : WInv w) (ops : List Op) (h p : Nat) (D : Int)
    (hs : (w.proc h p).state = .overloaded) (hD : D ≤ (w.proc h p).disabledUntil)
    (hnow : (run w ops).now ≤ D) :
    ((run w ops).proc h p).state = .overloaded ∧ D ≤ ((run w ops).proc h p).disabledUntil ∧
    ∃ new, (run w ops).log = new ++ w.log ∧ ∀ e, e ∈ new → ∀ s, e ≠ Ev.dispatch s h p := by
  obtain ⟨⟨a, b⟩, c⟩ := window_reach (reach_run w ops) hW ⟨hs, hD⟩ hnow
  exact ⟨a, b, c⟩

/-- … in particular from every state reached by any history from any configuration -/
theorem c11_disable_window_reachable (balance : Nat) (wkr : Bool) (nslots : Nat) (specs : List HostSpec)
    (ops ops' : List Op) (h p : Nat) (D : Int) :
    let w := run (initWorld balance wkr nslots specs) ops
    let w' := run w ops'
    (w.proc h p).state = .overloaded → D ≤ (w.proc h p).disabledUntil → w'.now ≤ D →
    (w'.proc h p).state = .overloaded ∧ D ≤ (w'.proc h p).disabledUntil ∧
    ∃ new, w'.log = new ++ w.log ∧ ∀ e, e ∈ new → ∀ s, e ≠ Ev.dispatch s h p := by
  intro w w' hs hD hnow
  exact c11_disable_window w (winv_reach (reach_run _ ops) (winv_init balance wkr nslots specs))
    ops' h p D hs hD hnow

/-- disable and re-enable (3): the first trigger after `disabled_until` brings the proc
    back — stated here for a host with no request waiting on it; with requests waiting, one
    of them timing out in the same tick may disable the proc again: c11_trigger_settles is
    the statement without the side condition. -/
theorem c11_reenable_after (w : World) (h p : Nat) (he : (w.host h).hctxs = [])
    (hp : p < (w.host h).nprocs) (hs : (w.proc h p).state = .overloaded)
    (ht : (w.proc h p).disabledUntil < w.now) :
    ((triggerHost w h).proc h p).state = .running :=
  triggerHost_enables w h p he hp hs ht

/-- **c11_trigger_settles**: after gw_handle_trigger_host() has
    visited a host, every proc of it that is still OVERLOADED has its disable time ahead
    (`now ≤ disabled_until`: its time is not up, or it failed again in this very tick); a
    proc whose time was up has been brought back. -/
theorem c11_trigger_settles (w : World) (h p : Nat) (hp : p < (w.host h).nprocs)
    (hs : ((triggerHost w h).proc h p).state = .overloaded) :
    (triggerHost w h).now ≤ ((triggerHost w h).proc h p).disabledUntil :=
  triggerHost_settles w h p hp hs

/-- **c11_failover_elsewhere**: "retried on ANOTHER backend", for connect failures.  Once
    connect() to a remote proc has failed (gw_proc_connect_error), no continuation of the
    history, the retry of the same request in the same event included, dials that proc again until the clock has passed now + disable-time.  (For a retry after the
    backend accepted and then reset the connection nothing is disabled, and the same proc
    may be chosen again: that is lighttpd's behaviour and not claimed otherwise.) -/
theorem c11_failover_elsewhere (w : World) (hW : WInv w) (h p pid : Nat) (hp : p < (w.host h).nprocs)
    (hr : (w.proc h p).isLocal = false) (ops : List Op)
    (hnow : (run (connectError w h p pid) ops).now ≤ w.now + (w.host h).disableTime) :
    ∃ new, (run (connectError w h p pid) ops).log = new ++ (connectError w h p pid).log ∧
      ∀ e, e ∈ new → ∀ s, e ≠ Ev.dispatch s h p := by
  have hd := connectError_disables w h p pid (Or.inl hr)
  have hW1 : WInv (connectError w h p pid) := winv_reach (reach_connectError w h p pid hp) hW
  exact (window_reach (reach_run _ ops) hW1 ⟨hd.1, by rw [hd.2]; exact Int.le_refl _⟩ hnow).2

/-- time never runs backwards and the configuration is never changed by a history
    (what the window theorem silently relies on) -/
theorem c11_static (w : World) (ops : List Op) :
    w.now ≤ (run w ops).now ∧ (run w ops).nhosts = w.nhosts ∧
    (∀ h, ((run w ops).host h).nprocs = (w.host h).nprocs ∧
          ((run w ops).host h).disableTime = (w.host h).disableTime) := by
  have S := reach_static (reach_run w ops)
  exact ⟨S.now, S.nhosts, fun h => ⟨S.nprocs h, S.disableTime h⟩⟩

/-! ## retries are bounded and end in an error status -/

/-- **c11_retry_budget** (per call): the retry decision of every failure path.
    (1) gw_write_error() in GW_STATE_INIT / CONNECT_DELAYED: with 5 reconnects used up it gives up
        (HANDLER_FINISHED via gw_backend_error), otherwise it is one gw_reconnect() with the counter incremented;
    (2) gw_recv_response_error(): retried only if no request byte was sent, no response
        begun and fewer than 5 reconnects used;
    (3) a retry (HANDLER_COMEBACK) lands in GW_STATE_INIT on a host gw_host_get() chose, which
        has active_procs ≠ 0; without such a host the request is finished (503) instead. -/
theorem c11_retry_budget (w : World) (s : Nat) :
    ((w.linkOf s).state = .init ∨ (w.linkOf s).state = .connectDelayed →
      (5 ≤ (w.auxOf s).reconnects → (writeError w s).1 = .finished) ∧
      ((w.auxOf s).reconnects < 5 →
        (writeError w s).1 = .finished ∨
        ((writeError w s).1 = .comeback ∧
          writeError w s = reconnect ((restartIfLocal w s).updAux s
            fun a => { a with reconnects := a.reconnects + 1 }) s))) ∧
    (((w.auxOf s).started = true ∨ (w.auxOf s).bytesOut ≠ 0 ∨ 5 ≤ (w.auxOf s).reconnects →
        (recvResponseError w s).1 = .finished) ∧
      ((recvResponseError w s).1 = .comeback →
        (w.auxOf s).started = false ∧ (w.auxOf s).bytesOut = 0 ∧ (w.auxOf s).reconnects < 5)) ∧
    (((reconnect w s).1 = .comeback ∨ (reconnect w s).1 = .finished) ∧
      ((reconnect w s).1 = .comeback →
        ∃ h, h < w.nhosts ∧ (w.host h).active ≠ 0 ∧
          ∀ l, lk (reconnect w s).2 s = some l → l.host = some h ∧ l.state = .init)) := by
  refine ⟨fun hst => writeError_budget w s hst, recvResponseError_budget w s, reconnect_rc w s, ?_⟩
  intro hc
  obtain ⟨h, _, a, b, c⟩ := reconnect_comeback w s hc
  exact ⟨h, a, b, c⟩

/-- **c11_retry_bounded**: "a bounded number of times", for every history and every
    environment script, of whatever length.  `dispatched` counts the connect() calls made for
    the request occupying a slot (it starts at 0 with the request and is incremented by
    `wrConnect`, the one place that logs `Ev.dispatch`; harness and oracle recount the real
    connect() calls).  After every history, for every request in flight:
      connect() calls ≤ 1 + retries taken   and   connect() calls ≤ 6.
    This is a theorem about lighttpd WITH the repair prepared for it (gw_write_request() no
    longer zeroes hctx->reconnects when connect() succeeds at once); in the unrepaired code a
    backend that accepts and resets restarts the budget each time and the number of
    connect() calls for one request is unbounded. -/
theorem c11_retry_bounded (balance : Nat) (wkr : Bool) (nslots : Nat) (specs : List HostSpec) (ops : List Op)
    (s : Nat) (c : Ctx) (hc : (run (initWorld balance wkr nslots specs) ops).slot s = some c) :
    c.aux.dispatched ≤ c.aux.reconnects + 1 ∧ c.aux.dispatched ≤ 6 := by
  have hJ := j_run _ ops (acct_init balance wkr nslots specs) (j_init balance wkr nslots specs) s c hc
  exact ⟨by have := hJ.1; omega, by have := hJ.2; omega⟩

/-- **c11_comeback_terminates**: no spinning inside one event.  Every HANDLER_COMEBACK
    that gw_handle_subrequest() returns has used up one unit of the request's retry budget
    (`mu s w = 5 − reconnects`), so the COMEBACK loop of http_response_handler() ends by
    itself: any fuel ≥ 7 gives the same result as the model's 7. -/
theorem c11_comeback_terminates (w : World) (s : Nat) :
    ((w.slot s).isSome → (subrequest w s).1 = .comeback → mu s (subrequest w s).2 < mu s w) ∧
    (∀ n, conFuel w ≤ n → runCon n w s = runCon (conFuel w) w s) := by
  refine ⟨fun hs hc => (ret_subrequest s w).2 hc hs, fun n hn => ?_⟩
  have := conFuel_gt_mu w s
  exact runCon_fuel n (conFuel w) w s (by omega) this

/-- **c11_giveup_5xx** (per call): "otherwise the client receives a 5xx".  Where the code gives up on a
    request whose response has not begun — (1) the tail of gw_write_error(), (2)
    gw_backend_error() from any other path, (3) gw_host_get() finding no available host —
    the request handler is dropped and the status is an error: ≥ 500, or the 400 a failed
    create_env had already decided. -/
theorem c11_giveup_5xx (w : World) (s : Nat) (hs : (w.slot s).isSome) (hns : (w.auxOf s).started = false) :
    ((w.auxOf s).handler = true →
      ((writeErrorTail w s).2.auxOf s).handler = false ∧
      (500 ≤ ((writeErrorTail w s).2.auxOf s).status ∨ ((writeErrorTail w s).2.auxOf s).status = 400)) ∧
    ((w.auxOf s).handler = true →
      ((backendError w s).2.auxOf s).handler = false ∧
      ((backendError w s).2.auxOf s).status =
        (if (w.auxOf s).status < 500 ∧ (w.auxOf s).status ≠ 400 then 500 else (w.auxOf s).status)) ∧
    ((hostGet w s).1 = none →
      ((hostGet w s).2.auxOf s).status = 503 ∧ ((hostGet w s).2.auxOf s).handler = false) := by
  refine ⟨fun hh => writeErrorTail_seen w s hs hns hh, fun hh => ?_, fun hn => hostGet_none_seen w s hs hn⟩
  have E := backendError_seen w s hs hns
  exact ⟨E.handler, E.status hh⟩

/-- **c11_giveup_502_incomplete** (per call): the backend fails after its response headers
    were parsed but before lighttpd has sent a response head to the client
    (http_response_backend_incomplete, r->resp_header_len == 0): the partial response is
    dropped and the client gets 502, not a cut-off 200.  (Once the head has gone out —
    streaming — no status can be sent any more; the response is aborted instead, which the
    model records as `trunc` in `Ev.fin`.) -/
theorem c11_giveup_502_incomplete (w : World) (s : Nat) (hs : (w.slot s).isSome)
    (hst : (w.auxOf s).started = true) (hhs : (w.auxOf s).headSent = false) :
    ((backendError w s).2.auxOf s).handler = false ∧ ((backendError w s).2.auxOf s).started = false ∧
    ((backendError w s).2.auxOf s).status = 502 :=
  backendError_incomplete_seen w s hs hst hhs

/-- **c11_timeout_releases**: "… instead of hanging", per visit.  When
    gw_handle_trigger_host_timeouts() visits a request whose configured connect, read or write
    deadline has passed it calls the timeout handler, and after the handler the request no
    longer waits on that backend: it holds no socket and no proc,
    and either restarts in GW_STATE_INIT on a host gw_host_get() chose or holds no host at
    all (finished with 503/504, see c11_giveup_5xx).  A timeout configured as 0 is off (read-
    and write-timeout are off by default), so a backend that hangs after accepting is then
    waited for indefinitely: that is lighttpd's documented behaviour.  NOT proved: that the
    trigger visits every waiting request (host->hctxs holding exactly the requests with a
    socket); on the real code the oracle
    checks after every tick that no request is past a configured deadline. -/
theorem c11_timeout_releases (w : World) (h s kind : Nat) (hA : Acct none w) :
    ((w.linkOf s).state = .connectDelayed → w.now - (w.auxOf s).writeTs > (w.host h).ctimeout →
      (w.host h).ctimeout ≠ 0 → timeoutStep h w s = hctxTimeout w s 0) ∧
    ((w.linkOf s).state ≠ .connectDelayed → (w.auxOf s).evIn = true →
      w.now - (w.auxOf s).readTs > (w.host h).rtimeout → (w.host h).rtimeout ≠ 0 →
      timeoutStep h w s = hctxTimeout w s 1) ∧
    ((w.linkOf s).state ≠ .connectDelayed →
      ¬((w.auxOf s).evIn = true ∧ w.now - (w.auxOf s).readTs > (w.host h).rtimeout ∧ (w.host h).rtimeout ≠ 0) →
      (w.auxOf s).evOut = true → w.now - (w.auxOf s).writeTs > (w.host h).wtimeout →
      (w.host h).wtimeout ≠ 0 → timeoutStep h w s = hctxTimeout w s 2) ∧
    (∀ l, lk (hctxTimeout w s kind) s = some l →
      l.fd = false ∧ l.proc = none ∧ (l.state = .init ∨ l.host = none)) := by
  refine ⟨timeoutStep_connect h w s, timeoutStep_read h w s, timeoutStep_write h w s, ?_⟩
  intro l hl
  have R := hctxTimeout_released w s kind
  have N := released_holds_nothing (acct_acts (acts_hctxTimeout s kind w) (tok_none s) hA).2 R l hl
  exact ⟨N.1, N.2, R l hl⟩

/-- the driver re-tabulates the maps of the world after every operation (`compact`); that is
    the identity, so `ltm_gw` runs exactly the `step` the theorems above are about -/
theorem c11_driver_compact (w : World) : compact w = w := compact_eq w

/-! ## non-vacuity -/

private def spec2 : List HostSpec := [⟨1, 2, 3, 0, 0, 'r'⟩, ⟨2, 2, 3, 0, 0, 'r'⟩]
private def w0 : World := initWorld 0 false 3 spec2
/-- host 0 just refused a connection at t = 1000 (disable-time 2) -/
private def w1 : World := connectError w0 0 0 0
/-- … and the clock is now past the window -/
private def w2 : World := { w1 with now := 1003 }
/-- a request context parked in GW_STATE_INIT on host 1 with one reconnect used -/
private def w3 : World :=
  { w0 with slot := fun i => if i = 0 then some { link := { hctx := true, host := some 1 },
                                                   aux := { handler := true, reconnects := 1 } } else none }

-- c11_load_exact_step: initially and in a reachable world
example : Acct none w0 := acct_init 0 false 3 spec2
example : Acct none (run w0 [.arrive 0 1 {}, .arrive 1 2 { conn := ['r', 'k'] }, .tick 1 {}]) :=
  acct_run _ (acct_init 0 false 3 spec2)

-- c11_only_available / c11_lc_min / c11_dispatch_running on the two-host pool
example : (hostPick w0 7).1 = some 0 := by decide +kernel
example : 1 < w0.nhosts ∧ w0.balance = 0 := by decide +kernel
example : ∃ j, j < w0.nhosts ∧ (w0.host j).active ≠ 0 ∧ (w0.host j).load < intMax := ⟨1, by decide +kernel⟩
example : pickProc w0 1 = some 0 := by decide +kernel
example : Avail w0 := avail_init 0 false 3 spec2
-- after host 0 failed, least-connection fails over to host 1
example : (w1.host 0).active = 0 ∧ (hostPick w1 7).1 = some 1 := by decide +kernel
-- round-robin and hash pools
example : (hostPick (initWorld 1 false 3 spec2) 7) = (some 0, 0) := by decide +kernel
example : ∃ h, (hostPick (initWorld 2 false 3 spec2) 7).1 = some h :=
  hostPick_complete _ 7 (by decide +kernel) ⟨0, by decide +kernel⟩

-- c11_connect_failure_disables / c11_disable_window / c11_reenable_after
example : (w0.proc 0 0).isLocal = false := by decide +kernel
example : (w1.proc 0 0).state = .overloaded ∧ (w1.proc 0 0).disabledUntil = 1002 := by
  have h := c11_connect_failure_disables w0 0 0 0 (Or.inl (by decide +kernel))
  exact ⟨h.1, h.2.trans (by decide +kernel)⟩
example : WInv w1 := winv_reach (reach_connectError w0 0 0 0 (by decide +kernel)) (winv_init 0 false 3 spec2)
example : (w2.host 0).hctxs = [] ∧ 0 < (w2.host 0).nprocs ∧ (w2.proc 0 0).state = .overloaded ∧
    (w2.proc 0 0).disabledUntil < w2.now := by decide +kernel
example : ((triggerHost w2 0).proc 0 0).state = .running :=
  c11_reenable_after w2 0 0 (by decide +kernel) (by decide +kernel) (by decide +kernel) (by decide +kernel)

-- c11_retry_budget / _retry_bounded / _giveup_5xx: a context in GW_STATE_INIT with budget left
example : (w3.linkOf 0).state = .init ∧ (w3.auxOf 0).reconnects < 5 ∧ (w3.auxOf 0).started = false ∧
    (w3.slot 0).isSome = true ∧ (w3.auxOf 0).handler = true ∧
    mu 0 w3 = 4 := by
  decide +kernel
-- c11_timeout_releases: a connect() on host 0 delayed since t = 1000, visited at t = 1004 (connect-timeout 3)
private def hDelayed : List Op := [.arrive 0 1 { conn := ['p'] }]
private def wT : World := { run w0 hDelayed with now := 1004 }
example : (wT.linkOf 0).state = .connectDelayed ∧ wT.now - (wT.auxOf 0).writeTs > (wT.host 0).ctimeout ∧
    (wT.host 0).ctimeout ≠ 0 ∧ (wT.host 0).hctxs = [0] := by decide +kernel
example : timeoutStep 0 wT 0 = hctxTimeout wT 0 0 :=
  (c11_timeout_releases wT 0 0 0 (acct_now 1004 (acct_run _ (acct_init 0 false 3 spec2)))).1
    (by decide +kernel) (by decide +kernel) (by decide +kernel)

-- histories: host 0 refuses the first request, which fails over to host 1
private def hRefused : List Op := [.arrive 0 1 { conn := ['r', 'k'] }]
-- c11_disable_window_reachable / _failover_elsewhere: the premises after `hRefused`
example : ((run w0 hRefused).proc 0 0).state = .overloaded ∧ ((run w0 hRefused).proc 0 0).disabledUntil = 1002 ∧
    (run (run w0 hRefused) [.tick 2 {}]).now ≤ 1002 := by decide +kernel
example : WInv w0 ∧ 0 < (w0.host 0).nprocs ∧ (w0.proc 0 0).isLocal = false :=
  ⟨winv_init 0 false 3 spec2, by decide +kernel, by decide +kernel⟩
-- c11_no_ctx_leak: two sockets were opened, one closed, one is held
example : (run w0 hRefused).opened = 2 ∧ (run w0 hRefused).closed = 1 ∧ fdCnt (run w0 hRefused) = 1 := by decide +kernel
-- c11_dispatch_history: two connect() entries, one to host 1
example : ((run w0 hRefused).log.filter isDispatch).length = 2 ∧
    (run w0 hRefused).log.any (fun e => match e with | Ev.dispatch 0 1 0 => true | _ => false) = true := by decide +kernel
-- c11_retry_bounded: the request of `hRefused` is in flight with 2 connects, 1 retry
example : ∃ c, (run w0 hRefused).slot 0 = some c ∧ c.aux.dispatched = 2 ∧ c.aux.reconnects = 1 :=
  ⟨_, rfl, by decide +kernel, by decide +kernel⟩
-- … a backend that accepts and resets eight times is dialled six times
example : ((run (initWorld 0 false 1 [⟨6, 0, 0, 0, 0, 'r'⟩])
      [.arrive 0 1 { conn := ['k', 'k', 'k', 'k', 'k', 'k', 'k', 'k'], wr := ['e', 'e', 'e', 'e', 'e', 'e', 'e', 'e'],
                     rd := ['x', 'x', 'x', 'x', 'x', 'x', 'x', 'x'] }]).log.filter isDispatch).length = 6 := by
  decide +kernel
-- c11_trigger_settles: disabled at 1000 until 1002, a trigger at 1000 leaves host 0 proc 0 out
example : ((triggerHost w1 0).proc 0 0).state = .overloaded := by decide +kernel
-- c11_rr_fair / _hash_max on the two-host pool
example : 1 < (initWorld 1 false 3 spec2).nhosts ∧ (initWorld 1 false 3 spec2).balance = 1 ∧
    (hostPick (initWorld 1 false 3 spec2) 7).1 = some 0 := by decide +kernel
example : (initWorld 2 false 3 spec2).balance = 2 ∧ (hostPick (initWorld 2 false 3 spec2) 7).1 = some 1 := by decide +kernel
-- c11_stats_exact_partial: the labelled pools of `initWorld`
example : LabelInj w0 ∧ StatExact w0 := ⟨labelInj_init 0 false 3 spec2, stat_init 0 false 3 spec2⟩

-- c11_giveup_502_incomplete: response headers parsed, nothing sent on, then the backend fails
private def w4 : World :=
  { w0 with slot := fun i => if i = 0 then some { link := { hctx := true, host := some 1 },
                                                   aux := { handler := true, started := true, status := 200 } } else none }
example : (w4.slot 0).isSome = true ∧ (w4.auxOf 0).started = true ∧ (w4.auxOf 0).headSent = false := by decide +kernel

-- c11_load_exact / _load_nonneg_zero_idle cover requests that gw_check_extension() refuses AFTER it chose a
-- host (gw_upgrade_policy(): HTTP/2 extended CONNECT): status 405, an empty slot, no load taken
example : (run w0 [.arrive 0 1 { upg := ['c'] }]).slot 0 = none ∧
    ((run w0 [.arrive 0 1 { upg := ['c'] }]).host 0).load = 0 ∧
    (run w0 [.arrive 0 1 { upg := ['c'] }]).log.any
      (fun e => match e with | Ev.fin 0 405 false false false => true | _ => false) = true := by decide +kernel

-- c11_stat_key_inj / _stat_entry_inj / _stat_entry_case_alias: the harness labels ("h0", the empty id) are
-- dot-free, the tags of gw_backend.c have the required shape, the key is the text lighttpd uses
example : GwStat.dot ∉ B.ofString "h0" ∧ GwStat.dot ∉ ([] : Bytes) ∧ B.ofString ".load" ∈ GwStat.tags ∧
    GwStat.TagOk (B.ofString ".connected") ∧
    GwStat.statKey (B.ofString "h0") (some 10) (B.ofString ".load") = B.ofString "gw.backend.h0.10.load" ∧
    GwStat.statKey [] none (B.ofString ".load") = B.ofString "gw.backend..load" ∧
    GwStat.lower (B.ofString "H0") = GwStat.lower (B.ofString "h0") ∧
    GwStat.sameEntry (B.ofString "gw.backend.H0.load") (B.ofString "gw.backend.h0.load") = true := by
  refine ⟨by decide +kernel, by decide +kernel, by decide +kernel, GwStat.tags_ok _ (by decide +kernel), by decide +kernel, by decide +kernel, by decide +kernel, by decide +kernel⟩

end LtVerif.C11
