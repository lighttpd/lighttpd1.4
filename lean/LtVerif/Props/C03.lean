/-
  C03 — access rules cannot be bypassed by respelling URLs or spoofing the client address.
  The property theorems, the objects of their examples (`demo*`, `pathOf`) and `Refused`; lemmas
  in Proofs/Access.lean, Proofs/Extforward.lean; the hypothesis vocabulary (`Scope.caseBlind`,
  `urlFree`, `portBlind`, `Passes`, `tokenLike`, `fwdTokensU`) in the Model files.  §5: what the code
  does NOT guarantee (known findings, each with its witness), the repaired defects, the structural statement.
-/
import LtVerif.Proofs.Access
import LtVerif.Proofs.Extforward
import LtVerif.Model.Docroot
namespace LtVerif.C03
open LtVerif B LtVerif.Access LtVerif.Extforward

/-! ## objects of the examples and witnesses -/

def demoFs : Fs := fun p =>
  if p = ofString "/secret/key.html" ∨ p = ofString "/app.php" then some .file
  else if p = [] ∨ p = ofString "/secret" then some .dir
  else none

def demoAddr : Addr := ⟨.v4 [192, 0, 2, 1], ofString "192.0.2.1"⟩
def demoEnv (u : String) : Env := ⟨ofString u, ofString "h", demoAddr⟩
def demoTarget (u : String) : Target := ⟨ofString u, ofString u, []⟩

/-- url.access-deny = (".inc", "~"), auth.require = ("/secret/" => valid-user), case-sensitive;
    `⟨9567⟩` = the default server.http-parseopts (0x255f) -/
def demoSrv : Server :=
  { cfg := [{ scope := .global, deny := some [ofString ".inc", ofString "~"],
              auth := some [{ pfx := ofString "/secret/" }] }],
    opts := ⟨9567⟩, lc := false, docroot := ofString "/srv", fs := demoFs }

def demoReq : Req :=
  { target := ofString "/secret/./key%2ehtml", host := ofString "h", peer := ofString "192.0.2.1",
    peerAddr := .v4 [192, 0, 2, 1], hdrs := [], user := some (ofString "alice") }

/-- extforward.forwarder = ("10.0.0.1" => "trust") -/
def demoFwd : Forwarder := { entries := [(ofString "10.0.0.1", true)], all := 0, masks := [] }

/-- … and `$HTTP["remoteip"] != "10.0.0.0/8" { url.access-deny = ("") }` -/
def demoSrvIp : Server :=
  { cfg := [{ scope := .global, forwarder := some demoFwd },
            { scope := .ip true (.v4 [10, 0, 0, 0]) 8, deny := some [[]] }],
    opts := ⟨9567⟩, lc := false, docroot := ofString "/srv", fs := demoFs }

/-- a client outside 10/8 that claims to be 10.9.9.9 -/
def demoSpoof : Req :=
  { target := ofString "/app.php", host := ofString "h", peer := ofString "203.0.113.9",
    peerAddr := .v4 [203, 0, 113, 9], hdrs := [(ofString "x-forwarded-for", ofString "10.9.9.9")],
    user := none }

/-- canonical path of a request-target (for the last example) -/
def pathOf (o : Opts) (t : Bytes) : Option Bytes :=
  match parseTarget o false t with
  | .ok u => some u.path
  | .error _ => none

/-! ## §1 the reference monitor -/

/-- Whenever a file is sent, then – whatever the spelling of the
    request – the request was 200, the file is the regular file found at the (case-folded)
    URL that is left after the path-info split, and with `a` THE address mod_extforward attributed
    the request to (`effAddr`: the TCP peer's, or what a trusted forwarder reported): mod_access
    allowed BOTH the full path and that file's own URL (conditional configuration evaluated on
    that URL, host and `a`), the file is not excluded from static delivery, a path-info is
    present only if static-file.disable-pathinfo is off, and the auth.require rule that guards
    the full path (if any) accepts the authenticated user. -/
theorem c03_served_file_authorised (bf : Bool) (parse : Bytes → Option SockAddr) (s : Server) (r : Req)
    (f : Bytes) (h : (serve bf parse s r).file = some f) :
    ∃ (t : Target) (a : Addr) (n : Nat),
      parseTarget s.opts false r.target = .ok t ∧ effAddr bf parse s r t.path = some a ∧
      n ≤ t.path.length ∧
      (serve bf parse s r).status = 200 ∧
      (serve bf parse s r).uri = t.path.take (t.path.length - n) ∧
      (serve bf parse s r).addr = a.text ∧
      f = relPath s.lc (t.path.take (t.path.length - n)) ∧
      s.fs f = some .file ∧
      accessHook s.cfg ⟨t.path, r.host, a⟩ s.lc = true ∧
      accessHook s.cfg ⟨t.path.take (t.path.length - n), r.host, a⟩ s.lc = true ∧
      staticExclude (listOf (setting (·.exclude) s.cfg ⟨t.path.take (t.path.length - n), r.host, a⟩))
        (s.docroot ++ f) = false ∧
      authPass s.cfg ⟨t.path, r.host, a⟩ s.lc r.user = true ∧
      ((setting (·.noPathinfo) s.cfg ⟨t.path.take (t.path.length - n), r.host, a⟩).getD false = true → n = 0) := by
  obtain ⟨t, a, ht, ha, hs⟩ := serve_file bf parse s r f h
  rw [hs] at h ⊢
  obtain ⟨n, pi, hR, hS⟩ := serveFrom_file s t _ _ f h
  obtain ⟨hn, hf, hfs⟩ := resolve_file s.fs s.lc t.path f n hS.resolved
  rw [hR]
  refine ⟨t, a, n, ht, ha, hn, rfl, rfl, rfl, hf, hfs, hS.access, hS.access2, hS.notExcluded, hS.auth,
    fun hp => ?_⟩
  simpa [hp] using hS.pathinfo

-- non-vacuity: an encoded, dot-segmented spelling of a guarded file, with credentials
example : (serve false gaiNumeric demoSrv demoReq).file = some (ofString "/secret/key.html") := by
  decide +kernel

/-- mod_access denies URL `u` to the client address `a`, or static-file.exclude-extensions lists its file -/
def Refused (s : Server) (host u : Bytes) (a : Addr) : Prop :=
  accessHook s.cfg ⟨u, host, a⟩ s.lc = false ∨
  staticExclude (listOf (setting (·.exclude) s.cfg ⟨u, host, a⟩)) (s.docroot ++ relPath s.lc u) = true

/-- If – for the address the request is really attributed to – the rules refuse file `f` at every
    URL that names it (one URL on a case-sensitive file system, its letter-case variants under
    force-lowercase-filenames), then the request is not answered with that file: whatever its
    target, encoding, path-info, protocol or forwarded headers. -/
theorem c03_protected_never_served (bf : Bool) (parse : Bytes → Option SockAddr) (s : Server) (r : Req)
    (f : Bytes)
    (hprot : ∀ t a u, parseTarget s.opts false r.target = .ok t → effAddr bf parse s r t.path = some a →
      relPath s.lc u = f → Refused s r.host u a) :
    (serve bf parse s r).file ≠ some f := by
  intro h
  obtain ⟨t, a, ht, ha, hs⟩ := serve_file bf parse s r f h
  obtain ⟨n, _, _, hS⟩ := serveFrom_file s t _ _ f (hs ▸ h)
  obtain ⟨_, hf, _⟩ := resolve_file s.fs s.lc t.path f n hS.resolved
  rcases hprot t a _ ht ha hf.symm with h1 | h1
  · exact Bool.noConfusion (hS.access2.symm.trans h1)
  · exact Bool.noConfusion ((hf ▸ hS.notExcluded).symm.trans h1)

/-- case-sensitive file system: it is enough that the rules refuse the file at its own URL -/
theorem c03_protected_never_served_case_sensitive_fs (bf : Bool) (parse : Bytes → Option SockAddr)
    (s : Server) (r : Req) (f : Bytes) (hlc : s.lc = false)
    (hprot : ∀ t a, parseTarget s.opts false r.target = .ok t → effAddr bf parse s r t.path = some a →
      Refused s r.host f a) :
    (serve bf parse s r).file ≠ some f := by
  apply c03_protected_never_served
  intro t a u ht ha hu
  rw [hlc] at hu
  cases (hu : u = f)
  exact hprot t a ht ha

-- non-vacuity: the hypothesis holds for a file that url.access-deny lists (any address)
example : demoSrv.lc = false ∧ ∀ a, Refused demoSrv (ofString "h") (ofString "/x.inc") a :=
  ⟨rfl, fun _ => Or.inl rfl⟩

/-- force-lowercase-filenames (case-insensitive file system): if no block that assigns
    url.access-allow / url.access-deny / static-file.exclude-extensions compares the URL
    case-sensitively (other blocks may), it is again enough that the rules refuse the file at
    its own (lower-case) URL: every letter-case variant, encoded or not, with or without
    path-info, is refused as well -/
theorem c03_protected_never_served_force_lowercase (bf : Bool) (parse : Bytes → Option SockAddr)
    (s : Server) (r : Req) (f : Bytes) (hlc : s.lc = true)
    (hcb : ∀ b ∈ s.cfg, (b.allow.isSome = true ∨ b.deny.isSome = true ∨ b.exclude.isSome = true) →
      b.scope.caseBlind)
    (hf : f.map toLower = f)
    (hprot : ∀ t a, parseTarget s.opts false r.target = .ok t → effAddr bf parse s r t.path = some a →
      Refused s r.host f a) :
    (serve bf parse s r).file ≠ some f := by
  apply c03_protected_never_served
  intro t a u ht ha hu
  simp only [hlc, relPath, ↓reduceIte] at hu
  have huf : u.map toLower = f.map toLower := by rw [hu, hf]
  rcases hprot t a ht ha with h1 | h1
  · left
    rw [hlc] at h1 ⊢
    rw [accessHook_casefold s.cfg (fun b hb hs => hcb b hb (hs.elim Or.inl (fun x => Or.inr (Or.inl x))))
          u f r.host a huf]
    exact h1
  · right
    rw [setting_congr (·.exclude) s.cfg ⟨u, r.host, a⟩ ⟨f, r.host, a⟩
      (fun b hb hs => holds_caseBlind _ (hcb b hb (Or.inr (Or.inr hs))) u f r.host a huf)]
    simpa [hlc, relPath, hu, hf] using h1

-- non-vacuity: a case-insensitive regular expression `$HTTP["url"] =~ "(?i)^/secret/" { url.access-deny
-- = ("") }` (as PCRE2 decides it) next to a case-SENSITIVE block that assigns nothing relevant
example :
    let s : Server := { cfg := [{ scope := .global },
                                { scope := .urlRe false (reCaselessPrefix (ofString "/secret/")), deny := some [[]] },
                                { scope := .url .prefix_ (ofString "/Other/"), noPathinfo := some true }],
                        opts := ⟨9567⟩, lc := true, docroot := ofString "/srv", fs := demoFs }
    (∀ b ∈ s.cfg, (b.allow.isSome = true ∨ b.deny.isSome = true ∨ b.exclude.isSome = true) → b.scope.caseBlind) ∧
    (ofString "/secret/key.html").map toLower = ofString "/secret/key.html" ∧
    ∀ a, Refused s (ofString "h") (ofString "/secret/key.html") a := by
  refine ⟨?_, by decide +kernel, fun _ => Or.inl rfl⟩
  intro b hb hs
  simp only [List.mem_cons, List.not_mem_nil, or_false] at hb
  rcases hb with rfl | rfl | rfl
  · trivial
  · exact fun u v h => reCaselessPrefix_fold _ u v h
  · simp at hs

/-- `$HTTP["remoteip"]`-gated rules, untrusted peer: the address is the TCP peer's, whatever the
    headers say; so a file refused for the peer's address is never sent to that peer -/
theorem c03_remoteip_gate_untrusted_peer (bf : Bool) (parse : Bytes → Option SockAddr) (s : Server) (r : Req)
    (f : Bytes) (hlc : s.lc = false)
    (hpeer : ∀ t fw, parseTarget s.opts false r.target = .ok t →
      (extConf s.cfg ⟨t.path, r.host, ⟨r.peerAddr, r.peer⟩⟩).forwarder = some fw →
      isConnectionTrusted fw r.peer = false)
    (hprot : Refused s r.host f ⟨r.peerAddr, r.peer⟩) :
    (serve bf parse s r).file ≠ some f := by
  apply c03_protected_never_served_case_sensitive_fs bf parse s r f hlc
  intro t a ht ha
  rw [effAddr_untrusted bf parse s r t.path (fun fw hfw => hpeer t fw ht hfw)] at ha
  cases ha
  exact hprot

/-- … trusted peer, X-Forwarded-For chain: the address is the right-most element that is not a
    trusted proxy (text as written in the header, parsed), or the peer's if that does not parse -/
theorem c03_eff_addr_xff (bf : Bool) (parse : Bytes → Option SockAddr) (s : Server) (r : Req) (path : Bytes)
    (fw : Forwarder) (name v : Bytes) (pre post : List Bytes) (a : Bytes)
    (hfw : (extConf s.cfg ⟨path, r.host, ⟨r.peerAddr, r.peer⟩⟩).forwarder = some fw)
    (hpick : pickHeader (extConf s.cfg ⟨path, r.host, ⟨r.peerAddr, r.peer⟩⟩).headers r.hdrs = some (name, v))
    (hname : name ≠ ofString "forwarded") (htr : isConnectionTrusted fw r.peer = true)
    (hc : extractForwardArray v = pre ++ a :: post) (ha : isProxyTrusted fw a = false)
    (hpost : ∀ x ∈ post, isProxyTrusted fw x = true) :
    effAddr bf parse s r path =
      some (match parse a with | some sa => ⟨sa, a⟩ | none => ⟨r.peerAddr, r.peer⟩) := by
  unfold effAddr remoteAddr
  simp only [hfw, hpick, htr, Bool.not_true, Bool.false_eq_true, ↓reduceIte, hname,
    xffAddr_exact parse fw v pre post a hc ha hpost]
  cases parse a <;> rfl

-- non-vacuity: the spoofing client is attributed its own address and refused; the forwarder's own
-- address gets the file
example : (∀ t fw, parseTarget demoSrvIp.opts false demoSpoof.target = .ok t →
      (extConf demoSrvIp.cfg ⟨t.path, demoSpoof.host, ⟨demoSpoof.peerAddr, demoSpoof.peer⟩⟩).forwarder = some fw →
      isConnectionTrusted fw demoSpoof.peer = false) ∧
    Refused demoSrvIp demoSpoof.host (ofString "/app.php") ⟨demoSpoof.peerAddr, demoSpoof.peer⟩ ∧
    (serve false gaiNumeric demoSrvIp demoSpoof).status = 403 ∧
    (serve false gaiNumeric demoSrvIp
       { demoSpoof with peer := ofString "10.0.0.1", peerAddr := .v4 [10, 0, 0, 1], hdrs := [] }).file
      = some (ofString "/app.php") := by
  refine ⟨?_, Or.inl (by decide +kernel), by decide +kernel⟩
  intro t fw _ hf
  have h2 : (extConf demoSrvIp.cfg ⟨t.path, demoSpoof.host, ⟨demoSpoof.peerAddr, demoSpoof.peer⟩⟩).forwarder
      = some demoFwd := rfl
  rw [h2] at hf
  have : fw = demoFwd := (Option.some.inj hf).symm
  subst this
  decide +kernel

/-- auth.require: a path guarded by a rule stays guarded – by that rule or one listed
    before it – when a path-info (anything) is appended -/
theorem c03_prefix_monotone (rules : List Bytes) (p info : Bytes) (lc : Bool) (i : Nat)
    (h : authRule rules p lc = some i) : ∃ j, j ≤ i ∧ authRule rules (p ++ info) lc = some j :=
  authRule_append rules p info lc i h

example : authRule [ofString "/secret/sub/", ofString "/secret/"] (ofString "/secret/key.html") false = some 1 ∧
          authRule [ofString "/secret/sub/", ofString "/secret/"] (ofString "/secret/key.html/x/../y") false = some 1 := by
  decide +kernel

/-- If auth.require is not assigned inside URL conditions and rule `i` guards the file's own URL
    (for the address the request is attributed to), then every request answered with the file –
    any spelling, any letter case under force-lowercase-filenames, any path-info – was accepted
    by rule `i` OR BY A RULE LISTED BEFORE IT (mod_auth takes the first prefix match on the path
    before the path-info split: c03_auth_rule_order_counterexample shows that the earlier rule can
    be a weaker one). -/
theorem c03_auth_guard_all_spellings (bf : Bool) (parse : Bytes → Option SockAddr) (s : Server) (r : Req)
    (f : Bytes) (hfree : ∀ b ∈ s.cfg, b.auth.isSome = true → b.scope.urlFree)
    (hf : s.lc = true → f.map toLower = f)
    (h : (serve bf parse s r).file = some f) :
    ∃ t a, parseTarget s.opts false r.target = .ok t ∧ effAddr bf parse s r t.path = some a ∧
      ∀ i, authHook s.cfg ⟨f, r.host, a⟩ s.lc = some i →
        ∃ j rule, j ≤ i ∧ (authRules s.cfg ⟨f, r.host, a⟩)[j]? = some rule ∧ rule.accepts r.user = true := by
  -- `hf` is not needed: a file that is sent is the case-folded form of its URL (`resolve_file`)
  obtain ⟨t, a, ht, ha, hs⟩ := serve_file bf parse s r f h
  rw [hs] at h
  exact ⟨t, a, ht, ha, serveFrom_auth_guard s t ⟨t.path, r.host, a⟩ r.user f hfree h⟩

/-- … in particular, if the guarding rule is the first one listed, it is that rule that accepted -/
theorem c03_auth_guard_first_rule (bf : Bool) (parse : Bytes → Option SockAddr) (s : Server) (r : Req)
    (f : Bytes) (hfree : ∀ b ∈ s.cfg, b.auth.isSome = true → b.scope.urlFree)
    (hf : s.lc = true → f.map toLower = f)
    (h : (serve bf parse s r).file = some f) :
    ∃ t a, parseTarget s.opts false r.target = .ok t ∧ effAddr bf parse s r t.path = some a ∧
      (authHook s.cfg ⟨f, r.host, a⟩ s.lc = some 0 →
        ∃ rule, (authRules s.cfg ⟨f, r.host, a⟩)[0]? = some rule ∧ rule.accepts r.user = true) := by
  obtain ⟨t, a, ht, ha, hall⟩ := c03_auth_guard_all_spellings bf parse s r f hfree hf h
  refine ⟨t, a, ht, ha, fun h0 => ?_⟩
  obtain ⟨j, rule, hj, hr, hacc⟩ := hall 0 h0
  have : j = 0 := by omega
  subst this
  exact ⟨rule, hr, hacc⟩

-- non-vacuity: the hypotheses hold for the guarded file of the example configuration, whose rule 0
-- guards it for every address
example : (∀ b ∈ demoSrv.cfg, b.auth.isSome = true → b.scope.urlFree) ∧
          (∀ a, authHook demoSrv.cfg ⟨ofString "/secret/key.html", ofString "h", a⟩ demoSrv.lc = some 0) := by
  refine ⟨?_, fun _ => rfl⟩
  intro b hb _
  simp [demoSrv] at hb
  subst hb
  trivial

/-! ## §2 letter case under force-lowercase-filenames -/

/-- mod_access_check() and the auth.require lookup under force-lowercase-filenames depend on
    the lower-cased path only; the check equals the plain (case-sensitive) check on
    lower-cased rules and path -/
theorem c03_case_fold (allow deny rules : List Bytes) (p q : Bytes) (h : p.map toLower = q.map toLower) :
    accessCheck allow deny p true = accessCheck allow deny q true ∧
    authRule rules p true = authRule rules q true ∧
    accessCheck allow deny p true =
      accessCheck (allow.map (·.map toLower)) (deny.map (·.map toLower)) (p.map toLower) false :=
  ⟨accessCheck_casefold allow deny p q h, authRule_casefold rules p q h, accessCheck_nc_eq allow deny p⟩

example : (ofString "/Dir/X.INC").map toLower = (ofString "/dir/x.inc").map toLower ∧
          accessCheck [] [ofString ".inc"] (ofString "/Dir/X.INC") true = false := by decide +kernel

/-- the byte test of buffer_eq_icase_ssn() identifies exactly the bytes with the same ASCII
    lower-case form (so '@' and '`', '[' and '{', 0xC1 and 0xE1 are NOT identified) -/
theorem c03_icase_byte (a b : UInt8) : eqIcaseByte a b = (toLower a == toLower b) := eqIcaseByte_eq a b

example : eqIcaseByte 64 96 = false ∧ eqIcaseByte 91 123 = false ∧ eqIcaseByte 0xc1 0xe1 = false ∧
          eqIcaseByte 65 97 = true := by decide +kernel

/-- the whole mod_access hook (conditional configuration included) looks at the lower-cased
    URL only, if no block that assigns allow / deny compares the URL case-sensitively -/
theorem c03_case_fold_hook (cfg : List Block)
    (hcb : ∀ b ∈ cfg, (b.allow.isSome = true ∨ b.deny.isSome = true) → b.scope.caseBlind)
    (u v h : Bytes) (a : Addr) (huv : u.map toLower = v.map toLower) :
    accessHook cfg ⟨u, h, a⟩ true = accessHook cfg ⟨v, h, a⟩ true :=
  accessHook_casefold cfg hcb u v h a huv

-- non-vacuity: the hypothesis for a nested `$HTTP["host"] == "h" { $HTTP["url"] =~ "(?i)\.inc$" { deny } }`
example : ∀ b ∈ [({ scope := .global } : Block),
                 { scope := .both (.host .eq (ofString "h")) (.urlRe false (reCaselessSuffix (ofString ".inc"))),
                   deny := some [[]] }],
    (b.allow.isSome = true ∨ b.deny.isSome = true) → b.scope.caseBlind := by
  intro b hb _
  simp only [List.mem_cons, List.not_mem_nil, or_false] at hb
  rcases hb with rfl | rfl
  · trivial
  · exact ⟨trivial, fun u v h => reCaselessSuffix_fold _ u v h⟩

/-! ## §3 spellings of the authority -/

/-- `$HTTP["host"] == "name"` (configured without a port) holds for the authority `name` and for
    `name:port` with any port of up to five digits, and for no other `other:port` – the
    port-tolerant comparison of config_check_cond_nocache_eval() (C14's `Cond.eqLike`) -/
theorem c03_host_eq_port_tolerant (s n port : Bytes) (hs : colon ∉ s) (hn : colon ∉ n) (hp : colon ∉ port)
    (hsl : s.head? ≠ some slash) (hlen : port.length ≤ 5) :
    hostEq s (n ++ colon :: port) = (n == s) ∧ hostEq s n = (n == s) :=
  -- `hp` is not needed: the name ends at the first ':'
  ⟨hostEq_port s n port hs hn hsl hlen, hostEq_plain s n hs hn hsl⟩

example : hostEq (ofString "intranet.example") (ofString "intranet.example:65535") = true ∧
          hostEq (ofString "intranet.example") (ofString "intranet.example:8") = true ∧
          hostEq (ofString "intranet.example") (ofString "intranet.example:655350") = false := by
  decide +kernel

/-- A protection inside `$HTTP["host"]` blocks is the same for every port spelling of the
    authority: if the host conditions are `==` / `!=` against names without port, or regular
    expressions that allow for a port (`portBlind`; nesting and else-chains included), the request
    with authority `name:port` gets exactly the response of the request with authority `name` –
    and mod_simple_vhost, which cuts the authority at the first ':', maps both to one document root. -/
theorem c03_host_block_every_port_spelling (bf : Bool) (parse : Bytes → Option SockAddr) (s : Server) (r : Req)
    (port : Bytes) (hpb : ∀ b ∈ s.cfg, b.scope.portBlind) (hn : colon ∉ r.host) (hp : colon ∉ port)
    (hlen : port.length ≤ 5) (sroot : Bytes) (droot : Option Bytes) :
    serve bf parse s { r with host := r.host ++ colon :: port } = serve bf parse s r ∧
    svhostPath sroot (some (r.host ++ colon :: port)) droot = svhostPath sroot (some r.host) droot := by
  refine ⟨serve_host_congr bf parse s r _
            (fun b hb u a => holds_portBlind _ (hpb b hb) u r.host port a hn hp hlen), ?_⟩
  simp only [svhostPath, hostPart_append_colon hn, hostPart_self hn]

-- non-vacuity: `$HTTP["host"] == "intranet.example" { url.access-deny = ("") }`, nested url block
example : ∀ b ∈ [({ scope := .global } : Block),
                 { scope := .host .eq (ofString "intranet.example"), deny := some [[]] },
                 { scope := .both (.host .eq (ofString "intranet.example")) (.url .prefix_ (ofString "/x")) },
                 { scope := .non (.host .eq (ofString "intranet.example")), auth := some [] }],
    b.scope.portBlind := by
  intro b hb
  simp only [List.mem_cons, List.not_mem_nil, or_false] at hb
  rcases hb with rfl | rfl | rfl | rfl
  · trivial
  · exact ⟨by decide +kernel, by decide +kernel⟩
  · exact ⟨⟨by decide +kernel, by decide +kernel⟩, trivial⟩
  · exact ⟨by decide +kernel, by decide +kernel⟩

/-! ## §4 forwarded client addresses -/

/-- Forwarded / X-Forwarded-For (any configured header, any content) from a TCP peer that is
    not a configured trusted forwarder do not change the client address -/
theorem c03_untrusted_peer_ignored (bf : Bool) (parse : Bytes → Option SockAddr) (c : ExtConf) (peer : Bytes)
    (hdrs : List (Bytes × Bytes)) (h : ∀ f, c.forwarder = some f → isConnectionTrusted f peer = false) :
    remoteAddr bf parse c peer hdrs = .unchanged :=
  remoteAddr_untrusted bf parse c peer hdrs h

example : isConnectionTrusted demoFwd (ofString "203.0.113.9") = false ∧
          isConnectionTrusted demoFwd (ofString "10.0.0.1") = true := by decide +kernel

/-- … and conversely the address only ever changes for a trusted peer, to an address that
    parses -/
theorem c03_address_changes_only_for_trusted_peer (bf : Bool) (parse : Bytes → Option SockAddr) (c : ExtConf)
    (peer : Bytes) (hdrs : List (Bytes × Bytes)) (a : Bytes) (sa : SockAddr)
    (h : remoteAddr bf parse c peer hdrs = .set a sa) :
    ∃ f, c.forwarder = some f ∧ isConnectionTrusted f peer = true ∧ parse a = some sa :=
  remoteAddr_set bf parse c peer hdrs a sa h

example : remoteAddr false gaiNumeric { forwarder := some demoFwd, headers := defaultHeaders }
            (ofString "10.0.0.1") [(ofString "x-forwarded-for", ofString "198.51.100.7")]
          = .set (ofString "198.51.100.7") (.v4 [198, 51, 100, 7]) := by decide +kernel

/-- End to end: for a request from an untrusted peer the whole response is independent of
    the forwarded headers it carries (they can be replaced by anything). -/
theorem c03_spoofed_headers_no_effect (bf : Bool) (parse : Bytes → Option SockAddr) (s : Server) (r : Req)
    (hdrs' : List (Bytes × Bytes))
    (h : ∀ t f, parseTarget s.opts false r.target = .ok t →
      (extConf s.cfg ⟨t.path, r.host, ⟨r.peerAddr, r.peer⟩⟩).forwarder = some f →
      isConnectionTrusted f r.peer = false) :
    serve bf parse s r = serve bf parse s { r with hdrs := hdrs' } := by
  unfold serve
  cases ht : parseTarget s.opts false r.target with
  | error e => rfl
  | ok t =>
    simp only
    rw [effAddr_untrusted bf parse s r t.path (fun f hf => h t f ht hf),
        effAddr_untrusted bf parse s { r with hdrs := hdrs' } t.path (fun f hf => h t f ht hf)]

/-- X-Forwarded-For from a trusted peer: the address taken is an element of the chain that
    is not a trusted proxy, everything to its right is a trusted proxy, and it parses -/
theorem c03_xff_last_untrusted (parse : Bytes → Option SockAddr) (f : Forwarder) (hdr a : Bytes) (sa : SockAddr)
    (h : xffAddr parse f hdr = some (a, sa)) :
    parse a = some sa ∧ isProxyTrusted f a = false ∧
      ∃ pre post, extractForwardArray hdr = pre ++ a :: post ∧ ∀ x ∈ post, isProxyTrusted f x = true :=
  xffAddr_some parse f hdr a sa h

/-- … exactly that element (the right-most one that is not a trusted proxy); unchanged if it
    does not parse … -/
theorem c03_xff_exact (parse : Bytes → Option SockAddr) (f : Forwarder) (hdr : Bytes) (pre post : List Bytes)
    (a : Bytes) (hc : extractForwardArray hdr = pre ++ a :: post) (ha : isProxyTrusted f a = false)
    (hpost : ∀ x ∈ post, isProxyTrusted f x = true) :
    xffAddr parse f hdr = (parse a).map (fun sa => (a, sa)) :=
  xffAddr_exact parse f hdr pre post a hc ha hpost

/-- … and unchanged if every element is a trusted proxy -/
theorem c03_xff_all_trusted_unchanged (parse : Bytes → Option SockAddr) (f : Forwarder) (hdr : Bytes)
    (h : ∀ x ∈ extractForwardArray hdr, isProxyTrusted f x = true) : xffAddr parse f hdr = none := by
  unfold xffAddr
  rw [(lastNotIn_none f _).2 h]

/-- Attacker-chosen prefix, byte level: whatever bytes `P` the client put into X-Forwarded-For
    (quotes, separators, pseudo addresses, anything), the element the trusted proxy appends after
    ", " is the last token of the chain; if it is not itself a trusted proxy it IS the result. -/
theorem c03_xff_attacker_prefix (parse : Bytes → Option SockAddr) (f : Forwarder) (P a : Bytes)
    (ht : tokenLike a) (hu : isProxyTrusted f a = false) :
    xffAddr parse f (P ++ [44, 32] ++ a) = (parse a).map (fun sa => (a, sa)) :=
  c03_xff_exact parse f _ (extractForwardArray P) [] a (by rw [extract_append P a ht]) hu (by simp)

-- non-vacuity: forwarder 10.0.0.1 and 10.1.0.0/16; chain client, attacker-visible hop, two proxies;
-- an all-trusted chain; a textual prefix full of junk
example :
    (parseForwarder [(ofString "10.0.0.1", ofString "trust"), (ofString "10.1.0.0/16", ofString "trust")]).map
      (fun f => ((xffAddr gaiNumeric f (ofString "6.6.6.6, 203.0.113.9, 10.1.2.3, 10.0.0.1")).map (·.1),
                 (xffAddr gaiNumeric f (ofString "10.1.2.3, 10.0.0.1")).map (·.1),
                 (xffAddr gaiNumeric f (ofString "\"10.0.0.1, ;for=::1\\ ,,10.9.9.9., 203.0.113.9")).map (·.1)))
    = some (some (ofString "203.0.113.9"), none, some (ofString "203.0.113.9")) := by decide +kernel

example : tokenLike (ofString "203.0.113.9") :=
  ⟨⟨50, ofString "03.0.113.9", by decide +kernel, by decide +kernel⟩, by decide +kernel⟩

/-- Forwarded from a trusted peer, safety: the identifier the walk returns is the for= value
    of one of the proxies, usable as an address, and every proxy to its right in the header
    reported a trusted identifier (or none): an untrusted hop is never skipped.  (The result
    need not be untrusted: an untrusted hop that gives only an obfuscated identifier – `_x`,
    `unknown` – ends the walk at the previous, trusted, one.) -/
theorem c03_forwarded_walk_safe (f : Forwarder) (hdr : Bytes) (items : List Item) (a : Bytes)
    (h : fwdWalk f hdr items = .addr (some a)) :
    ∃ pre g post, (groups items).reverse = pre ++ g :: post ∧ (∀ g' ∈ pre, Passes f hdr g') ∧
      groupVal hdr g = some (.val a) ∧ a ≠ [] ∧ usable a = true := by
  unfold fwdWalk at h
  rcases fwdWalk_safe f hdr _ none a h with h | h
  · simp at h
  · exact h

/-- Forwarded, exactness: if the right-most proxy whose identifier is not trusted reports a
    usable identifier, that identifier is the result (the last untrusted hop) -/
theorem c03_forwarded_walk_exact (f : Forwarder) (hdr : Bytes) (items : List Item)
    (pre : List (List Item)) (g : List Item) (post : List (List Item)) (a : Bytes)
    (hg : (groups items).reverse = pre ++ g :: post) (hpre : ∀ g' ∈ pre, Passes f hdr g')
    (hv : groupVal hdr g = some (.val a)) (hne : a ≠ []) (hu : usable a = true)
    (hnt : isProxyTrusted f a = false) : fwdWalk f hdr items = .addr (some a) := by
  unfold fwdWalk
  rw [hg]
  exact fwdWalk_exact f hdr pre g post none a hpre hv hne hu hnt

/-- Capacity of offsets[256], fail closed: whenever a Forwarded header is NOT answered with 400,
    the bounded tokenizer produced exactly the token list of the unbounded specification
    `fwdTokensU` – the walk never runs on a truncated list (so params in front cannot push the
    element appended by the trusted proxy out of sight). -/
theorem c03_forwarded_capacity_fail_closed (bf : Bool) (parse : Bytes → Option SockAddr) (f : Forwarder)
    (hdr : Bytes) (h : forwardedAddr bf parse f hdr ≠ .bad) :
    ∃ items, fwdTokens hdr = .ok items ∧ fwdTokensU hdr = .ok items := by
  unfold forwardedAddr at h
  cases ht : fwdTokens hdr with
  | bad => simp [ht] at h
  | ok items =>
    simp only [ht] at h
    by_cases hs : slots items ≥ 253
    · simp [hs] at h
    · exact ⟨items, rfl, (fwdTokGo_spec hdr _ 0 [] items ht).2 (by omega)⟩

-- non-vacuity (and the case the repaired defect D9 got wrong): a single for=, and a chain
-- whose answer is the first element; 63 params in front of the proxy's element are rejected
example :
    (parseForwarder [(ofString "10.0.0.1", ofString "trust")]).map (fun f =>
      (forwardedAddr false gaiNumeric f (ofString "for=1.2.3.4"),
       forwardedAddr false gaiNumeric f (ofString "for=\"[2001:db8::7]:4711\";proto=https, For=10.0.0.1"),
       forwardedAddr false gaiNumeric f
         ((List.replicate 62 (ofString "p=v;")).flatten ++ ofString "for=10.9.9.9, for=203.0.113.7")))
    = some (.set (ofString "1.2.3.4") (.v4 [1, 2, 3, 4]),
            .set (ofString "2001:db8::7") (.v6 [0x20, 1, 0xd, 0xb8, 0, 0, 0, 0, 0, 0, 0, 0, 0, 0, 0, 7]),
            .bad) := by
  decide +kernel

-- non-vacuity of the two walk theorems on a tokenised header: the second proxy is the answer
example :
    (match fwdTokens (ofString "for=203.0.113.7, for=10.0.0.1") with
     | .ok items => some (fwdWalk demoFwd (ofString "for=203.0.113.7, for=10.0.0.1") items,
                          (groups items).reverse.length)
     | .bad => none) = some (.addr (some (ofString "203.0.113.7")), 2) := by decide +kernel

/-! ## §5 what is NOT guaranteed, the repaired defects, the structural statement -/

/-- Design limit L2 (known finding KF3): `$HTTP["url"]` conditions are case-sensitive also under
    force-lowercase-filenames.  With `$HTTP["url"] =^ "/secret/" { url.access-deny = ("") }`
    the file /secret/key.html is refused at its own URL but sent for /SECRET/key.html.
    (Hence the hypothesis `caseBlind` of c03_protected_never_served_force_lowercase; a
    case-insensitive regular expression `=~ "(?i)^/secret/"` satisfies it.) -/
theorem c03_url_cond_case_sensitive :
    let s : Server := { cfg := [{ scope := .global }, { scope := .url .prefix_ (ofString "/secret/"), deny := some [[]] }],
                        opts := ⟨9567⟩, lc := true, docroot := ofString "/srv", fs := demoFs }
    (serveFrom s (demoTarget "/secret/key.html") (demoEnv "/secret/key.html") none).status = 403 ∧
    (serveFrom s (demoTarget "/SECRET/key.html") (demoEnv "/SECRET/key.html") none).file
      = some (ofString "/secret/key.html") := by
  decide +kernel

/- The statement one would expect, `c03_auth_suffix_cond`: "a resource guarded by auth.require inside an
   end-anchored `$HTTP["url"]` condition is guarded for every spelling incl. trailing path-info".
   This is FALSE of the code (next theorem).  The part that holds is c03_auth_guard_all_spellings:
   auth.require assigned outside URL conditions (`urlFree`). -/

/-- Design limit L3 (known finding KF4): mod_auth runs before the path-info split only, so a
    condition that selects by the END of the URL does not guard auth.require against trailing
    path-info: with `$HTTP["url"] =$ ".php" { auth.require = ("" => …) }` /app.php asks for
    credentials but /app.php/x is served.  (url.access-deny inside the same condition IS
    re-checked after the split: c03_served_file_authorised.) -/
theorem c03_auth_suffix_cond_counterexample :
    let s : Server := { cfg := [{ scope := .global },
                                { scope := .url .suffix (ofString ".php"), auth := some [{ pfx := [] }] }],
                        opts := ⟨9567⟩, lc := false, docroot := ofString "/srv", fs := demoFs }
    (serveFrom s (demoTarget "/app.php") (demoEnv "/app.php") none).status = 401 ∧
    (serveFrom s (demoTarget "/app.php/x") (demoEnv "/app.php/x") none).file = some (ofString "/app.php") := by
  decide +kernel

/-- Design limit L3, second form (known finding KF7): the guarding rule is the FIRST prefix match
    on the path before the split, so an earlier, weaker rule whose prefix reaches into a
    path-info guards that spelling instead of the stricter rule of the file: with
    `auth.require = ("/secret/key.html/pub" => valid-user, "/secret/" => user=admin)` user alice
    gets 401 for /secret/key.html but the file for /secret/key.html/pub. -/
theorem c03_auth_rule_order_counterexample :
    let s : Server := { cfg := [{ scope := .global,
                                  auth := some [{ pfx := ofString "/secret/key.html/pub" },
                                                { pfx := ofString "/secret/", users := some [ofString "admin"] }] }],
                        opts := ⟨9567⟩, lc := false, docroot := ofString "/srv", fs := demoFs }
    (serveFrom s (demoTarget "/secret/key.html") (demoEnv "/secret/key.html") (some (ofString "alice"))).status = 401 ∧
    (serveFrom s (demoTarget "/secret/key.html/pub") (demoEnv "/secret/key.html/pub")
       (some (ofString "alice"))).file = some (ofString "/secret/key.html") := by
  decide +kernel

/-- Design limit L1 (known finding KF2): conditions are matched by PCRE2 in UTF mode; a URL that is
    not well-formed UTF-8 (a stray %80 is accepted by the default parse options) matches NO regular
    expression.  So even a prefix expression does not guard auth.require against a path-info
    with such a byte: with `$HTTP["url"] =~ "(?i)^/secret/" { auth.require = … }`
    /secret/key.html asks for credentials, /secret/key.html/%80 is served. -/
theorem c03_regex_cond_invalid_utf8 :
    let s : Server := { cfg := [{ scope := .global },
                                { scope := .urlRe false (reCaselessPrefix (ofString "/secret/")),
                                  auth := some [{ pfx := [] }] }],
                        opts := ⟨9567⟩, lc := false, docroot := ofString "/srv", fs := demoFs }
    (serveFrom s (demoTarget "/secret/key.html") (demoEnv "/secret/key.html") none).status = 401 ∧
    (serveFrom s ⟨ofString "/secret/key.html/%80", ofString "/secret/key.html/" ++ [0x80], []⟩
       ⟨ofString "/secret/key.html/" ++ [0x80], ofString "h", demoAddr⟩ none).file
      = some (ofString "/secret/key.html") := by
  decide +kernel

/-- Repaired defect D9 (fix 2c1995d): the walk `while (j >= 4)` never looked at a param that is
    alone in the first group, so `Forwarded: for=1.2.3.4` from a trusted proxy left the
    proxy's address in place and `for=1.2.3.4, for=10.0.0.1` selected the trusted proxy
    itself.  The model of the old walk differs from the current one exactly there. -/
theorem c03_forwarded_first_group_before_fix :
    (parseForwarder [(ofString "10.0.0.1", ofString "trust")]).map (fun f =>
      (forwardedAddr true gaiNumeric f (ofString "for=1.2.3.4"),
       forwardedAddr true gaiNumeric f (ofString "for=1.2.3.4, for=10.0.0.1"),
       forwardedAddr false gaiNumeric f (ofString "for=1.2.3.4, for=10.0.0.1")))
    = some (.unchanged, .set (ofString "10.0.0.1") (.v4 [10, 0, 0, 1]), .set (ofString "1.2.3.4") (.v4 [1, 2, 3, 4])) := by
  decide +kernel

/-- Repaired defect D16 (fix 85b1beb): is_proxy_trusted() passed (candidate, network, bits) to
    sock_addr_is_addr_eq_bits(), which reads `bits` relative to its first argument: every
    IPv4-mapped IPv6 literal was a trusted proxy as soon as any IPv4 netmask was configured,
    so `X-Forwarded-For: 6.6.6.6, ::ffff:203.0.113.9` selected the attacker-chosen 6.6.6.6. -/
theorem c03_cidr_argument_order_before_fix :
    (parseForwarder [(ofString "10.0.0.1", ofString "trust"), (ofString "10.1.0.0/16", ofString "trust")]).map
      (fun f => (isProxyTrustedOrd false f (ofString "::ffff:203.0.113.9"),
                 isProxyTrustedOrd true f (ofString "::ffff:203.0.113.9"),
                 isProxyTrustedOrd true f (ofString "::ffff:10.1.2.3"),
                 (xffAddr gaiNumeric f (ofString "6.6.6.6, ::ffff:203.0.113.9")).map (·.1)))
    = some (true, false, true, some (ofString "::ffff:203.0.113.9")) := by
  decide +kernel

/-- STRUCTURAL (hence `_partial`): two request-targets that `parseTarget` maps to the same
    canonical path – under any two sets of parse options – get the same status, file, final URL
    and client address.  This holds by the shape of the model (`serveFrom` receives the spelling
    only for PATH_INFO's letter case); that no module of the real server looks at the spelling
    again is established by the `srv` correspondence, not by this theorem.  Missing for the full
    clause: that the listed respellings (percent-encoding, hex case, dot segments,
    duplicate/encoded slashes, NUL/control bytes, composed to any depth) DO yield the same
    canonical path – C02's subject for `pathSimplify`; for `burl_normalize` carried by the
    correspondence and C03's decode-once oracle only. -/
theorem c03_same_resource_same_decision_partial (bf : Bool) (parse : Bytes → Option SockAddr) (s : Server)
    (o₁ o₂ : Opts) (r₁ r₂ : Req) (u₁ u₂ : Target)
    (h₁ : parseTarget o₁ false r₁.target = .ok u₁) (h₂ : parseTarget o₂ false r₂.target = .ok u₂)
    (hp : u₁.path = u₂.path)
    (hh : r₁.host = r₂.host) (hpe : r₁.peer = r₂.peer) (hpa : r₁.peerAddr = r₂.peerAddr)
    (hhd : r₁.hdrs = r₂.hdrs) (hc : r₁.user = r₂.user) :
    (serve bf parse { s with opts := o₁ } r₁).status = (serve bf parse { s with opts := o₂ } r₂).status ∧
    (serve bf parse { s with opts := o₁ } r₁).file = (serve bf parse { s with opts := o₂ } r₂).file ∧
    (serve bf parse { s with opts := o₁ } r₁).uri = (serve bf parse { s with opts := o₂ } r₂).uri ∧
    (serve bf parse { s with opts := o₁ } r₁).addr = (serve bf parse { s with opts := o₂ } r₂).addr := by
  unfold serve effAddr
  simp only [h₁, h₂, hp, hh, hpe, hpa, hhd, hc]
  split
  · simp
  · rename_i a _
    obtain ⟨pi, h⟩ := serveFrom_indep { s with opts := o₁ } o₂ u₁ u₂
      { url := u₂.path, host := r₂.host, addr := a } r₂.user
    rw [h]
    exact ⟨rfl, rfl, rfl, rfl⟩

-- non-vacuity: two spellings (dot segments, percent-encoding in both hex cases, duplicate
-- slash) of one path, under the default options
example : pathOf ⟨9567⟩ (ofString "/a/%2e%2E/secret/./key.html") = some (ofString "/secret/key.html") ∧
          pathOf ⟨9567⟩ (ofString "/secret//key%2ehtml") = some (ofString "/secret/key.html") := by
  decide +kernel

end LtVerif.C03
