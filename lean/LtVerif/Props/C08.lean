/-
  C08 — the response depends only on its request; same answer over HTTP/1.x and HTTP/2.
  The property theorems, the sites and requests of their examples, and the examples; helper lemmas are in
  Proofs/Server.lean, Proofs/ServerSameRequest.lean (the h1/h2 parse comparison) and Proofs/ErrHandler.lean.

  Vocabulary (Model/Reset.lean, Model/Server.lean; `SlotsOk`, `ConnInv`, `expectedAnswer`, `Forall2`, … where Proofs/Server.lean defines them):
  `ReqSt` = `ReqLive` + `ReqKept` + `ReqStale`: the modelled fields of request_st, grouped by what request_reset() /
  request_reset_ex() do with them (`ReqCore` = Live + Kept; `requestStClass` maps every C member to its group);
  `h1Msg site e c head`: one request head on the HTTP/1.x connection `c` (h1_recv_headers ..
  connection_handle_response_end_state); `h2Stream site e h2r swin obj fs es`: one HTTP/2 stream on the pooled
  request object `obj`; `Out.core`: status, headers without Connection (names lower-cased), body.
-/
import LtVerif.Proofs.Server
import LtVerif.Proofs.ServerSameRequest
import LtVerif.Proofs.H1Fields
import LtVerif.Proofs.ErrHandler
namespace LtVerif.C08
open LtVerif LtVerif.B LtVerif.Req

/-! ## reset

The three reset theorems compare two hand-written things: the model of the reset functions
(`requestReset`, `requestResetEx`, `requestRelease`, written line by line after reqpool.c and
http-header-glue.c) and the model of request_init_data() (`ReqSt.init`).  What they add to the
definitions is that no field of `ReqLive` / `ReqKept` was forgotten by the reset code — for a C
struct member that is the statement "request_reset() restores it".  That the models are the C
functions is tested (stream `rst`); that `ReqLive`/`ReqKept`/`ReqStale` together with the notes
below account for EVERY member of the C structs is `c08_every_member_classified`. -/

/-- **request_reset() + request_reset_ex() restore every core field**, provided every module that
    left something in its r->plugin_ctx slot registered a reset hook that clears it (`SlotsOk`;
    `c08_slot_modules_clear` for the modules of the source tree).  Whatever else the state of
    the object is (any values in all modelled fields), afterwards every `ReqLive` and `ReqKept`
    field equals its value in a freshly initialised object. -/
theorem c08_reset_restores (e : SrvEnv) (s : ReqSt) (hs : SlotsOk e s.pluginCtx) :
    (requestResetEx (requestReset hdrIds e s)).toReqCore = (ReqSt.init e).toReqCore :=
  reset_core e s hs

/-- request_release() (HTTP/2 stream objects going back to the pool), same proviso. -/
theorem c08_release_restores (e : SrvEnv) (s : ReqSt) (hs : SlotsOk e s.pluginCtx) :
    (requestRelease hdrIds e s).toReqCore = (ReqSt.init e).toReqCore :=
  requestRelease_core e s hs

/-- The proviso is needed: the reset functions themselves do not touch r->plugin_ctx[]; what a
    module without a clearing hook leaves in its slot is still there for the next request. -/
theorem c08_reset_slot_without_hook_survives :
    ∃ (e : SrvEnv) (s : ReqSt),
      (requestResetEx (requestReset hdrIds e s)).toReqCore ≠ (ReqSt.init e).toReqCore :=
  ⟨{ nPlugins := 3, resetHooks := [1, 2] },
   { ReqSt.init { nPlugins := 3, resetHooks := [1, 2] } with pluginCtx := [(3, [])] }, by decide +kernel⟩

/-- **Every module of the source tree that stores into r->plugin_ctx[] registers a
    handle_request_reset hook, and that hook reaches code that clears the slot** (table extracted
    from src/*.c by tools/ltv/extractors_c08.py; the recogniser is textual and trusted). -/
theorem c08_slot_modules_clear :
    ∀ m ∈ Extracted.slotModules, m.2.1 = true ∧ m.2.2 = true := by decide +kernel

/-- **Every member of struct request_st and of struct connection is classified** (member lists
    from the clang AST): restored by request_reset() / by request_reset_ex() / carried but typed
    out of the response path / constant / scratch with a written-before-read note / connection
    level.  A member added to either struct fails this theorem until it is classified. -/
theorem c08_every_member_classified :
    sameNames Extracted.requestStMembers requestStClass = true ∧
    sameNames Extracted.connectionMembers connectionClass = true := by decide +kernel

/-! ## HTTP/1.x: keep-alive, pipelining, recycled connection objects

`P` is what arrived on the connection before, cut into the pieces the server handled one at a
time; each piece starts the way a request starts (`ReqStart`: first byte not a control byte — the
blank-line rules of h1_recv_headers() make the treatment of CR/LF depend on whether a blank line
was skipped before, which is a property of the byte stream, not of a request; they are in the
model and tested by stream `conn`, not covered here).  `1 ∈ e.resetHooks`: mod_setenv, the one
modelled module that uses its r->plugin_ctx slot, clears it in its reset hook. -/

/-- **The response is a function of the request (HTTP/1.x).**  After any history `P` of request
    heads on the connection — accepted or rejected, any methods, bodies read by a handler — if the
    connection is still open, the comparable part of the answer to the head `R` is
    `expectedAnswer site e R`, which mentions only the site, the configuration and `R`.
    (In the model a connection stays open after a rejected head or after a body no handler read
    only in the cases the server keeps it open; see the examples at the end for histories that do.) -/
theorem c08_history_free (site : Site) (e : SrvEnv) (h1h : 1 ∈ e.resetHooks) (P : List Bytes) (R : Bytes)
    (hP : ∀ h ∈ P, ReqStart h) (hR : ReqStart R)
    (hopen : (connAfter site e (Conn.fresh e) P).isOpen = true) :
    ((h1Msg site e (connAfter site e (Conn.fresh e) P) R).2).map Out.core = expectedAnswer site e R :=
  (h1Msg_answer site e h1h _ (connInv_after site e h1h P hP _ (ConnInv_fresh e)) hopen R hR).1

/-- Metamorphic form: like `R` alone on a fresh connection. -/
theorem c08_history_free_vs_alone (site : Site) (e : SrvEnv) (h1h : 1 ∈ e.resetHooks) (P : List Bytes) (R : Bytes)
    (hP : ∀ h ∈ P, ReqStart h) (hR : ReqStart R)
    (hopen : (connAfter site e (Conn.fresh e) P).isOpen = true) :
    ((h1Msg site e (connAfter site e (Conn.fresh e) P) R).2).map Out.core =
      ((h1Msg site e (Conn.fresh e) R).2).map Out.core :=
  (c08_history_free site e h1h P R hP hR hopen).trans (c08_history_free site e h1h [] R nofun hR rfl).symm

/-- Every element of a pipelined / keep-alive run is either unanswered (the connection was closed
    before, or the head is incomplete) or the function of its own head. -/
theorem c08_every_answer_from_own_request (site : Site) (e : SrvEnv) (h1h : 1 ∈ e.resetHooks) (msgs : List Bytes)
    (hm : ∀ h ∈ msgs, ReqStart h) :
    ∀ c, ConnInv e c →
      Forall2 (fun head o => o = none ∨ o.map Out.core = expectedAnswer site e head)
        msgs (h1Run site e c msgs) := by
  induction msgs with
  | nil => intro c _; exact Forall2.nil
  | cons head rest ih =>
    intro c h
    unfold h1Run
    simp only []
    have ih' := ih (fun x hx => hm x (by simp [hx]))
    by_cases ho : c.isOpen = true
    · have ha := h1Msg_answer site e h1h c h ho head (hm head (by simp))
      exact Forall2.cons (Or.inr ha.1) (ih' _ ha.2)
    · have hmm : h1Msg site e c head = (c, none) := by simp [h1Msg, ho]
      rw [hmm]
      exact Forall2.cons (Or.inl rfl) (ih' _ h)

/-- **Recycled connection objects.**  A connection object that went through any history, was
    closed and is accepted again answers like a brand-new one.  (Request object only: the
    connection-level members are `connOutside` in `connectionClass`; known finding KF1 lives there.) -/
theorem c08_recycled_connection (site : Site) (e : SrvEnv) (h1h : 1 ∈ e.resetHooks) (P : List Bytes) (R : Bytes)
    (hP : ∀ h ∈ P, ReqStart h) (hR : ReqStart R)
    (hclosed : (connAfter site e (Conn.fresh e) P).requestCount = 0) :
    ((h1Msg site e (connAfter site e (Conn.fresh e) P).reaccept R).2).map Out.core = expectedAnswer site e R :=
  (h1Msg_answer site e h1h _ ((connInv_after site e h1h P hP _ (ConnInv_fresh e)).reaccept hclosed) rfl R hR).1

/-! ## HTTP/2: earlier streams, recycled stream objects

A stream is one step in the model (HEADERS in, response out, object released): there is no
interleaving of the processing of two streams to quantify over.  What the theorems give for
concurrently open streams is only that each is answered from its own pooled object, whatever that
object went through before; scheduling, flow control and the HPACK tables are C05–C07. -/

/-- **The response is a function of the request (HTTP/2 stream).**  Whatever pooled object a stream
    gets — brand new, or released by any earlier stream of this or another connection — the
    comparable part of its answer is `expectedAnswerH2`, which mentions only the site, the
    configuration, the connection-level request `h2r` and the stream's own header fields; and the
    object goes back to the pool with all core fields restored. -/
theorem c08_h2_stream_history_free (site : Site) (e : SrvEnv) (h1h : 1 ∈ e.resetHooks) (h2r prev : ReqSt)
    (hprev : SlotsOk e prev.pluginCtx) (swin : Nat) (fs : List (Bytes × Bytes)) (es : Bool) :
    ((h2Stream site e h2r swin (requestRelease hdrIds e prev) fs es).2).map Out.core
      = expectedAnswerH2 site e h2r swin fs es ∧
    ((h2Stream site e h2r swin (ReqSt.init e) fs es).2).map Out.core
      = expectedAnswerH2 site e h2r swin fs es :=
  ⟨(h2Stream_answer site e h1h h2r swin _ (requestRelease_core e prev hprev) fs es).1,
   (h2Stream_answer site e h1h h2r swin _ rfl fs es).1⟩

/-- every pooled object has its core fields as after request_init_data() -/
def PoolOk (e : SrvEnv) (pool : List ReqSt) : Prop := ∀ p ∈ pool, p.toReqCore = (ReqSt.init e).toReqCore

/-- Every stream of a connection (any number of earlier streams, any pool contents left behind by
    other connections) is answered by the function of its own header fields. -/
theorem c08_h2_every_stream_from_own_request (site : Site) (e : SrvEnv) (h1h : 1 ∈ e.resetHooks) (h2r : ReqSt)
    (swin : Nat) (streams : List (List (Bytes × Bytes) × Bool)) :
    ∀ pool, PoolOk e pool →
      Forall2 (fun st o => o.map Out.core = expectedAnswerH2 site e h2r swin st.1 st.2)
        streams (h2Run site e h2r swin pool streams) := by
  induction streams with
  | nil => intro pool _; exact Forall2.nil
  | cons st rest ih =>
    intro pool hpool
    obtain ⟨fs, es⟩ := st
    cases pool with
    | nil =>
      have ha := h2Stream_answer site e h1h h2r swin (ReqSt.init e) rfl fs es
      exact Forall2.cons ha.1 (ih _ (List.forall_mem_cons.2 ⟨ha.2, hpool⟩))
    | cons p ps =>
      have hp := List.forall_mem_cons.1 hpool
      have ha := h2Stream_answer site e h1h h2r swin p hp.1 fs es
      exact Forall2.cons ha.1 (ih _ (List.forall_mem_cons.2 ⟨ha.2, hp.2⟩))

/-- **The connection-level request `h2r` is not a channel.**  Of everything a stream inherits from
    `h2r` in h2_init_stream() (configuration, condition cache and validity bits, regex captures,
    server_name selector, send window) only the configuration and the server_name selector can
    reach the answer: two `h2r` that agree on these give the same answer to every stream.
    (No stream writes `h2r`; h2.c patches `h2r->conf` once, when the connection starts.) -/
theorem c08_h2_answer_depends_on_h2r_conf_only (site : Site) (e : SrvEnv) (a b : ReqSt) (swin swin' : Nat)
    (hconf : a.conf = b.conf) (hsn : a.serverName = b.serverName) (fs : List (Bytes × Bytes)) (es : Bool) :
    expectedAnswerH2 site e a swin fs es = expectedAnswerH2 site e b swin' fs es :=
  expectedAnswerH2_h2r site e a b swin swin' hconf hsn fs es

/-- **HTTP/2 on a recycled connection object.**  When the connection object that carries the HTTP/2
    connection (prior knowledge: no HTTP/1.x request on it since accept) went through any
    HTTP/1.x history before it was closed and accepted again, every stream is answered as on a
    brand-new connection object.  (HTTP/2 after `Upgrade: h2c`, where `h2r` is the object that just
    parsed the upgrade request, is covered by the end-to-end h2c streams only.) -/
theorem c08_h2_recycled_connection (site : Site) (e : SrvEnv) (h1h : 1 ∈ e.resetHooks) (P : List Bytes)
    (hP : ∀ h ∈ P, ReqStart h) (hclosed : (connAfter site e (Conn.fresh e) P).requestCount = 0)
    (swin swin' : Nat) (fs : List (Bytes × Bytes)) (es : Bool) :
    expectedAnswerH2 site e (connAfter site e (Conn.fresh e) P).reaccept.r swin fs es
      = expectedAnswerH2 site e (ReqSt.init e) swin' fs es :=
  expectedAnswerH2_conn site e _ ((connInv_after site e h1h P hP _ (ConnInv_fresh e)).reaccept hclosed) rfl swin swin' fs es

/-! ## the same request over HTTP/1.1 and HTTP/2 -/

/- The full statement (DESIGN §6) would be: for every semantic request, its HTTP/1.x rendering and its HTTP/2 field
   list are parsed into the same request up to http_version, hence get the same `respond`.
   Proved (`_partial`): the two field loops and http_request_parse() agree —
     HTTP/1.1:  request line `m t HTTP/1.1`, `Host: a`, fields fs  (`parseSemH1`, from `applyFields`/`parsePostV`;
                C01's `parseHeaders_ok_iff` ties `applyFields` to the header bytes)
     HTTP/2:    `:method m  :scheme http  :path t  :authority a`, fields fs, END_STREAM  (`parseSemH2`)
   give the same verdict and, accepted, the same method, target, host, header list and body length; only `version`
   and the HTTP/1 keep-alive flag differ.  MISSING:
     * the fields are `PlainField`s: lower-case token names outside Host / Connection / Content-Length /
       Transfer-Encoding / TE (whose rules differ per version), values non-empty, trimmed, without characters a parser
       rejects; no Upgrade / HTTP2-Settings accepted; method neither CONNECT nor POST, no request body;
     * tokenised fields, not rendered bytes;
     * the response half (`respondC` reads `version` for server.protocol-http11, when framing an unfinished body and
       when lower-casing a repeated response header name): only the bounded family below and the end-to-end
       cross-version stream. -/
theorem c08_h1_h2_same_request_partial (o : Opts) (mf : Nat) (m t a : Bytes) (fs : List (Bytes × Bytes))
    (hm : methodTable.contains m = true) (hmne : m ≠ []) (hnc : m ≠ ofString "CONNECT")
    (hnp : m ≠ ofString "POST") (htsl : t.head? = some slash)
    (htok : (if o.headerStrict then (if o.ctrlsReject then fragmentInvalidStrict t else t.any uriCharInvalidStrict)
             else t.any (fun b => b = 0 || b = cr || b = lf)) = false)
    (hane : a ≠ []) (halen : a.length < 1024) (haval : a.any lineCharInvalidStrict = false)
    (hpl : ∀ kv ∈ fs, PlainField o kv) (hsz : fieldsSize (pseudoFields m t a) + fieldsSize fs ≤ mf)
    (hup : ∀ r r', applyFields o (pre1 m t) ((ofString "host", a) :: fs) = .ok r →
      hostPolicy o 80 r = some (some r') →
      (hasTag r' (ofString "upgrade") || hasTag r' (ofString "http2-settings")) = false) :
    parseSemH2 o mf m t a fs = liftHeadRes (parseSemH1 o m t a fs) :=
  parseSem_same o mf m t a fs
    { method := hm, methodNe := hmne, notConnect := hnc, targetSlash := htsl, targetOk := htok, hostNe := hane,
      hostLen := halen, hostOk := haval, plain := hpl, size := hsz } hnp hup

/-- The HTTP/2 field loop alone: same record as the HTTP/1.x field loop (any outcome of the later
    host / target checks), or the same rejection status. -/
theorem c08_h2_field_loop_same_record (o : Opts) (mf : Nat) (m t a : Bytes) (fs : List (Bytes × Bytes))
    (hm : methodTable.contains m = true) (hmne : m ≠ []) (hnc : m ≠ ofString "CONNECT")
    (htsl : t.head? = some slash)
    (htok : (if o.headerStrict then (if o.ctrlsReject then fragmentInvalidStrict t else t.any uriCharInvalidStrict)
             else t.any (fun b => b = 0 || b = cr || b = lf)) = false)
    (hane : a ≠ []) (halen : a.length < 1024) (haval : a.any lineCharInvalidStrict = false)
    (hpl : ∀ kv ∈ fs, PlainField o kv) (hsz : fieldsSize (pseudoFields m t a) + fieldsSize fs ≤ mf) :
    match applyFields o (pre1 m t) ((ofString "host", a) :: fs) with
    | .error e => h2Fields o mf pre2 {} (pseudoFields m t a ++ fs) = .error e
    | .ok r1 => ∃ c, h2Fields o mf pre2 {} (pseudoFields m t a ++ fs) = .ok (asH2 r1, c) ∧ c.ext = false :=
  h2Fields_spec o mf m t a fs
    { method := hm, methodNe := hmne, notConnect := hnc, targetSlash := htsl, targetOk := htok, hostNe := hane,
      hostLen := halen, hostOk := haval, plain := hpl, size := hsz }

/-! ## non-vacuity: a concrete site, concrete histories -/

def demoSite : Site :=
  { nodes := [(ofString "/srv", .dir), (ofString "/srv/", .dir),
              (ofString "/srv/a.txt", .file (ofString "text/plain") (ofString "hello\n") (ofString "\"e1\"")),
              (ofString "/srv/s.cgi", .file (ofString "text/plain") (ofString "#!") (ofString "\"e3\"")),
              (ofString "/srv/index.html", .file (ofString "text/html") (ofString "<p>i</p>") (ofString "\"e2\""))],
    indexNames := [ofString "index.html"], denySuffix := [ofString "~"],
    sinkExt := [ofString ".cgi"], sinkBody := ofString "ok\n",
    scopes := [{ cond := .urlPrefix (ofString "/a"), extra := some [(ofString "X-A", ofString "1")] }] }

def demoEnv : SrvEnv :=
  { defaults := { parseopts := 9567, docRoot := ofString "/srv", maxKeepAliveRequests := 100 } }

def reqA : Bytes := ofString "GET /a.txt HTTP/1.1\r\nHost: h\r\n\r\n"
def reqMissing : Bytes := ofString "GET /nope HTTP/1.1\r\nHost: h\r\nCookie: c=1\r\n\r\n"
def reqPost : Bytes := ofString "POST /a.txt HTTP/1.1\r\nHost: h\r\nContent-Length: 3\r\n\r\n"
def reqPostSink : Bytes := ofString "POST /s.cgi HTTP/1.1\r\nHost: h\r\nContent-Length: 3\r\n\r\n"

/- The facts of the examples below, grouped like them and evaluated together: the tables the model
   consults (header and method names, error page) are string literals, which the kernel would convert
   again in each example. -/
private theorem demo_runs :
    (ReqStart reqA ∧
     ∀ h ∈ [reqMissing, reqPostSink, reqPost], ReqStart h) ∧
    ((connAfter demoSite demoEnv (Conn.fresh demoEnv) [reqMissing]).isOpen = true ∧
     ((h1Msg demoSite demoEnv (connAfter demoSite demoEnv (Conn.fresh demoEnv) [reqMissing]) reqA).2).map Out.core
       = some (200, [(ofString "content-type", ofString "text/plain"), (ofString "etag", ofString "\"e1\""),
                     (ofString "content-length", ofString "6"), (ofString "x-a", ofString "1")], ofString "hello\n")) ∧
    ((connAfter demoSite demoEnv (Conn.fresh demoEnv) [reqPostSink, reqMissing]).isOpen = true ∧
     ((h1Msg demoSite demoEnv (Conn.fresh demoEnv) reqPostSink).2).map (fun o => (o.core.1, o.core.2.2))
       = some (200, ofString "ok\n")) ∧
    ((connAfter demoSite demoEnv (Conn.fresh demoEnv) [reqA]).r.x1 = 32 ∧
     (connAfter demoSite demoEnv (Conn.fresh demoEnv) [reqA]).r.toReqLive = (ReqSt.init demoEnv).toReqLive) ∧
    ((connAfter demoSite demoEnv (Conn.fresh demoEnv) [reqA, reqPost]).requestCount = 0 ∧
     (expectedAnswer demoSite demoEnv reqA).map (·.1) = some 200) := by decide +kernel

example : 1 ∈ demoEnv.resetHooks := by decide +kernel
example : ReqStart reqA := let ⟨⟨h, _⟩, _⟩ := demo_runs; h
example : ∀ h ∈ [reqMissing, reqPostSink, reqPost], ReqStart h := let ⟨⟨_, h⟩, _⟩ := demo_runs; h

/-- the connection survives a 404 and the probe is answered 200 with the file, the configured
    header of its own scope and nothing of the earlier request -/
example : (connAfter demoSite demoEnv (Conn.fresh demoEnv) [reqMissing]).isOpen = true := let ⟨_, ⟨h, _⟩, _⟩ := demo_runs; h
example : ((h1Msg demoSite demoEnv (connAfter demoSite demoEnv (Conn.fresh demoEnv) [reqMissing]) reqA).2).map Out.core
    = some (200, [(ofString "content-type", ofString "text/plain"), (ofString "etag", ofString "\"e1\""),
                  (ofString "content-length", ofString "6"), (ofString "x-a", ofString "1")], ofString "hello\n") :=
  let ⟨_, ⟨_, h⟩, _⟩ := demo_runs; h
/-- a bodied history that meets the hypotheses of `c08_history_free`: the handler read the body, the
    connection stays open, the next request is answered -/
example : (connAfter demoSite demoEnv (Conn.fresh demoEnv) [reqPostSink, reqMissing]).isOpen = true :=
  let ⟨_, _, ⟨h, _⟩, _⟩ := demo_runs; h
example : ((h1Msg demoSite demoEnv (Conn.fresh demoEnv) reqPostSink).2).map (fun o => (o.core.1, o.core.2.2))
    = some (200, ofString "ok\n") := let ⟨_, _, ⟨_, h⟩, _⟩ := demo_runs; h
/-- between two keep-alive requests the object is NOT equal to a fresh one: the read checkpoint
    carries the byte count of the history (`ReqStale`), unread by the response path -/
example : (connAfter demoSite demoEnv (Conn.fresh demoEnv) [reqA]).r.x1 = 32 ∧
          (connAfter demoSite demoEnv (Conn.fresh demoEnv) [reqA]).r.toReqLive = (ReqSt.init demoEnv).toReqLive :=
  let ⟨_, _, _, h, _⟩ := demo_runs; h
/-- a body nobody read closes the connection; the recycled object answers as new -/
example : (connAfter demoSite demoEnv (Conn.fresh demoEnv) [reqA, reqPost]).requestCount = 0 :=
  let ⟨_, _, _, _, ⟨h, _⟩⟩ := demo_runs; h
example : (expectedAnswer demoSite demoEnv reqA).map (·.1) = some 200 := let ⟨_, _, _, _, ⟨_, h⟩⟩ := demo_runs; h

/-! ### the same request over HTTP/1.0, HTTP/1.1 and HTTP/2: a bounded family

Checked by kernel evaluation on `famSite`: 4 methods × 6 targets × 2 header sets, each rendered as an HTTP/1.0 head,
an HTTP/1.1 head and an HTTP/2 field list; the three answers (status, headers, body) are equal.
The family covers 200, 304, 301, 400 (at parse time), 403, 404, 501 and the body-reading handler. -/

def famSite : Site :=
  { demoSite with nodes := demoSite.nodes ++ [(ofString "/srv/d", .dir), (ofString "/srv/d/", .dir)] }

def famMethods : List String := ["GET", "HEAD", "OPTIONS", "DELETE"]
def famTargets : List String := ["/a.txt", "/nope", "/a.txt~", "/d", "/s.cgi", "*"]
def famExtras : List (List (String × String)) := [[], [("if-none-match", "\"e1\""), ("x-probe", "p")]]

def famH1 (v : String) (m t : String) (x : List (String × String)) : Bytes :=
  ofString (m ++ " " ++ t ++ " HTTP/1." ++ v ++ "\r\nHost: h\r\n" ++
            String.join (x.map fun kv => kv.1 ++ ": " ++ kv.2 ++ "\r\n") ++ "\r\n")

def famH2 (m t : String) (x : List (String × String)) : List (Bytes × Bytes) :=
  [(ofString ":method", ofString m), (ofString ":scheme", ofString "http"), (ofString ":path", ofString t),
   (ofString ":authority", ofString "h")] ++ x.map fun kv => (ofString kv.1, ofString kv.2)

def famOk (m t : String) (x : List (String × String)) : Bool :=
  let a1 := expectedAnswer famSite demoEnv (famH1 "1" m t x)
  a1.isSome && expectedAnswerH2 famSite demoEnv (ReqSt.init demoEnv) 65535 (famH2 m t x) true == a1 &&
  expectedAnswer famSite demoEnv (famH1 "0" m t x) == a1

/- Evaluated together like `demo_runs`; the heads of the second fact are among the family's. -/
private theorem fam_runs :
    ((∀ m ∈ famMethods, ∀ t ∈ famTargets, ∀ x ∈ famExtras, famOk m t x = true) ∧
     (famMethods.flatMap fun m => famTargets.map fun t =>
        ((expectedAnswer famSite demoEnv (famH1 "1" m t [])).map (·.1)).getD 0).eraseDups.length ≥ 6) ∧
    ((h1Msg demoSite demoEnv (Conn.fresh demoEnv) (ofString "\r\n" ++ reqA)).2).map (·.core.1) = some 400 ∧
    ((h1Msg demoSite demoEnv (connAfter demoSite demoEnv (Conn.fresh demoEnv) [reqMissing])
        (ofString "\r\n" ++ reqA)).2).map (·.core.1) = some 200 ∧
    (respond demoSite { ReqSt.init demoEnv with method := 0, version := 1, uriPath := some (ofString "/nope") }).toReqCore
      ≠ (ReqSt.init demoEnv).toReqCore ∧
    expectedAnswerH2 demoSite demoEnv (ReqSt.init demoEnv) 65535
        [(ofString ":method", ofString "GET"), (ofString ":scheme", ofString "http"),
         (ofString ":path", ofString "/a.txt"), (ofString ":authority", ofString "h")] true
      = expectedAnswer demoSite demoEnv reqA := by
  -- `ofString` through the concatenations first: the kernel then converts each short literal once
  -- and appends byte lists; the string operations on every head are dear
  simp only [famOk, famH1, ofString_append, ofString_join, List.flatMap_map]
  decide +kernel

/-- BOUNDED: the family above -/
theorem c08_same_answer_all_versions_family :
    ∀ m ∈ famMethods, ∀ t ∈ famTargets, ∀ x ∈ famExtras, famOk m t x = true := let ⟨⟨h, _⟩, _⟩ := fam_runs; h

/-- the family is not all of one kind -/
example : (famMethods.flatMap fun m => famTargets.map fun t =>
             ((expectedAnswer famSite demoEnv (famH1 "1" m t [])).map (·.1)).getD 0).eraseDups.length ≥ 6 :=
  let ⟨⟨_, h⟩, _⟩ := fam_runs; h

/-- blank lines (outside `ReqStart`): first on a connection: 400; one before a keep-alive request: skipped -/
example : ((h1Msg demoSite demoEnv (Conn.fresh demoEnv) (ofString "\r\n" ++ reqA)).2).map (·.core.1) = some 400 :=
  let ⟨_, h, _⟩ := fam_runs; h
example : ((h1Msg demoSite demoEnv (connAfter demoSite demoEnv (Conn.fresh demoEnv) [reqMissing])
            (ofString "\r\n" ++ reqA)).2).map (·.core.1) = some 200 := let ⟨_, _, h, _⟩ := fam_runs; h
/-- a dirty object: reset really has something to restore -/
example : (respond demoSite { ReqSt.init demoEnv with method := 0, version := 1, uriPath := some (ofString "/nope") }).toReqCore
    ≠ (ReqSt.init demoEnv).toReqCore := let ⟨_, _, _, h, _⟩ := fam_runs; h
/-- HTTP/2: the same resource on a recycled stream object -/
example : expectedAnswerH2 demoSite demoEnv (ReqSt.init demoEnv) 65535
      [(ofString ":method", ofString "GET"), (ofString ":scheme", ofString "http"),
       (ofString ":path", ofString "/a.txt"), (ofString ":authority", ofString "h")] true
    = expectedAnswer demoSite demoEnv reqA := let ⟨_, _, _, _, h⟩ := fam_runs; h

/-- a plain field, and a semantic request both parsers accept alike -/
example : PlainField ⟨9567⟩ (ofString "x-probe", ofString "p1") :=
  ⟨by decide +kernel, by decide +kernel, Or.inl (by decide +kernel), by decide +kernel, by decide +kernel,
   by decide +kernel, by decide +kernel, by decide +kernel⟩
example : (match parseSemH1 ⟨9567⟩ (ofString "GET") (ofString "/a.txt?x=1") (ofString "h")
                   [(ofString "x-probe", ofString "p1"), (ofString "if-none-match", ofString "\"e\"")],
                 parseSemH2 ⟨9567⟩ 8192 (ofString "GET") (ofString "/a.txt?x=1") (ofString "h")
                   [(ofString "x-probe", ofString "p1"), (ofString "if-none-match", ofString "\"e\"")] with
           | .ok r1 t1, .ok r2 t2 =>
             decide (r1.version = 1 ∧ r2.version = 2 ∧ r2.method = r1.method ∧ r2.headers = r1.headers ∧
                     r2.host = r1.host ∧ r1.headers.length = 3 ∧ t1 = t2 ∧ t1.path = ofString "/a.txt" ∧
                     t1.query = ofString "x=1")
           | _, _ => false) = true := by decide +kernel

/-! ### error handlers (Model/ErrHandler.lean: http_response_has_error_handler(),
    http_response_call_error_handler(), the loop of http_response_handler()) -/

open LtVerif.ErrH in
/-- Once error_handler_saved_status is set (an error handler has been installed for this request, or
    has run), http_response_has_error_handler() never installs one again, for every configuration and
    every state: the error handler cannot recurse, and what an earlier pass saved is not overwritten. -/
theorem c08_error_handler_not_reinstalled (c : Cfg) (s : EhSt) (h : s.savedStatus ≠ 0) :
    (hasErrorHandler c s).2 = false := hasErrorHandler_saved c s h

open LtVerif.ErrH in
example : (hasErrorHandler ⟨true, true, false⟩
    { afterReset 3 1 5 5 false 7 with status := 404, savedStatus := 404, savedMethod := 3, method := 0 }).2 = false := by
  decide +kernel

open LtVerif.ErrH in
/-- The carried member error_handler_saved_method (NOT restored by request_reset(): reqpool.c:131) cannot
    leak from an earlier request: for every configuration, every pass function that neither touches
    that member nor writes error_handler_saved_status (`PrepOk`: modules, http_response_prepare(),
    http_response_comeback()), every number of passes, and every state with
    error_handler_saved_status = 0 (what request_reset() leaves), the outcome of the loop of
    http_response_handler() -- every other modelled member and the pass count -- is the same whatever
    stale value `m` the member holds. -/
theorem c08_error_handler_stale_method_unread (c : Cfg) (prep : Nat → EhSt → EhSt) (hp : PrepOk prep)
    (fuel k : Nat) (s : EhSt) (m : Int) (h : s.savedStatus = 0) :
    obsOf (handle c prep fuel k { s with savedMethod := m }) = obsOf (handle c prep fuel k s) := by
  apply handle_rel c hp
  exact ⟨by simp [EhSt.obs], fun hs => by simp [h] at hs⟩

open LtVerif.ErrH in
/-- The loop of http_response_handler() comes back for an error handler at most once: for every
    configuration, every `PrepOk` pass function and every start state, two passes always produce the
    answer, and more fuel never changes it (error handlers do not nest; the second pass is the last). -/
theorem c08_error_handler_at_most_one_comeback (c : Cfg) (prep : Nat → EhSt → EhSt) (hp : PrepOk prep)
    (n : Nat) (s : EhSt) :
    handle c prep (n + 2) 0 s = handle c prep 2 0 s ∧ (handle c prep 2 0 s).isSome = true :=
  handle_two_passes c hp n s

open LtVerif.ErrH in
example :
    let prep : Nat → EhSt → EhSt := fun _ s => { s with status := 404 }
    (handle ⟨true, true, false⟩ prep 2 0 (afterReset 0 1 0 0 false 0)).map (fun r => (r.1.status, r.2)) = some (404, 1) := by
  decide +kernel

open LtVerif.ErrH in
example :
    let prep : Nat → EhSt → EhSt := fun k s => if k = 0 then { s with status := 404 } else { s with status := 200 }
    let c : Cfg := ⟨true, false, false⟩
    obsOf (handle c prep 3 0 (afterReset 3 1 5 2 true 7)) = obsOf (handle c prep 3 0 (afterReset 3 1 5 2 true 1)) ∧
    (handle c prep 3 0 (afterReset 3 1 5 2 true 7)).map (fun r => (r.1.status, r.1.method, r.1.keepAlive, r.2)) =
      some (404, 3, 0, 1) := by
  decide +kernel

end LtVerif.C08
