/-
  C05 — HTTP/2: every emitted frame is legal for the connection and stream state.
  Property theorems over Model/H2.lean (frames), Model/H2Reader.lean (octets, read segments) and
  the monitor of Model/H2Monitor.lean; helper lemmas in Proofs/H2.lean, Proofs/H2Recv.lean,
  Proofs/H2Legal.lean, Proofs/H2Reader.lean.
-/
import LtVerif.Proofs.H2
import LtVerif.Proofs.H2Recv
import LtVerif.Proofs.H2Legal
import LtVerif.Proofs.H2Reader
namespace LtVerif.C05
open LtVerif

/-! ## stream legality over whole connection histories -/

/-- **History-level legality** (RFC 9113 5.1, for ALL streams of a connection at once): whatever
    batches of frames arrive -- valid or not, before or after the client acknowledged the
    server's SETTINGS -- and however the scheduler interleaves, the sequence of ALL frames the
    connection emits is accepted by the monitor `monAll` (Model/H2Monitor.lean).  Proof: the
    invariant `Inv`, kept by every receive action (`Act.inv`) and every scheduler pass
    (`passAux_mon`); after a connection error nothing is emitted. -/
theorem c05_history_legal (batches : List (List FrameIn)) (preAck : Bool) :
    ∃ m, monAll {} (runOuts { sentSettings := preAck } batches) = some m :=
  ((runInv_good {}).run batches _ [] ⟨{}, rfl, Or.inr (inv_init preAck)⟩).imp fun _ h => h.1

/-- the same for octets in any read segmentation: a step of octets is a step of the frames the
    reader extracts (`h2StepBytes_frames`) -/
theorem c05_history_legal_bytes (dec : Bytes → HdrKind) : ∀ (steps : List (List Bytes)) (s : BConn) (m : Mon),
    Good s.c m →
    ∃ m', monAll m ((steps.foldl (fun (acc : BConn × List Out) segs =>
        ((h2StepBytes dec acc.1 segs).1, acc.2 ++ (h2StepBytes dec acc.1 segs).2)) (s, [])).2) = some m' := by
  intro steps s m g
  -- the frames emitted so far are accepted and leave a good state: kept by every step
  exact (foldl_inv (fun acc : BConn × List Out => ∃ m1, monAll m acc.2 = some m1 ∧ Good acc.1.c m1) _ steps (s, [])
    ⟨m, rfl, g⟩ fun acc segs h => (runInv_good m).stepBytes dec acc.1 segs acc.2 h).imp fun _ h => h.1

/-- **RST_STREAM is never sent on an idle stream** (RFC 9113 6.4): from a state satisfying the
    invariant, every RST_STREAM a received frame draws is for a stream id at most the highest id
    the client has used (or the connection ends in an error; the one RST_STREAM beyond -- a
    HEADERS frame making its own new stream depend on itself -- comes with that error, and the
    stream was opened by that very frame) -/
theorem c05_rst_never_idle (c : H2Conn) (m : Mon) (f : FrameIn) (h : Inv c m) (sid code : Nat)
    (hm : Out.rst sid code ∈ (recvFrame c f).2) :
    sid ≤ (recvFrame c f).1.cid ∨ (recvFrame c f).1.goaway > 0 := by
  rcases (Act.frame c f).rst h.le with hg | hr
  · exact Or.inr hg
  · exact Or.inl (hr sid code hm).1

/-- the frames sent in direct response to a frame are control frames: response HEADERS and DATA
    are only produced by the stream scheduler -/
theorem c05_recv_emits_only_control (c : H2Conn) (f : FrameIn) :
    ∀ o ∈ (recvFrame c f).2, o.isCtl = true :=
  recvFrame_ctl c f

/-! ## outbound frame size: payloads never exceed the peer's SETTINGS_MAX_FRAME_SIZE -/

/-- **DATA frames**: every frame a scheduler pass emits carries at most `c.peerMaxFrame` payload
    octets -- the value of the last SETTINGS_MAX_FRAME_SIZE the client sent (initially 16384),
    whether it was raised or lowered.  HEADERS count 0 here (`Out.payloadLen`); for their split see
    `c05_header_block_split` -/
theorem c05_data_frames_within_peer_limit (c : H2Conn) (budget : Nat) (h : FsOk c) :
    ∀ o ∈ (processPass c budget).2, o.payloadLen ≤ c.peerMaxFrame :=
  processPass_payload c budget (by have := h.1; omega)

/-- ... and the split (h2_send_cqdata) loses nothing -/
theorem c05_data_split_exact (file : Bool) (fsize n : Nat) (hf : fsize > 9) :
    (dataSplit file fsize n n).sum = n ∧ ∀ x ∈ dataSplit file fsize n n, x ≤ fsize :=
  ⟨dataSplit_sum file fsize hf n n (Nat.le_refl _), fun x hx => dataSplit_le file fsize n n x hx⟩

theorem c05_control_frames_small (c : H2Conn) (f : FrameIn) : ∀ o ∈ (recvFrame c f).2, o.payloadLen ≤ 8 :=
  fun o ho => ctl_payload o (recvFrame_ctl c f o ho)

/-- **header blocks** (h2_send_hpack): HEADERS + CONTINUATION frames within the limit that carry
    exactly the block -/
theorem c05_header_block_split (fsize n : Nat) (hf : 0 < fsize) :
    (hpackSplit fsize n n).sum = n ∧ (∀ x ∈ hpackSplit fsize n n, x ≤ fsize) ∧ hpackSplit fsize n n ≠ [] := by
  refine ⟨hpackSplit_sum fsize n n, fun x hx => hpackSplit_le fsize n n x ?_ hx, ?_⟩
  · have := Nat.mul_le_mul_right (n + 1) hf
    rw [Nat.one_mul] at this
    omega
  · cases n <;> simp [hpackSplit]
    split <;> simp

/-- **the limit the server works with stays in the RFC range over every history**: it is only ever
    set by a SETTINGS_MAX_FRAME_SIZE within that range -/
theorem c05_peer_frame_size_invariant (batches : List (List FrameIn)) (c : H2Conn) (h : FsOk c) :
    FsOk (runState c batches) :=
  runInv_fs.run batches c [] h

/-! ## acknowledgements -/

/-- a well-formed SETTINGS frame (stream 0, whole parameters) that raises no connection error
    is answered with exactly one SETTINGS ACK and nothing else (a parameter that RFC 9113 makes
    a connection error changes `goaway`: `c05_settings_value_errors`, `c05_settings_window_overflow`) -/
theorem c05_settings_acked (c : H2Conn) (ps : List (Nat × Nat))
    (hok : (applySettings c ps).1.goaway = c.goaway) (hg : c.goaway ≤ 0) :
    (recvSettings c false 0 ps 0).2 = [Out.settingsAck] := by
  unfold recvSettings
  simp [hok, hg, applySettings_silent ps c hg hok]

/-- RFC 9113 6.9.2: a SETTINGS_INITIAL_WINDOW_SIZE change that would take the send window of ANY
    live stream above 2^31-1 is a connection error FLOW_CONTROL_ERROR, and no ACK is sent -/
theorem c05_settings_window_overflow (c : H2Conn) (v : Nat) (rest : List (Nat × Nat)) (hv : (v : Int) ≤ int32Max)
    (hg : c.goaway = 0) (hov : c.streams.any (fun s => s.live && winOverflows s.swin ((v : Int) - c.initWin)) = true) :
    applySettings c ((4, v) :: rest) = sendGoaway c E.flowControl ∧
    Out.goaway c.cid E.flowControl ∈ (recvSettings c false 0 ((4, v) :: rest) 0).2 ∧
    Out.settingsAck ∉ (recvSettings c false 0 ((4, v) :: rest) 0).2 := by
  have hnv : ¬ (v : Int) > int32Max := by omega
  have happ : applySettings c ((4, v) :: rest) = sendGoaway c E.flowControl := by
    simp [applySettings, hnv, hov]
  -- the GOAWAY is the whole answer
  have e : (recvSettings c false 0 ((4, v) :: rest) 0).2 = [Out.goaway c.cid E.flowControl] := by
    rw [recvSettings_paramErr 0 (Int.le_of_eq hg) (by decide) happ, sendGoaway_out c E.flowControl (by decide) hg]
  rw [e]
  exact ⟨happ, List.mem_singleton.mpr rfl, by simp⟩

/-- **PING echo**, from the raw frame on the wire: the ack carries the SAME 8 octets; a PING ack is
    not answered -/
theorem c05_ping_echoed (c : H2Conn) (dec : Bytes → HdrKind) (octets : Bytes) (flags sid : Nat)
    (hg : ¬ c.goaway > 0) (hd : c.dead = false) (h8 : octets.length = 8) (h0 : u31 sid = 0) :
    (flagSet flags 1 = false →
      (recvFrame c (toFrameIn dec ⟨6, flags, sid, octets⟩)).2 = [Out.pingAck octets]) ∧
    (flagSet flags 1 = true → (recvFrame c (toFrameIn dec ⟨6, flags, sid, octets⟩)).2 = []) := by
  constructor <;> intro hf <;> simp [toFrameIn, recvFrame, hg, hd, recvPing, h8, h0, hf]

/-! ## connection errors: the RFC-mandated error is VISIBLE and terminal -/

/-- what the client sees of a connection error: GOAWAY(last stream id, code) among the frames
    sent in response, and the connection in the terminal error state -/
def ConnErr (c : H2Conn) (r : Res) (code : Nat) : Prop := Out.goaway c.cid code ∈ r.2 ∧ r.1.goaway > 0

/-- **raising a connection error is visible** while no error GOAWAY is out -/
theorem c05_conn_error_visible (c : H2Conn) (code : Nat) (hc : code ≠ 0) (hg : c.goaway ≤ 0) :
    ConnErr c (sendGoaway c code) code := by
  exact connErr_of_eq hg rfl hc

/-- **terminal over histories**: once an error GOAWAY is out, NOTHING is emitted any more (no later
    stream is processed) -/
theorem c05_conn_error_terminal (batches : List (List FrameIn)) (c : H2Conn) (h : c.goaway > 0) :
    runOuts c batches = [] :=
  (runInv_term.run batches c [] ⟨h, rfl⟩).2

/-- frame size errors: wrong fixed length of PING / WINDOW_UPDATE / RST_STREAM / PRIORITY /
    GOAWAY / PRIORITY_UPDATE, SETTINGS length not a multiple of 6, SETTINGS ack with payload,
    a frame above the advertised SETTINGS_MAX_FRAME_SIZE => GOAWAY(FRAME_SIZE_ERROR) -/
theorem c05_frame_size_errors (c : H2Conn) (sid len x : Nat) (o : Bytes) (ps : List (Nat × Nat)) (junk : Nat)
    (hg : c.goaway ≤ 0) (hd : c.dead = false) :
    (len ≠ 8 → ConnErr c (recvFrame c (.ping false sid len o)) E.frameSize) ∧
    (len ≠ 4 → ConnErr c (recvFrame c (.windowUpdate sid len x)) E.frameSize) ∧
    (len ≠ 4 → ConnErr c (recvFrame c (.rstStream sid len x)) E.frameSize) ∧
    (len ≠ 5 → ConnErr c (recvFrame c (.priority sid len x)) E.frameSize) ∧
    (len < 8 → ConnErr c (recvFrame c (.goaway sid len x)) E.frameSize) ∧
    (len < 4 → ConnErr c (recvFrame c (.priorityUpdate sid len x x)) E.frameSize) ∧
    (junk ≠ 0 → (applySettings c ps).1.goaway = c.goaway →
       Out.goaway (applySettings c ps).1.cid E.frameSize ∈ (recvFrame c (.settings false 0 ps junk)).2 ∧
       (recvFrame c (.settings false 0 ps junk)).1.goaway > 0) ∧
    ((ps ≠ [] ∨ junk ≠ 0) → ConnErr c (recvFrame c (.settings true 0 ps junk)) E.frameSize) ∧
    ConnErr c (recvFrame c .oversize) E.frameSize := by
  have hng : ¬ c.goaway > 0 := by omega
  refine ⟨fun h => ?_, fun h => ?_, fun h => ?_, fun h => ?_, fun h => ?_, fun h => ?_, fun h hok => ?_, fun h => ?_, ?_⟩
  · exact connErr_of_eq hg (by simp [recvFrame, hng, hd, recvPing, h])
  · exact connErr_of_eq hg (by simp [recvFrame, hng, hd, recvWindowUpdate, h])
  · exact connErr_of_eq hg (by simp [recvFrame, hng, hd, recvRstStream, h])
  · exact connErr_of_eq hg (by simp [recvFrame, hng, hd, recvPriority, h])
  · exact connErr_of_eq hg (by simp [recvFrame, hng, hd, recvGoaway, h])
  · exact connErr_of_eq hg (by simp [recvFrame, hng, hd, recvPriorityUpdate, h])
  · exact connErr_of_eq (c := (applySettings c ps).1) (hok ▸ hg) (by simp [recvFrame, hng, hd, recvSettings_junk hg hok h])
  · exact connErr_of_eq hg (by simp [recvFrame, hng, hd, recvSettings, h])
  · exact connErr_of_eq hg (by simp [recvFrame, hng, hd])

/-- frames on the wrong stream: DATA / HEADERS / RST_STREAM / PRIORITY on stream 0, SETTINGS /
    PING / GOAWAY / PRIORITY_UPDATE off stream 0, PRIORITY_UPDATE for stream 0
    => GOAWAY(PROTOCOL_ERROR) -/
theorem c05_stream_zero_errors (c : H2Conn) (x : Nat) (ps : List (Nat × Nat)) (sid : Nat) (o : Bytes) (kind : HdrKind)
    (es : Bool) (h0 : sid ≠ 0) (hg : c.goaway ≤ 0) (hd : c.dead = false) :
    ConnErr c (recvFrame c (.settings false sid ps 0)) E.protocol ∧
    ConnErr c (recvFrame c (.ping false sid 8 o)) E.protocol ∧
    ConnErr c (recvFrame c (.goaway sid 8 x)) E.protocol ∧
    ConnErr c (recvFrame c (.priorityUpdate sid 4 x x)) E.protocol ∧
    ConnErr c (recvFrame c (.priorityUpdate 0 4 0 x)) E.protocol ∧
    ConnErr c (recvFrame c (.rstStream 0 4 x)) E.protocol ∧
    ConnErr c (recvFrame c (.priority 0 5 x)) E.protocol ∧
    ConnErr c (recvFrame c (.data 0 x none es)) E.protocol ∧
    ConnErr c (recvFrame c (.headers 0 kind es none false false)) E.protocol := by
  have hng : ¬ c.goaway > 0 := by omega
  refine ⟨?_, ?_, ?_, ?_, ?_, ?_, ?_, ?_, ?_⟩
  · exact connErr_of_eq hg (by simp [recvFrame, hng, hd, recvSettings, h0])
  · exact connErr_of_eq hg (by simp [recvFrame, hng, hd, recvPing, h0])
  · exact connErr_of_eq hg (by simp [recvFrame, hng, hd, recvGoaway, h0])
  · exact connErr_of_eq hg (by simp [recvFrame, hng, hd, recvPriorityUpdate, h0])
  · exact connErr_of_eq hg (by simp [recvFrame, hng, hd, recvPriorityUpdate])
  · exact connErr_of_eq hg (by simp [recvFrame, hng, hd, recvRstStream])
  · exact connErr_of_eq hg (by simp [recvFrame, hng, hd, recvPriority])
  · exact connErr_of_eq hg (by simp [recvFrame, hng, hd, recvData])
  · exact connErr_of_eq hg (by simp [recvFrame, hng, hd, recvHeaders])

/-- stream identifiers: an even id in HEADERS; DATA / RST_STREAM on an idle stream (id above every
    id seen); WINDOW_UPDATE on an idle stream (while no GOAWAY is out); a stray CONTINUATION;
    PUSH_PROMISE from a client; a header block not continued properly
    => GOAWAY(PROTOCOL_ERROR) -/
theorem c05_stream_id_rules (c : H2Conn) (sid : Nat) (kind : HdrKind) (es : Bool) (len x : Nat) (dep : Option Nat)
    (hg : c.goaway ≤ 0) (hd : c.dead = false) (hle : ∀ s ∈ c.streams, s.id ≤ c.cid) :
    (sid % 2 = 0 → ConnErr c (recvFrame c (.headers sid kind es dep false false)) E.protocol) ∧
    (c.cid < sid → ConnErr c (recvFrame c (.data sid len none es)) E.protocol) ∧
    (c.cid < sid → ConnErr c (recvFrame c (.rstStream sid 4 x)) E.protocol) ∧
    (c.cid < sid → c.goaway = 0 → x ≠ 0 → ConnErr c (recvFrame c (.windowUpdate sid 4 x)) E.protocol) ∧
    ConnErr c (recvFrame c (.continuation sid)) E.protocol ∧
    ConnErr c (recvFrame c (.pushPromise sid)) E.protocol ∧
    ConnErr c (recvFrame c (.headers sid kind es dep false true)) E.protocol := by
  have hng : ¬ c.goaway > 0 := by omega
  -- an id above every id seen is not tracked (`hle` is part of the invariant `Inv`)
  have hidle : c.cid < sid → findStrm c sid = none := fun h =>
    Option.eq_none_iff_forall_ne_some.mpr fun s h' => by
      have := hle s (findStrm_id h').2
      have := (findStrm_id h').1
      omega
  refine ⟨fun h => ?_, fun h => ?_, fun h => ?_, fun h h1 h2 => ?_, ?_, ?_, ?_⟩
  · exact connErr_of_eq hg (by simp [recvFrame, hng, hd, recvHeaders, h])
  · exact connErr_of_eq hg (by simp [recvFrame, hng, hd, recvData, h])
  · have hs0 : sid ≠ 0 := by omega
    exact connErr_of_eq hg (by simp [recvFrame, hng, hd, recvRstStream, hs0, hidle h, h])
  · have hs0 : sid ≠ 0 := by omega
    exact connErr_of_eq hg (by simp [recvFrame, hd, recvWindowUpdate, hs0, hidle h, h, h1])
  · exact connErr_of_eq hg (by simp [recvFrame, hng, hd])
  · exact connErr_of_eq hg (by simp [recvFrame, hng, hd])
  · exact connErr_of_eq hg (by simp [recvFrame, hng, hd])

/-- SETTINGS values RFC 9113 6.5.2 forbids: ENABLE_PUSH other than 0/1 => PROTOCOL_ERROR,
    INITIAL_WINDOW_SIZE above 2^31-1 => FLOW_CONTROL_ERROR, MAX_FRAME_SIZE outside
    [2^14, 2^24-1] => PROTOCOL_ERROR (no ACK is sent) -/
theorem c05_settings_value_errors (c : H2Conn) (v : Nat) (rest : List (Nat × Nat)) (hg : c.goaway ≤ 0) (hd : c.dead = false) :
    (v > 1 → ConnErr c (recvFrame c (.settings false 0 ((2, v) :: rest) 0)) E.protocol) ∧
    ((v : Int) > int32Max → ConnErr c (recvFrame c (.settings false 0 ((4, v) :: rest) 0)) E.flowControl) ∧
    ((v < 16384 ∨ v > 16777215) → ConnErr c (recvFrame c (.settings false 0 ((5, v) :: rest) 0)) E.protocol) := by
  have hng : ¬ c.goaway > 0 := by omega
  have fin : ∀ (code : Nat) (ps : List (Nat × Nat)), code ≠ 0 → applySettings c ps = sendGoaway c code →
      ConnErr c (recvFrame c (.settings false 0 ps 0)) code :=
    fun code ps hc happ => connErr_of_eq hg (by simp [recvFrame, hng, hd, recvSettings_paramErr 0 hg hc happ]) hc
  refine ⟨fun h => fin _ _ (by decide) (by simp [applySettings, h]), fun h => fin _ _ (by decide) (by simp [applySettings, h]),
          fun h => fin _ _ (by decide) ?_⟩
  simp [applySettings, h]

/-- WINDOW_UPDATE on stream 0: increment 0 => PROTOCOL_ERROR, window above 2^31-1 =>
    FLOW_CONTROL_ERROR; on a stream they are stream errors (RST_STREAM), see `client_oracle` -/
theorem c05_window_update_errors (c : H2Conn) (inc : Nat) (hg : c.goaway ≤ 0) (hd : c.dead = false) :
    ConnErr c (recvFrame c (.windowUpdate 0 4 0)) E.protocol ∧
    (inc ≠ 0 → c.swin > int32Max - inc → ConnErr c (recvFrame c (.windowUpdate 0 4 inc)) E.flowControl) := by
  have hng : ¬ c.goaway > 0 := by omega
  refine ⟨?_, fun h1 h2 => ?_⟩
  · exact connErr_of_eq hg (by simp [recvFrame, hng, hd, recvWindowUpdate])
  · exact connErr_of_eq hg (by simp [recvFrame, hng, hd, recvWindowUpdate, h1, h2])

/-- an undecodable header block (HPACK) on a new stream: the GOAWAY's last-stream-id is that stream -/
theorem c05_hpack_error (c : H2Conn) (sid : Nat) (es : Bool) (hodd : sid % 2 = 1) (hnew : sid > c.cid)
    (hg : c.goaway = 0) (hd : c.dead = false) (hfree : c.streams.length < Extracted.h2MaxStreams) :
    Out.goaway sid E.compression ∈ (recvFrame c (.headers sid .hpackBad es none false false)).2 ∧
    (recvFrame c (.headers sid .hpackBad es none false false)).1.goaway > 0 := by
  have h1 : ¬ sid % 2 = 0 := by omega
  have h2 : ¬ sid ≤ c.cid := by omega
  have h3 : ¬ c.streams.length ≥ Extracted.h2MaxStreams := by omega
  exact connErr_of_eq (c := addStrm c (mkStrm c sid es 0 0 (-1) false false)) (Int.le_of_eq hg)
    (by simp [recvFrame, hd, recvHeaders, h1, h2, hg, h3, newStream])

/-- ... and likewise in a header block the server has no use for -- HEADERS for a refused stream,
    for a new stream after a graceful GOAWAY, trailers on a stream that is closed or no longer
    tracked (every use of `discardHeaders` in `recvHeaders`/`recvTrailers`): the block is still
    decoded, the HPACK state being the connection's, and a block that does not decode is
    GOAWAY(COMPRESSION_ERROR) (c908cdc; below the 32 discarded blocks that end the connection with
    ENHANCE_YOUR_CALM anyway) -/
theorem c05_hpack_error_discarded (c : H2Conn) (hg : c.goaway ≤ 0) (hn : c.nDiscarded < 32) :
    ConnErr c (discardHeaders c .hpackBad) E.compression := by
  have hng : ¬ c.goaway > 0 := by omega
  have hc : ¬ c.nDiscarded + 1 > 32 := by omega
  exact connErr_of_eq (c := { c with nDiscarded := c.nDiscarded + 1 }) hg (by simp [discardHeaders, hng, discardCount, hc])

/-- **Not a data sink, and no stall**: DATA (with payload) for a stream the server no longer
    tracks, outside the recently-half-closed window, draws ONE graceful GOAWAY(NO_ERROR) and ends
    the parsing round (streams are served before parsing goes on); once a GOAWAY is out such a frame
    is dropped WITHOUT ending the round -- ending it with nothing to write would strand the frames
    behind it (the defect repaired by ead0846) -/
theorem c05_data_sink_goaway_once (c : H2Conn) (sid len : Nat) (es : Bool)
    (h0 : sid ≠ 0) (hc : sid ≤ c.cid) (hn : findStrm c sid = none) (hr : c.hcRecent = false) (hl : len ≠ 0) :
    (c.goaway = 0 → (recvData c sid len none es).1.stop = true ∧
                    (recvData c sid len none es).2 = (sendGoaway c 0).2) ∧
    (c.goaway ≠ 0 → recvData c sid len none es = (c, [])) := by
  have hc' : ¬ c.cid < sid := by omega
  constructor <;> intro hg <;> simp [recvData, h0, hc', hn, hr, hl, hg]

/-! ## concurrency -/

/-- **Concurrency**: once the client has acknowledged the server's SETTINGS, a HEADERS frame for a
    new stream while the advertised number of streams are active (and none is about to be retired)
    is answered RST_STREAM(REFUSED_STREAM), and no stream is created -/
theorem c05_concurrency_refused (c : H2Conn) (sid : Nat) (kind : HdrKind) (es : Bool)
    (hodd : sid % 2 = 1) (hnew : sid > c.cid) (hg : c.goaway = 0) (hack : c.sentSettings = false)
    (hfull : c.streams.length ≥ Extracted.h2MaxStreams) :
    Out.rst sid E.refused ∈ (recvHeaders c sid kind es none false).2 ∧
    (recvHeaders c sid kind es none false).1.streams.length = c.streams.length := by
  have h1 : ¬ sid % 2 = 0 := by omega
  have h2 : ¬ sid ≤ c.cid := by omega
  have heq : recvHeaders c sid kind es none false = (refuseStream c sid).andThen (discardHeaders · kind) := by
    simp [recvHeaders, h1, h2, hg, hfull]
  rw [heq]
  refine ⟨?_, ?_⟩
  · simp [Res.andThen, refuseStream, hack]
  · exact ((Eff.refuse c sid hnew).andThen (Eff.discard _ kind)).keep.len.resolve_right fun h => by omega

/-- ... before that acknowledgement (the client cannot know the limit yet): more than 100 streams
    (id above 200) => GOAWAY(ENHANCE_YOUR_CALM); otherwise the HEADERS frame is either left in the
    read queue while a stream can still make progress (`needsSlot`, windows of at least 2048
    octets -- below that nothing would be sent and the frames behind would never be read), or
    refused as above -/
theorem c05_concurrency_before_ack (c : H2Conn) (sid : Nat) (kind : HdrKind) (es : Bool)
    (hodd : sid % 2 = 1) (hnew : sid > c.cid) (hg : c.goaway = 0) (hd : c.dead = false) (hpre : c.sentSettings = true)
    (hfull : c.streams.length ≥ Extracted.h2MaxStreams) :
    (sid > 200 → ConnErr c (recvFrame c (.headers sid kind es none false false)) E.enhanceCalm) ∧
    (sid ≤ 200 → needsSlot c (.headers sid kind es none false false) = false →
       Out.rst sid E.refused ∈ (recvFrame c (.headers sid kind es none false false)).2) ∧
    (sid ≤ 200 → (c.streams.any fun s => s.reqLen = (s.bodyIn : Int) && s.swin ≥ 2048 && c.swin ≥ 2048) = true →
       needsSlot c (.headers sid kind es none false false) = true) := by
  have h1 : ¬ sid % 2 = 0 := by omega
  have h2 : ¬ sid ≤ c.cid := by omega
  refine ⟨fun h => ?_, fun h _ => ?_, fun h hany => ?_⟩
  · have ob := sendGoaway_observable c E.enhanceCalm (by decide)
    exact connErr_of_eq (Int.le_of_eq hg) (by
      simp [recvFrame, hd, recvHeaders, h1, h2, hg, hfull, Res.andThen, refuseStream, hpre, h, discardHeaders, ob.1])
  · have hn : ¬ sid > 200 := by omega
    simp [recvFrame, hd, recvHeaders, h1, h2, hg, hfull, Res.andThen, refuseStream, hpre, hn]
  · simp only [needsSlot, hg, decide_true, hnew, hodd, Bool.not_false, Bool.and_true, ne_eq,
      reduceCtorEq, not_false_eq_true, hfull, ge_iff_le, hpre, h, hany, Bool.or_true]

/-- **Concurrency, for every reachable state**: the server never tracks more streams than it
    advertised -/
theorem c05_concurrency_invariant : ∀ (batches : List (List FrameIn)) (c : H2Conn),
    c.streams.length ≤ Extracted.h2MaxStreams →
    (batches.foldl (fun c b => (h2Step c b).1) c).streams.length ≤ Extracted.h2MaxStreams :=
  fun bs c h => foldl_inv (fun c => c.streams.length ≤ Extracted.h2MaxStreams) _ bs c h
    fun c b h => runInv_len.step c b [] h

theorem c05_advertised_concurrency : Extracted.h2MaxStreams = Extracted.h2AdvMaxConcurrent := by decide +kernel

/-! non-vacuity -/
def exGet (sid body : Nat) : FrameIn := .headers sid (.request 200 body 0 false false) true none false false
example : (h2Step {} [exGet 1 10]).2 = [.headers 1 200 false, .data 1 10 false, .data 1 0 true] := by decide +kernel
example : (h2Step {} [exGet 1 10, .data 1 3 none true]).2 = [.rst 1 E.streamClosed, .windowUpdate 0 16384] := by decide +kernel
-- a history with noise: accepted by the monitor, and the monitor is not trivial (it rejects DATA before HEADERS)
example : (monAll {} (runOuts {} [[.priority 1 5 1, exGet 1 10], [.ping false 0 8 [1,2,3,4,5,6,7,8], exGet 3 0],
                                  [.data 1 3 none true, .windowUpdate 3 4 0]])).isSome = true := by decide +kernel
example : monAll {} [.data 1 10 false] = none ∧ monAll {} [.headers 1 200 true, .data 1 0 true] = none ∧
    monAll {} [.headers 1 200 false, .rst 1 0, .data 1 1 false] = none := by decide +kernel
-- PRIORITY making the idle stream 1 depend on itself: no RST_STREAM; the stream is served afterwards
example : (h2Step {} [.priority 1 5 1, exGet 1 10]).2 = [.headers 1 200 false, .data 1 10 false, .data 1 0 true] := by decide +kernel
-- outbound frame size: 100000 octets in frames of at most 16384 (memory) / 16375 (file), and of 32750 once the client allows 32768
example : (h2Step {} [exGet 1 100000]).2 =
    [.headers 1 200 false, .data 1 16384 false, .data 1 16366 false, .data 1 16384 false, .data 1 16366 false] := by decide +kernel
example : (h2Step {} [.settings false 0 [(5, 32768)] 0, exGet 1 100000]).2 =
    [.settingsAck, .headers 1 200 false, .data 1 32750 false, .data 1 32750 false] := by decide +kernel
example : dataSplit true 16384 32750 32750 = [16375, 16375] ∧ hpackSplit 16384 25035 25035 = [16384, 8651] := by decide +kernel
example : FsOk {} := ⟨by decide, by decide⟩
-- PING: the octets come back
example : (recvFrame {} (.ping false 0 8 [1,2,3,4,5,6,7,8])).2 = [.pingAck [1,2,3,4,5,6,7,8]] := by decide +kernel
example : flagSet 0 1 = false ∧ u31 0 = 0 := by decide +kernel
-- stream 1 answered and forgotten, stream 3 blocked by the connection window; then in one read two DATA
-- frames for stream 1, the WINDOW_UPDATEs stream 3 waits for, and a PING: one GOAWAY, PING acked, stream 3 completes
example : (h2Step (h2Step {} [exGet 1 10, exGet 3 100000]).1
             [.data 1 3 none false, .data 1 3 none false, .windowUpdate 3 4 100000, .windowUpdate 0 4 100000,
              .ping false 0 8 []]).2 =
    [.goaway 3 0, .pingAck [], .data 3 16384 false, .data 3 16366 false, .data 3 1750 false, .data 3 0 true] := by decide +kernel
/-- a stream with a pending response whose window the client raised to 2^31-1 -/
def exFull : H2Conn :=
  { streams := [{ id := 1, st := .hcRemote, swin := 2147483647, reqLen := 0, status := 200, pending := 100000,
                  headersSent := true }], cid := 1 }
example : exFull.goaway = 0 ∧
    (exFull.streams.any fun s => s.live && winOverflows s.swin (((65536 : Nat) : Int) - exFull.initWin)) = true := by decide +kernel
example : (recvFrame exFull (.settings false 0 [(4, 65536)] 0)).2 = [.goaway 1 E.flowControl] := by decide +kernel
example : (recvFrame exFull (.settings false 0 [(4, 65535)] 0)).2 = [.settingsAck] := by decide +kernel
example : (applySettings exFull [(4, 65535)]).1.goaway = exFull.goaway ∧ exFull.goaway ≤ 0 := by decide +kernel
/-- eight streams blocked by a zero window: the advertised limit is reached -/
def exEight : H2Conn :=
  (h2Step {} ([.settings false 0 [(4, 0)] 0] ++ (List.range 8).map fun i => exGet (2 * i + 1) 1000)).1
example : exEight.streams.length = Extracted.h2MaxStreams ∧ exEight.goaway = 0 ∧ exEight.cid = 15 ∧
    exEight.sentSettings = false := by decide +kernel
example : (recvFrame exEight (exGet 17 10)).2 = [.rst 17 E.refused] := by decide +kernel
-- the same burst before the SETTINGS ack: stream 203 => GOAWAY(ENHANCE_YOUR_CALM); stream 17: windows are 0 => refused
example : (recvFrame { exEight with sentSettings := true } (exGet 203 10)).2 = [.goaway 15 E.enhanceCalm] := by decide +kernel
example : (recvFrame { exEight with sentSettings := true } (exGet 17 10)).2 = [.rst 17 E.refused] := by decide +kernel
example : (exEight.streams.any fun s => s.reqLen = (s.bodyIn : Int) && s.swin ≥ 2048 && exEight.swin ≥ 2048) = false := by decide +kernel
-- PRIORITY_UPDATE: stream 5 gets urgency 1 and moves to the front
example : ((recvFrame exEight (.priorityUpdate 0 7 5 3)).1.streams.map (·.id)) = [5, 1, 3, 7, 9, 11, 13, 15] := by decide +kernel

/-! ## octets: every split of the byte stream across reads -/

/-- **Segmentation independence of the frame reader**, for every state and every split -/
theorem c05_reader_segmentation (st : RSt) (a b : Bytes) :
    readerFeed st (a ++ b) =
      ((readerFeed (readerFeed st a).1 b).1, (readerFeed st a).2 ++ (readerFeed (readerFeed st a).1 b).2) :=
  readerFeed_append st a b

/-- ... hence for ANY two non-empty lists of read segments with the same concatenation -/
theorem c05_reader_segmentation_all (st : RSt) (x y : Bytes) (xs ys : List Bytes)
    (h : (x :: xs).flatten = (y :: ys).flatten) :
    readerFeedSegs st (x :: xs) = readerFeedSegs st (y :: ys) := by
  rw [readerFeedSegs_cons, readerFeedSegs_cons]
  simp only [List.flatten_cons] at h
  rw [h]

/-- **Round trip** for well-formed raw frames within the advertised SETTINGS_MAX_FRAME_SIZE (HEADERS
    carrying END_HEADERS; with CONTINUATION frames: `c05_reader_continuation`) -/
theorem c05_reader_roundtrip (fs : List RawFrame) (hw : ∀ f ∈ fs, WfRaw readerMaxFrame f) :
    readerFeed {} (fs.flatMap serialize) = (⟨[], false⟩, fs.map fun f => REv.frame f 0) :=
  Drains.readerFeed_eq rfl <| Drains.items serialize id (fun _ => 0) fs fun f hf rest => by
    rw [serialize_length]; exact parseOne_serialize _ (by decide) f (hw f hf) rest

/-- ... however the octets are cut -/
theorem c05_reader_roundtrip_segmented (fs : List RawFrame) (hw : ∀ f ∈ fs, WfRaw readerMaxFrame f)
    (x : Bytes) (xs : List Bytes) (h : (x :: xs).flatten = fs.flatMap serialize) :
    readerFeedSegs {} (x :: xs) = (⟨[], false⟩, fs.map fun f => REv.frame f 0) := by
  rw [readerFeedSegs_cons]
  simp only [List.flatten_cons] at h
  rw [h]
  exact c05_reader_roundtrip fs hw

/-- **CONTINUATION**: a header block cut into a HEADERS frame (no END_HEADERS, not padded) and
    CONTINUATION frames (each within the frame size limit, less than 64 KiB in all) is handed on as
    ONE HEADERS frame that carries the concatenated block and END_HEADERS -/
theorem c05_reader_continuation (sid flags : Nat) (hs : sid < 2147483648) (hfl : flags < 256)
    (h4 : flagSet flags 4 = false) (h8 : flagSet flags 8 = false)
    (p0 : Bytes) (ps : List Bytes) (hne : ps ≠ []) (hl : ∀ p ∈ p0 :: ps, p.length ≤ readerMaxFrame)
    (h64 : 9 + p0.length + ((contFrames sid ps).flatMap serialize).length < 65536) :
    readerFeed {} (serialize ⟨1, flags, sid, p0⟩ ++ (contFrames sid ps).flatMap serialize) =
      (⟨[], false⟩, [REv.frame ⟨1, flags + 4, sid, p0 ++ ps.flatten⟩ ps.length]) := by
  -- one item: the HEADERS frame with its CONTINUATION frames
  have := Drains.items (fsize := readerMaxFrame)
    (fun _ : Unit => serialize ⟨1, flags, sid, p0⟩ ++ (contFrames sid ps).flatMap serialize)
    (fun _ => ⟨1, flags + 4, sid, p0 ++ ps.flatten⟩) (fun _ => ps.length) [()] fun _ _ rest => by
      rw [parseOne_continuation readerMaxFrame sid flags (by decide) hs hfl h4 h8 p0 ps hne hl rest h64, List.length_append,
        serialize_length]
  rw [List.flatMap_singleton] at this
  exact this.readerFeed_eq rfl

/-- ... and nothing but CONTINUATION may follow a HEADERS frame without END_HEADERS: the header
    of any other frame type is a connection PROTOCOL_ERROR as soon as its 9 octets are there -/
theorem c05_reader_continuation_required
    (hh : RawFrame) (hhw : hh.ftype = 1 ∧ hh.flags < 256 ∧ hh.sid < 4294967296 ∧ hh.payload.length ≤ readerMaxFrame)
    (h4 : flagSet hh.flags 4 = false) (hdr rest : Bytes) (h9 : hdr.length = 9) (hne : (fhdr hdr).ftype ≠ 9) :
    parseOne readerMaxFrame (serialize hh ++ hdr ++ rest) = .err E.protocol 0 := by
  have hlen : (serialize hh ++ hdr ++ rest).length = 9 + hh.payload.length + 9 + rest.length := by
    simp only [List.length_append, serialize_length, h9]
  have hsn : slice (serialize hh ++ hdr ++ rest) (9 + hh.payload.length) 9 = hdr := by
    unfold slice
    rw [List.append_assoc, List.drop_left' (serialize_length hh), List.take_left' h9]
  have hfh : fhdr (slice (serialize hh ++ hdr ++ rest) 0 9) = ⟨hh.payload.length, hh.ftype, hh.flags, hh.sid⟩ := by
    rw [List.append_assoc]
    exact (congrArg fhdr (slice_hdr_at (n := 0) rfl)).trans
      (fhdr_hdr9 hh (Nat.lt_of_le_of_lt hhw.2.2.2 (by decide)) (by rw [hhw.1]; decide) hhw.2.1 hhw.2.2.1)
  refine (parseOne_headers hfh hhw.2.2.2 (by simp only; omega) hhw.1 h4).1 _ _ ?_
  rw [show contFuel = 7281 + 1 from rfl, contScan, if_neg (by simp only; omega), hsn, if_pos hne]

/-- **Oversize**: FRAME_SIZE_ERROR as soon as the 9 octets of the header are there, however little
    of the payload has arrived, and nothing after it is ever parsed -/
theorem c05_reader_oversize (st : RSt) (hdr rest : Bytes) (hb : st.buf = []) (hd : st.dead = false)
    (h9 : hdr.length = 9) (hbig : (fhdr hdr).len > Extracted.h2AdvMaxFrameSize) :
    readerFeed st (hdr ++ rest) = (⟨[], true⟩, [REv.err E.frameSize 0]) ∧
    ∀ more, readerFeed ⟨[], true⟩ more = (⟨[], true⟩, []) := by
  refine ⟨Drains.readerFeed_eq hd (.err ?_), fun more => rfl⟩
  have hs : slice (hdr ++ rest) 0 9 = hdr := by
    unfold slice; rw [List.drop_zero, List.take_left' h9]
  rw [hb, List.nil_append, parseOne, if_neg (by rw [List.length_append]; omega), hs,
    if_pos (show _ > readerMaxFrame from hbig)]

/-- **Padding** (h2_recv_data / h2_recv_headers): a Pad Length not smaller than the payload
    length is a connection PROTOCOL_ERROR; otherwise exactly the Pad Length octet and the
    padding are removed, from the request body of a DATA frame and from the block handed to HPACK -/
theorem c05_reader_padding (dec : Bytes → HdrKind) (c : H2Conn) (f : RawFrame)
    (hpad : flagSet f.flags 8 = true) (hg : ¬ c.goaway > 0) (hdead : c.dead = false) :
    -- DATA
    (f.ftype = 0 → u31 f.sid ≠ 0 → u31 f.sid ≤ c.cid →
      (be (slice f.payload 0 1) ≥ f.payload.length →
        recvFrame c (toFrameIn dec f) = sendGoaway c E.protocol) ∧
      (be (slice f.payload 0 1) < f.payload.length → ∀ s, findStrm c (u31 f.sid) = some s →
        recvFrame c (toFrameIn dec f) =
          recvDataStream c s (u31 f.sid) f.payload.length
            (f.payload.length - (1 + be (slice f.payload 0 1))) (flagSet f.flags 1))) ∧
    -- HEADERS (without PRIORITY fields)
    (f.ftype = 1 → flagSet f.flags 32 = false →
      (f.payload.length < 1 + be (slice f.payload 0 1) → u31 f.sid % 2 = 1 →
        recvFrame c (toFrameIn dec f) = sendGoaway c E.protocol) ∧
      (1 + be (slice f.payload 0 1) ≤ f.payload.length →
        toFrameIn dec f =
          .headers (u31 f.sid)
            (dec (slice f.payload 1 (f.payload.length - (1 + be (slice f.payload 0 1)))))
            (flagSet f.flags 1) none false false)) := by
  refine ⟨fun ht h0 hc => ⟨fun hge => ?_, fun hlt s hs => ?_⟩, fun ht hpr => ⟨fun hlt hodd => ?_, fun hle => ?_⟩⟩
  · have hc' : ¬ c.cid < u31 f.sid := by omega
    simp [toFrameIn, ht, hpad, recvFrame, hg, hdead, recvData, h0, hc', hge]
  · have hc' : ¬ c.cid < u31 f.sid := by omega
    have hnge : ¬ be (slice f.payload 0 1) ≥ f.payload.length := by omega
    simp [toFrameIn, ht, hpad, recvFrame, hg, hdead, recvData, h0, hc', hnge, hs]
  · have hne : ¬ u31 f.sid % 2 = 0 := by omega
    simp [toFrameIn, ht, hdrFrame, hpad, hlt, recvFrame, hg, hdead, recvHeaders, hne]
  · have hnlt : ¬ f.payload.length < 1 + be (slice f.payload 0 1) := by omega
    simp [toFrameIn, ht, hdrFrame, hpad, hpr, hnlt]

/-- **The byte-level connection refines the frame-level one**: a step fed as ANY non-empty list
    of read segments is `h2Step` on the frames (and reader errors) that the reader extracts from the
    concatenated octets -/
theorem c05_bytes_refine_frames (dec : Bytes → HdrKind) (s : BConn) (x : Bytes) (xs : List Bytes) :
    h2StepBytes dec s (x :: xs) =
      (⟨(readerFeed s.rd (x ++ xs.flatten)).1,
        (h2Step s.c ((readerFeed s.rd (x ++ xs.flatten)).2.flatMap (evFrames dec))).1⟩,
       (h2Step s.c ((readerFeed s.rd (x ++ xs.flatten)).2.flatMap (evFrames dec))).2) := by
  simp only [h2StepBytes, feedSegs_cons, feedSeg, h2Step]

/-- **Outcome independent of the read segmentation, for a step without scheduling between its
    reads** (`h2StepBytes`: all reads of the step, then the scheduler).  The real server runs the
    scheduler after every read; across reads that interleave with scheduling the outcome
    legitimately depends on timing (a stream answered in between is gone), and what holds there is
    `c05_reader_segmentation` together with the theorems over ARBITRARY step histories
    (`c05_history_legal_bytes`, `c05_concurrency_invariant_bytes`), which contain every such
    schedule: a read followed by scheduling is a step of one segment. -/
theorem c05_step_segmentation (dec : Bytes → HdrKind) (s : BConn) (x y : Bytes) (xs ys : List Bytes)
    (h : (x :: xs).flatten = (y :: ys).flatten) :
    h2StepBytes dec s (x :: xs) = h2StepBytes dec s (y :: ys) := by
  rw [c05_bytes_refine_frames, c05_bytes_refine_frames]
  simp only [List.flatten_cons] at h
  rw [h]

/-- **Concurrency over byte streams**, in whatever read segments -/
theorem c05_concurrency_invariant_bytes (dec : Bytes → HdrKind) :
    ∀ (steps : List (List Bytes)) (s : BConn),
      s.c.streams.length ≤ Extracted.h2MaxStreams →
      (steps.foldl (fun s segs => (h2StepBytes dec s segs).1) s).c.streams.length ≤ Extracted.h2MaxStreams :=
  fun steps s h => foldl_inv (fun s => s.c.streams.length ≤ Extracted.h2MaxStreams) _ steps s h
    fun s segs h => runInv_len.stepBytes dec s segs [] h

/-- **Connection errors are terminal for octets too**: once an error GOAWAY is out, a step emits
    nothing and leaves the connection in that state -/
theorem c05_conn_error_terminal_bytes (dec : Bytes → HdrKind) (s : BConn) (segs : List Bytes)
    (hg : s.c.goaway > 0) :
    (h2StepBytes dec s segs).2 = [] ∧ (h2StepBytes dec s segs).1.c.goaway > 0 :=
  (runInv_term.stepBytes dec s segs [] ⟨hg, rfl⟩).symm

/-! non-vacuity, octets -/
def exPing : Bytes := [0,0,8, 6, 0, 0,0,0,0, 1,2,3,4,5,6,7,8]
def exDec : Bytes → HdrKind := fun b => if b = [0x82] then .request 200 10 0 false false else .hpackBad
/-- HEADERS(stream 1, END_STREAM) without END_HEADERS, fragment [], + CONTINUATION(END_HEADERS) [0x82] -/
def exReq : Bytes := [0,0,0, 1, 1, 0,0,0,1] ++ [0,0,1, 9, 4, 0,0,0,1, 0x82]

example : readerFeed {} (exPing.take 5 ++ exPing.drop 5) = (⟨[], false⟩, [.frame ⟨6, 0, 0, [1,2,3,4,5,6,7,8]⟩ 0]) := by decide +kernel
example : (readerFeed {} (exPing.take 5)).1 = ⟨exPing.take 5, false⟩ := by decide +kernel
example : readerFeedSegs {} [exPing.take 1, exPing.drop 1 ++ exPing.take 12, exPing.drop 12] =
    (⟨[], false⟩, [.frame ⟨6, 0, 0, [1,2,3,4,5,6,7,8]⟩ 0, .frame ⟨6, 0, 0, [1,2,3,4,5,6,7,8]⟩ 0]) := by decide +kernel
example : WfRaw readerMaxFrame ⟨6, 0, 0, [1,2,3,4,5,6,7,8]⟩ := ⟨by decide, by decide, by decide, by decide, by decide⟩
example : serialize ⟨6, 0, 0, [1,2,3,4,5,6,7,8]⟩ = exPing := by decide +kernel
example : (fhdr [0,64,1, 0, 0, 0,0,0,1]).len > Extracted.h2AdvMaxFrameSize := by decide +kernel
example : readerFeed {} ([0,64,1, 0, 0, 0,0,0,1] ++ exPing) = (⟨[], true⟩, [.err E.frameSize 0]) := by decide +kernel
example : readerFeed {} exReq = (⟨[], false⟩, [.frame ⟨1, 5, 1, [0x82]⟩ 1]) := by decide +kernel
example : exReq = serialize ⟨1, 1, 1, []⟩ ++ (contFrames 1 [[0x82]]).flatMap serialize := by decide +kernel
example : parseOne readerMaxFrame (serialize ⟨1, 1, 1, []⟩ ++ exPing) = .err E.protocol 0 := by decide +kernel
-- padded DATA: Pad Length 9 in a 5-octet payload; Pad Length 2 in a 5-octet payload
example : flagSet 8 8 = true ∧ be (slice [9,1,2,3,4] 0 1) ≥ ([9,1,2,3,4] : Bytes).length := by decide +kernel
example : toFrameIn exDec ⟨0, 9, 1, [2,100,100,0,0]⟩ = .data 1 5 (some 2) true := by decide +kernel
example : toFrameIn exDec ⟨1, 0x0d, 1, [2,0x82,0,0]⟩ = .headers 1 (.request 200 10 0 false false) true none false false := by decide +kernel
-- a whole request arriving in three reads cut inside the frame headers
example : (h2StepBytes exDec {} [exReq.take 4, (exReq.drop 4).take 9, exReq.drop 13]).2 =
    [.headers 1 200 false, .data 1 10 false, .data 1 0 true] := by decide +kernel
example : (h2StepBytes exDec {} [exReq]).2 = [.headers 1 200 false, .data 1 10 false, .data 1 0 true] := by decide +kernel
-- after a connection error nothing is read
example : ((h2StepBytes exDec {} [[0,0,0, 9, 4, 0,0,0,1] ++ exReq]).2, (h2StepBytes exDec {} [[0,0,0, 9, 4, 0,0,0,1] ++ exReq]).1.c.dead)
    = ([.goaway 0 E.protocol], true) := by decide +kernel

end LtVerif.C05
