/-
  Model of the conditional-request evaluation (C15):
    http_etag_matches()  (src/http_etag.c)               -> `etagMatches`
    http_response_handle_cachable() (src/http-header-glue.c) -> `handleCachable`
  with http_date_if_modified_since() from Model/Date.lean.
  Header values are NUL-free byte strings.
-/
import LtVerif.Model.Date
set_option linter.unusedSimpArgs false
set_option linter.unusedVariables false
namespace LtVerif
namespace Cond
open B Date

/-- list separators skipped before an element: ' ', '\t', ',' -/
def isDelim (b : UInt8) : Bool := b = 32 || b = 9 || b = 44

/-- `*s != ','` (the NUL test is the end of the list) -/
def notComma (b : UInt8) : Bool := b != 44

/-- `*s == '\0' || *s == ' ' || *s == '\t' || *s == ','` -/
def atEnd : Bytes → Bool
  | [] => true
  | b :: _ => isDelim b

/-- optional weakness prefix `W/`: (present?, rest) -/
def stripWeak : Bytes → Bool × Bytes
  | 87 :: 47 :: t => (true, t)
  | s => (false, s)

/-- one iteration of the `while (*s)` loop of http_etag_matches() on a
    non-empty `s`: `none` = return 1, `some rest` = continue at `rest`.
    `tag` is the response ETag without its `W/` prefix. -/
def etagStep (tag : Bytes) (weakOk : Bool) (s : Bytes) : Option Bytes :=
  let (weak, s2) := stripWeak (s.dropWhile isDelim)
  if !weak || weakOk then
    if s2.head? = some 42 then                       -- '*' element
      if atEnd (s2.drop 1) then none
      else some ((s2.drop 1).dropWhile notComma)
    else if tag.isPrefixOf s2 then                   -- strncmp(s, etag, etag_sz) == 0
      if atEnd (s2.drop tag.length) then none
      else some ((s2.drop tag.length).dropWhile notComma)
    else some (s2.dropWhile notComma)
  else some (s2.dropWhile notComma)

theorem stripWeak_length_le (s : Bytes) : (stripWeak s).2.length ≤ s.length := by
  unfold stripWeak
  split <;> simp
  omega

theorem stripWeak_eq_or (s : Bytes) :
    (stripWeak s = (false, s)) ∨ (stripWeak s).2.length + 2 = s.length := by
  unfold stripWeak
  split
  · right; simp
  · left; rfl

theorem notComma_of_not_delim {b : UInt8} (h : isDelim b = false) : notComma b = true := by
  simp only [isDelim, Bool.or_eq_false_iff, decide_eq_false_iff_not] at h
  simp [notComma, h.2]

theorem dropWhile_ne_comma_lt (b : UInt8) (t : Bytes) (h : isDelim b = false) :
    ((b :: t).dropWhile notComma).length < (b :: t).length := by
  rw [List.dropWhile_cons_of_pos (notComma_of_not_delim h)]
  exact Nat.lt_succ_of_le (List.dropWhile_suffix notComma).length_le

/-- an iteration that goes on skips separators, `W/`, `n` bytes (`*`, the tag, nothing), then all up to ',' -/
theorem etagStep_some {tag : Bytes} {weakOk : Bool} {s rest : Bytes}
    (h : etagStep tag weakOk s = some rest) :
    ∃ n, rest = (((stripWeak (s.dropWhile isDelim)).2).drop n).dropWhile notComma := by
  unfold etagStep at h
  simp only at h
  split at h
  · split at h
    · split at h
      · cases h
      · cases h; exact ⟨1, rfl⟩
    · split at h
      · split at h
        · cases h
        · cases h; exact ⟨_, rfl⟩
      · cases h; exact ⟨0, rfl⟩
  · cases h; exact ⟨0, rfl⟩

theorem etagStep_lt (tag : Bytes) (weakOk : Bool) (s rest : Bytes) (hs : s ≠ [])
    (h : etagStep tag weakOk s = some rest) : rest.length < s.length := by
  obtain ⟨n, rfl⟩ := etagStep_some h
  have hle : ∀ (X : Bytes) n, ((X.drop n).dropWhile notComma).length ≤ X.length := fun X n => by
    have := (List.dropWhile_suffix notComma (l := X.drop n)).length_le
    rw [List.length_drop] at this
    omega
  cases s with
  | nil => exact absurd rfl hs
  | cons b t =>
    have h1 := hle (stripWeak ((b :: t).dropWhile isDelim)).2 n
    by_cases hb : isDelim b = true
    · -- the first byte is skipped, everything after is a suffix
      have h2 := stripWeak_length_le ((b :: t).dropWhile isDelim)
      rw [List.dropWhile_cons_of_pos hb] at h1 h2 ⊢
      have h3 := (List.dropWhile_suffix isDelim (l := t)).length_le
      rw [List.length_cons]
      omega
    · rw [List.dropWhile_cons_of_neg hb] at h1 ⊢
      rcases stripWeak_eq_or (b :: t) with e | e
      · -- nothing skipped so far: `n` bytes go, or else `b`, which is not a ','
        rw [e]
        cases n with
        | zero => exact dropWhile_ne_comma_lt b t (by simpa using hb)
        | succ n =>
          have := hle t n
          rw [List.drop_succ_cons, List.length_cons]
          omega
      · omega

/-- the `while (*s)` loop of http_etag_matches() -/
def etagLoop (tag : Bytes) (weakOk : Bool) (s : Bytes) : Bool :=
  if hs : s = [] then false
  else
    match h : etagStep tag weakOk s with
    | none => true
    | some rest => etagLoop tag weakOk rest
termination_by s.length
decreasing_by exact etagStep_lt tag weakOk s rest hs h

/-- http_etag_matches(etag, s, weak_ok): does the field value `s`
    (If-None-Match / If-Match) contain the response entity tag `etag` -/
def etagMatches (etag : Bytes) (s : Bytes) (weakOk : Bool) : Bool :=
  if s = [42] then true                    -- "*"
  else if etag = [] then false
  else
    let (weak, tag) := stripWeak etag
    if weak && !weakOk then false
    else etagLoop tag weakOk s

/-- the request as http_response_handle_cachable() sees it -/
structure CondReq where
  method : Int                      -- http_method_t: 0 GET, 1 HEAD, 2 QUERY, 3 POST, …
  hasRange : Bool                   -- a Range request header is present
  ifNoneMatch : Option Bytes
  ifModifiedSince : Option Bytes
deriving Repr, DecidableEq

inductive CondResult
  | goOn                  -- HANDLER_GO_ON: serve the representation
  | notModified           -- 304
  | preconditionFailed    -- 412
deriving Repr, DecidableEq

/-- http_response_handle_cachable(r, lmod, lmtime): `etag` and `lmod` are the
    response's ETag and Last-Modified fields, `lmtime` the modification time,
    `now` the clock (only used to resolve two-digit RFC 850 years) -/
def handleCachable (now : Int) (rq : CondReq) (etag lmod : Option Bytes) (lmtime : Int) :
    CondResult :=
  if rq.ifNoneMatch.isNone && rq.ifModifiedSince.isNone then .goOn
  else
    match rq.ifNoneMatch, etag with
    | some inm, some et =>
      if etagMatches et inm (!rq.hasRange) then
        if rq.method ≤ 2 then .notModified else .preconditionFailed
      else .goOn
    | _, _ =>
      if rq.method ≤ 2 then
        match rq.ifModifiedSince, lmod with
        | some ims, some lm =>
          if ims = lm || !ifModifiedSince now ims lmtime then .notModified else .goOn
        | _, _ => .goOn
      else .goOn

end Cond
end LtVerif
