/-
  Model of src/mod_deflate.c (zlib-only build: codings gzip / x-gzip / deflate).

    mod_deflate_choose_encoding()        -> `entries`, `acceptSet`, `chooseEncoding`
    mod_deflate_encodings_to_flags()     -> `encodingsToFlags`
    mod_deflate_handle_response_start()  -> `respStart`  (gating, Vary, ETag rewrite,
                                            304/412 on the suffixed tag, Content-Encoding,
                                            Content-Length removal, cache eligibility)
    http_header_str_contains_token()     -> `containsToken`
    mod_deflate_cache_file_name/_open/_append/_finish, handler_ctx_free()
                                         -> `cacheFileName`, `tmpFileName`, `writeLoop`,
                                            `doRequest` (cache protocol over a model of the
                                            cache directory with fault / crash schedules)

  The Accept-Encoding scanner is modelled here specification-style (split on ',', then on ';',
  then on SP / HTAB); the C pointer loop is Model/DeflateScan.lean, proved equal to it for every
  byte string (Props/C19.lean: `c19_scan_loop_refines`), and the correspondence check `h_deflate`
  (ops `ae`, `sc`) ties both to the C.

  Vary: every response that passes the gates not depending on Accept-Encoding gets
  Vary: Accept-Encoding, the identity variant included (RFC 9110 12.5.5).  The pinned tree
  tested Accept-Encoding first and left the identity variant without Vary; the C19 check
  reported that and the model describes the repaired order (/repo commit ff7efa8; reverse patch
  seeded/C19-D1).

  Weights: the scanner honours "q=0" (RFC 9110 12.4.2: weight 0 = not acceptable).  The
  pinned tree ignored all parameters (so `gzip;q=0, deflate` was answered with gzip); the C19
  check reported that (known_findings D26) and /repo commit 2a3a422 repaired the loop exactly
  as modelled here (the diff is kept as PROPOSED_FIX in tools/ltv/props/c19.py).

  zlib itself is external: the compressor is a parameter `compress : Coding → Bytes → Bytes`.

  Outside the model: deflate.max-loadavg (0), concurrent modification of the source while it
  is being compressed (reading the source is atomic with its stat), the one-second validity of
  the stat cache, other codings (brotli / zstd / bzip2 are not compiled in), libdeflate.
-/
import LtVerif.Model.Basic
namespace LtVerif.Deflate
open LtVerif B

def comma : UInt8 := 44   -- ','
def semi : UInt8 := 59    -- ';'
def dquote : UInt8 := 34  -- '"'
def dash : UInt8 := 45    -- '-'

/-! ## codings and sets of codings (HTTP_ACCEPT_ENCODING_* bits) -/

inductive Coding where
  | gzip | xgzip | deflate
deriving DecidableEq, Repr

/-- the `label` mod_deflate_choose_encoding() returns: value of Content-Encoding and the
    ETag / cache-file suffix -/
def Coding.label : Coding → Bytes
  | .gzip => [103, 122, 105, 112]                    -- "gzip"
  | .xgzip => [120, 45, 103, 122, 105, 112]          -- "x-gzip"
  | .deflate => [100, 101, 102, 108, 97, 116, 101]   -- "deflate"

structure CSet where
  gzip : Bool := false
  xgzip : Bool := false
  deflate : Bool := false
deriving DecidableEq, Repr

def CSet.mem (s : CSet) : Coding → Bool
  | .gzip => s.gzip
  | .xgzip => s.xgzip
  | .deflate => s.deflate

def CSet.insert (s : CSet) : Coding → CSet
  | .gzip => { s with gzip := true }
  | .xgzip => { s with xgzip := true }
  | .deflate => { s with deflate := true }

def CSet.inter (a b : CSet) : CSet :=
  ⟨a.gzip && b.gzip, a.xgzip && b.xgzip, a.deflate && b.deflate⟩

def CSet.isEmpty (s : CSet) : Bool := !(s.gzip || s.xgzip || s.deflate)

/-! ## Accept-Encoding scanner -/

/-- exact (case-sensitive) token match of the `switch (value - v)` / memcmp ladder -/
def codingOfToken (t : Bytes) : Option Coding :=
  if t = Coding.gzip.label then some .gzip
  else if t = Coding.xgzip.label then some .xgzip
  else if t = Coding.deflate.label then some .deflate
  else none

/-- one listed coding with the verdict of its weight parameter -/
structure Entry where
  token : Bytes
  q0 : Bool          -- some parameter of the element is "q=0", "q=0.", "q=0.0", …
deriving DecidableEq, Repr

/-- what may follow the digits of a zero weight inside one parameter -/
def q0End : Bytes → Bool
  | [] => true
  | c :: _ => c = sp || c = ht

/-- after "q=0": optional "." and zeros, then the end of the weight -/
def q0Rest : Bytes → Bool
  | [] => true
  | d :: r => if d = dot then q0End (r.dropWhile (· = 48)) else q0End (d :: r)

/-- parameter text (between ';' and the next ';' / ',' / end) is a zero weight -/
def paramIsQ0 (p : Bytes) : Bool :=
  match p.dropWhile (fun b => b = sp || b = ht) with
  | q :: e :: z :: rest => (q = 113 || q = 81) && e = 61 && z = 48 && q0Rest rest
  | _ => false

/-- whitespace (SP / HTAB) separated tokens before the first ';' are all listed; the weight
    belongs to the last one -/
def markLast : List Bytes → Bool → List Entry
  | [], _ => []
  | [t], q => [⟨t, q⟩]
  | t :: ts, q => ⟨t, false⟩ :: markLast ts q

/-- one ','-separated element of the header value -/
def parseElement (e : Bytes) : List Entry :=
  let head := e.takeWhile (· ≠ semi)
  let toks := (splitOn sp (head.map fun b => if b = ht then sp else b)).filter (· ≠ [])
  let q0 := match e.dropWhile (· ≠ semi) with
    | [] => false
    | _ :: ps => (splitOn semi ps).any paramIsQ0
  markLast toks q0

/-- the C string ends at the first NUL -/
def cstr (s : Bytes) : Bytes := s.takeWhile (· ≠ 0)

def entries (hdr : Bytes) : List Entry :=
  (splitOn comma (cstr hdr)).flatMap parseElement

def acceptStep (s : CSet) (e : Entry) : CSet :=
  if e.q0 then s else
  match codingOfToken e.token with
  | some c => s.insert c
  | none => s

/-- `accept_encoding` bit set after the scan -/
def acceptSet (hdr : Bytes) : CSet := (entries hdr).foldl acceptStep {}

/-! ## allowed encodings (deflate.allowed-encodings) -/

/-- strstr(s, pat) != NULL -/
def isInfix (pat : Bytes) : Bytes → Bool
  | [] => pat.isEmpty
  | x :: xs => pat.isPrefixOf (x :: xs) || isInfix pat xs

/-- mod_deflate_encodings_to_flags(): `none` = directive absent (built-in default
    available_encodings[]), `some []` = empty list -/
def encodingsToFlags : Option (List Bytes) → List CSet
  | none => [{ gzip := true }, { xgzip := true }, { deflate := true }]
  | some [] => [{ gzip := true, xgzip := true, deflate := true }]
  | some l => l.flatMap fun v =>
      (if isInfix Coding.gzip.label v then [({ gzip := true, xgzip := true } : CSet)] else []) ++
      (if isInfix Coding.deflate.label v then [({ deflate := true } : CSet)] else [])

/-- label priority inside one allowed entry: gzip, x-gzip, deflate -/
def pick (a : CSet) : Option Coding :=
  if a.gzip then some .gzip
  else if a.xgzip then some .xgzip
  else if a.deflate then some .deflate
  else none

/-- "select best matching encoding": first allowed entry that intersects the accept set -/
def chooseSet (allowed : List CSet) (acc : CSet) : Option Coding :=
  match allowed.find? (fun x => !(x.inter acc).isEmpty) with
  | some x => pick (x.inter acc)
  | none => none

/-- mod_deflate_choose_encoding() -/
def chooseEncoding (allowed : List CSet) (hdr : Bytes) : Option Coding :=
  chooseSet allowed (acceptSet hdr)

/-! ## header token search (Vary, Cache-Control) -/

def tokenDelim : Bytes → Bool
  | [] => true
  | c :: _ => c = sp || c = ht || c = comma || c = semi

def elemHasToken (m e : Bytes) : Bool :=
  let e' := e.dropWhile (fun b => b = sp || b = ht)
  eqIcase (e'.take m.length) m && tokenDelim (e'.drop m.length)

/-- http_header_str_contains_token() for a token `m` without ',' -/
def containsToken (s m : Bytes) : Bool := (splitOn comma s).any (elemHasToken m)

def aeName : Bytes := [65, 99, 99, 101, 112, 116, 45, 69, 110, 99, 111, 100, 105, 110, 103] -- "Accept-Encoding"
def tokPrivate : Bytes := [112, 114, 105, 118, 97, 116, 101]                                -- "private"
def tokNoStore : Bytes := [110, 111, 45, 115, 116, 111, 114, 101]                           -- "no-store"

/-! ## mod_deflate_handle_response_start() -/

inductive Method where
  | get | head | query | other
deriving DecidableEq, Repr

structure Cfg where
  mimetypes : List Bytes := []     -- [] = deflate.mimetypes unset or empty: module disabled
  allowed : List CSet := encodingsToFlags none
  minSize : Nat := 256             -- deflate.min-compress-size (bytes)
  maxSizeKB : Nat := 131072        -- deflate.max-compress-size (KB, 0 = no limit)
  cacheDir : Bool := false         -- deflate.cache-dir configured

structure Rq where
  method : Method := .get
  acceptEncoding : Option Bytes := none
  ifNoneMatch : Option Bytes := none

/-- the response as the content handler left it -/
structure Rs where
  status : Nat := 200
  finished : Bool := true          -- r->resp_body_finished
  hasTE : Bool := false            -- Transfer-Encoding response header set
  hasCE : Bool := false            -- Content-Encoding response header set
  contentType : Option Bytes := none
  etag : Option Bytes := none
  vary : Option Bytes := none
  cacheControl : Option Bytes := none
  hasCL : Bool := true
  len : Nat := 0                   -- chunkqueue_length(&r->write_queue)
  wholeFile : Bool := false        -- single non-temporary FILE_CHUNK at offset 0

inductive Verdict where
  | pass                                  -- response left alone
  | notModified                           -- 304 on the suffixed entity tag
  | precondFailed                         -- 412 (unsafe method)
  | encode (c : Coding) (cache : Bool)    -- body replaced by its coded form
deriving DecidableEq, Repr

structure RsOut where
  verdict : Verdict
  status : Nat
  etag : Option Bytes
  vary : Option Bytes
  contentEncoding : Option Bytes
  hasCL : Bool
deriving DecidableEq, Repr

/-- in-place ETag rewrite: overwrite the closing '"' with '-', append label and '"' -/
def suffixEtag (e label : Bytes) : Bytes := e.dropLast ++ dash :: label ++ [dquote]

/-- Content-Type gate: prefix match against deflate.mimetypes; without a Content-Type only
    if the first configured mimetype is "" -/
def mimeOk (mts : List Bytes) : Option Bytes → Bool
  | some ct => mts.any (·.isPrefixOf ct)
  | none => match mts with
    | m :: _ => m.isEmpty
    | [] => false

/-- what strncmp(s, _, n) looks at for a NUL-free C string s -/
def cstrTake (s : Bytes) (n : Nat) : Bytes := (s ++ [0]).take n

/-- the If-None-Match test of mod_deflate: value starts with the identity tag minus its
    closing quote, then "-", then the label (nothing after that is checked) -/
def inmMatches (etag label inm : Bytes) : Bool :=
  let n := etag.length
  cstrTake inm (n - 1) == cstrTake etag (n - 1)
    && (inm ++ [0]).getD (n - 1) 0 == dash
    && cstrTake (inm.drop n) label.length == label

def varyAdjust : Option Bytes → Bytes
  | some v => if containsToken v aeName then v else v ++ comma :: aeName
  | none => aeName

def cacheControlOk : Option Bytes → Bool
  | none => true
  | some v => !containsToken v tokPrivate && !containsToken v tokNoStore

/-- the response is one that mod_deflate would code for a suitable Accept-Encoding: every gate
    that does not look at the request's Accept-Encoding (method, state, status, existing
    Transfer-Encoding or Content-Encoding, deflate.mimetypes, min/max-compress-size) -/
def eligible (cfg : Cfg) (rq : Rq) (rs : Rs) : Bool :=
  if !rs.finished || rq.method = .head || rs.hasTE || rs.hasCE then false
  else if rs.status < 200 || rs.status = 204 || rs.status = 205 || rs.status = 304 then false
  else if cfg.mimetypes.isEmpty then false
  else if rs.len ≤ cfg.minSize then false
  else if cfg.maxSizeKB ≠ 0 && rs.len > cfg.maxSizeKB * 1024 then false
  else mimeOk cfg.mimetypes rs.contentType

/-- negotiation proper: Accept-Encoding of the request against deflate.allowed-encodings -/
def negotiate (cfg : Cfg) (rq : Rq) : Option Coding :=
  match rq.acceptEncoding with
  | none => none
  | some ae => chooseEncoding cfg.allowed ae

/-- which coding (if any) this response gets.  Does not look at If-None-Match. -/
def selectCoding (cfg : Cfg) (rq : Rq) (rs : Rs) : Option Coding :=
  if eligible cfg rq rs then negotiate cfg rq else none

/-- If-None-Match carries the coded entity tag (2xx only) -/
def inmHit (rq : Rq) (rs : Rs) (c : Coding) : Bool :=
  let etag := rs.etag.getD []          -- etaglen = 0: header absent (or blank)
  etag ≠ [] && rs.status < 300 &&
    (match rq.ifNoneMatch with
     | some inm => inmMatches etag c.label inm
     | none => false)

/-- eligible for deflate.cache-dir -/
def cacheEligible (cfg : Cfg) (rs : Rs) : Bool :=
  cfg.cacheDir && rs.vary.isNone && decide ((rs.etag.getD []).length > 2) && rs.wholeFile
    && rs.status ≠ 206 && cacheControlOk rs.cacheControl

/-- mod_deflate_handle_response_start().  Order of the C (after the repair that moved the
    Accept-Encoding tests behind the Vary adjustment): gates, Vary, negotiation, If-None-Match,
    ETag / Content-Encoding / Content-Length, cache. -/
def respStart (cfg : Cfg) (rq : Rq) (rs : Rs) : RsOut :=
  if !eligible cfg rq rs then ⟨.pass, rs.status, rs.etag, rs.vary, none, rs.hasCL⟩
  else
  let vary' := varyAdjust rs.vary
  match negotiate cfg rq with
  | none => ⟨.pass, rs.status, rs.etag, some vary', none, rs.hasCL⟩     -- identity variant
  | some c =>
    let etag := rs.etag.getD []
    if inmHit rq rs c then
      if rq.method = .other then
        ⟨.precondFailed, 412, rs.etag, some vary', none, false⟩
      else
        ⟨.notModified, 304, some (suffixEtag etag c.label), some vary', none, false⟩
    else
      let etag' := if etag ≠ [] then some (suffixEtag etag c.label) else rs.etag
      ⟨.encode c (cacheEligible cfg rs), rs.status, etag', some vary', some c.label, false⟩

/-! ## cache file names (byte level) -/

/-- buffer_copy_path_len2(): join with exactly one '/' -/
def pathJoin (a b : Bytes) : Bytes :=
  if a.getLast? = some slash then
    (if b.head? = some slash then a ++ b.drop 1 else a ++ b)
  else
    (if b.head? = some slash then a ++ b else a ++ slash :: b)

/-- mod_deflate_cache_file_name(): cache-dir "/" physical path "-" etag without its quotes
    (the etag already carries the "-label" suffix) -/
def cacheFileName (dir path etag : Bytes) : Bytes :=
  pathJoin dir path ++ dash :: (etag.drop 1).dropLast

/-- li_itostrn(): decimal digits -/
def decDigitsAux : Nat → Nat → Bytes
  | 0, n => [UInt8.ofNat (48 + n % 10)]
  | fuel + 1, n =>
    if n < 10 then [UInt8.ofNat (48 + n)] else decDigitsAux fuel (n / 10) ++ [UInt8.ofNat (48 + n % 10)]

def decDigits (n : Nat) : Bytes := decDigitsAux n n

/-- mod_deflate_cache_file_open(): final name "." decimal pid -/
def tmpFileName (fn : Bytes) (pid : Nat) : Bytes := fn ++ dot :: decDigits pid

/-- the entity tag mod_deflate sees on a coded static file: '"' digits (http_etag_create():
    decimal 32-bit hash of inode, size, mtime) '-' label '"' -/
def staticEtag (d : Bytes) (c : Coding) : Bytes := dquote :: d ++ dash :: c.label ++ [dquote]

/-! ## cache protocol over a model of the cache directory -/

abbrev Pid := Nat

/-- abstract cache key: physical path, validator of the source version (the ETag is a
    function of it), coding -/
structure Key where
  path : Nat
  validator : Nat
  coding : Coding
deriving DecidableEq, Repr

inductive Name where
  | final (k : Key)
  | tmp (k : Key) (pid : Pid)
deriving DecidableEq, Repr

/-- the file name of an object of the abstract cache directory: validator = the number in the
    entity tag (http_etag_create: decimal 32-bit hash), path through a table of physical paths -/
def nameBytes (dir : Bytes) (pathOf : Nat → Bytes) : Name → Bytes
  | .final k => cacheFileName dir (pathOf k.path) (staticEtag (decDigits k.validator) k.coding)
  | .tmp k pid => tmpFileName (cacheFileName dir (pathOf k.path) (staticEtag (decDigits k.validator) k.coding)) pid

/-- the cache directory -/
abbrev FS := List (Name × Bytes)

def fsGet : FS → Name → Option Bytes
  | [], _ => none
  | (m, b) :: r, n => if m = n then some b else fsGet r n

def fsDel (fs : FS) (n : Name) : FS := fs.filter (fun e => decide (e.1 ≠ n))

def fsSet (fs : FS) (n : Name) (b : Bytes) : FS := (n, b) :: fsDel fs n

/-- effect of write() of `data` at file offset `off` on a file holding `old`
    (the temporary file is opened O_RDWR|O_CREAT without O_TRUNC / O_APPEND) -/
def writeAt (old : Bytes) (off : Nat) (data : Bytes) : Bytes :=
  old.take off ++ data ++ old.drop (off + data.length)

/-- result of one write() call on the temporary file -/
inductive WEv where
  | wr (n : Nat)     -- short or full write: min (n+1) (bytes left) bytes are written
  | eintr            -- -1 / EINTR: retried
  | fail             -- -1 / other errno (ENOSPC, EIO, …)
  | crash            -- the process dies here
deriving DecidableEq, Repr

inductive WRes where
  | done (cur : Bytes)
  | failed (cur : Bytes)
  | crashed (cur : Bytes)
deriving DecidableEq, Repr

/-- mod_deflate_cache_file_append() over the whole compressed form `F`, under a schedule of
    write() results; once the schedule is exhausted writes succeed in full -/
def writeLoop (F : Bytes) : Bytes → Nat → List WEv → WRes
  | cur, off, [] => .done (writeAt cur off (F.drop off))
  | cur, off, ev :: evs =>
    if off ≥ F.length then .done cur
    else match ev with
      | .wr n =>
        let m := min (n + 1) (F.length - off)
        writeLoop F (writeAt cur off ((F.drop off).take m)) (off + m) evs
      | .eintr => writeLoop F cur off evs
      | .fail => .failed cur
      | .crash => .crashed cur

inductive RenEv where
  | ok | fail | crashBefore | crashAfter
deriving DecidableEq, Repr

/-- everything the environment decides during one request -/
structure Plan where
  cacheable : Bool := true     -- `respStart` said cache (and mkdir of the directories worked)
  openOk : Bool := true        -- open(tmp, O_RDWR|O_CREAT) succeeds
  writes : List WEv := []
  rename : RenEv := .ok
deriving DecidableEq, Repr

inductive Obs where
  | quiet                                  -- no response (modify / evict / unknown path)
  | served (body : Bytes) (hit : Bool)     -- 200 with this coded body
  | error                                  -- request failed, nothing served
  | crashed                                -- process died, nothing served
deriving DecidableEq, Repr

structure St where
  src : Nat → Option (Nat × Bytes) := fun _ => none    -- path ↦ (validator, content)
  fs : FS := []
  /-- stat cache of the running server process for PUBLISHED cache files: name ↦ content of the
      descriptor it holds.  Entries are trusted without a stat() until the next `tick` (one
      second, server.stat-cache-engine "simple"), so a file evicted meanwhile is still served
      from the open descriptor. -/
  sc : FS := []
  scPid : Pid := 0                                     -- the process `sc` belongs to

/-- process `pid` handles the next request: another process starts with an empty stat cache -/
def St.enter (st : St) (pid : Pid) : St :=
  if st.scPid = pid then st else { st with sc := [], scPid := pid }

/-- the process died: its stat cache is gone -/
def St.died (st : St) : St := { st with sc := [] }

def serve (compress : Coding → Bytes → Bytes) (st : St) (p : Nat) (c : Coding) (pid : Pid)
    (plan : Plan) : St × Obs :=
  match st.src p with
  | none => (st, .quiet)
  | some (v, content) =>
    let k : Key := ⟨p, v, c⟩
    let F := compress c content
    if !plan.cacheable then (st, .served F false)
    else
    match fsGet st.sc (.final k) with
    | some b => (st, .served b true)          -- stat_cache_get_entry_open(): fresh entry, no stat()
    | none =>
    match fsGet st.fs (.final k) with
    | some b =>
      if b.isEmpty then (st, .error)
      else ({ st with sc := fsSet st.sc (.final k) b }, .served b true)
    | none =>
      if !plan.openOk then (st, .served F false)
      else
        let t := Name.tmp k pid
        let old := (fsGet st.fs t).getD []
        match writeLoop F old 0 plan.writes with
        | .failed _ => ({ st with fs := fsDel st.fs t }, .error)
        | .crashed cur => ({ st with fs := fsSet st.fs t cur }.died, .crashed)
        | .done cur =>
          match plan.rename with
          | .ok => ({ st with fs := fsSet (fsDel st.fs t) (.final k) cur },
                    .served (cur.take F.length) false)
          | .fail => ({ st with fs := fsDel st.fs t }, .error)
          | .crashBefore => ({ st with fs := fsSet st.fs t cur }.died, .crashed)
          | .crashAfter => ({ st with fs := fsSet (fsDel st.fs t) (.final k) cur }.died, .crashed)

def doRequest (compress : Coding → Bytes → Bytes) (st : St) (p : Nat) (c : Coding) (pid : Pid)
    (plan : Plan) : St × Obs :=
  serve compress (st.enter pid) p c pid plan

inductive Op where
  | modify (path : Nat) (validator : Nat) (content : Bytes)   -- the source file changes (≥ 1 s after the last request)
  | request (path : Nat) (c : Coding) (pid : Pid) (plan : Plan)
  | evict (n : Name)                                          -- external cache cleanup
  | tick                                                      -- a second passes: stat cache entries are re-validated
deriving DecidableEq, Repr

def step (compress : Coding → Bytes → Bytes) (st : St) : Op → St × Obs
  | .modify p v content =>
    ({ st with src := fun q => if q = p then some (v, content) else st.src q, sc := [] }, .quiet)
  | .request p c pid plan => doRequest compress st p c pid plan
  | .evict n => ({ st with fs := fsDel st.fs n }, .quiet)
  | .tick => ({ st with sc := [] }, .quiet)

/-- trace of a history: state before each operation, the operation, its observation -/
def run (compress : Coding → Bytes → Bytes) : St → List Op → List (St × Op × Obs)
  | _, [] => []
  | st, op :: ops =>
    let r := step compress st op
    (st, op, r.2) :: run compress r.1 ops

/-- final state of a history -/
def exec (compress : Coding → Bytes → Bytes) : St → List Op → St
  | st, [] => st
  | st, op :: ops => exec compress (step compress st op).1 ops

end LtVerif.Deflate
