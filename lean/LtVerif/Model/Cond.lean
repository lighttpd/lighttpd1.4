/-
  Model of conditional configuration (src/configfile-glue.c, src/configfile.c,
  src/h2.c h2_init_stream):

    data_config tree                       -> `Node`, `Tree`   (index = context_ndx)
    config_check_cond_nocache_eval()       -> `evalLocal`      (local comparison)
    config_check_cond{,_cached,_nocache}() -> `check`          (parent / else-chain
                                                                 dependencies + cache)
    config_cond_clear_node()               -> `clearNode`
    config_cond_cache_reset_item()         -> `resetItem`
    config_cond_cache_reset()              -> `Cache.empty`
    h2_init_stream() cache copy            -> `Op.spawn`
    config_patch_config() / mod_*_patch_config() -> `patch`

  The model follows the C control flow (it is not a specification): `check`
  threads the cache through the recursive calls exactly as the C does,
  `clearNode` prunes its walk at entries that are already unset.  The
  specification (`Applies`, `spec`) lives in Proofs/CondSpec.lean.

  External: PCRE2 is replaced by a small backtracking matcher `Regex` for the
  regular-expression subset the correspondence generator uses.
-/
import LtVerif.Model.Basic
import LtVerif.Model.SockAddr
namespace LtVerif.Cond
open LtVerif B

/-- cond_result_t -/
inductive Res where
  | unset | skip | false_ | true_
deriving DecidableEq, Repr, Inhabited

def Res.toNat : Res → Nat
  | .unset => 0 | .skip => 1 | .false_ => 2 | .true_ => 3

def Res.ofBool (b : Bool) : Res := if b then .true_ else .false_

/-- comp_key_t (the fields a condition can test) -/
inductive Comp where
  | unset | socket | url | host | remoteIp | query | scheme | method | header
deriving DecidableEq, Repr, Inhabited

/-- config_cond_t -/
inductive CondOp where
  | unset | eq | ne | match_ | nomatch | prefix_ | suffix | else_
deriving DecidableEq, Repr, Inhabited

/-! ### regular expressions (stand-in for PCRE2, subset) -/

inductive Atom where
  | lit (c : UInt8)
  | any
  | cls (neg : Bool) (cs : List UInt8)
deriving DecidableEq, Repr

def Atom.ok : Atom → UInt8 → Bool
  | .lit c, x => x == c
  | .any, x => x != 10
  | .cls neg cs, x => (cs.contains x) != neg

inductive Quant where
  | one | star | plus | opt
deriving DecidableEq, Repr

structure Regex where
  bol : Bool                       -- leading '^'
  items : List (Atom × Quant)
  eol : Bool                       -- trailing '$'
deriving DecidableEq, Repr

def starLoop (ok : UInt8 → Bool) (k : Bytes → Bool) : Bytes → Bool
  | [] => k []
  | c :: s => k (c :: s) || (ok c && starLoop ok k s)

def matchHere : List (Atom × Quant) → Bool → Bytes → Bool
  | [], eol, s => !eol || s.isEmpty
  | (a, .one) :: r, eol, s =>
    match s with
    | c :: s' => a.ok c && matchHere r eol s'
    | [] => false
  | (a, .star) :: r, eol, s => starLoop a.ok (matchHere r eol) s
  | (a, .plus) :: r, eol, s =>
    match s with
    | c :: s' => a.ok c && starLoop a.ok (matchHere r eol) s'
    | [] => false
  | (a, .opt) :: r, eol, s =>
    matchHere r eol s ||
    (match s with
     | c :: s' => a.ok c && matchHere r eol s'
     | [] => false)

def anyTail (p : Bytes → Bool) : Bytes → Bool
  | [] => p []
  | c :: s => p (c :: s) || anyTail p s

def Regex.matches (re : Regex) (s : Bytes) : Bool :=
  if re.bol then matchHere re.items re.eol s else anyTail (matchHere re.items re.eol) s

/-! ### condition tree -/

/-- one data_config (a conditional block); index in the tree = context_ndx -/
structure Node where
  parent : Nat := 0                 -- dc->parent->context_ndx (0 = global scope)
  prev : Option Nat := none         -- dc->prev (earlier branch of the if/else chain)
  next : Option Nat := none         -- dc->next
  children : List Nat := []         -- dc->children
  comp : Comp := .unset
  tag : Bytes := []                 -- header name (lower case) for request-header conditions
  cond : CondOp := .unset
  str : Bytes := []                 -- dc->string
  cidr : Option (SockAddr × Nat) := none   -- parsed address + mask bits stored after dc->string
  re : Option Regex := none         -- compiled dc->string for =~ / !~
  sets : List (Nat × Nat) := []     -- directives assigned in this block: (directive id, value id)
deriving Repr, Inhabited

abbrev Tree := List Node

def Tree.node (t : Tree) (i : Nat) : Node := t.getD i default

/-! ### request attributes -/

structure Env where
  socket : Bytes := []
  url : Bytes := []
  host : Bytes := []
  query : Bytes := []
  scheme : Bytes := []
  method : Bytes := []
  ipStr : Bytes := []               -- r->dst_addr_buf
  addr : SockAddr := .other         -- r->dst_addr
  headers : List (Bytes × Bytes) := []   -- (lower-cased name, value)
deriving Repr, Inhabited

inductive AttrVal where
  | str (b : Bytes)
  | ip (a : SockAddr) (s : Bytes)
  | hdr (name : Bytes) (v : Bytes)
deriving Repr, Inhabited

def setHeader (hs : List (Bytes × Bytes)) (n v : Bytes) : List (Bytes × Bytes) :=
  (n, v) :: hs.filter (fun p => p.1 != n)

def getHeader (hs : List (Bytes × Bytes)) (n : Bytes) : Bytes :=
  match hs.find? (fun p => p.1 == n) with
  | some p => p.2
  | none => []

/-- change the attribute tested by conditions on `c` (nothing else) -/
def Env.set (e : Env) (c : Comp) (v : AttrVal) : Env :=
  match c, v with
  | .socket, .str b => { e with socket := b }
  | .url, .str b => { e with url := b }
  | .host, .str b => { e with host := b }
  | .query, .str b => { e with query := b }
  | .scheme, .str b => { e with scheme := b }
  | .method, .str b => { e with method := b }
  | .remoteIp, .ip a s => { e with addr := a, ipStr := s }
  | .header, .hdr n x => { e with headers := setHeader e.headers n x }
  | _, _ => e

/-- the attributes a request_st reaches through r->con (the same for every stream of the
    connection): listening socket and peer address; all request-level fields empty -/
def Env.connLevel (e : Env) : Env := { socket := e.socket, addr := e.addr, ipStr := e.ipStr }

/-- the buffer `l` config_check_cond_nocache_eval() compares
    (NULL and empty buffers are both compared as "") -/
def attr (nd : Node) (e : Env) : Bytes :=
  match nd.comp with
  | .host => e.host
  | .remoteIp => e.ipStr
  | .scheme => e.scheme
  | .url => e.url
  | .query => e.query
  | .socket => e.socket
  | .header => getHeader e.headers nd.tag
  | .method => e.method
  | .unset => []

/-- `$HTTP["host"] == "name[:port]"` when the lengths differ: names match whether
    or not a :port suffix is present on either side -/
def hostPort (l d : Bytes) : Bool :=
  if l.length > d.length then
    l.getD d.length 0 == colon && l.length - d.length ≤ 6 && l.take d.length == d
  else
    d.getD l.length 0 == colon && d.take l.length == l

/-- the `==` comparison (CONFIG_COND_EQ; CONFIG_COND_NE is its negation) -/
def eqLike (nd : Node) (e : Env) : Bool :=
  let l := attr nd e
  if nd.comp = .host ∧ nd.str.head? ≠ some slash ∧ l ≠ [] ∧ l.length ≠ nd.str.length then
    hostPort l nd.str
  else if nd.comp = .remoteIp ∧ nd.str.head? ≠ some slash then
    match nd.cidr with
    | some (a, bits) => if bits ≠ 0 then a.addrEqBits e.addr bits else a.addrEq e.addr
    | none => false
  else l == nd.str

/-- does the block's own condition hold for this request?
    (config_check_cond_nocache(): ELSE is true if reached;
     config_check_cond_nocache_eval(): everything else) -/
def evalLocal (nd : Node) (e : Env) : Bool :=
  if nd.cond = .else_ then true
  else if nd.comp = .unset then false
  else
    match nd.cond with
    | .eq => eqLike nd e
    | .ne => !eqLike nd e
    | .match_ => (match nd.re with | some re => re.matches (attr nd e) | none => false)
    | .nomatch => !(match nd.re with | some re => re.matches (attr nd e) | none => false)
    | .prefix_ => nd.str.isPrefixOf (attr nd e)
    | .suffix => nd.str.isSuffixOf (attr nd e)
    | .else_ => true
    | .unset => false

/-! ### the per-request cache -/

/-- one column of r->cond_cache[] (indexed by context_ndx) -/
abbrev Col := List Res

def colGet (l : Col) (i : Nat) : Res := l.getD i .unset
def colSet (l : Col) (i : Nat) (v : Res) : Col := l.set i v

/-- r->cond_cache[]: `res` = cond_cache_t.result, `loc` = cond_cache_t.local_result -/
structure Cache where
  res : Col
  loc : Col
deriving Repr, Inhabited

/-- config_cond_cache_reset(): memset 0 over `used` entries -/
def Cache.empty (n : Nat) : Cache := ⟨List.replicate n .unset, List.replicate n .unset⟩

def Cache.setRes (c : Cache) (i : Nat) (v : Res) : Cache := { c with res := colSet c.res i v }
def Cache.setLoc (c : Cache) (i : Nat) (v : Res) : Cache := { c with loc := colSet c.loc i v }

/-- the tail of config_check_cond_nocache() once parent and prev allow the block:
    field available?  remembered local result?  else evaluate and remember it -/
def localStep (valid : Comp → Bool) (nd : Node) (e : Env) (i : Nat) (c : Cache) : Res × Cache :=
  if !valid nd.comp then (.unset, c)
  else
    match colGet c.loc i with
    | .true_ => (.true_, c.setRes i .true_)
    | .false_ => (.false_, c.setRes i .false_)
    | _ =>
      let r := Res.ofBool (evalLocal nd e)
      (r, (c.setLoc i r).setRes i r)

/-- "check parent first": a nested block needs its (non-global) parent's result -/
def parentStep (rec : Nat → Cache → Res × Cache) (nd : Node) (c : Cache) : Res × Cache :=
  if nd.parent ≠ 0 then rec nd.parent c else (.true_, c)

/-- "make sure prev is checked first": an else branch needs the previous branch's result -/
def prevStep (rec : Nat → Cache → Res × Cache) (nd : Node) (c : Cache) : Res × Cache :=
  match nd.prev with
  | some k => rec k c
  | none => (.false_, c)

/-- an else branch runs only if the previous branch evaluated to false
    (not unset / skipped / true) -/
def afterPrev (valid : Comp → Bool) (nd : Node) (e : Env) (i : Nat) (q : Res × Cache) : Res × Cache :=
  match q.1 with
  | .unset => (.unset, q.2)
  | .skip => (.skip, q.2.setRes i .skip)
  | .true_ => (.skip, q.2.setRes i .skip)
  | .false_ => localStep valid nd e i q.2

/-- config_check_cond_cached() / config_check_cond() with config_check_cond_nocache()
    inlined.  `valid c` = bit `c` of r->conditional_is_valid.  The first argument is
    recursion fuel (parent and prev always have smaller indices; `t.length` suffices). -/
def check (t : Tree) (e : Env) (valid : Comp → Bool) : Nat → Nat → Cache → Res × Cache
  | 0, _, c => (.unset, c)
  | f + 1, i, c =>
    if colGet c.res i ≠ .unset then (colGet c.res i, c)
    else
      let nd := t.node i
      let p := parentStep (check t e valid f) nd c
      match p.1 with
      | .unset => (.unset, p.2)                 -- decide later
      | .skip => (.skip, p.2.setRes i .skip)    -- failed precondition
      | .false_ => (.skip, p.2.setRes i .skip)
      | .true_ => afterPrev valid nd e i (prevStep (check t e valid f) nd p.2)

/-- config_cond_clear_node().  `always = true` is the code as it is now: the
    else-chain (`dc->next`) is walked even if this node is already unset.
    `always = false` is the walk before fix f0e74a5 (kept to state the
    counterexample in Props/C14.lean). -/
def clearNode (always : Bool) (t : Tree) : Nat → Nat → Col → Col
  | 0, _, res => res
  | f + 1, i, res =>
    let nd := t.node i
    if colGet res i ≠ .unset then
      let res1 := colSet res i .unset
      let res2 := (nd.children.filter fun ch => (t.node ch).prev.isNone).foldl
        (fun r ch => clearNode always t f ch r) res1
      match nd.next with
      | some k => clearNode always t f k res2
      | none => res2
    else if always then
      match nd.next with
      | some k => clearNode always t f k res
      | none => res
    else res

/-- config_cond_cache_reset_item() -/
def resetItem (always : Bool) (t : Tree) (a : Comp) (c : Cache) : Cache :=
  (List.range t.length).foldl
    (fun c i =>
      if (t.node i).comp = a then
        { res := clearNode always t t.length i c.res, loc := colSet c.loc i .unset }
      else c) c

/-! ### directive merge -/

/-- value a module's patch_config() ends up with for each of its directives:
    defaults, then every block in file order whose condition holds -/
def mergeSets (conf : Nat → Nat) (sets : List (Nat × Nat)) : Nat → Nat :=
  sets.foldl (fun cf (kv : Nat × Nat) => fun d => if d = kv.1 then kv.2 else cf d) conf

/-- directives of block `nd` that belong to the module whose directive ids are `dirs` -/
def ownSets (dirs : List Nat) (nd : Node) : List (Nat × Nat) :=
  nd.sets.filter fun kv => dirs.contains kv.1

/-- config_patch_config() / mod_*_patch_config(): the module's cvlist holds the
    contexts (in file order) that assign at least one of its directives; context 0
    (global) gives the defaults. -/
def patchLoop (t : Tree) (e : Env) (valid : Comp → Bool) (dirs : List Nat) :
    List Nat → (Nat → Nat) × Cache → (Nat → Nat) × Cache
  | [], acc => acc
  | i :: is, (conf, c) =>
    let own := ownSets dirs (t.node i)
    if own.isEmpty then patchLoop t e valid dirs is (conf, c)
    else
      let (r, c') := check t e valid t.length i c
      patchLoop t e valid dirs is (if r = .true_ then mergeSets conf own else conf, c')

def patch (t : Tree) (e : Env) (valid : Comp → Bool) (dirs : List Nat) (c : Cache) :
    (Nat → Nat) × Cache :=
  let defaults := mergeSets (fun _ => 0) (ownSets dirs (t.node 0))
  patchLoop t e valid dirs ((List.range t.length).drop 1) (defaults, c)

/-! ### requests on one connection -/

/-- the condition-related state of one request_st -/
structure Req where
  env : Env
  valid : Comp → Bool
  cache : Cache

instance : Inhabited Req := ⟨⟨default, fun _ => false, Cache.empty 0⟩⟩

/-- a fresh request_st (request_init_data(): calloc'ed cache, no field valid yet) -/
def Req.fresh (n : Nat) : Req := ⟨default, fun _ => false, Cache.empty n⟩

inductive Op where
  | check (s i : Nat)                              -- config_check_cond(r, i)
  | setAttr (s : Nat) (c : Comp) (v : AttrVal)     -- rewrite attribute + config_cond_cache_reset_item
  | resetAll (s : Nat)                             -- config_cond_cache_reset
  | setValid (s : Nat) (valid : List Comp)         -- r->conditional_is_valid = …
  | newReq (s : Nat) (sets : List (Comp × AttrVal)) (valid : List Comp)
      -- next request on the connection: new attributes, then http_response_config()'s full reset
  | spawn                                          -- h2_init_stream(): new request_st, cache + valid bits of request 0
  | patch (s : Nat) (dirs : List Nat)              -- a module's patch_config()

/-- what an operation lets the caller observe -/
inductive Obs where
  | none
  | result (s i : Nat) (r : Res)
  | conf (s : Nat) (dirs : List Nat) (conf : Nat → Nat)

def applySets (e : Env) (sets : List (Comp × AttrVal)) : Env :=
  sets.foldl (fun e (cv : Comp × AttrVal) => e.set cv.1 cv.2) e

def validOf (l : List Comp) : Comp → Bool := fun c => l.contains c

def step (always : Bool) (t : Tree) (st : List Req) : Op → List Req × Obs
  | .check s i =>
    match st[s]? with
    | none => (st, .none)
    | some rq =>
      if i < t.length then     -- callers pass indices of existing contexts only
        let rc := check t rq.env rq.valid t.length i rq.cache
        (st.set s { rq with cache := rc.2 }, .result s i rc.1)
      else (st, .none)
  | .setAttr s a v =>
    match st[s]? with
    | none => (st, .none)
    | some rq =>
      (st.set s { rq with env := rq.env.set a v, cache := resetItem always t a rq.cache }, .none)
  | .resetAll s =>
    match st[s]? with
    | none => (st, .none)
    | some rq => (st.set s { rq with cache := Cache.empty t.length }, .none)
  | .setValid s v =>
    match st[s]? with
    | none => (st, .none)
    | some rq => (st.set s { rq with valid := validOf v }, .none)
  | .newReq s sets v =>
    match st[s]? with
    | none => (st, .none)
    | some rq =>
      (st.set s { env := applySets rq.env sets, valid := validOf v, cache := Cache.empty t.length }, .none)
  | .spawn =>
    -- h2_init_stream(): conditional_is_valid and cond_cache are copied from the
    -- connection's request; the stream's own request attributes are still empty, only
    -- what it reaches through r->con (socket, peer address) is shared
    match st[0]? with
    | none => (st, .none)
    | some rq => (st ++ [{ rq with env := rq.env.connLevel }], .none)
  | .patch s dirs =>
    match st[s]? with
    | none => (st, .none)
    | some rq =>
      let pc := patch t rq.env rq.valid dirs rq.cache
      (st.set s { rq with cache := pc.2 }, .conf s dirs pc.1)

/-- run a whole operation sequence, collecting the observations together with the
    state they were made in (the theorems relate each observation to the attributes
    the request had at that moment) -/
def run (always : Bool) (t : Tree) : List Req → List Op → List (List Req × Obs)
  | _, [] => []
  | st, op :: ops =>
    let (st', o) := step always t st op
    (st', o) :: run always t st' ops

/-! ### derived links (what configparser.y sets up from parent / prev) -/

/-- fill in `next` and `children` from `parent` / `prev` -/
def link (t : Tree) : Tree :=
  let n := t.length
  (List.range n).map fun i =>
    let nd := t.node i
    { nd with
      next := (List.range n).find? (fun j => (t.node j).prev == some i),
      children := (List.range n).filter (fun j => decide (1 ≤ j) && (t.node j).parent == i) }

end LtVerif.Cond
