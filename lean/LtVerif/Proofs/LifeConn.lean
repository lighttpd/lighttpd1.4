/-
  One HTTP/1.x connection of the connection-lifetime model (C13): h1_check_timeout() and the sweep at
  rest, runs without client progress, the case principles `respond_cases`, `bodyStep_ind`, `recv_ind`,
  that every transition leads from rest to rest, graceful maintenance.
-/
import LtVerif.Model.Lifecycle
namespace LtVerif.Lifecycle
open LtVerif.Extracted

/-! ## the timeout checks -/

theorem checkTimeoutH1_eq (v : H1View) (now : Int) :
    checkTimeoutH1 v now =
      if v.st = .close then (decide (now - v.cts > lingerTimeoutH1), .close)
      else if v.inEv = true ∧ now - v.rts > (if v.n ≠ 1 ∧ v.st = .read then v.kaIdle else v.ri) then (true, .error)
      else if v.h1 = true ∧ v.st = .write ∧ v.wts ≠ 0 ∧ now - v.wts > v.wi then (true, .error)
      else (false, v.st) := by
  unfold checkTimeoutH1
  generalize (if v.n ≠ 1 ∧ v.st = .read then v.kaIdle else v.ri) = idle
  -- the first block decides alone unless it leaves the state as it is
  by_cases h1 : v.st = .close
  · simp [h1]
  · by_cases h2 : v.inEv = true ∧ now - v.rts > idle
    · simp [h1, h2.1, h2.2]
    · have : (if v.inEv = true then (if now - v.rts > idle then (true, CState.error) else (false, v.st))
          else (false, v.st)) = (false, v.st) := by
        by_cases hi : v.inEv = true
        · have : ¬ now - v.rts > idle := fun h => h2 ⟨hi, h⟩
          simp [hi, this]
        · simp [hi]
      simp only [h1, if_false, this, h2]
      by_cases ha : v.h1 = true ∧ v.st = .write ∧ v.wts ≠ 0
      · by_cases hb : now - v.wts > v.wi
        · rw [if_pos ha, if_pos hb, if_pos ⟨ha.1, ha.2.1, ha.2.2, hb⟩]
        · rw [if_pos ha, if_neg hb, if_neg (fun h => hb h.2.2.2)]
      · rw [if_neg ha, if_neg (fun h => ha ⟨h.1, h.2.1, h.2.2.1⟩)]

theorem ite_fst_true (p : Prop) [Decidable p] (a b : CState) :
    (if p then (true, a) else (false, b)).1 = true ↔ p := by
  split <;> simp [*]

theorem tick_changed_iff (cfg : Cfg) (now : Int) (c : Conn) (hr : c.Rest) :
    (checkTimeoutH1 (c.view cfg) now).1 = true ↔ c.deadline cfg < now := by
  rw [checkTimeoutH1_eq]
  unfold Conn.Rest at hr
  unfold Conn.deadline Conn.view
  rcases hr with ⟨hs, hi⟩ | ⟨hs, hi⟩ | ⟨hs, hi, hw⟩ | hs
  · by_cases hn : c.n = 1 <;> simp [hs, hi, hn, ite_fst_true] <;> omega  -- read: max-read-idle / keep-alive-idle
  · simp [hs, hi, ite_fst_true]; omega  -- readPost
  · simp [hs, hi, hw, ite_fst_true]; omega  -- write
  · simp [hs]; omega  -- close: linger

theorem tickConn_before (cfg : Cfg) (now : Int) (c : Conn) (hr : c.Rest)
    (h : now ≤ c.deadline cfg) : tickConn cfg now c = some c := by
  have : ¬ (checkTimeoutH1 (c.view cfg) now).1 = true := fun hh => by
    have := (tick_changed_iff cfg now c hr).mp hh; omega
  simp [tickConn, this]

theorem tickConn_after (cfg : Cfg) (now : Int) (c : Conn) (hr : c.Rest)
    (h : c.deadline cfg < now) :
    tickConn cfg now c = if c.st = .close then none else toClose now c := by
  have := (tick_changed_iff cfg now c hr).mpr h
  simp [tickConn, this]

/-! ## runs of idle events -/

theorem runIdle_none (cfg : Cfg) (es : List IdleEv) : runIdle cfg none es = none := by
  cases es <;> rfl

theorem runIdle_nil (cfg : Cfg) (oc : Option Conn) : runIdle cfg oc [] = oc := by
  cases oc <;> rfl

theorem runIdle_append (cfg : Cfg) (oc : Option Conn) (l1 l2 : List IdleEv) :
    runIdle cfg oc (l1 ++ l2) = runIdle cfg (runIdle cfg oc l1) l2 := by
  induction l1 generalizing oc with
  | nil => cases oc <;> simp [runIdle, runIdle_none]
  | cons e es ih => cases oc <;> simp [runIdle, runIdle_none, ih]

theorem runIdle_induct (cfg : Cfg) (P : Option Conn → Prop) (es : List IdleEv) (oc : Option Conn)
    (hs : ∀ c e, e ∈ es → P (some c) → P (idleStep cfg c e)) (h : P oc) : P (runIdle cfg oc es) := by
  induction es generalizing oc with
  | nil => cases oc <;> exact h
  | cons e es ih =>
    cases oc with
    | none => exact h
    | some c => exact ih _ (fun c e he => hs c e (List.mem_cons_of_mem _ he)) (hs c e List.mem_cons_self h)

theorem runIdle_none_of (cfg : Cfg) (oc : Option Conn) (es : List IdleEv) (h : oc = none) :
    runIdle cfg oc es = none := by rw [h, runIdle_none]

theorem toClose_cases (now : Int) (c : Conn) :
    toClose now c = none ∨ ∃ c', toClose now c = some c' ∧ c'.st = .close ∧ c'.cts = now := by
  unfold toClose
  split
  · exact Or.inl rfl
  · exact Or.inr ⟨_, rfl, rfl, rfl⟩

/-- a connection that is lingering since `a` at the latest (or already gone) -/
def ClosedBy (a : Int) (oc : Option Conn) : Prop :=
  ∀ c, oc = some c → c.st = .close ∧ c.cts ≤ a

/-- before the decisive sweep: still at rest with the original deadline, or already lingering -/
def Waiting (cfg : Cfg) (d0 a : Int) (oc : Option Conn) : Prop :=
  ∀ c, oc = some c → c.Rest ∧ ((c.st ≠ .close ∧ c.deadline cfg = d0) ∨ (c.st = .close ∧ c.cts ≤ a))

theorem tickConn_closedBy (cfg : Cfg) (t : Int) (c : Conn) (hr : c.Rest) (h : c.deadline cfg < t) :
    ClosedBy t (tickConn cfg t c) := by
  rw [tickConn_after cfg t c hr h]
  split
  · intro c' hc'; cases hc'
  · rcases toClose_cases t c with h' | ⟨c', h', hs', hc'⟩
    · rw [h']; intro c'' hc''; cases hc''
    · rw [h']; intro c'' hc''; cases hc''; exact ⟨hs', Int.le_of_eq hc'⟩

theorem ClosedBy.waiting {cfg : Cfg} {d0 a t : Int} {oc : Option Conn} (h : ClosedBy t oc) (hta : t ≤ a) :
    Waiting cfg d0 a oc := fun c hc =>
  have ⟨hs, hc'⟩ := h c hc
  ⟨Or.inr (Or.inr (Or.inr hs)), Or.inr ⟨hs, by omega⟩⟩

theorem gracefulConn_cases (e : Bool) (c : Conn) :
    gracefulConn e c = none ∨ (gracefulConn e c = some { c with keepAlive := false } ∧ c.st ≠ .close) := by
  unfold gracefulConn
  by_cases h1 : c.st = .close
  · simp [h1]
  · by_cases h2 : c.st = .read ∧ c.n > 1 ∧ c.hdrBuf = 0
    · simp [h2]
    · cases e <;> simp [h1, h2]

theorem closedBy_step (cfg : Cfg) (a : Int) (c : Conn) (e : IdleEv) (h : ClosedBy a (some c)) :
    ClosedBy a (idleStep cfg c e) := by
  have ⟨hs, hc⟩ := h c rfl
  cases e with
  | tick t =>
    have hr : c.Rest := Or.inr (Or.inr (Or.inr hs))
    by_cases hlt : t ≤ c.deadline cfg
    · simp only [idleStep, tickConn_before cfg t c hr hlt]; exact h
    · simp only [idleStep, tickConn_after cfg t c hr (by omega), if_pos hs]
      intro c' hc'; cases hc'
  | wake => exact h
  | graceful ex =>
    rcases gracefulConn_cases ex c with h' | ⟨_, h'⟩
    · simp only [idleStep, h']; intro c' hc'; cases hc'
    · exact absurd hs h'

theorem closedBy_run (cfg : Cfg) (a : Int) (oc : Option Conn) (es : List IdleEv) (h : ClosedBy a oc) :
    ClosedBy a (runIdle cfg oc es) :=
  runIdle_induct cfg (ClosedBy a) es oc (fun c e _ => closedBy_step cfg a c e) h

theorem waiting_step (cfg : Cfg) (d0 a : Int) (c : Conn) (e : IdleEv)
    (he : ∀ t, e = .tick t → t ≤ a) (h : Waiting cfg d0 a (some c)) :
    Waiting cfg d0 a (idleStep cfg c e) := by
  have ⟨hr, hd⟩ := h c rfl
  cases e with
  | wake => exact h
  | graceful ex =>
    rcases gracefulConn_cases ex c with h' | ⟨h', hn⟩
    · simp only [idleStep, h']; intro c' hc'; cases hc'
    · simp only [idleStep, h']
      intro c' hc'
      cases hc'
      rcases hd with ⟨_, hd⟩ | ⟨hs, _⟩
      · refine ⟨?_, Or.inl ⟨hn, ?_⟩⟩
        · simpa [Conn.Rest] using hr
        · simpa [Conn.deadline] using hd
      · exact absurd hs hn
  | tick t =>
    by_cases hlt : t ≤ c.deadline cfg
    · simp only [idleStep, tickConn_before cfg t c hr hlt]; exact h
    · exact (tickConn_closedBy cfg t c hr (by omega)).waiting (he t rfl)

theorem waiting_run (cfg : Cfg) (d0 a : Int) (oc : Option Conn) (es : List IdleEv)
    (he : ∀ t, IdleEv.tick t ∈ es → t ≤ a) (h : Waiting cfg d0 a oc) :
    Waiting cfg d0 a (runIdle cfg oc es) :=
  runIdle_induct cfg (Waiting cfg d0 a) es oc
    (fun c e hm => waiting_step cfg d0 a c e fun t ht => he t (ht ▸ hm)) h

theorem waiting_tick (cfg : Cfg) (d0 a : Int) (oc : Option Conn) (ha : d0 < a)
    (h : Waiting cfg d0 a oc) : ClosedBy a (runIdle cfg oc [.tick a]) := by
  cases oc with
  | none => intro c hc; simp [runIdle] at hc
  | some c =>
    have ⟨hr, hd⟩ := h c rfl
    show ClosedBy a (runIdle cfg (tickConn cfg a c) [])
    rw [runIdle_nil]
    by_cases hlt : a ≤ c.deadline cfg
    · rcases hd with ⟨_, hd⟩ | ⟨hs, hc⟩
      · omega
      · rw [tickConn_before cfg a c hr hlt]; intro c' hc'; cases hc'; exact ⟨hs, hc⟩
    · exact tickConn_closedBy cfg a c hr (by omega)

theorem closedBy_tick (cfg : Cfg) (a b : Int) (oc : Option Conn) (hb : a + lingerTimeoutH1 < b)
    (h : ClosedBy a oc) : runIdle cfg oc [.tick b] = none := by
  cases oc with
  | none => rfl
  | some c =>
    have ⟨hs, hc⟩ := h c rfl
    have hr : c.Rest := Or.inr (Or.inr (Or.inr hs))
    have hd : c.deadline cfg < b := by simp only [Conn.deadline, hs]; omega
    simp [runIdle, idleStep, tickConn_after cfg b c hr hd, hs]

theorem idle_fin_sent (cfg : Cfg) (c : Conn) (hr : c.Rest) (e1 : List IdleEv) (a : Int)
    (hmono : ∀ t, IdleEv.tick t ∈ e1 → t ≤ a) (ha : c.deadline cfg < a) :
    ClosedBy a (runIdle cfg (some c) (e1 ++ [.tick a])) := by
  have hw : Waiting cfg (c.deadline cfg) a (some c) := by
    intro c0 h0
    cases h0
    refine ⟨hr, ?_⟩
    by_cases hs : c.st = .close
    · refine Or.inr ⟨hs, ?_⟩
      simp only [Conn.deadline, hs] at ha
      have : (0 : Int) ≤ lingerTimeoutH1 := by decide
      omega
    · exact Or.inl ⟨hs, rfl⟩
  rw [runIdle_append]
  exact waiting_tick cfg _ a _ ha (waiting_run cfg _ a _ e1 hmono hw)

theorem idle_closed (cfg : Cfg) (c : Conn) (hr : c.Rest) (e1 e2 e3 : List IdleEv) (a b : Int)
    (hmono : ∀ t, IdleEv.tick t ∈ e1 → t ≤ a)
    (ha : c.deadline cfg < a) (hb : a + lingerTimeoutH1 < b) :
    runIdle cfg (some c) (e1 ++ [.tick a] ++ e2 ++ [.tick b] ++ e3) = none := by
  rw [runIdle_append, runIdle_append, runIdle_append,
    closedBy_tick cfg a b _ hb (closedBy_run cfg a _ e2 (idle_fin_sent cfg c hr e1 a hmono ha)), runIdle_none]

/-! ## what respond, bodyStep, recv can lead to -/

theorem respond_cases (cfg : Cfg) (now : Int) (c : Conn) (st : Nat) (big comp ka : Bool) :
    (respond cfg now c st big comp ka).2 = [st] ∧
    ∀ c', (respond cfg now c st big comp ka).1 = some c' →
      (big = true ∧ c'.st = .write ∧ c'.inEv = false ∧ c'.wts = now) ∨
      (ka = true ∧ c'.st = .read ∧ c'.inEv = true ∧ c'.hdrBuf = 0) ∨
      (c'.st = .close ∧ c'.bodyGot = c.bodyGot) := by
  unfold respond finishResponse toClose
  simp only
  refine ⟨by split <;> rfl, fun c' h => ?_⟩
  split at h
  · rename_i hb
    cases h
    exact Or.inl ⟨hb, rfl, rfl, rfl⟩
  · split at h
    · rename_i hk
      cases h
      simp only [Bool.and_eq_true] at hk
      exact Or.inr (Or.inl ⟨hk.1.1.1, rfl, rfl, rfl⟩)
    · split at h
      · cases h
      · cases h; exact Or.inr (Or.inr ⟨rfl, rfl⟩)

theorem respond_status (cfg : Cfg) (now : Int) (c : Conn) (st : Nat) (big comp ka : Bool) :
    (respond cfg now c st big comp ka).2 = [st] :=
  (respond_cases cfg now c st big comp ka).1

theorem bodyStep_ind {Q : Conn → Prop} (cfg : Cfg) (now : Int) (c : Conn) (add : Nat)
    (hr : ∀ st big comp ka c', (respond cfg now c st big comp ka).1 = some c' → Q c')
    (hp : (c.req.kind = .post → c.bodyGot + add < c.req.B) →
      (c.req.kind = .chunked → chunk413 cfg c.req (c.bodyGot + add) = false ∧ c.bodyGot + add < chunkedTotal c.req) →
      c.req.kind ≠ .get →
      Q { c with st := .readPost, bodyGot := c.bodyGot + add, inEv := true, outEv := false }) :
    ∀ c', (bodyStep cfg now c add).1 = some c' → Q c' := by
  unfold bodyStep
  simp only
  split
  · exact hr _ _ _ _
  · rename_i hk
    split
    · exact hr _ _ _ _
    · intro c' h; cases h
      exact hp (fun _ => by omega) (fun h => by rw [hk] at h; cases h) (by rw [hk]; simp)
  · rename_i hk
    split
    · exact hr _ _ _ _
    · split
      · exact hr _ _ _ _
      · rename_i h413 hd
        intro c' h; cases h
        exact hp (fun h => by rw [hk] at h; cases h) (fun _ => ⟨by simpa using h413, by omega⟩) (by rw [hk]; simp)

theorem recv_ind {Q : Conn → Prop} (cfg : Cfg) (now : Int) (c : Conn) (r : Req) (n : Nat)
    (hr : ∀ c0 st big comp ka c', (respond cfg now c0 st big comp ka).1 = some c' → Q c')
    (hb : ∀ c0 add c', (bodyStep cfg now c0 add).1 = some c' → Q c')
    (hh : c.st = .read → c.hdrBuf + n ≤ cfg.fs → Q { c with rts := now, hdrBuf := c.hdrBuf + n })
    (ho : c.st ≠ .read → Q c) : ∀ c', (recv cfg now c r n).1 = some c' → Q c' := by
  unfold recv
  split
  · rename_i hs
    simp only
    split
    · split
      · exact hr _ _ _ _ _
      · intro c' h; cases h; exact hh hs (by omega)
    · split
      · exact hr _ _ _ _ _
      · split
        · exact hr _ _ _ _ _
        · split
          · exact hr _ _ _ _ _
          · exact hb _ _
        · exact hb _ _
  · exact hb _ _
  · rename_i hn _
    intro c' h; cases h; exact ho hn

/-! ## every transition of a connection leads from rest to rest -/

theorem rest_toClose (now : Int) (c c' : Conn) (h : toClose now c = some c') : c'.Rest := by
  unfold toClose at h
  split at h
  · cases h
  · cases h; exact Or.inr (Or.inr (Or.inr rfl))

theorem rest_respond (cfg : Cfg) (now : Int) (hnow : now ≠ 0) (c : Conn) (st : Nat) (big comp ka : Bool) (c' : Conn)
    (h : (respond cfg now c st big comp ka).1 = some c') : c'.Rest := by
  rcases (respond_cases cfg now c st big comp ka).2 c' h with ⟨_, hs, hi, hw⟩ | ⟨_, hs, hi, _⟩ | ⟨hs, _⟩
  · exact Or.inr (Or.inr (Or.inl ⟨hs, hi, hw ▸ hnow⟩))
  · exact Or.inl ⟨hs, hi⟩
  · exact Or.inr (Or.inr (Or.inr hs))

theorem rest_bodyStep (cfg : Cfg) (now : Int) (hnow : now ≠ 0) (c : Conn) (add : Nat) (c' : Conn)
    (h : (bodyStep cfg now c add).1 = some c') : c'.Rest :=
  bodyStep_ind cfg now c add (fun st big comp ka c' h => rest_respond cfg now hnow c st big comp ka c' h)
    (fun _ _ _ => Or.inr (Or.inl ⟨rfl, rfl⟩)) c' h

theorem rest_recv (cfg : Cfg) (now : Int) (hnow : now ≠ 0) (c : Conn) (r : Req) (n : Nat) (hr : c.Rest) (c' : Conn)
    (h : (recv cfg now c r n).1 = some c') : c'.Rest :=
  recv_ind cfg now c r n (fun c0 st big comp ka c' h => rest_respond cfg now hnow c0 st big comp ka c' h)
    (fun c0 add c' h => rest_bodyStep cfg now hnow c0 add c' h)
    (fun hs _ => by
      rcases hr with ⟨_, hi⟩ | ⟨hs', _⟩ | ⟨hs', _⟩ | hs'
      · exact Or.inl ⟨hs, hi⟩
      all_goals (rw [hs] at hs'; cases hs'))
    (fun _ => hr) c' h

theorem rest_clientRead (now : Int) (hnow : now ≠ 0) (c : Conn) (hr : c.Rest) : (clientRead now c).Rest := by
  unfold clientRead
  split
  · rename_i hs
    rcases hr with ⟨hs', _⟩ | ⟨hs', _⟩ | ⟨_, hi, _⟩ | hs'
    · rw [hs] at hs'; cases hs'
    · rw [hs] at hs'; cases hs'
    · exact Or.inr (Or.inr (Or.inl ⟨hs, hi, hnow⟩))
    · rw [hs] at hs'; cases hs'
  · exact hr

theorem rest_clientDrain (now : Int) (c : Conn) (hr : c.Rest) (c' : Conn) (h : clientDrain now c = some c') :
    c'.Rest := by
  unfold clientDrain finishResponse at h
  split at h
  · split at h
    · cases h; exact Or.inl ⟨rfl, rfl⟩
    · exact rest_toClose now _ c' h
  · cases h; exact hr

theorem rest_finConn (full : Bool) (c : Conn) (hr : c.Rest) (c' : Conn) (h : finConn full c = some c') : c'.Rest := by
  unfold finConn at h
  split at h
  · rename_i hs
    cases h
    rcases hr with ⟨hs', _⟩ | ⟨hs', _⟩ | ⟨_, hi, hw⟩ | hs'
    · rw [hs.1] at hs'; cases hs'
    · rw [hs.1] at hs'; cases hs'
    · exact Or.inr (Or.inr (Or.inl ⟨hs.1, hi, hw⟩))
    · rw [hs.1] at hs'; cases hs'
  · cases h

theorem rest_tickConn (cfg : Cfg) (now : Int) (c : Conn) (hr : c.Rest) (c' : Conn) (h : tickConn cfg now c = some c') :
    c'.Rest := by
  unfold tickConn at h
  simp only at h
  split at h
  · split at h
    · cases h
    · exact rest_toClose now c c' h
  · cases h; exact hr

theorem rest_gracefulConn (e : Bool) (c : Conn) (hr : c.Rest) (c' : Conn) (h : gracefulConn e c = some c') :
    c'.Rest := by
  rcases gracefulConn_cases e c with h' | ⟨h', _⟩
  · rw [h'] at h; cases h
  · rw [h'] at h; cases h
    simpa [Conn.Rest] using hr

/-! ## graceful maintenance -/

theorem gracefulConn_expired (c : Conn) : gracefulConn true c = none := by
  unfold gracefulConn
  split
  · rfl
  · split <;> rfl

theorem gracefulConn_inflight (c : Conn)
    (h : c.st = .write ∨ c.st = .readPost ∨ (c.st = .read ∧ (c.n ≤ 1 ∨ c.hdrBuf ≠ 0))) :
    gracefulConn false c = some { c with keepAlive := false } := by
  unfold gracefulConn
  rcases h with h | h | ⟨h, h'⟩
  · simp [h]
  · simp [h]
  · have : ¬ (c.n > 1 ∧ c.hdrBuf = 0) := by omega
    simp [h, this]

end LtVerif.Lifecycle
