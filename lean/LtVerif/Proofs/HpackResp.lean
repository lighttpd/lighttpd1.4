/-
  HPACK (C07), response direction: what h2_send_headers() hands to the HPACK
  encoder, stated against an independent description of "the fields the server
  meant to send" (the response header array built through
  http_header_response_set/insert/append).
-/
import LtVerif.Proofs.H2Headers
namespace LtVerif.H2Headers
open LtVerif B Hpack

inductive RespOp where
  | set (k v : Bytes)
  | insert (k v : Bytes)
  | append (k v : Bytes)

def Resp.apply (r : Resp) : RespOp → Resp
  | .set k v => r.set k v
  | .insert k v => r.insert k v
  | .append k v => r.append k v

def Resp.Keyed (r : Resp) : Prop := ∀ e ∈ r.arr, e.id = hkeyGet e.key

theorem update_keyed (r : Resp) (k : Bytes) (f : Bytes → Bytes) (h : r.Keyed) :
    ∀ e ∈ (r.update (hkeyGet k) k f).arr, e.id = hkeyGet e.key := by
  unfold Resp.update
  split
  · intro e he
    simp only [List.mem_map] at he
    obtain ⟨x, hx, rfl⟩ := he
    split <;> exact h x hx
  · intro e he
    simp only [List.mem_append, List.mem_singleton] at he
    rcases he with he | rfl
    · exact h e he
    · rfl

theorem apply_keyed (r : Resp) (op : RespOp) (h : r.Keyed) : (r.apply op).Keyed := by
  cases op with
  | set k v =>
    show (r.set k v).Keyed
    exact update_keyed r k _ h
  | insert k v =>
    show (r.insert k v).Keyed
    unfold Resp.insert
    split
    · exact h
    · exact update_keyed r k _ h
  | append k v =>
    show (r.append k v).Keyed
    unfold Resp.append
    split
    · exact h
    · exact update_keyed r k _ h

theorem ops_keyed (ops : List RespOp) : ∀ r : Resp, r.Keyed → (ops.foldl Resp.apply r).Keyed :=
  fun r h => foldl_inv Resp.Keyed _ ops r h apply_keyed

theorem empty_keyed : ({} : Resp).Keyed := by intro e he; simp at he

theorem known_not_omitted : ∀ id, id < numIds → id ≠ 0 → omitHeader (lcName id) = false := by
  decide +kernel

theorem omitHeader_lower (k : Bytes) : omitHeader (lower k) = omitHeader k := by
  simp only [omitHeader, lower, map_toLower_idem]

/-- X-Sendfile / X-LIGHTTPD-*: unknown id and first letter x/X (the shortcut the C takes) -/
theorem omit_shortcut (k : Bytes) (h : omitHeader k = true) :
    hkeyGet k = 0 ∧ (k.headD 0 &&& 0xdf) = 88 := by
  constructor
  · apply Decidable.byContradiction
    intro h0
    obtain ⟨hlt, hlc⟩ := lcName_hkeyGet k h0
    have := known_not_omitted _ hlt h0
    rw [hlc, omitHeader_lower, h] at this
    cases this
  · cases k with
    | nil => simp [omitHeader, lower, ofString] at h
    | cons b rest =>
      simp only [List.headD_cons]
      apply (toLower_eq_x_iff _).mp
      have hx : (lower (b :: rest)).headD 0 = 120 := by
        unfold omitHeader at h
        simp only [Bool.or_eq_true, beq_iff_eq] at h
        rcases h with h | h
        · rw [h]; decide
        · have : ((lower (b :: rest)).take 11).headD 0 = 120 := by rw [h]; decide
          simpa [lower] using this
      simpa [lower] using hx

/-- the field a response header element stands for -/
def wantField (e : RespHdr) : Option Header :=
  if e.key = [] ∨ e.value = [] ∨ omitHeader e.key = true then none else some (lower e.key, e.value)

/-- what the size pre-pass of h2_send_headers() counts for an element -/
def fieldCost (e : RespHdr) : Nat :=
  if e.key = [] ∨ e.value = [] then 0 else e.key.length + e.value.length + 4

/-- 14: what ":status" counts; 37: "date", 4 + 29 + 4 -/
def respSize (r : Resp) (serverTag : Option Bytes) : Nat :=
  14 + 37 + serverCost serverTag + (r.arr.map fieldCost).sum

theorem prepass_eq (arr : List RespHdr) (a : Nat) :
    arr.foldl (fun a e => if e.key = [] ∨ e.value = [] then a
                          else a + e.key.length + e.value.length + 4) a = a + (arr.map fieldCost).sum := by
  induction arr generalizing a with
  | nil => simp
  | cons e rest ih =>
    simp only [List.foldl_cons, List.map_cons, List.sum_cons, ih, fieldCost]
    split <;> omega

theorem bodyFields_single (arr : List RespHdr) : ∀ alen : Nat,
    (∀ e ∈ arr, e.id = hkeyGet e.key) → alen + (arr.map fieldCost).sum ≤ 65535 →
    ∃ a, bodyFields false arr alen = some (arr.filterMap wantField, a) := by
  induction arr with
  | nil => intro alen _ _; exact ⟨alen, rfl⟩
  | cons e rest ih =>
    intro alen hk hsz
    have hke := hk e (by simp)
    have hkr : ∀ x ∈ rest, x.id = hkeyGet x.key := fun x hx => hk x (by simp [hx])
    simp only [List.map_cons, List.sum_cons] at hsz
    unfold bodyFields
    by_cases hb : e.key = [] ∨ e.value = []
    · have hw : wantField e = none := by
        unfold wantField; rcases hb with h | h <;> simp [h]
      simp only [hb, if_true, List.filterMap_cons, hw]
      exact ih alen hkr (by omega)
    · have hc : fieldCost e = e.key.length + e.value.length + 4 := by simp [fieldCost, hb]
      simp only [hb, if_false]
      rw [if_neg (by omega)]
      by_cases ho : omitHeader e.key = true
      · have hs := omit_shortcut e.key ho
        have hw : wantField e = none := by unfold wantField; simp [ho]
        have hcond : e.id = 0 ∧ (e.key.headD 0 &&& 0xdf) = 88 ∧ omitHeader e.key = true :=
          ⟨by rw [hke]; exact hs.1, hs.2, ho⟩
        simp only [hcond, and_self, if_true, List.filterMap_cons, hw]
        exact ih alen hkr (by omega)
      · have hw : wantField e = some (lower e.key, e.value) := by
          unfold wantField
          have h1 : ¬ e.key = [] := fun h => hb (Or.inl h)
          have h2 : ¬ e.value = [] := fun h => hb (Or.inr h)
          simp [h1, h2, ho]
        have hcond : ¬ (e.id = 0 ∧ (e.key.headD 0 &&& 0xdf) = 88 ∧ omitHeader e.key = true) :=
          fun h => ho h.2.2
        obtain ⟨a, ha⟩ := ih (alen + e.key.length + e.value.length + 4) hkr (by omega)
        refine ⟨a, ?_⟩
        simp only [hcond, if_false, Bool.false_eq_true, ha, List.filterMap_cons, hw, emitName_keyed e hke,
          List.map_cons, List.map_nil, List.cons_append, List.nil_append]

/-- "date" and "server", which h2_send_headers() adds unless the response has its own -/
def autoFields (r : Resp) (tag : Option Bytes) : List Header :=
  (if r.tags.contains Extracted.hdrDate then [] else [(ofString "date", autoDate)]) ++
  (match tag with
   | some t => if r.tags.contains Extracted.hdrServer then [] else [(ofString "server", t)]
   | none => [])

theorem respFields_single (status : Nat) (r : Resp) (tag : Option Bytes) (hk : r.Keyed)
    (hrep : r.repeated = false) (hsize : respSize r tag ≤ 65535)
    (h304 : ¬ (status = 304 ∧ r.tags.contains Extracted.hdrContentEncoding = true)) :
    respFields status r tag =
      some ((ofString ":status", statusBytes status) :: r.arr.filterMap wantField ++ autoFields r tag) := by
  unfold respFields
  unfold respSize at hsize
  simp only [h304, if_false, prepass_eq]
  rw [if_neg (by omega), hrep]
  obtain ⟨a, ha⟩ := bodyFields_single r.arr 14 hk (by omega)
  rw [ha]
  cases tag <;> simp [autoFields]

theorem respFields_oversize (status : Nat) (r : Resp) (tag : Option Bytes)
    (h304 : ¬ (status = 304 ∧ r.tags.contains Extracted.hdrContentEncoding = true))
    (hsize : 65535 < respSize r tag) : respFields status r tag = none := by
  unfold respFields
  simp only [h304, if_false, prepass_eq]
  unfold respSize at hsize
  rw [if_pos (by omega)]

end LtVerif.H2Headers
