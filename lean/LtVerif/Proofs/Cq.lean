/-
  C17, the chunk queue.  Proofs/CqBase.lean: invariants, relations between worlds, shapes of
  the per-function facts; Proofs/CqStep.lean: one `QStep` per function that writes no temp file;
  here the closed system the property theorems speak of (`Inv`, `OpOK`, `specStep`, `Plain`) and
  its operations that write no temp file (`step_plain`; `step_*` are about `step`).
-/
import LtVerif.Proofs.CqStep
namespace LtVerif.Cq

/-! ## the closed system -/

structure Inv (s : Sys) : Prop where
  fresh : Fresh s.w
  q0 : QV s.w s.q0
  q1 : QV s.w s.q1

/-- obligations of the caller that the model does not check itself: a file
    range handed to chunkqueue_append_file*() lies inside an existing file -/
def OpOK (s : Sys) : Op → Prop
  | .appendFile _ fid off len _ => fid < s.w.nfiles ∧ fid < s.w.nsrc ∧ off + len ≤ sz s.w fid
  | _ => True

def Sys.abs (s : Sys) (i : Bool) : Bytes := (s.get i).abs s.w

def Sys.chunks (s : Sys) : List Chunk := s.q0.chunks ++ s.q1.chunks

/-- the queue an operation works on (transfers: the destination) -/
def Op.qi : Op → Bool
  | .appendMem i _ | .appendMemMin i _ | .appendBuffer i _ | .appendBufferOpen i _
  | .getUseMemory i _ _ | .appendFile i _ _ _ _ | .appendChunkqueue i | .appendMemToTempfile i _
  | .steal i _ | .stealWithTempfiles i _ | .appendCqRange i _ _ _ | .markWritten i _
  | .removeFinished i | .removeEmpty i | .compactMem i _ | .compactMemOffset i
  | .peekData i _ | .readData i _ | .readSquash i | .reset i => i

def Op.spills : Op → Bool
  | .appendMemToTempfile .. | .stealWithTempfiles .. => true
  | _ => false

/-- reference FIFO semantics: `a` = bytes of the queue operated on, `b` = bytes
    of the other queue, `files` = file contents; the effect may depend on what
    the operation reported (`Res`): room offered by get_memory, success, skip -/
def specStep (files : Nat → Bytes) (a b : Bytes) : Op → Res → Bytes × Bytes
  | .appendMem _ d, _ => (a ++ d, b)
  | .appendMemMin _ d, _ => (a ++ d, b)
  | .appendBuffer _ d, _ => (a ++ d, b)
  | .appendBufferOpen _ d, _ => (a ++ d, b)
  | .getUseMemory _ _ d, .avail n => (a ++ d.take n, b)
  | .appendFile _ fid off len _, _ => (a ++ ((files fid).drop off).take len, b)
  | .appendChunkqueue _, _ => (a ++ b, [])
  | .appendMemToTempfile _ d, .rc true => (a ++ d, b)
  | .steal _ n, _ => (a ++ b.take n, b.drop n)
  | .stealWithTempfiles _ n, .rc true => (a ++ b.take n, b.drop n)
  | .appendCqRange _ self off len, .done => (a ++ ((if self then a else b).drop off).take len, b)
  | .markWritten _ n, .done => (a.drop n, b)
  | .readData _ n, .read (some _) => (a.drop n, b)
  | .reset _, _ => ([], b)
  | _, _ => (a, b)

/-- what a read operation must hand out: the head of the queue, unmodified -/
def resOK (a : Bytes) : Op → Res → Prop
  | .peekData _ n, .peeked true d => d = a.take n
  | .readData _ n, .read (some d) => d = a.take n ∧ d.length = n
  | _, _ => True

/-! ## histories -/

/-- the caller meets its obligation at every operation of the history -/
def OpsOK (s : Sys) (ops : List Op) : Prop :=
  ∀ (pre : List Op) (op : Op) (post : List Op), ops = pre ++ op :: post → OpOK (run s pre) op

theorem OpsOK.tail {s : Sys} {op : Op} {ops : List Op} (h : OpsOK s (op :: ops)) : OpsOK (step s op).1 ops :=
  fun pre op' post e => by simpa [run] using h (op :: pre) op' post (by rw [e]; rfl)

theorem OpsOK.pre {s : Sys} {pre rest : List Op} (h : OpsOK s (pre ++ rest)) : OpsOK s pre :=
  fun p o q e => h p o (q ++ rest) (by rw [e]; simp)

theorem run_inv_of {P : Sys → Prop} (hstep : ∀ s op, P s → OpOK s op → P (step s op).1) (s : Sys) (ops : List Op)
    (h : P s) (hops : OpsOK s ops) : P (run s ops) := by
  induction ops generalizing s with
  | nil => exact h
  | cons op ops ih =>
    simp only [run]
    exact ih (step s op).1 (hstep s op h (hops [] op ops rfl)) hops.tail

theorem run_append (s : Sys) (a b : List Op) : run s (a ++ b) = run (run s a) b := by
  induction a generalizing s with
  | nil => rfl
  | cons x xs ih => exact ih _

/-! ## operations that write no temp file -/

theorem Inv.get {s : Sys} (h : Inv s) (i : Bool) : QV s.w (s.get i) := by
  cases i
  · exact h.q0
  · exact h.q1

theorem inv_single {s : Sys} (h : Inv s) (i : Bool) {w' : World} {q' : Cq}
    (ht : TStep s.w (s.get i) w' q') : Inv ({ s with w := w' }.set i q') := by
  obtain ⟨a, b, c⟩ := ht h.fresh (h.get i)
  cases i
  · exact ⟨a, c, h.q1.mono b⟩
  · exact ⟨a, h.q0.mono b, c⟩

theorem inv_pair {s : Sys} (i : Bool) {w' : World} {d' o' : Cq} (hf : Fresh w')
    (hd : QV w' d') (ho : QV w' o') : Inv (({ s with w := w' }.set i d').set (!i) o') := by
  cases i
  · exact ⟨hf, hd, ho⟩
  · exact ⟨hf, ho, hd⟩

theorem Inv.length_abs {s : Sys} (h : Inv s) (i : Bool) :
    (s.get i).length = ((s.abs i).length : Int) :=
  (h.get i).length_abs

theorem Sys.set_w (s : Sys) (i : Bool) (q : Cq) : (s.set i q).w = s.w := by cases i <;> rfl

theorem Sys.mem_chunks {s : Sys} (i : Bool) {c : Chunk} (h : c ∈ (s.get i).chunks) : c ∈ s.chunks := by
  cases i
  · exact List.mem_append_left _ h
  · exact List.mem_append_right _ h

theorem sys_single {s s' : Sys} (i : Bool) {w' : World} {q' : Cq}
    (hs : s' = ({ s with w := w' } : Sys).set i q') (h : CStep s.w (s.get i) (w', q')) :
    Conserve s.w s.chunks s'.w s'.chunks := by
  subst hs
  cases i
  · exact Conserve.frame_right h s.q1.chunks
  · exact Conserve.frame_left h s.q0.chunks

theorem sys_pair {s s' : Sys} (i : Bool) {w' : World} {d' o' : Cq}
    (hs : s' = (({ s with w := w' } : Sys).set i d').set (!i) o')
    (h : Conserve s.w ((s.get i).chunks ++ (s.get (!i)).chunks) w' (d'.chunks ++ o'.chunks)) :
    Conserve s.w s.chunks s'.w s'.chunks := by
  subst hs
  cases i
  · exact h
  · refine ⟨h.1, fun k f => ?_⟩
    have := h.2 k f
    simp only [Sys.chunks, Sys.get, Sys.set, csum_append] at this ⊢
    simp only [Bool.not_true, if_true, if_false, Bool.false_eq_true] at this ⊢
    omega

/-- what an operation that leaves file contents alone does to the system; `H`: the caller's
    obligation, `p`: the bytes of the two queues afterwards, `P`: `resOK` of what was reported -/
structure Plain (s s' : Sys) (i : Bool) (p : Bytes × Bytes) (H P : Prop) : Prop where
  same : SameFiles s.w s'.w
  res : Conserve s.w s.chunks s'.w s'.chunks
  inv : Inv s → H → Inv s' ∧ (s'.abs i, s'.abs (!i)) = p ∧ P

theorem Plain.single {s : Sys} (i : Bool) {r : World × Cq} {a' : Bytes} {H P : Prop}
    (hs : SameFiles s.w r.1) (hr : CStep s.w (s.get i) r)
    (h : H → QV s.w (s.get i) → QV r.1 r.2 ∧ r.2.abs s.w = a') (hp : QV s.w (s.get i) → P) :
    Plain s (({ s with w := r.1 } : Sys).set i r.2) i (a', s.abs (!i)) H P := by
  refine ⟨by rw [Sys.set_w]; exact hs, sys_single i rfl hr, fun hi hH => ?_⟩
  obtain ⟨hq, ha⟩ := h hH (hi.get i)
  refine ⟨inv_single hi i fun hf _ => ⟨hs.fresh hf, hs.grows, hq⟩, ?_, hp (hi.get i)⟩
  cases i <;> exact Prod.ext ((absChunks_same hs _).trans ha) (absChunks_same hs _)

theorem QStep.plain {s : Sys} {i : Bool} {r : World × Cq} {a' : Bytes} {H : Prop}
    (h : QStep s.w (s.get i) r a') :
    Plain s (({ s with w := r.1 } : Sys).set i r.2) i (a', s.abs (!i)) H True :=
  Plain.single i h.1 h.res (fun _ => h.qv) fun _ => trivial

theorem QStep2.plain {s : Sys} {i : Bool} {r : World × Cq × Cq} {a' b' : Bytes} {H : Prop}
    (h : QStep2 s.w (s.get i) (s.get (!i)) r a' b') :
    Plain s ((({ s with w := r.1 } : Sys).set i r.2.1).set (!i) r.2.2) i (a', b') H True := by
  refine ⟨by rw [Sys.set_w, Sys.set_w]; exact h.same, sys_pair i rfl h.res, fun hi _ => ?_⟩
  obtain ⟨hd, ho, ha, hb⟩ := h.qv (hi.get i) (hi.get (!i))
  refine ⟨inv_pair i (h.same.fresh hi.fresh) hd ho, ?_, trivial⟩
  cases i <;> exact Prod.ext ((absChunks_same h.same _).trans ha) ((absChunks_same h.same _).trans hb)

theorem Plain.skip (s : Sys) (i : Bool) {H : Prop} : Plain s s i (s.abs i, s.abs (!i)) H True :=
  ⟨SameFiles.refl s.w, Conserve.refl _ _, fun hi _ => ⟨hi, rfl, trivial⟩⟩

theorem step_plain (s : Sys) (op : Op) (hns : op.spills = false) :
    Plain s (step s op).1 op.qi
      (specStep (fun fid => (s.w.files fid).content) (s.abs op.qi) (s.abs (!op.qi)) op (step s op).2)
      (OpOK s op) (resOK (s.abs op.qi) op (step s op).2) := by
  cases op with
  | appendMem qi d => exact (appendMem_step s.w (s.get qi) d).plain
  | appendMemMin qi d => exact (appendMemMin_step s.w (s.get qi) d).plain
  | appendBuffer qi d => exact (appendBuffer_step s.w (s.get qi) d).plain
  | appendBufferOpen qi d => exact (appendBufferOpen_step s.w (s.get qi) d).plain
  | getUseMemory qi req d => exact (getUseMemory_step s.w (s.get qi) req d).plain
  | appendFile qi fid off len fd =>
    exact Plain.single qi (appendFile_same ..) (appendFile_res ..)
      (fun hop => (appendFile_step s.w (s.get qi) fid off len fd hop.1 hop.2.1 hop.2.2).qv) fun _ => trivial
  | appendChunkqueue qi =>
    exact (appendChunkqueue_step s.w (s.get qi) (s.get (!qi))).plain
  | appendMemToTempfile qi d => cases hns
  | steal qi n =>
    exact (steal_step s.w (s.get qi) (s.get (!qi)) n).plain
  | stealWithTempfiles qi n => cases hns
  | appendCqRange qi self off len =>
    cases self
    · simp only [step, Bool.false_eq_true, ↓reduceIte]
      obtain ⟨a, r, b⟩ := rangeLoop_spec s.w (s.get qi) (s.get (!qi)).chunks off len
      exact ⟨by rw [Sys.set_w]; exact a, sys_single qi rfl r, fun hi _ =>
        (Plain.single (H := True) (r := appendCqRange s.w (s.get qi) (s.get (!qi)) off len) qi
          a r (fun _ hq => b hq (hi.get (!qi)).valid) fun _ => trivial).inv hi trivial⟩
    · simp only [step, ↓reduceIte]
      split
      · exact Plain.skip s qi
      · obtain ⟨a, r, b⟩ := rangeLoop_spec s.w (s.get qi) (s.get qi).chunks off len
        exact Plain.single (r := appendCqRangeSelf s.w (s.get qi) off len) qi
          a r (fun _ hq => b hq hq.valid) fun _ => trivial
  | markWritten qi n =>
    simp only [step]
    split
    · rename_i hle
      exact (markWritten_step s.w (s.get qi) n fun hq => by have := hq.length_abs; omega).plain
    · exact Plain.skip s qi
  | removeFinished qi => exact (removeFinished_step s.w (s.get qi)).plain
  | removeEmpty qi => exact (removeEmpty_step s.w (s.get qi)).plain
  | compactMem qi clen =>
    simp only [step]
    split
    · exact (compactMem_step s.w (s.get qi) clen).plain
    · exact Plain.skip s qi
  | compactMemOffset qi =>
    simp only [step]
    split
    · exact Plain.skip s qi
    · exact (compactMemOffset_step s.w (s.get qi)).plain
  | peekData qi n =>
    rcases hpd : peekData s.w (s.get qi) n with ⟨w', q', d, ok⟩
    obtain ⟨hp, hd⟩ := peekData_spec hpd
    simp only [step, hpd]
    refine Plain.single (r := (w', q')) qi hp.same hp.res (fun _ => hp.qv) fun hq => ?_
    cases ok
    · simp only [resOK]
    · simp only [resOK]
      exact hd hq rfl
  | readData qi n =>
    rcases hrd : readData s.w (s.get qi) n with ⟨w', q', r⟩
    obtain ⟨a, r', b⟩ := readData_spec hrd
    simp only [step, hrd]
    cases r with
    | none =>
      exact Plain.single (r := (w', q')) qi a r' (fun _ hq => ⟨(b hq).1, (b hq).2.2 rfl⟩) fun _ => trivial
    | some data =>
      exact Plain.single (r := (w', q')) qi a r' (fun _ hq => ⟨(b hq).1, ((b hq).2.1 data rfl).2.2⟩)
        fun hq => ⟨((b hq).2.1 data rfl).1, ((b hq).2.1 data rfl).2.1⟩
  | readSquash qi =>
    exact (readSquash_step s.w (s.get qi)).plain
  | reset qi => exact (reset_step s.w (s.get qi)).plain

theorem step_same (s : Sys) (op : Op) (hns : op.spills = false) : SameFiles s.w (step s op).1.w :=
  (step_plain s op hns).1

theorem step_refines (s : Sys) (op : Op) (h : Inv s) (hop : OpOK s op) (hns : op.spills = false) :
    ((step s op).1.abs op.qi, (step s op).1.abs (!op.qi)) =
        specStep (fun fid => (s.w.files fid).content) (s.abs op.qi) (s.abs (!op.qi)) op (step s op).2 ∧
      resOK (s.abs op.qi) op (step s op).2 :=
  ((step_plain s op hns).inv h hop).2

end LtVerif.Cq
