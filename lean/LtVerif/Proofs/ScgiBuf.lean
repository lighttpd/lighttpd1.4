/-
  Helper lemmas for C09: scgi_create_env() at buffer level (placeholder, right-aligned length,
  chunk offset) refines the front-to-back encoders of Model/Scgi.lean.
-/
import LtVerif.Model.Scgi
namespace LtVerif

namespace ScgiBuf

theorem poke_placeholder (P tb : Bytes) (h : tb.length ≤ 10) :
    poke (placeholder ++ P) (10 - tb.length) tb = List.replicate (10 - tb.length) 32 ++ tb ++ P := by
  have e : 10 - tb.length + tb.length = 10 := by omega
  unfold poke placeholder
  rw [e]
  rw [List.take_append_of_le_length (by simp), List.take_replicate]
  rw [List.drop_left' List.length_replicate]
  have : min (10 - tb.length) 10 = 10 - tb.length := by omega
  rw [this]

theorem commit_eq (k : Nat) (V : Bytes) (bodyLen : Int) (pending : Bytes) :
    commit (List.replicate k 32 ++ V) k bodyLen pending =
      { hidden := List.replicate k 32, offset := k,
        bytesIn := ((RawSt.startBody V bodyLen pending).out.length : Int), bytesOut := 0,
        st := RawSt.startBody V bodyLen pending } := by
  have hd : (List.replicate k (32 : UInt8) ++ V).drop k = V := List.drop_left' List.length_replicate
  have ht : (List.replicate k (32 : UInt8) ++ V).take k = List.replicate k 32 :=
    List.take_left' List.length_replicate
  -- wb_reqlen = clen - offset, and bytes_in after "+= clen" and "-= offset"
  have hl : (((List.replicate k (32 : UInt8) ++ V).length : Nat) : Int) - (k : Int) = (V.length : Int) := by
    simp only [List.length_append, List.length_replicate]; omega
  have h0 : (0 : Int) + (((List.replicate k (32 : UInt8) ++ V).length : Nat) : Int) - (k : Int) =
      (V.length : Int) := by omega
  have hk : (0 : Int) + (k : Int) - (k : Int) = 0 := by omega
  unfold commit RawSt.startBody
  by_cases hb : bodyLen = 0
  · simp only [hb, ne_eq, not_true_eq_false, ↓reduceIte, hd, ht, hl, h0, hk]
  · simp only [hb, ne_eq, not_false_eq_true, ↓reduceIte, hd, ht, hl, h0, hk]
    simp only [List.length_append, Int.natCast_add]

end ScgiBuf

end LtVerif
