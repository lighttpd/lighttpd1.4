/-
  C11, part 6: the statistics key of gw_status_get_counter() (Model/GwStat.lean)
  determines (host id, proc id, tag) when host ids contain no '.'; the plugin_stats entry (caseless
  look-up) determines them up to letter case.
-/
import LtVerif.Model.GwStat
import LtVerif.Proofs.Bytes
namespace LtVerif.GwStat
open LtVerif B

theorem split_first {d : UInt8} : ∀ {a a' r r' : Bytes}, d ∉ a → d ∉ a' →
    a ++ d :: r = a' ++ d :: r' → a = a' ∧ r = r' := by
  intro a a' r r' ha ha' h
  have ne : ∀ {l : Bytes}, d ∉ l → ∀ x ∈ l, (decide (x ≠ d)) = true :=
    fun hl x hx => decide_eq_true fun e => hl (e ▸ hx)
  exact span_inj (p := fun x => decide (x ≠ d)) (by simp) (ne ha) (ne ha') h

/-! ### decimal rendering (li_utostrn) -/

def decNat (v : Bytes) : Nat := v.foldl (fun a b => 10 * a + (b.toNat - 48)) 0

theorem decNat_natToDec (n : Nat) : decNat (natToDec n) = n :=
  (decOf_eq_foldl _).symm.trans (decOf_natToDec n)

theorem natToDec_inj {n m : Nat} (h : natToDec n = natToDec m) : n = m := B.natToDec_inj h

theorem natToDec_cons (n : Nat) : ∃ c r, natToDec n = c :: r ∧ isDigit c = true := by
  cases h : natToDec n with
  | nil => exact absurd h (natToDec_ne_nil n)
  | cons c r => exact ⟨c, r, rfl, natToDec_digits n c (h ▸ List.mem_cons_self)⟩

theorem natToDec_no_dot (n : Nat) : dot ∉ natToDec n :=
  fun h => absurd (natToDec_digits n dot h) (by decide)

/-! ### the key determines its parts -/

theorem tags_ok : ∀ t ∈ tags, TagOk t := by
  intro t ht
  simp only [tags, List.mem_cons, List.not_mem_nil, or_false] at ht
  rcases ht with rfl | rfl | rfl | rfl | rfl
  · exact ⟨108, (ofString ".load").drop 2, by decide +kernel, by decide +kernel⟩
  · exact ⟨99, (ofString ".connected").drop 2, by decide +kernel, by decide +kernel⟩
  · exact ⟨100, (ofString ".died").drop 2, by decide +kernel, by decide +kernel⟩
  · exact ⟨111, (ofString ".overloaded").drop 2, by decide +kernel, by decide +kernel⟩
  · exact ⟨100, (ofString ".disabled").drop 2, by decide +kernel, by decide +kernel⟩

theorem tail_inj {pr pr' : Option Nat} {t t' : Bytes} (ht : TagOk t) (ht' : TagOk t')
    (h : procPart pr ++ t = procPart pr' ++ t') : pr = pr' ∧ t = t' := by
  obtain ⟨c, r, rfl, hc⟩ := ht
  obtain ⟨c', r', rfl, hc'⟩ := ht'
  cases pr with
  | none =>
    cases pr' with
    | none => exact ⟨rfl, by simpa [procPart] using h⟩
    | some m =>
      obtain ⟨x, xs, hx, hd⟩ := natToDec_cons m
      simp only [procPart, List.nil_append, List.cons_append, hx, List.cons.injEq, true_and] at h
      rw [h.1, hd] at hc
      exact absurd hc (by decide)
  | some n =>
    cases pr' with
    | none =>
      obtain ⟨x, xs, hx, hd⟩ := natToDec_cons n
      simp only [procPart, List.nil_append, List.cons_append, hx, List.cons.injEq, true_and] at h
      rw [← h.1, hd] at hc'
      exact absurd hc' (by decide)
    | some m =>
      simp only [procPart, List.cons_append, List.cons.injEq, true_and] at h
      have := split_first (natToDec_no_dot n) (natToDec_no_dot m) h
      have e := natToDec_inj this.1
      exact ⟨by rw [e], by rw [this.2]⟩

theorem tail_starts_dot (pr : Option Nat) {t : Bytes} (ht : TagOk t) :
    ∃ r, procPart pr ++ t = dot :: r := by
  obtain ⟨c, r, rfl, _⟩ := ht
  cases pr with
  | none => exact ⟨_, rfl⟩
  | some n => exact ⟨_, rfl⟩

theorem statKey_inj {id id' : Bytes} {pr pr' : Option Nat} {t t' : Bytes}
    (hid : dot ∉ id) (hid' : dot ∉ id') (ht : TagOk t) (ht' : TagOk t')
    (h : statKey id pr t = statKey id' pr' t') : id = id' ∧ pr = pr' ∧ t = t' := by
  unfold statKey at h
  have h1 := List.append_cancel_left h
  obtain ⟨r, hr⟩ := tail_starts_dot pr ht
  obtain ⟨r', hr'⟩ := tail_starts_dot pr' ht'
  have h2 := h1
  rw [hr, hr'] at h2
  have := split_first hid hid' h2
  have h3 : procPart pr ++ t = procPart pr' ++ t' := by rw [hr, hr', this.2]
  exact ⟨this.1, tail_inj ht ht' h3⟩

/-! ### caseless look-up (array_keycmp) -/

theorem toLower_facts (b : UInt8) :
    (toLower b = dot → b = dot) ∧ isDigit (toLower b) = isDigit b ∧ (isDigit b = true → toLower b = b) := by
  unfold toLower
  by_cases hu : isUpper b = true
  · -- OR only raises a byte: an upper-case letter stays above the digits and the dot
    rw [if_pos hu]
    have h1 : 65 ≤ b.toNat := by
      simp only [isUpper, Bool.and_eq_true, decide_eq_true_eq] at hu; exact UInt8.le_iff_toNat_le.mp hu.1
    have h2 : b.toNat ≤ (b ||| 0x20).toNat := by rw [UInt8.toNat_or]; exact Nat.left_le_or
    have hd : ∀ x : UInt8, 65 ≤ x.toNat → isDigit x = false := by
      intro x hx
      simp only [isDigit, Bool.and_eq_false_iff, decide_eq_false_iff_not, UInt8.le_iff_toNat_le]
      right; show ¬ x.toNat ≤ 57; omega
    refine ⟨fun e => ?_, by rw [hd b h1, hd _ (by omega)], fun h => ?_⟩
    · have : (b ||| 0x20).toNat = 46 := by rw [e]; rfl
      omega
    · rw [hd b h1] at h; cases h
  · rw [if_neg hu]; exact ⟨id, rfl, fun _ => rfl⟩

theorem lower_no_dot {id : Bytes} (h : dot ∉ id) : dot ∉ lower id := by
  intro hm
  obtain ⟨b, hb, e⟩ := List.mem_map.mp hm
  exact h ((toLower_facts b).1 e ▸ hb)

theorem lower_tagOk {t : Bytes} (h : TagOk t) : TagOk (lower t) := by
  obtain ⟨c, r, rfl, hc⟩ := h
  exact ⟨toLower c, lower r, by simp [lower, show toLower dot = dot by decide], by rw [(toLower_facts c).2.1, hc]⟩

theorem lower_digits (l : Bytes) (h : ∀ b ∈ l, isDigit b = true) : lower l = l :=
  (List.map_congr_left fun b hb => (toLower_facts b).2.2 (h b hb)).trans (List.map_id l)

theorem lower_procPart (pr : Option Nat) : lower (procPart pr) = procPart pr := by
  cases pr with
  | none => rfl
  | some n =>
    have := lower_digits (natToDec n) (natToDec_digits n)
    simp only [lower, procPart, List.map_cons] at this ⊢
    rw [this, show toLower dot = dot by decide]

theorem lower_statKey (id : Bytes) (pr : Option Nat) (t : Bytes) :
    lower (statKey id pr t) = statKey (lower id) pr (lower t) := by
  have hp : lower keyPrefix = keyPrefix := by decide +kernel
  have hq := lower_procPart pr
  simp only [lower, statKey, List.map_append] at hp hq ⊢
  rw [hp, hq]

theorem sameEntry_inj {id id' : Bytes} {pr pr' : Option Nat} {t t' : Bytes}
    (hid : dot ∉ id) (hid' : dot ∉ id') (ht : TagOk t) (ht' : TagOk t')
    (h : sameEntry (statKey id pr t) (statKey id' pr' t') = true) :
    lower id = lower id' ∧ pr = pr' ∧ lower t = lower t' := by
  have h' : lower (statKey id pr t) = lower (statKey id' pr' t') := by simpa [sameEntry] using h
  rw [lower_statKey, lower_statKey] at h'
  exact statKey_inj (lower_no_dot hid) (lower_no_dot hid') (lower_tagOk ht) (lower_tagOk ht') h'

theorem sameEntry_of_fold {id id' : Bytes} {pr : Option Nat} {t t' : Bytes}
    (hi : lower id = lower id') (ht : lower t = lower t') :
    sameEntry (statKey id pr t) (statKey id' pr t') = true := by
  simp only [sameEntry, beq_iff_eq]
  rw [lower_statKey, lower_statKey, hi, ht]

end LtVerif.GwStat
