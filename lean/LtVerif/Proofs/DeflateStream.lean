/-
  Stream assembly (Model/DeflateStream.lean): every loop advances the state by the bytes it feeds the codec
  and keeps the sink/buffer invariant.
-/
import LtVerif.Model.DeflateStream
namespace LtVerif.DeflateStream
open LtVerif

def Inv (s : St) : Prop := s.sink ++ s.obuf = s.outs.reverse.flatten

theorem inv_init : Inv {} := by simp [Inv]

/-- the step `s → s'` hands the codec exactly `X` and keeps `Inv` if it held -/
def Adv (s s' : St) (X : Bytes) : Prop := (Inv s → Inv s') ∧ s'.fed = s.fed ++ X

theorem Adv.refl (s : St) : Adv s s [] := ⟨id, by simp⟩

theorem Adv.trans {s s1 s2 : St} {X Y : Bytes} (h1 : Adv s s1 X) (h2 : Adv s1 s2 Y) : Adv s s2 (X ++ Y) :=
  ⟨h2.1 ∘ h1.1, by rw [h2.2, h1.2, List.append_assoc]⟩

theorem append_obuf (s : St) : s.append.obuf = [] := by
  unfold St.append
  split
  · rename_i h; simpa using h
  · rfl

theorem adv_append (s : St) : Adv s s.append [] := by
  unfold St.append
  split
  · exact Adv.refl s
  · exact ⟨fun h => by simpa [Inv] using h, by simp⟩

theorem adv_appendIf (s : St) (b : Bool) : Adv s (s.appendIf b) [] := by
  unfold St.appendIf
  split
  · exact adv_append s
  · exact Adv.refl s

theorem adv_afterCall (s : St) (r : ZR) (c : Call) (u : Bytes) : Adv s (s.afterCall r c u) u :=
  ⟨fun h => by simp [Inv, St.afterCall, ← List.append_assoc, show s.sink ++ s.obuf = _ from h], rfl⟩

theorem adv_noteRead (s : St) (a b : Nat) : Adv s (s.noteRead a b) [] := ⟨id, by simp [St.noteRead]⟩

theorem compressLoop_spec (cap : Nat) : ∀ (zs : List ZR) (inp : Bytes) (s s' : St) (zs' : List ZR),
    compressLoop cap zs inp s = .ok (s', zs') → Adv s s' inp
  | [], _, _, _, _, h => by simp [compressLoop] at h
  | r :: rs, inp, s, s', zs', h => by
    rw [compressLoop] at h
    dsimp only at h
    split at h
    · cases h
    split at h
    · cases h
    have hadv := (adv_afterCall s r ⟨inp.length, cap - s.obuf.length, false⟩ (inp.take r.consumed)).trans
      (adv_appendIf _ (decide ((s.afterCall r ⟨inp.length, cap - s.obuf.length, false⟩ (inp.take r.consumed)).obuf.length = cap) ||
        !(inp.drop r.consumed).isEmpty))
    split at h
    · rename_i hrest
      simp only [Except.ok.injEq, Prod.mk.injEq] at h
      obtain ⟨rfl, rfl⟩ := h
      have h2 := List.take_append_drop r.consumed inp
      rw [List.isEmpty_iff.mp hrest, List.append_nil] at h2
      simpa [h2] using hadv
    · simpa using hadv.trans (compressLoop_spec cap _ _ _ _ _ h)

theorem compressBlock_spec (cap : Nat) (zs : List ZR) (inp : Bytes) (s s' : St) (zs' : List ZR)
    (h : compressBlock cap zs inp s = .ok (s', zs')) : Adv s s' inp := by
  unfold compressBlock at h
  split at h
  · rename_i he
    simp only [Except.ok.injEq, Prod.mk.injEq] at h
    obtain ⟨rfl, rfl⟩ := h
    exact List.isEmpty_iff.mp he ▸ Adv.refl s
  · exact compressLoop_spec cap _ _ _ _ _ h

/-- reading `a` bytes = a first read limited to `lim` ≤ `a`, then the rest from where that read ended -/
theorem take_split (X : Bytes) (lim a : Nat) (hl : lim ≤ a) :
    X.take a = X.take lim ++ (X.drop (X.take lim).length).take (a - (X.take lim).length) := by
  have hlen : (X.take lim).length ≤ lim := by simp [List.length_take]; omega
  have e1 : a = (X.take lim).length + (a - (X.take lim).length) := by omega
  conv => lhs; rw [e1, List.take_add]
  rw [← List.prefix_iff_eq_take.mp (List.take_prefix lim X)]

theorem fileLoop_spec (cap blk : Nat) (content : Bytes) (off insz : Nat) :
    ∀ (fuel n : Nat) (rsz : List Nat) (zs : List ZR) (s s' : St) (rsz' : List Nat) (zs' : List ZR),
      fileLoop cap blk content off insz fuel n rsz zs s = .ok (s', rsz', zs') → insz - n ≤ fuel →
      Adv s s' ((content.drop (off + n)).take (insz - n))
  | 0, n, rsz, zs, s, s', rsz', zs', h, hf => by
    simp only [fileLoop, Except.ok.injEq, Prod.mk.injEq] at h
    obtain ⟨rfl, _, _⟩ := h
    simpa [show insz - n = 0 by omega] using Adv.refl s
  | fuel + 1, n, rsz, zs, s, s', rsz', zs', h, hf => by
    rw [fileLoop] at h
    dsimp only at h
    split at h
    · simp only [Except.ok.injEq, Prod.mk.injEq] at h
      obtain ⟨rfl, _, _⟩ := h
      simpa [show insz - n = 0 by omega] using Adv.refl s
    generalize hlim : readLimit rsz (min (insz - n) (min insz blk)) = lim at h
    have hlimle : lim ≤ insz - n := by
      subst hlim; unfold readLimit; split <;> omega
    split at h
    · cases h
    rename_i hne
    split at h
    · cases h
    rename_i s2 zs2 hcb
    have hdpos : ((content.drop (off + n)).take lim).length ≥ 1 := by
      cases hd : (content.drop (off + n)).take lim with
      | nil => simp [hd] at hne
      | cons _ _ => simp
    have := ((adv_noteRead s _ _).trans (compressBlock_spec cap _ _ _ _ _ hcb)).trans
      (fileLoop_spec cap blk content off insz fuel _ rsz.tail zs2 s2 s' rsz' zs' h (by omega))
    rw [take_split (content.drop (off + n)) lim (insz - n) hlimle]
    simpa [List.drop_drop, Nat.add_assoc, Nat.sub_sub] using this

theorem feedChunks_spec (cap blk : Nat) : ∀ (cq : List Chunk) (rsz : List Nat) (zs : List ZR) (s s' : St)
    (rsz' : List Nat) (zs' : List ZR),
    feedChunks cap blk cq rsz zs s = .ok (s', rsz', zs') → Adv s s' (body cq)
  | [], rsz, zs, s, s', rsz', zs', h => by
    simp only [feedChunks, Except.ok.injEq, Prod.mk.injEq] at h
    obtain ⟨rfl, _, _⟩ := h
    exact Adv.refl s
  | .mem d :: cq, rsz, zs, s, s', rsz', zs', h => by
    rw [feedChunks] at h
    split at h
    · cases h
    · rename_i s1 zs1 hcb
      exact (compressBlock_spec cap _ _ _ _ _ hcb).trans (feedChunks_spec cap blk cq _ _ _ _ _ _ h)
  | .file content off len :: cq, rsz, zs, s, s', rsz', zs', h => by
    rw [feedChunks] at h
    split at h
    · cases h
    · rename_i s1 rsz1 zs1 hfl
      have := fileLoop_spec cap blk content off len len 0 rsz zs s s1 rsz1 zs1 hfl (by omega)
      exact this.trans (feedChunks_spec cap blk cq _ _ _ _ _ _ h)

theorem finishLoop_spec (cap : Nat) : ∀ (zs : List ZR) (s s' : St) (zs' : List ZR),
    finishLoop cap zs s = .ok (s', zs') → Adv s s' [] ∧ s'.obuf = []
  | [], _, _, _, h => by simp [finishLoop] at h
  | r :: rs, s, s', zs', h => by
    rw [finishLoop] at h
    dsimp only at h
    split at h
    · cases h
    split at h
    · cases h
    have hadv := (adv_afterCall s r ⟨0, cap - s.obuf.length, true⟩ []).trans (adv_append _)
    split at h
    · simp only [Except.ok.injEq, Prod.mk.injEq] at h
      obtain ⟨rfl, rfl⟩ := h
      exact ⟨hadv, append_obuf _⟩
    · obtain ⟨h1, h2⟩ := finishLoop_spec cap _ _ _ _ h
      exact ⟨hadv.trans h1, h2⟩

theorem compressResponse_spec (cap blk : Nat) (cq : List Chunk) (rsz : List Nat) (zs zs' : List ZR) (s : St)
    (h : compressResponse cap blk cq rsz zs = .ok (s, zs')) :
    s.fed = body cq ∧ Inv s ∧ (body cq ≠ [] → s.obuf = []) := by
  unfold compressResponse at h
  split at h
  · cases h
  · rename_i s1 rsz1 zs1 hfeed
    have hadv := feedChunks_spec cap blk cq rsz zs {} s1 rsz1 zs1 hfeed
    split at h
    · rename_i he
      simp only [Except.ok.injEq, Prod.mk.injEq] at h
      obtain ⟨rfl, rfl⟩ := h
      exact ⟨by simpa using hadv.2, hadv.1 inv_init, fun hne => absurd (List.isEmpty_iff.mp he) hne⟩
    · obtain ⟨h1, h2⟩ := finishLoop_spec cap _ _ _ _ h
      have := hadv.trans h1
      exact ⟨by simpa using this.2, this.1 inv_init, fun _ => h2⟩

end LtVerif.DeflateStream
