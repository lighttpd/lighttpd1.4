/-
  Lemmas for Model/Reset.lean and Model/Server.lean, in this order: projections of `onLive`/`onCore`, `Forall2` (for
  the runs in Props/C08); reset restores the core fields
  (`SlotsOk`); what the response path leaves alone (`Carries`); the saved method is irrelevant while the
  saved status is 0; `coreHeaders`; parsing; one HTTP/1.x request (`ConnInv`, `coreAnswer`, `parsedCore`,
  `expectedAnswer`, `connAfter`); one HTTP/2 stream (`expectedAnswerH2`).
  That the two header parsers store the same request is Proofs/ServerSameRequest.lean: neither file uses the other.
-/
import LtVerif.Model.Server
import LtVerif.Proofs.H1Block
import LtVerif.Proofs.Bytes
namespace LtVerif.Req
open LtVerif LtVerif.B

@[simp] theorem ReqCore.onLive_live (s : ReqCore) (f : ReqLive → ReqLive) : (s.onLive f).toReqLive = f s.toReqLive := rfl
@[simp] theorem ReqCore.onLive_kept (s : ReqCore) (f : ReqLive → ReqLive) : (s.onLive f).toReqKept = s.toReqKept := rfl
@[simp] theorem ReqSt.onCore_core (s : ReqSt) (f : ReqCore → ReqCore) : (s.onCore f).toReqCore = f s.toReqCore := rfl
@[simp] theorem ReqSt.onCore_stale (s : ReqSt) (f : ReqCore → ReqCore) : (s.onCore f).toReqStale = s.toReqStale := rfl
@[simp] theorem ReqSt.onLive_core (s : ReqSt) (f : ReqLive → ReqLive) : (s.onLive f).toReqCore = s.toReqCore.onLive f := rfl
@[simp] theorem ReqSt.onLive_stale (s : ReqSt) (f : ReqLive → ReqLive) : (s.onLive f).toReqStale = s.toReqStale := rfl

theorem ReqCore.ext2 {a b : ReqCore} (h1 : a.toReqLive = b.toReqLive) (h2 : a.toReqKept = b.toReqKept) : a = b := by
  cases a; cases b; simp_all

inductive Forall2 {α β : Type} (R : α → β → Prop) : List α → List β → Prop
  | nil : Forall2 R [] []
  | cons {a b l₁ l₂} : R a b → Forall2 R l₁ l₂ → Forall2 R (a :: l₁) (b :: l₂)

/-! ### reset restores the core fields -/

theorem bodyClear_reset_live (l : ReqLive) :
    bodyClear hdrIds { l with respHtags := [], respHeaderLen := 0, respHeaderRepeated := false, respHeaders := [] } false
      = { l with respHtags := [], respHeaderLen := 0, respHeaderRepeated := false, respHeaders := [],
                 respBodyFinished := false, respBodyStarted := false, respSendChunked := false,
                 respBodyScratchpad := -1, respDecodeChunked := false, gwDechunk := false,
                 writeQueue := {} } := by
  simp [bodyClear, btst, Cq.reset]

/-- every plugin_ctx slot in use belongs to a module whose handle_request_reset hook clears it -/
def SlotsOk (e : SrvEnv) (l : List (Nat × PCtx)) : Prop := ∀ p ∈ l, p.1 ∈ e.resetHooks

theorem SlotsOk.filter_nil {e : SrvEnv} {l : List (Nat × PCtx)} (h : SlotsOk e l) :
    l.filter (fun p => !e.resetHooks.contains p.1) = [] := by
  apply List.filter_eq_nil_iff.mpr
  intro p hp
  simp [h p hp]

theorem SlotsOk.nil (e : SrvEnv) : SlotsOk e [] := fun _ h => by simp at h

theorem requestReset_live (e : SrvEnv) (s : ReqSt) (hs : SlotsOk e s.pluginCtx) :
    (requestReset hdrIds e s).toReqLive = (ReqSt.init e).toReqLive := by
  -- every live field is assigned its initial value; of plugin_ctx the slots without hook survive: none
  unfold requestReset responseReset
  simp only [ReqSt.onLive, ReqSt.onCore, ReqCore.onLive, pluginsReset, hs.filter_nil]
  by_cases hptr : s.physPathPtr = true <;> simp [hptr, hreset, bodyClear, btst, Cq.reset, ReqSt.init]

theorem requestResetEx_core (e : SrvEnv) (s : ReqSt) (h : s.toReqLive = (ReqSt.init e).toReqLive) :
    (requestResetEx s).toReqCore = (ReqSt.init e).toReqCore := by
  apply ReqCore.ext2
  · have h1 : s.target = none := congrArg ReqLive.target h
    have h2 : s.pathinfo = none := congrArg ReqLive.pathinfo h
    rw [← h]
    unfold requestResetEx
    obtain ⟨⟨l, k⟩, d⟩ := s
    cases l
    simp_all
  · simp [requestResetEx, ReqSt.init]

theorem reset_core (e : SrvEnv) (s : ReqSt) (hs : SlotsOk e s.pluginCtx) :
    (requestResetEx (requestReset hdrIds e s)).toReqCore = (ReqSt.init e).toReqCore :=
  requestResetEx_core e _ (requestReset_live e s hs)

theorem requestRelease_core (e : SrvEnv) (s : ReqSt) (hs : SlotsOk e s.pluginCtx) :
    (requestRelease hdrIds e s).toReqCore = (ReqSt.init e).toReqCore := by
  unfold requestRelease
  simp only []
  have := reset_core e { s with readQueue := s.readQueue.reset } hs
  simpa using this

/-! ### what the response path leaves alone -/

/-- `t` has the plugin_ctx slots (written by mod_setenv's uri_clean hook only) and the
    error_handler_saved_status (written by http_response_has_error_handler() only) of `s`;
    an `abbrev`, so that `simp` uses a lemma `Carries s (f s)` as its two rewrite rules -/
abbrev Carries (s t : ReqLive) : Prop :=
  t.pluginCtx = s.pluginCtx ∧ t.errorHandlerSavedStatus = s.errorHandlerSavedStatus

theorem SlotsOk.carries {e : SrvEnv} {s t : ReqLive} (hs : SlotsOk e s.pluginCtx) (h : Carries s t) :
    SlotsOk e t.pluginCtx := by
  rw [h.1]; exact hs

@[simp] theorem respSet_ehs (s : ReqLive) (id k v) : (respSet s id k v).errorHandlerSavedStatus = s.errorHandlerSavedStatus := rfl
@[simp] theorem respSet_pctx (s : ReqLive) (id k v) : (respSet s id k v).pluginCtx = s.pluginCtx := rfl
@[simp] theorem errorClose_ehs (s : ReqLive) (st) : (errorClose s st).errorHandlerSavedStatus = s.errorHandlerSavedStatus := rfl
@[simp] theorem errorClose_pctx (s : ReqLive) (st) : (errorClose s st).pluginCtx = s.pluginCtx := rfl
@[simp] theorem storeError_ehs (s : ReqLive) (a b c) : (storeError s a b c).errorHandlerSavedStatus = s.errorHandlerSavedStatus := rfl
@[simp] theorem storeError_pctx (s : ReqLive) (a b c) : (storeError s a b c).pluginCtx = s.pluginCtx := rfl
@[simp] theorem storeParsed_ehs (s : ReqCore) (a b c d f g h) :
    (storeParsed s a b c d f g h).errorHandlerSavedStatus = s.errorHandlerSavedStatus := rfl
@[simp] theorem storeParsed_pctx (s : ReqCore) (a b c d f g h) : (storeParsed s a b c d f g h).pluginCtx = s.pluginCtx := rfl

theorem respUnset_carries (s : ReqLive) (id k) : Carries s (respUnset s id k) := by
  unfold respUnset; split <;> exact ⟨rfl, rfl⟩
theorem respAppend_carries (s : ReqLive) (id k v) : Carries s (respAppend s id k v) := by
  unfold respAppend; split <;> exact ⟨rfl, rfl⟩
theorem respInsert_carries (s : ReqLive) (id k v) : Carries s (respInsert s id k v) := by
  unfold respInsert; split <;> exact ⟨rfl, rfl⟩
theorem rqstUnset_carries (s : ReqLive) (id k) : Carries s (rqstUnset s id k) := by
  unfold rqstUnset; split <;> exact ⟨rfl, rfl⟩

/- Below, the two projections are pushed through the `if`s from the outside (`↓`), where both
   branches then agree: no case is split, no condition looked at. -/

theorem bodyClear_carries (s : ReqLive) (p) : Carries s (bodyClear hdrIds s p) := by
  simp only [Carries, bodyClear, ↓apply_ite ReqLive.pluginCtx, ↓apply_ite ReqLive.errorHandlerSavedStatus,
    ↓respUnset_carries, ite_self, and_self]
theorem optionsStar_carries (s : ReqLive) : Carries s (optionsStar s) := by
  simp only [Carries, optionsStar, ↓respAppend_carries, and_self]
theorem sendFile_carries (s : ReqLive) (a b c) : Carries s (sendFile s a b c) := by
  simp only [Carries, sendFile, ↓apply_ite ReqLive.pluginCtx, ↓apply_ite ReqLive.errorHandlerSavedStatus,
    ↓respSet_pctx, ↓respSet_ehs, ↓bodyClear_carries, ite_self, and_self]
theorem noHandler_carries (s : ReqLive) : Carries s (noHandler s) := by
  simp only [Carries, noHandler, errorClose, ↓apply_ite ReqLive.pluginCtx, ↓apply_ite ReqLive.errorHandlerSavedStatus,
    ↓optionsStar_carries, ↓bodyClear_carries, ite_self, and_self]
theorem sinkHandle_carries (site) (s : ReqLive) : Carries s (sinkHandle site s) := by
  simp only [Carries, sinkHandle, ↓respSet_pctx, ↓respSet_ehs, and_self]
theorem httpResponseConfig_carries (site) (s : ReqCore) :
    Carries s.toReqLive (httpResponseConfig site s).toReqLive := by
  simp only [Carries, httpResponseConfig, ReqCore.onLive, ↓apply_ite ReqCore.toReqLive, ↓apply_ite ReqLive.pluginCtx,
    ↓apply_ite ReqLive.errorHandlerSavedStatus, ↓rqstUnset_carries, ite_self, and_self]

theorem subrequestStart_carries (site) (s : ReqCore) :
    Carries s.toReqLive (subrequestStart site s).toReqLive := by
  unfold subrequestStart
  -- the cases of the two `match`es (index-file search, `site.lookup`) first
  generalize List.find? _ site.indexNames = idx
  cases idx <;> simp only [] <;> generalize site.lookup _ = node <;> rcases node with _ | _ | _
  all_goals
    simp only [Carries, ReqCore.onLive, ↓apply_ite ReqCore.toReqLive, ↓apply_ite ReqLive.pluginCtx,
      ↓apply_ite ReqLive.errorHandlerSavedStatus, ↓noHandler_carries, ↓sinkHandle_carries, ↓sendFile_carries,
      ite_self, and_self]

theorem prepareServe_carries (site) (s : ReqCore) : Carries s.toReqLive (prepareServe site s).toReqLive := by
  unfold prepareServe
  generalize site.lookup _ = node
  cases node <;>
    simp only [Carries, ReqCore.onLive, ↓apply_ite ReqCore.toReqLive, ↓apply_ite ReqLive.pluginCtx,
      ↓apply_ite ReqLive.errorHandlerSavedStatus, ↓respSet_pctx, ↓respSet_ehs, ↓subrequestStart_carries,
      ite_self, and_self]

theorem setenvResponseStart_carries (s : ReqLive) : Carries s (setenvResponseStart s) := by
  unfold setenvResponseStart
  split
  · exact ⟨rfl, rfl⟩
  · rename_i hs h
    clear h
    induction hs generalizing s with
    | nil => exact ⟨rfl, rfl⟩
    | cons kv rest ih =>
      have h1 := ih (respInsert s (hid (kv.1.map toLower)) kv.1 kv.2)
      have h2 := respInsert_carries s (hid (kv.1.map toLower)) kv.1 kv.2
      exact ⟨h1.1.trans h2.1, h1.2.trans h2.2⟩

theorem staticErrdoc_carries (s : ReqLive) : Carries s (staticErrdoc s) := by
  unfold staticErrdoc
  generalize (if s.httpStatus = 401 then _ else _ : Option Bytes) = www
  cases www <;> simp only [Carries, ↓respSet_pctx, ↓respSet_ehs, ↓bodyClear_carries, and_self]
theorem wpStatus_carries (s : ReqLive) : Carries s (wpStatus s) := by
  simp only [Carries, wpStatus, ↓apply_ite ReqLive.pluginCtx, ↓apply_ite ReqLive.errorHandlerSavedStatus,
    ↓bodyClear_carries, ↓respUnset_carries, ↓staticErrdoc_carries, ite_self, and_self]
theorem wpFraming_carries (s : ReqLive) : Carries s (wpFraming s) := by
  simp only [Carries, wpFraming, ↓apply_ite ReqLive.pluginCtx, ↓apply_ite ReqLive.errorHandlerSavedStatus,
    ↓respSet_pctx, ↓respSet_ehs, ↓respAppend_carries, ite_self, and_self]
theorem wpHead_carries (s : ReqLive) : Carries s (wpHead s) := by
  simp only [Carries, wpHead, ↓apply_ite ReqLive.pluginCtx, ↓apply_ite ReqLive.errorHandlerSavedStatus,
    ↓bodyClear_carries, ite_self, and_self]
theorem writePrepare_carries (s : ReqLive) : Carries s (writePrepare s) := by
  simp only [Carries, writePrepare, wpHead_carries, wpFraming_carries, setenvResponseStart_carries,
    wpStatus_carries, and_self]
theorem h1SendHeaders_carries (n) (s : ReqLive) : Carries s (h1SendHeaders n s) := by
  simp only [Carries, h1SendHeaders, ↓apply_ite ReqLive.pluginCtx, ↓apply_ite ReqLive.errorHandlerSavedStatus,
    ↓respSet_pctx, ↓respSet_ehs, ite_self, and_self]

theorem preWrite_pctx (m) (s : ReqLive) : (preWrite m s).pluginCtx = s.pluginCtx := by
  simp only [preWrite, hasErrorHandler, ↓apply_ite ReqLive.pluginCtx, ite_self]

theorem setenvUriClean_ehs (s : ReqLive) :
    (setenvUriClean s).errorHandlerSavedStatus = s.errorHandlerSavedStatus := by
  unfold setenvUriClean; split <;> rfl

/-- (1 = mod_setenv's plugin id) -/
theorem setenvUriClean_slots (e : SrvEnv) (h1 : 1 ∈ e.resetHooks) (s : ReqLive) (hs : SlotsOk e s.pluginCtx) :
    SlotsOk e (setenvUriClean s).pluginCtx := by
  unfold setenvUriClean; split
  · exact hs
  · intro p hp
    simp only [pctxSet, List.mem_cons, List.mem_filter] at hp
    rcases hp with hp | hp
    · rw [hp]; exact h1
    · exact hs p hp.1

def setupOutcome : Except ReqCore ReqCore → ReqCore
  | .error t => t
  | .ok t => t

theorem prepareSetup_keeps (site) (s : ReqCore) :
    (setupOutcome (prepareSetup site s)).errorHandlerSavedStatus = s.errorHandlerSavedStatus ∧
    ∀ e : SrvEnv, 1 ∈ e.resetHooks → SlotsOk e s.pluginCtx → SlotsOk e (setupOutcome (prepareSetup site s)).pluginCtx := by
  have hc := httpResponseConfig_carries site s
  have hu := setenvUriClean_ehs (httpResponseConfig site s).toReqLive
  -- projections through the `if`s first, leaves rewritten after: `onLive` rewritten inside a
  -- condition would keep `apply_ite` from matching
  refine ⟨?_, fun e h1 hs => ?_⟩
  · simp only [prepareSetup, setupOutcome.eq_1, setupOutcome.eq_2, ↓apply_ite setupOutcome, apply_ite setupOutcome,
      apply_ite ReqCore.toReqLive,
      apply_ite ReqLive.errorHandlerSavedStatus]
    simp only [ReqCore.onLive_live, errorClose, optionsStar_carries, hu, hc.2, ite_self]
  · have hsl := setenvUriClean_slots e h1 _ (hs.carries hc)
    simp only [prepareSetup, setupOutcome.eq_1, setupOutcome.eq_2, ↓apply_ite setupOutcome, apply_ite setupOutcome,
      apply_ite ReqCore.toReqLive,
      apply_ite ReqLive.pluginCtx, apply_ite (SlotsOk e)]
    simp only [ReqCore.onLive_live, errorClose, optionsStar_carries, hc.1, hs, hsl, ite_self]

theorem prepared_keeps (site) (s : ReqCore) :
    (prepared site s).errorHandlerSavedStatus = s.errorHandlerSavedStatus ∧
    ∀ e : SrvEnv, 1 ∈ e.resetHooks → SlotsOk e s.pluginCtx → SlotsOk e (prepared site s).pluginCtx := by
  have hset := prepareSetup_keeps site s
  unfold prepared responsePrepare
  split
  · exact ⟨rfl, fun _ _ => id⟩
  · split
    · split
      · exact ⟨(bodyClear_carries s.toReqLive false).2, fun _ _ hs => hs.carries (bodyClear_carries s.toReqLive false)⟩
      · exact ⟨rfl, fun _ _ => id⟩
    · split
      · rename_i t ht; rw [ht] at hset; exact hset
      · rename_i t ht; rw [ht] at hset
        have hv := prepareServe_carries site t
        exact ⟨hv.2.trans hset.1, fun e h1 hs => (hset.2 e h1 hs).carries hv⟩

/-! ### the saved method of the error handler is only looked at while the saved status is set

`Req.hasErrorHandler` is the restoring half alone (no handler configured); the loop with a handler is
Model/ErrHandler.lean (`ErrH.hasErrorHandler`), and the two are not composed. -/

theorem hasErrorHandler_irrel (m1 m2 : Int) (s : ReqLive) (h : s.errorHandlerSavedStatus = 0) :
    hasErrorHandler m1 s = hasErrorHandler m2 s := by
  simp [hasErrorHandler, h]

theorem preWrite_irrel (m1 m2 : Int) (s : ReqLive) (h : s.errorHandlerSavedStatus = 0) :
    preWrite m1 s = preWrite m2 s := by
  unfold preWrite
  simp only []
  split
  · rw [hasErrorHandler_irrel m1 m2 _ (by simpa using h)]
  · rw [hasErrorHandler_irrel m1 m2 _ h]

theorem respondC_live (site : Site) (m : Int) (s : ReqCore) :
    (respondC site m s).toReqLive = writePrepare (preWrite m (prepared site s).toReqLive) := by
  unfold respondC
  simp only []
  split <;> rfl

theorem respondC_irrel (site : Site) (m1 m2 : Int) (s : ReqCore) (h : s.errorHandlerSavedStatus = 0) :
    respondC site m1 s = respondC site m2 s := by
  have hp := preWrite_irrel m1 m2 (prepared site s).toReqLive ((prepared_keeps site s).1.trans h)
  unfold respondC
  simp only []
  rw [hp]

/-- (status > 200: an error decided before http_response_prepare()) -/
theorem prepared_err_live (site : Site) (c1 c2 : ReqCore) (h : c1.toReqLive = c2.toReqLive)
    (hs : c1.httpStatus > 200) : (prepared site c1).toReqLive = (prepared site c2).toReqLive := by
  have hs2 : c2.httpStatus > 200 := by
    have : c1.httpStatus = c2.httpStatus := congrArg ReqLive.httpStatus h
    omega
  have hh : c1.handlerModule = c2.handlerModule := congrArg ReqLive.handlerModule h
  have hf : c1.respBodyFinished = c2.respBodyFinished := congrArg ReqLive.respBodyFinished h
  unfold prepared responsePrepare
  simp only [hs, hs2, hh, hf, if_true]
  split
  · simp [h]
  · split <;> simp [h]

theorem respondC_slots (e : SrvEnv) (h1 : 1 ∈ e.resetHooks) (site) (m) (s : ReqCore) (hs : SlotsOk e s.pluginCtx) :
    SlotsOk e (respondC site m s).pluginCtx := by
  show SlotsOk e (respondC site m s).toReqLive.pluginCtx
  rw [respondC_live, (writePrepare_carries _).1, preWrite_pctx]
  exact (prepared_keeps site s).2 e h1 hs

/-! ### the keep-alive decision only shows in the Connection header -/

/-- the header part of `Out.core` computed from the response header array -/
def coreHeaders (hs : HList) : List (Bytes × Bytes) :=
  (((hs.filter fun e => !e.2.1.isEmpty && !e.2.2.isEmpty).map fun e => (e.2.1, e.2.2)).filter
      fun kv => kv.1.map toLower ≠ ofString "connection").map fun kv => (kv.1.map toLower, kv.2)

theorem lower_Connection : (ofString "Connection").map toLower = ofString "connection" := by decide

theorem coreHeaders_cons_conn (e : HId × Bytes × Bytes) (rest : HList)
    (h : e.2.1.map toLower = ofString "connection") : coreHeaders (e :: rest) = coreHeaders rest := by
  unfold coreHeaders
  by_cases hne : (!e.2.1.isEmpty && !e.2.2.isEmpty) = true
  · simp [hne, h]
  · simp [hne]

theorem coreHeaders_cons_congr (e e' : HId × Bytes × Bytes) (r r' : HList)
    (h : coreHeaders r = coreHeaders r') (he : e.2 = e'.2) : coreHeaders (e :: r) = coreHeaders (e' :: r') := by
  unfold coreHeaders at *
  simp only [List.filter_cons, he]
  split
  · simp only [List.map_cons, List.filter_cons]
    split <;> simp_all
  · exact h

theorem coreHeaders_hupdate_conn (a : HList) (f : Bytes → Bytes) :
    coreHeaders (hupdate a idConnection (ofString "Connection") f) = coreHeaders a := by
  unfold hupdate
  split
  · rename_i hany; clear hany
    induction a with
    | nil => rfl
    | cons e rest ih =>
      simp only [List.map_cons]
      split
      · rename_i hc
        have hk : e.2.1.map toLower = ofString "connection" := by
          have := hc.2; simp [eqIcase, lower_Connection] at this; exact this
        rw [coreHeaders_cons_conn _ _ hk, coreHeaders_cons_conn _ _ (by simpa using hk), ih]
      · exact coreHeaders_cons_congr _ _ _ _ ih rfl
  · rename_i hany; clear hany
    induction a with
    | nil => simp [coreHeaders, lower_Connection]
    | cons e rest ih =>
      simp only [List.cons_append]
      exact coreHeaders_cons_congr _ _ _ _ ih rfl

theorem core_h1Output (l : ReqLive) : (h1Output l).core = (l.httpStatus, coreHeaders l.respHeaders, l.writeQueue.data) := by
  simp [Out.core, h1Output, headerLines, coreHeaders]

theorem core_h2Output (l : ReqLive) : (h2Output l).core = (l.httpStatus, coreHeaders l.respHeaders, l.writeQueue.data) := by
  simp only [Out.core, h2Output, headerLines, coreHeaders, Prod.mk.injEq, true_and, and_true]
  generalize (List.filter (fun e => !e.2.1.isEmpty && !e.2.2.isEmpty) l.respHeaders) = hs
  induction hs with
  | nil => rfl
  | cons e rest ih =>
    simp only [List.map_cons, List.filter_cons, map_toLower_idem]
    split <;> simp_all [toLower_idem]

theorem core_h1SendHeaders (n : Nat) (l : ReqLive) : (h1Output (h1SendHeaders n l)).core = (h1Output l).core := by
  simp only [core_h1Output, h1SendHeaders, respSet, ↓apply_ite ReqLive.httpStatus, ↓apply_ite ReqLive.respHeaders,
    ↓apply_ite ReqLive.writeQueue, apply_ite coreHeaders, coreHeaders_hupdate_conn, ite_self]

/-! ### parsing -/

def IntoRes.map {σ τ : Type} (f : σ → τ) : IntoRes σ → IntoRes τ
  | .incomplete => .incomplete
  | .blank => .blank
  | .skipV6 => .skipV6
  | .done s => .done (f s)

theorem liftInto_map (s : ReqSt) (r : IntoRes ReqCore) : (liftInto s r).map (·.toReqCore) = r := by
  cases r <;> rfl

theorem parseIntoH1_core (s : ReqSt) (b : Bytes) :
    (parseIntoH1 s b).map (·.toReqCore) = parseIntoH1C s.toReqCore b := liftInto_map _ _

theorem parseIntoH2_core (s : ReqSt) (fs : List (Bytes × Bytes)) (es : Bool) :
    (parseIntoH2 s fs es).map (·.toReqCore) = parseIntoH2C s.toReqCore fs es := liftInto_map _ _

def IntoRes.done? {σ : Type} : IntoRes σ → Option σ
  | .done s => some s
  | _ => none

theorem parseIntoH1C_carries (s c : ReqCore) (b : Bytes) (h : (parseIntoH1C s b).done? = some c) :
    Carries s.toReqLive c.toReqLive := by
  unfold parseIntoH1C at h
  simp only [] at h
  -- every `.done` leaf is `storeError`, `storeParsed` or a status update: none writes either member
  repeat' split at h
  all_goals simp only [IntoRes.done?, Option.some.injEq, reduceCtorEq] at h
  all_goals subst h
  all_goals exact ⟨rfl, rfl⟩

theorem parseIntoH2C_carries (s c : ReqCore) (fs : List (Bytes × Bytes)) (es : Bool)
    (h : (parseIntoH2C s fs es).done? = some c) : Carries s.toReqLive c.toReqLive := by
  unfold parseIntoH2C at h
  simp only [] at h
  repeat' split at h
  all_goals simp only [IntoRes.done?, Option.some.injEq, reduceCtorEq] at h
  all_goals subst h
  all_goals exact ⟨rfl, rfl⟩

/-! ### one request on an HTTP/1.x connection -/

theorem recvHead_blank_startsBlank (mf : Nat) (block : Bytes) (n : Nat) (h : recvHead mf block = .blank n) :
    startsBlank block = true := by
  unfold recvHead at h
  simp only [] at h
  split at h
  · split at h <;> simp at h
  · rename_i lines bl ht
    split at h
    · simp at h
    · split at h
      · rename_i hl
        have hl' : lines = [] := by simpa using hl
        subst hl'
        -- the blank line is the first line; the lines are a prefix of the block
        obtain ⟨rest, hls, hb, -⟩ := takeHead_spec _ _ _ _ ht
        obtain ⟨rem, hfl, -⟩ := splitLines_spec block []
        simp only [List.reverse_nil, List.nil_append] at hls hfl
        rw [hls, List.flatten_cons, List.append_assoc] at hfl
        unfold isBlankLine at hb
        simp only [Bool.or_eq_true, decide_eq_true_eq] at hb
        rcases hb with hb | hb <;> subst hb <;> simp [startsBlank, hfl]
      · simp at h

/-- what holds of the request object of a connection between two requests; the Kept fields only before the first:
    request_reset() leaves them to request_reset_ex() at the next head -/
def ConnInv (e : SrvEnv) (c : Conn) : Prop :=
  c.r.toReqLive = (ReqSt.init e).toReqLive ∧ (c.requestCount = 0 → c.r.toReqKept = (ReqSt.init e).toReqKept)

/-- comparable part of the response to the request parsed into `c`; written with `h1Output`, the same for
    `h2Output` (`core_h2Output`); 0 = the saved method, any gives the same (`respondC_irrel`) -/
def coreAnswer (site : Site) (c : ReqCore) : Int × List (Bytes × Bytes) × Bytes :=
  (h1Output (respondC site 0 c).toReqLive).core

theorem respond_core (site : Site) (s : ReqSt) :
    (respond site s).toReqCore = respondC site s.errorHandlerSavedMethod s.toReqCore := by
  unfold respond; rfl

theorem h1Finish_core (site : Site) (e : SrvEnv) (h1h : 1 ∈ e.resetHooks) (count : Nat) (r1 : ReqSt)
    (h0 : r1.errorHandlerSavedStatus = 0) (hsl : SlotsOk e r1.pluginCtx) (hc : count ≠ 0) :
    ((h1Finish site e count r1).2).map Out.core = some (coreAnswer site r1.toReqCore) ∧
    ConnInv e (h1Finish site e count r1).1 := by
  have hout : (h1Output ((respond site r1).onLive (h1SendHeaders count)).toReqLive).core
      = coreAnswer site r1.toReqCore := by
    show (h1Output (h1SendHeaders count (respond site r1).toReqLive)).core = _
    rw [core_h1SendHeaders]
    show (h1Output (respond site r1).toReqCore.toReqLive).core = _
    rw [respond_core, respondC_irrel site _ 0 _ h0]
    rfl
  have hs2 : SlotsOk e ((respond site r1).onLive (h1SendHeaders count)).pluginCtx := by
    show SlotsOk e (h1SendHeaders count (respond site r1).toReqCore.toReqLive).pluginCtx
    rw [(h1SendHeaders_carries _ _).1, respond_core]
    exact respondC_slots e h1h site _ _ hsl
  have hr := reset_core e ((respond site r1).onLive (h1SendHeaders count)) hs2
  unfold h1Finish
  simp only []
  split
  · exact ⟨by simp only [Option.map_some]; rw [← hout]; rfl, requestReset_live e _ hs2, fun h => absurd h hc⟩
  · exact ⟨by simp only [Option.map_some]; rw [← hout]; rfl, congrArg ReqCore.toReqLive hr,
      fun _ => congrArg ReqCore.toReqKept hr⟩

theorem ConnInv_closed (e : SrvEnv) (r : ReqSt) (hs : SlotsOk e r.pluginCtx) :
    ConnInv e { r := { requestResetEx (requestReset hdrIds e r) with state := 0 }, requestCount := 0, isOpen := false } :=
  ⟨congrArg ReqCore.toReqLive (reset_core e r hs), fun _ => congrArg ReqCore.toReqKept (reset_core e r hs)⟩

theorem ConnInv.slots {e : SrvEnv} {c : Conn} (h : ConnInv e c) : SlotsOk e c.r.pluginCtx := by
  have : c.r.pluginCtx = [] := congrArg ReqLive.pluginCtx h.1
  rw [this]; exact SlotsOk.nil e

/-- the data starts the way a request starts: not with CR / LF / another control byte -/
def ReqStart (head : Bytes) : Prop := ∃ b, head.head? = some b ∧ ¬ b < 32

theorem ReqStart.notCtl {head : Bytes} (h : ReqStart head) : isCtl head = false := by
  obtain ⟨b, hb, hn⟩ := h; simp [isCtl, hb, hn]

theorem ReqStart.notBlank {head : Bytes} (h : ReqStart head) : startsBlank head = false := by
  obtain ⟨b, hb, hn⟩ := h
  simp only [startsBlank, hb, Option.some.injEq, Bool.or_eq_false_iff, decide_eq_false_iff_not]
  constructor <;> (intro hh; subst hh; revert hn; decide)

instance (head : Bytes) : Decidable (ReqStart head) :=
  decidable_of_iff (head ≠ [] ∧ isCtl head = false)
    ⟨fun h => by
      cases head with
      | nil => exact absurd rfl h.1
      | cons b t => exact ⟨b, rfl, by simpa [isCtl] using h.2⟩,
     fun h => ⟨by obtain ⟨b, hb, _⟩ := h; intro hn; simp [hn] at hb, h.notCtl⟩⟩

/-- the live fields of a request rejected by h1_recv_headers() with `st` -/
def liveRej (e : SrvEnv) (st : Int) : ReqLive := { (ReqSt.init e).toReqLive with httpStatus := st, keepAlive := 0 }

theorem h1Parse_reqStart (c : Conn) (head : Bytes) (hr : ReqStart head) :
    h1Parse c head = h1ParseNoDiscard c
      { (c.r.onLive fun l => { l with loopsPerRequest := 0 }) with
        readQueue := { c.r.readQueue with bytesIn := c.r.readQueue.bytesIn + head.length } } head := by
  unfold h1Parse
  simp only [hr.notBlank, Bool.false_eq_true, if_false]
  split
  · rfl
  · split
    · rename_i len hb
      have := recvHead_blank_startsBlank _ _ _ hb
      rw [hr.notBlank] at this; simp at this
    · rfl

theorem IntoRes.map_done? {σ τ : Type} (f : σ → τ) (r : IntoRes σ) : (r.map f).done? = r.done?.map f := by
  cases r <;> rfl

/-- the parse outcome of a connection satisfying the invariant, as an option -/
def parsedCore (e : SrvEnv) (k : ReqKept) (head : Bytes) : Option ReqCore :=
  match recvHead e.defaults.maxRequestFieldSize head with
  | .tooLarge => some { toReqLive := liveRej e 431, toReqKept := k }
  | .head _ _ => (parseIntoH1C (ReqSt.init e).toReqCore head).done?
  | .incomplete => none
  | .blank _ => some { toReqLive := liveRej e 400, toReqKept := k }

theorem h1Parse_done (e : SrvEnv) (c : Conn) (hinv : ConnInv e c) (head : Bytes) (hr : ReqStart head) :
    (h1Parse c head).done?.map (·.toReqCore) = parsedCore e c.r.toReqKept head := by
  obtain ⟨hl, hk⟩ := hinv
  rw [h1Parse_reqStart c head hr]
  generalize hr0 : ({ (c.r.onLive fun l => { l with loopsPerRequest := 0 }) with
        readQueue := { c.r.readQueue with bytesIn := c.r.readQueue.bytesIn + head.length } } : ReqSt) = r0
  have hl0 : r0.toReqLive = (ReqSt.init e).toReqLive := by
    rw [← hr0]
    show ({ c.r.toReqLive with loopsPerRequest := 0 } : ReqLive) = _
    rw [hl]; rfl
  have hk0 : r0.toReqKept = c.r.toReqKept := by rw [← hr0]; rfl
  have hconf : r0.conf.maxRequestFieldSize = e.defaults.maxRequestFieldSize :=
    congrArg (fun l : ReqLive => l.conf.maxRequestFieldSize) hl0
  have hrej : ∀ st : Int, (r0.onLive fun l => { l with httpStatus := st, keepAlive := 0 }).toReqCore
      = { toReqLive := liveRej e st, toReqKept := c.r.toReqKept } := fun st =>
    ReqCore.ext2 (by show ({ r0.toReqLive with httpStatus := st, keepAlive := 0 } : ReqLive) = _; rw [hl0]; rfl) hk0
  unfold h1ParseNoDiscard parsedCore
  simp only [hconf, hr.notCtl, Bool.false_eq_true, if_false]
  cases recvHead e.defaults.maxRequestFieldSize head with
  | tooLarge => exact congrArg some (hrej 431)
  | blank n => exact congrArg some (hrej 400)
  | incomplete => rfl
  | head lines len =>
    simp only []
    rw [← IntoRes.map_done?, parseIntoH1_core]
    congr 2
    by_cases hcnt : c.requestCount = 0
    · have : ¬ (c.requestCount + 1 > 1) := by omega
      simp only [this, if_false]
      exact ReqCore.ext2 hl0 (hk0.trans (hk hcnt))
    · have : c.requestCount + 1 > 1 := by omega
      simp only [this, if_true]
      exact requestResetEx_core e _ hl0

/-- the comparable part of the answer to data that starts like a request, as a function of the
    data, the site and the configuration alone (`none`: the head is incomplete) -/
def expectedAnswer (site : Site) (e : SrvEnv) (head : Bytes) : Option (Int × List (Bytes × Bytes) × Bytes) :=
  match recvHead e.defaults.maxRequestFieldSize head with
  | .tooLarge => some (coreAnswer site { toReqLive := liveRej e 431, toReqKept := (ReqSt.init e).toReqKept })
  | .head _ _ => ((parseIntoH1C (ReqSt.init e).toReqCore head).done?).map (coreAnswer site)
  | .incomplete => none
  | .blank _ => some (coreAnswer site { toReqLive := liveRej e 400, toReqKept := (ReqSt.init e).toReqKept })

theorem coreAnswer_rej (site : Site) (e : SrvEnv) (st : Int) (hst : st > 200) (k1 k2 : ReqKept) :
    coreAnswer site { toReqLive := liveRej e st, toReqKept := k1 } = coreAnswer site { toReqLive := liveRej e st, toReqKept := k2 } := by
  unfold coreAnswer
  rw [respondC_live, respondC_live,
    prepared_err_live site { toReqLive := liveRej e st, toReqKept := k1 } { toReqLive := liveRej e st, toReqKept := k2 } rfl
      (by simpa [liveRej] using hst)]

theorem parsedCore_facts (e : SrvEnv) (k : ReqKept) (head : Bytes) (c1 : ReqCore)
    (h : parsedCore e k head = some c1) :
    c1.errorHandlerSavedStatus = 0 ∧ c1.pluginCtx = [] := by
  unfold parsedCore at h
  cases hr : recvHead e.defaults.maxRequestFieldSize head with
  | tooLarge => simp only [hr, Option.some.injEq] at h; subst h; simp [liveRej, ReqSt.init]
  | blank n => simp only [hr, Option.some.injEq] at h; subst h; simp [liveRej, ReqSt.init]
  | incomplete => simp [hr] at h
  | head lines len =>
    simp only [hr] at h
    exact ⟨(parseIntoH1C_carries _ _ _ h).2, (parseIntoH1C_carries _ _ _ h).1⟩

theorem expectedAnswer_eq (site : Site) (e : SrvEnv) (k : ReqKept) (head : Bytes) :
    (parsedCore e k head).map (coreAnswer site) = expectedAnswer site e head := by
  unfold parsedCore expectedAnswer
  cases recvHead e.defaults.maxRequestFieldSize head with
  | tooLarge => exact congrArg some (coreAnswer_rej site e 431 (by decide) _ _)
  | blank n => exact congrArg some (coreAnswer_rej site e 400 (by decide) _ _)
  | incomplete => rfl
  | head lines len => rfl

theorem h1Msg_answer (site : Site) (e : SrvEnv) (h1h : 1 ∈ e.resetHooks) (c : Conn) (hinv : ConnInv e c)
    (hopen : c.isOpen = true) (head : Bytes) (hr : ReqStart head) :
    ((h1Msg site e c head).2).map Out.core = expectedAnswer site e head ∧ ConnInv e (h1Msg site e c head).1 := by
  have hd := h1Parse_done e c hinv head hr
  rw [← expectedAnswer_eq site e c.r.toReqKept head, ← hd]
  unfold h1Msg
  simp only [hopen, Bool.not_true, Bool.false_eq_true, if_false]
  cases hparse : h1Parse c head with
  | done r1 =>
    have hpc : parsedCore e c.r.toReqKept head = some r1.toReqCore := by rw [← hd, hparse]; rfl
    have hf := parsedCore_facts e _ head _ hpc
    have hs : SlotsOk e r1.pluginCtx := by
      show SlotsOk e r1.toReqCore.pluginCtx
      rw [hf.2]; exact SlotsOk.nil e
    have := h1Finish_core site e h1h (c.requestCount + 1) r1 hf.1 hs (by omega)
    exact ⟨by rw [this.1]; rfl, this.2⟩
  | blank => exact ⟨rfl, hinv⟩
  | incomplete => exact ⟨rfl, ConnInv_closed e c.r hinv.slots⟩
  | skipV6 => exact ⟨rfl, ConnInv_closed e c.r hinv.slots⟩

theorem ConnInv_fresh (e : SrvEnv) : ConnInv e (Conn.fresh e) := ⟨rfl, fun _ => rfl⟩

theorem ConnInv.reaccept {e : SrvEnv} {c : Conn} (h : ConnInv e c) (h0 : c.requestCount = 0) :
    ConnInv e c.reaccept := ⟨h.1, fun _ => h.2 h0⟩

def connAfter (site : Site) (e : SrvEnv) (c : Conn) : List Bytes → Conn
  | [] => c
  | head :: rest => connAfter site e (h1Msg site e c head).1 rest

theorem connInv_after (site : Site) (e : SrvEnv) (h1h : 1 ∈ e.resetHooks) (P : List Bytes)
    (hP : ∀ h ∈ P, ReqStart h) : ∀ c, ConnInv e c → ConnInv e (connAfter site e c P) := by
  induction P with
  | nil => intro c h; exact h
  | cons head rest ih =>
    intro c h
    apply ih (fun x hx => hP x (by simp [hx]))
    by_cases ho : c.isOpen = true
    · exact (h1Msg_answer site e h1h c h ho head (hP head (by simp))).2
    · have : h1Msg site e c head = (c, none) := by simp [h1Msg, ho]
      rw [this]; exact h

/-- the carried fields (`ReqStale`) of the request object between two requests do not reach the next
    answer: every model function on the response path is typed on `ReqCore`.  That the C functions
    read none of these fields before writing them is what the `rp` stream tests. -/
theorem carried_fields_unread (site : Site) (e : SrvEnv) (h1h : 1 ∈ e.resetHooks) (c : Conn) (hinv : ConnInv e c)
    (hopen : c.isOpen = true) (d : ReqStale) (R : Bytes) (hr : ReqStart R) :
    ((h1Msg site e { c with r := { c.r with toReqStale := d } } R).2).map Out.core =
      ((h1Msg site e c R).2).map Out.core := by
  have h1 := (h1Msg_answer site e h1h c hinv hopen R hr).1
  have hinv' : ConnInv e { c with r := { c.r with toReqStale := d } } := hinv
  have h2 := (h1Msg_answer site e h1h _ hinv' hopen R hr).1
  rw [h1, h2]

/-! ### one HTTP/2 stream on a pooled request object -/

theorem h2InitStream_core (h2r : ReqSt) (swin : Nat) (p q : ReqSt) (h : p.toReqCore = q.toReqCore) :
    (h2InitStream h2r swin p).toReqCore = (h2InitStream h2r swin q).toReqCore := by
  have hl : p.toReqLive = q.toReqLive := congrArg ReqCore.toReqLive h
  have hk : p.toReqKept = q.toReqKept := congrArg ReqCore.toReqKept h
  unfold h2InitStream
  apply ReqCore.ext2
  · show ({ p.toReqLive with x2 := _, version := 2, conf := h2r.conf } : ReqLive) = _
    rw [hl]
  · show ({ p.toReqKept with serverName := _ } : ReqKept) = _
    rw [hk]

/-- the comparable part of the answer to a HEADERS block as a function of the header fields, the
    site and the connection-level configuration state `h2r` alone -/
def expectedAnswerH2 (site : Site) (e : SrvEnv) (h2r : ReqSt) (swin : Nat) (fs : List (Bytes × Bytes))
    (es : Bool) : Option (Int × List (Bytes × Bytes) × Bytes) :=
  ((parseIntoH2C (h2InitStream h2r swin (ReqSt.init e)).toReqCore fs es).done?).map (coreAnswer site)

theorem h2InitStream_pctx (h2r : ReqSt) (swin : Nat) (p : ReqSt) :
    (h2InitStream h2r swin p).pluginCtx = p.pluginCtx := rfl

theorem h2Stream_answer (site : Site) (e : SrvEnv) (h1h : 1 ∈ e.resetHooks) (h2r : ReqSt) (swin : Nat)
    (pooled : ReqSt) (hp : pooled.toReqCore = (ReqSt.init e).toReqCore) (fs : List (Bytes × Bytes)) (es : Bool) :
    ((h2Stream site e h2r swin pooled fs es).2).map Out.core = expectedAnswerH2 site e h2r swin fs es ∧
    (h2Stream site e h2r swin pooled fs es).1.toReqCore = (ReqSt.init e).toReqCore := by
  have hq : (parseIntoH2 (h2InitStream h2r swin pooled) fs es).done?.map (·.toReqCore) =
      (parseIntoH2C (h2InitStream h2r swin (ReqSt.init e)).toReqCore fs es).done? := by
    rw [← IntoRes.map_done?, parseIntoH2_core, h2InitStream_core h2r swin pooled (ReqSt.init e) hp]
  have hs0 : SlotsOk e (h2InitStream h2r swin pooled).pluginCtx := by
    have : pooled.pluginCtx = [] := congrArg (fun c : ReqCore => c.pluginCtx) hp
    rw [h2InitStream_pctx, this]; exact SlotsOk.nil e
  unfold h2Stream expectedAnswerH2
  simp only []
  rw [← hq]
  cases hr : parseIntoH2 (h2InitStream h2r swin pooled) fs es
  case done r1 =>
    have hcar := parseIntoH2C_carries _ r1.toReqCore _ _ (by rw [← hq, hr]; rfl)
    have hs2 : SlotsOk e (respond site r1).toReqCore.pluginCtx := by
      rw [respond_core]; exact respondC_slots e h1h site _ _ (by rw [hcar.1]; exact SlotsOk.nil e)
    refine ⟨congrArg some ?_, requestRelease_core e _ hs2⟩
    rw [core_h2Output, ← core_h1Output]
    show (h1Output (respond site r1).toReqCore.toReqLive).core = (h1Output (respondC site 0 r1.toReqCore).toReqLive).core
    rw [respond_core, respondC_irrel site _ 0 _ hcar.2]
  all_goals exact ⟨rfl, requestRelease_core e _ hs0⟩

/-- (`h2r.conf` and the condition caches are written once per connection, before the first stream;
    no stream writes them) -/
theorem expectedAnswerH2_h2r (site : Site) (e : SrvEnv) (a b : ReqSt) (swin swin' : Nat)
    (hconf : a.conf = b.conf) (hsn : a.serverName = b.serverName) (fs : List (Bytes × Bytes)) (es : Bool) :
    expectedAnswerH2 site e a swin fs es = expectedAnswerH2 site e b swin' fs es := by
  have : (h2InitStream a swin (ReqSt.init e)).toReqCore = (h2InitStream b swin' (ReqSt.init e)).toReqCore := by
    unfold h2InitStream
    apply ReqCore.ext2
    · show ({ (ReqSt.init e).toReqLive with x2 := _, version := 2, conf := a.conf } : ReqLive) = _
      rw [hconf]
    · show ({ (ReqSt.init e).toReqKept with serverName := _ } : ReqKept) = _
      rw [hsn]
  unfold expectedAnswerH2
  rw [this]

theorem expectedAnswerH2_conn (site : Site) (e : SrvEnv) (c : Conn) (hinv : ConnInv e c) (h0 : c.requestCount = 0)
    (swin swin' : Nat) (fs : List (Bytes × Bytes)) (es : Bool) :
    expectedAnswerH2 site e c.r swin fs es = expectedAnswerH2 site e (ReqSt.init e) swin' fs es := by
  apply expectedAnswerH2_h2r
  · exact congrArg ReqLive.conf hinv.1
  · exact congrArg ReqKept.serverName (hinv.2 h0)

end LtVerif.Req
