/-
  The connection automaton (Model/H1Conn.lean): feeding; the shape of one step's output (`StepOut`) and of a
  whole run's (`h1Feed_run`); how a minimal head, a Content-Length body and a chunked body are
  consumed.
-/
import LtVerif.Model.H1Conn
import LtVerif.Proofs.H1Chunked
import LtVerif.Proofs.H1Parse
namespace LtVerif
open B

theorem stepAcc_foldl (cfg : ConnCfg) (bs : Bytes) : ∀ (s : ConnSt) (pre : List Event),
    bs.foldl (stepAcc cfg) (s, pre) = ((h1Feed cfg s bs).1, pre ++ (h1Feed cfg s bs).2) := by
  induction bs with
  | nil => intro s pre; simp [h1Feed]
  | cons b rest ih =>
    intro s pre
    simp only [h1Feed, List.foldl_cons, stepAcc]
    rw [ih, ih (h1Step cfg s b).1 ([] ++ (h1Step cfg s b).2)]
    simp [h1Feed]

theorem h1Feed_nil (cfg : ConnCfg) (s : ConnSt) : h1Feed cfg s [] = (s, []) := rfl

theorem h1Feed_cons (cfg : ConnCfg) (s : ConnSt) (b : UInt8) (bs : Bytes) :
    h1Feed cfg s (b :: bs) =
      ((h1Feed cfg (h1Step cfg s b).1 bs).1, (h1Step cfg s b).2 ++ (h1Feed cfg (h1Step cfg s b).1 bs).2) := by
  simp only [h1Feed, List.foldl_cons, stepAcc]
  rw [stepAcc_foldl]
  simp [h1Feed]

theorem h1Feed_single (cfg : ConnCfg) (s : ConnSt) (b : UInt8) : h1Feed cfg s [b] = h1Step cfg s b := by
  rw [h1Feed_cons, h1Feed_nil]; simp

theorem h1Feed_append (cfg : ConnCfg) (a b : Bytes) : ∀ (s : ConnSt),
    h1Feed cfg s (a ++ b) =
      ((h1Feed cfg (h1Feed cfg s a).1 b).1, (h1Feed cfg s a).2 ++ (h1Feed cfg (h1Feed cfg s a).1 b).2) := by
  induction a with
  | nil => intro s; simp [h1Feed_nil]
  | cons x rest ih =>
    intro s
    simp only [List.cons_append, h1Feed_cons, ih, List.append_assoc]

theorem h1Feed_cons_silent (cfg : ConnCfg) (s s' : ConnSt) (b : UInt8) (bs : Bytes)
    (h : h1Step cfg s b = (s', [])) : h1Feed cfg s (b :: bs) = h1Feed cfg s' bs := by
  rw [h1Feed_cons, h]; simp

@[simp] theorem isResponse_close : Event.close.isResponse = false := rfl
@[simp] theorem isResponse_unmodelled : Event.unmodelled.isResponse = false := rfl
@[simp] theorem isResponse_reject (e : Nat) : (Event.reject e).isResponse = true := rfl
@[simp] theorem isRequest_close : Event.close.isRequest = false := rfl
@[simp] theorem isRequest_unmodelled : Event.unmodelled.isRequest = false := rfl
@[simp] theorem isRequest_reject (e : Nat) : (Event.reject e).isRequest = false := rfl

theorem isResponse_of_isRequest {ev : Event} (h : ev.isRequest = true) : ev.isResponse = true := by
  cases ev <;> simp_all [Event.isRequest, Event.isResponse]

theorem h1Step_closed (cfg : ConnCfg) (c : Nat) (b : UInt8) :
    h1Step cfg { phase := .closed, count := c } b = ({ phase := .closed, count := c }, []) := rfl

theorem h1Feed_closed (cfg : ConnCfg) (c : Nat) (bs : Bytes) :
    h1Feed cfg { phase := .closed, count := c } bs = ({ phase := .closed, count := c }, []) := by
  induction bs with
  | nil => rfl
  | cons b rest ih => rw [h1Feed_cons, h1Step_closed]; simp [ih]

/-- in `bodyCk` the decoder is not in its error state: the automaton leaves the body phase when it reports one -/
def ConnSt.Live (s : ConnSt) : Prop :=
  match s.phase with
  | .bodyCk _ _ _ ck => ∀ e, ck.mode ≠ .err e
  | _ => True

inductive StepOut : ConnSt → ConnSt × List Event → Prop
  | silent (s s' : ConnSt) (h : s'.isClosed = false) (hc : s'.count = s.count) (hl : s'.Live) : StepOut s (s', [])
  | closedIdle (s : ConnSt) (h : s.isClosed = true) : StepOut s (s, [])
  | answered (s : ConnSt) (ev : Event) (hr : ev.isRequest = true) :
      StepOut s ({ phase := .head [] 0 true, count := s.count + 1 }, [ev])
  | answeredClose (s : ConnSt) (ev : Event) (hr : ev.isRequest = true) :
      StepOut s ({ phase := .closed, count := s.count }, [ev, .close])
  | rejected (s : ConnSt) (e : Nat) (he : s.Live → RejSt e) :
      StepOut s ({ phase := .closed, count := s.count }, [.reject e, .close])
  | unmodelled (s : ConnSt) : StepOut s ({ phase := .closed, count := s.count }, [.unmodelled, .close])

theorem respond_out (cfg : ConnCfg) (s : ConnSt) (r : PReq) (t : Target) (h : Handler) (body : Bytes) (x y : Bool) :
    StepOut s (respond cfg s.count r t h body x y) := by
  unfold respond
  split
  · exact .answered s _ rfl
  · exact .answeredClose s _ rfl

theorem dispatch_out (cfg : ConnCfg) (s : ConnSt) (block : Bytes) : StepOut s (dispatch cfg s.count block) := by
  unfold dispatch
  split
  · exact .rejected s _ fun _ => .inl rfl
  · exact .rejected s _ fun _ => .inl rfl
  · exact .unmodelled s
  · rename_i e he
    exact .rejected s _ fun _ => (parseHead_spec ..).2 _ he
  · simp only
    split
    · exact .rejected s _ fun _ => .inr (.inr (.inl rfl))
    · split
      · exact respond_out ..
      · split
        · exact respond_out ..
        · split
          · exact .silent s _ rfl rfl trivial
          · exact .silent s _ rfl rfl nofun

theorem headByte_out (cfg : ConnCfg) (s : ConnSt) (rbuf : Bytes) (nl : Nat) (b : UInt8) :
    StepOut s (headByte cfg s.count rbuf nl b) := by
  unfold headByte
  split
  · exact .rejected s _ fun _ => .inl rfl
  · split
    · exact dispatch_out ..
    · split
      · exact .rejected s _ fun _ => .inr (.inr (.inr (.inl rfl)))
      · exact .silent s _ rfl rfl trivial

theorem h1Step_out (cfg : ConnCfg) (s : ConnSt) (b : UInt8) : StepOut s (h1Step cfg s b) := by
  obtain ⟨phase, count⟩ := s
  cases phase with
  | closed => exact .closedIdle _ rfl
  | head rbuf nl bo =>
    simp only [h1Step]
    split
    · split
      · split
        · exact .silent _ _ rfl rfl trivial
        · exact headByte_out cfg ⟨_, count⟩ ..
      · split
        · exact .silent _ _ rfl rfl trivial
        · exact .rejected ⟨_, count⟩ _ fun _ => .inl rfl
      · split
        · exact .rejected ⟨_, count⟩ _ fun _ => .inl rfl
        · exact headByte_out cfg ⟨_, count⟩ ..
    · exact headByte_out cfg ⟨_, count⟩ ..
  | bodyCL r t h rem racc =>
    simp only [h1Step]
    split
    · exact respond_out cfg ⟨_, count⟩ ..
    · exact .silent _ _ rfl rfl trivial
  | bodyCk r t h ck =>
    simp only [h1Step]
    split
    · rename_i e he
      refine .rejected ⟨_, count⟩ _ fun hl => ?_
      rcases (ckStep_err (ckCfgOf cfg) ck b e hl he).1 with h1 | h1
      · exact .inl h1
      · exact .inr (.inr (.inl h1))
    · exact respond_out cfg ⟨_, count⟩ ..
    · rename_i hne _
      exact .silent _ _ rfl rfl hne

/-- the events of a run from `s` to `s'`: the requests, then (if the run closes the connection) one last event and
    `close` -/
structure Run (s s' : ConnSt) (reqs tail : List Event) : Prop where
  allReq : ∀ e ∈ reqs, e.isRequest = true
  shape : tail = [] ∨ (s'.isClosed = true ∧
    ∃ ev, tail = [ev, Event.close] ∧
      (ev.isRequest = true ∨ (∃ st, ev = Event.reject st) ∨ ev = Event.unmodelled))
  count : s'.count = s.count + reqs.length
  status : s.Live → ∀ st, Event.reject st ∈ tail → RejSt st

theorem h1Feed_run (cfg : ConnCfg) (bs : Bytes) : ∀ (s : ConnSt),
    ∃ reqs tail, (h1Feed cfg s bs).2 = reqs ++ tail ∧ Run s (h1Feed cfg s bs).1 reqs tail := by
  induction bs with
  | nil => intro s; exact ⟨[], [], by simp [h1Feed_nil], by simp, .inl rfl, rfl, by simp⟩
  | cons b rest ih =>
    intro s
    rw [h1Feed_cons]
    have ho := h1Step_out cfg s b
    generalize h1Step cfg s b = out at ho ⊢
    have closed : ∀ {c}, h1Feed cfg { phase := .closed, count := c } rest = ({ phase := .closed, count := c }, []) :=
      h1Feed_closed cfg _ rest
    cases ho with
    | silent s' _ hc hl =>
      obtain ⟨reqs, tail, h1, h2, h3, h4, h5⟩ := ih s'
      exact ⟨reqs, tail, by simpa using h1, h2, h3, hc ▸ h4, fun _ => h5 hl⟩
    | closedIdle hc =>
      obtain ⟨phase, c⟩ := s
      cases phase <;> simp [ConnSt.isClosed] at hc
      exact ⟨[], [], by simp [closed], by simp, .inl rfl, by simp [closed], by simp⟩
    | answered ev hr =>
      obtain ⟨reqs, tail, h1, h2, h3, h4, h5⟩ := ih { phase := .head [] 0 true, count := s.count + 1 }
      exact ⟨ev :: reqs, tail, by simp [h1], by simpa [hr] using h2, h3,
        by simp only [h4, List.length_cons]; omega, fun _ => h5 trivial⟩
    | answeredClose ev hr =>
      exact ⟨[], [ev, .close], by simp [closed], by simp,
        .inr ⟨by simp [closed, ConnSt.isClosed], ev, rfl, .inl hr⟩, by simp [closed], by
          intro _ st h; simp at h; rw [← h] at hr; cases hr⟩
    | rejected e he =>
      exact ⟨[], [.reject e, .close], by simp [closed], by simp,
        .inr ⟨by simp [closed, ConnSt.isClosed], _, rfl, .inr (.inl ⟨e, rfl⟩)⟩, by simp [closed], by
          intro hl st h; simp at h; exact h ▸ he hl⟩
    | unmodelled =>
      exact ⟨[], [.unmodelled, .close], by simp [closed], by simp,
        .inr ⟨by simp [closed, ConnSt.isClosed], _, rfl, .inr (.inr rfl)⟩, by simp [closed], by simp⟩

theorem split_in_tail {α : Type} {x : α} {post tail : List α} : ∀ {xs pre : List α},
    pre ++ x :: post = xs ++ tail → x ∉ xs → ∃ mid, tail = mid ++ x :: post := by
  intro xs
  induction xs with
  | nil => intro pre h _; exact ⟨pre, h.symm⟩
  | cons y ys ih =>
    intro pre h hx
    cases pre with
    | nil =>
      simp only [List.nil_append, List.cons_append, List.cons.injEq] at h
      exact absurd (by simp [h.1]) hx
    | cons p pre' =>
      simp only [List.cons_append, List.cons.injEq] at h
      exact ih h.2 fun hm => hx (by simp [hm])

def MinimalHead (H : Bytes) : Prop :=
  headEnd H.reverse = true ∧ ∀ k, k < H.length → 0 < k → headEnd (H.take k).reverse = false

instance (H : Bytes) : Decidable (MinimalHead H) := by unfold MinimalHead; infer_instance

/-- the first byte of a head is not a control byte (h1_recv_headers answers 400 to those at once) -/
def firstOk : Bytes → Bool
  | b :: _ => !(b < 32)
  | [] => false

theorem firstOk_spec {H : Bytes} (h : firstOk H = true) : ∀ b, H.head? = some b → ¬ b < 32 := by
  intro b hb
  cases H with
  | nil => simp at hb
  | cons x rest =>
    simp only [List.head?_cons, Option.some.injEq] at hb
    subst hb
    simpa [firstOk] using h

def headState (count : Nat) (pre : Bytes) : ConnSt :=
  { phase := .head pre.reverse (pre.count lf) false, count := count }

theorem headByte_done (cfg : ConnCfg) (count : Nat) (rbuf : Bytes) (nl : Nat) (b : UInt8)
    (hfb : (rbuf.isEmpty && decide (b < 32)) = false) (hend : headEnd (b :: rbuf) = true) :
    headByte cfg count rbuf nl b = dispatch cfg count (b :: rbuf).reverse := by
  unfold headByte
  rw [if_neg (by simp [hfb]), if_pos hend]

theorem headByte_more (cfg : ConnCfg) (count : Nat) (rbuf : Bytes) (nl : Nat) (b : UInt8)
    (hfb : (rbuf.isEmpty && decide (b < 32)) = false) (hend : headEnd (b :: rbuf) = false)
    (hlim : overLimit cfg (b :: rbuf) (nlNext nl b) = false) :
    headByte cfg count rbuf nl b = ({ phase := .head (b :: rbuf) (nlNext nl b) false, count := count }, []) := by
  unfold headByte
  rw [if_neg (by simp [hfb]), if_neg (by simp [hend]), if_neg (by simp [hlim])]

theorem h1Step_headState (cfg : ConnCfg) (count : Nat) (pre : Bytes) (b : UInt8) :
    h1Step cfg (headState count pre) b = headByte cfg count pre.reverse (pre.count lf) b := by
  simp [h1Step, headState]

theorem nlNext_count (pre : Bytes) (b : UInt8) : nlNext (pre.count lf) b = (pre ++ [b]).count lf := by
  unfold nlNext
  rw [List.count_append]
  by_cases hb : b = lf <;> simp [hb]

-- `hs0`: both `blankOk`, and the buffers `[lf]`, `[lf, cr]` of a skipped blank line
theorem headFeed_from (cfg : ConnCfg) (count : Nat) (s0 : ConnSt)
    (hs0 : ∀ b, b ≠ cr → b ≠ lf → h1Step cfg s0 b = h1Step cfg (headState count []) b)
    (H : Bytes) (hmin : MinimalHead H) (hfirst' : firstOk H = true)
    (hsize : H.length ≤ cfg.maxField) (hnl : H.count lf + 1 < 8191) :
    h1Feed cfg s0 H = dispatch cfg count H := by
  have hfirst := firstOk_spec hfirst'
  have hne : H ≠ [] := by
    intro h; subst h; simp [MinimalHead, headEnd] at hmin
  have hsame : h1Feed cfg s0 H = h1Feed cfg (headState count []) H := by
    cases H with
    | nil => exact absurd rfl hne
    | cons b rest =>
      have hb := hfirst b rfl
      have hcr : b ≠ cr := by intro e; subst e; exact hb (by decide)
      have hlf : b ≠ lf := by intro e; subst e; exact hb (by decide)
      rw [h1Feed_cons, h1Feed_cons, hs0 b hcr hlf]
  rw [hsame]
  -- while the head is incomplete the state is `headState` of the bytes read; the last byte dispatches
  refine (foldl_closed (stepAcc cfg)
    (fun q => if q.length < H.length then (headState count q, []) else dispatch cfg count H) H
    (if_pos (List.length_pos_iff.mpr hne)) fun q b r e => ?_).trans (if_neg (Nat.lt_irrefl _))
  have hq : q.length < H.length := by simp [e]
  have hfb : (q.reverse.isEmpty && decide (b < 32)) = false := by
    cases q with
    | nil => simp [hfirst b (by simp [e])]
    | cons x xs => simp
  have hrev : b :: q.reverse = (q ++ [b]).reverse := by simp
  have htake : H.take (q.length + 1) = q ++ [b] := by
    rw [e, show q ++ b :: r = (q ++ [b]) ++ r by simp]; exact List.take_left' (by simp)
  simp only [if_pos hq, stepAcc, h1Step_headState, List.nil_append]
  by_cases hr : r = []
  · subst hr
    have hH : H = q ++ [b] := e
    rw [headByte_done cfg count _ _ b hfb (by rw [hrev, ← hH]; exact hmin.1), hrev, List.reverse_reverse, ← hH,
        if_neg (by simp [hH])]
  · have h3 : q.length + 1 < H.length := by
      have := List.length_pos_iff.mpr hr; simp [e]; omega
    have hk : headEnd (q ++ [b]).reverse = false := htake ▸ hmin.2 _ h3 (by omega)
    have hcnt : (q ++ [b]).count lf ≤ H.count lf := htake ▸ (List.take_sublist _ H).count_le lf
    have hlim : overLimit cfg (b :: q.reverse) (nlNext (q.count lf) b) = false := by
      rw [nlNext_count, hrev]
      unfold overLimit
      have h1 : ¬ ((q ++ [b]).reverse.length > cfg.maxField) := by
        rw [List.length_reverse, List.length_append, List.length_singleton]; omega
      have h2 : ¬ ((q ++ [b]).count lf + 1 ≥ 8191) := by omega
      rw [Bool.or_eq_false_iff]
      exact ⟨decide_eq_false h1, decide_eq_false h2⟩
    rw [headByte_more cfg count _ _ b hfb (by rw [hrev]; exact hk) hlim, nlNext_count, hrev,
        if_pos (by simpa using h3)]
    rfl

theorem headFeed (cfg : ConnCfg) (count : Nat) (bo : Bool) (H : Bytes) (hmin : MinimalHead H)
    (hfirst : firstOk H = true) (hsize : H.length ≤ cfg.maxField)
    (hnl : H.count lf + 1 < 8191) :
    h1Feed cfg { phase := .head [] 0 bo, count := count } H = dispatch cfg count H :=
  headFeed_from cfg count _ (fun b hcr hlf => by cases bo <;> simp [h1Step, headState, hcr, hlf]) H hmin hfirst hsize hnl

theorem clFeed (cfg : ConnCfg) (count : Nat) (r : PReq) (t : Target) (h : Handler) : ∀ (d : Bytes) (n : Nat) (racc : Bytes),
    d ≠ [] → d.length = n →
    h1Feed cfg { phase := .bodyCL r t h n racc, count := count } d
      = respond cfg count r t h (racc.reverse ++ d) true true := by
  intro d
  induction d with
  | nil => intro n racc h; exact absurd rfl h
  | cons b rest ih =>
    intro n racc _ hlen
    cases rest with
    | nil =>
      simp only [List.length_cons, List.length_nil] at hlen
      subst hlen
      rw [h1Feed_single]
      simp [h1Step]
    | cons c rest' =>
      simp only [List.length_cons] at hlen
      have hn : ¬ n ≤ 1 := by omega
      have hstep : h1Step cfg { phase := .bodyCL r t h n racc, count := count } b
          = ({ phase := .bodyCL r t h (n - 1) (b :: racc), count := count }, []) := by
        simp [h1Step, hn]
      rw [h1Feed_cons_silent cfg _ _ b _ hstep, ih (n - 1) (b :: racc) (by simp) (by simp; omega)]
      simp

theorem ckConnFeed (cfg : ConnCfg) (count : Nat) (r : PReq) (t : Target) (h : Handler) :
    ∀ (w : Bytes) (ck : CkSt), w ≠ [] →
    (ckFeed (ckCfgOf cfg) ck w).mode = .done → (ckFeed (ckCfgOf cfg) ck w).after = 0 →
    h1Feed cfg { phase := .bodyCk r t h ck, count := count } w
      = respond cfg count r t h (ckFeed (ckCfgOf cfg) ck w).out true (ckFeed (ckCfgOf cfg) ck w).ka := by
  intro w
  induction w with
  | nil => intro ck h; exact absurd rfl h
  | cons b rest ih =>
    intro ck _ hdone hafter
    by_cases hre : rest = []
    · subst hre
      rw [h1Feed_single]
      simp only [ckFeed_cons, ckFeed_nil] at hdone ⊢
      simp [h1Step, hdone]
    · rw [ckFeed_cons] at hdone hafter ⊢
      have hlen : rest.length ≠ 0 := fun e => hre (List.length_eq_zero_iff.mp e)
      have hstep : h1Step cfg { phase := .bodyCk r t h ck, count := count } b
          = ({ phase := .bodyCk r t h (ckStep (ckCfgOf cfg) ck b), count := count }, []) := by
        simp only [h1Step]
        split
        · rename_i e he
          rw [ckFeed_err _ _ e rest he, he] at hdone
          cases hdone
        · rename_i he
          rw [ckFeed_after _ rest _ he] at hafter
          simp only at hafter
          omega
        · rfl
      rw [h1Feed_cons_silent cfg _ _ b rest hstep]
      exact ih _ hre hdone hafter

end LtVerif
