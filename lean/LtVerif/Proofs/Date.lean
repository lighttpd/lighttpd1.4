/-
  Helper lemmas for Model/Date.lean: the civil-date/day-number bijection
  (arithmetic proof: monotonicity of the year formula + a 400-entry table
  checked by the kernel), digit rendering/parsing, and the byte-level shape
  of the three rendered date formats.
-/
import LtVerif.Model.Date
import LtVerif.Proofs.Bytes
namespace LtVerif
namespace Date
open B

/-! ### year-of-era formula -/

/-- numerator of the year-of-era formula of civil_from_days -/
def gY (x : Int) : Int := x - x / 1460 + x / 36524 - x / 146096
/-- first day-of-era of year-of-era `y` -/
def startY (y : Int) : Int := 365 * y + y / 4 - y / 100

theorem gY_mono (a b : Int) (h : a ≤ b) : gY a ≤ gY b := by
  have step : ∀ x, gY x ≤ gY (x + 1) := fun x => by unfold gY; omega
  obtain ⟨n, rfl⟩ : ∃ n : Nat, b = a + n := ⟨(b - a).toNat, by omega⟩
  clear h
  induction n with
  | zero => simp
  | succ k ih =>
    have h1 := step (a + k)
    have e : a + ((k + 1 : Nat) : Int) = a + k + 1 := by omega
    rw [e]; omega

/-- exact on the first and last day of each of the 400 years of an era (146097 days); `gY_mono`
    pins the days between -/
theorem year_table : ∀ Y : Nat, Y < 400 →
    gY (startY Y) / 365 = Y ∧ gY (startY (Y + 1) - 1) / 365 = Y := by
  decide +kernel

theorem yoe_ok (doe : Int) (h0 : 0 ≤ doe) (h1 : doe ≤ 146096) :
    0 ≤ gY doe / 365 ∧ gY doe / 365 ≤ 399 ∧ startY (gY doe / 365) ≤ doe ∧
    doe ≤ startY (gY doe / 365) + 365 := by
  have hlo := Int.ediv_le_ediv (c := 365) (by decide) (gY_mono 0 doe h0)
  have hhi := Int.ediv_le_ediv (c := 365) (by decide) (gY_mono doe 146096 h1)
  rw [show gY 0 / 365 = 0 by decide] at hlo
  rw [show gY 146096 / 365 = 399 by decide] at hhi
  obtain ⟨Y, hY⟩ : ∃ Y : Nat, gY doe / 365 = Y := ⟨(gY doe / 365).toNat, by omega⟩
  rw [hY] at hhi ⊢
  refine ⟨by omega, hhi, Classical.byContradiction fun hlt => ?_,
    Classical.byContradiction fun hge => ?_⟩
  · -- a day before the first day of year Y has an earlier year
    cases Y with
    | zero => exact hlt h0
    | succ Z =>
      have hm := Int.ediv_le_ediv (c := 365) (by decide) (gY_mono doe (startY ((Z : Int) + 1) - 1)
        (by rw [Int.natCast_succ] at hlt; omega))
      rw [(year_table Z (by omega)).2] at hm
      omega
  · -- a day past the 366th of year Y has a later year
    by_cases hlast : Y = 399
    · subst hlast
      rw [show startY ((399 : Nat) : Int) = 145731 by decide] at hge
      omega
    · have hm := Int.ediv_le_ediv (c := 365) (by decide) (gY_mono (startY ((Y : Int) + 1)) doe
        (by unfold startY at hge ⊢; omega))
      have ht := (year_table (Y + 1) (by omega)).1
      rw [Int.natCast_succ] at ht
      omega

/-! ### civil-date bijection -/

/-- civil_from_days through its intermediate values: era, year and day of era (`yoe`, `doy`),
    March-based month `mp` -/
theorem civil_facts (z : Int) :
    ∃ era yoe doy mp : Int,
      0 ≤ yoe ∧ yoe ≤ 399 ∧ 0 ≤ doy ∧ doy ≤ 365 ∧ 0 ≤ mp ∧ mp ≤ 11 ∧
      mp = (5 * doy + 2) / 153 ∧ (mp < 10 ↔ doy < 306) ∧
      z + 719468 = era * 146097 + (365 * yoe + yoe / 4 - yoe / 100) + doy ∧
      civilFromDays z =
        (if (if mp < 10 then mp + 3 else mp - 9) ≤ 2 then yoe + era * 400 + 1 else yoe + era * 400,
         if mp < 10 then mp + 3 else mp - 9,
         doy - (153 * mp + 2) / 5 + 1) := by
  obtain ⟨era, doe, hera, hdoe, h0, h1⟩ : ∃ era doe, (z + 719468) / 146097 = era ∧
      z + 719468 - era * 146097 = doe ∧ 0 ≤ doe ∧ doe ≤ 146096 :=
    ⟨_, _, rfl, rfl, by omega, by omega⟩
  obtain ⟨hy0, hy1, hy2, hy3⟩ := yoe_ok doe h0 h1
  refine ⟨era, gY doe / 365, doe - startY (gY doe / 365),
    (5 * (doe - startY (gY doe / 365)) + 2) / 153,
    hy0, hy1, by omega, by omega, by omega, by omega, rfl, by omega, by unfold startY; omega, ?_⟩
  simp only [civilFromDays, hera, hdoe]
  rfl

theorem civil_roundtrip (z : Int) :
    daysFromCivil (civilFromDays z).1 (civilFromDays z).2.1 (civilFromDays z).2.2 = z := by
  obtain ⟨era, yoe, doy, mp, h0, h1, h2, h3, h4, h5, hmp, -, hz, hc⟩ := civil_facts z
  rw [hc]
  simp only [daysFromCivil]
  by_cases hm : mp < 10
  · simp only [hm, if_true]
    have e1 : ¬ (mp + 3 ≤ 2) := by omega
    have e2 : mp + 3 > 2 := by omega
    simp only [e1, e2, if_true, if_false]
    have e3 : (yoe + era * 400) / 400 = era := by omega
    have e4 : yoe + era * 400 - era * 400 = yoe := by omega
    have e5 : mp + 3 - 3 = mp := by omega
    rw [e3, e4, e5]
    omega
  · simp only [hm, if_false]
    have e1 : mp - 9 ≤ 2 := by omega
    have e2 : ¬ (mp - 9 > 2) := by omega
    simp only [e1, e2, if_true, if_false]
    have e3 : (yoe + era * 400 + 1 - 1) / 400 = era := by omega
    have e4 : yoe + era * 400 + 1 - 1 - era * 400 = yoe := by omega
    have e5 : mp - 9 + 9 = mp := by omega
    rw [e3, e4, e5]
    omega

theorem civil_month_day (z : Int) :
    1 ≤ (civilFromDays z).2.1 ∧ (civilFromDays z).2.1 ≤ 12 ∧
    1 ≤ (civilFromDays z).2.2 ∧ (civilFromDays z).2.2 ≤ 31 := by
  obtain ⟨era, yoe, doy, mp, h0, h1, h2, h3, h4, h5, hmp, -, hz, hc⟩ := civil_facts z
  rw [hc]
  simp only
  refine ⟨?_, ?_, ?_, ?_⟩
  · split <;> omega
  · split <;> omega
  · omega
  · omega

theorem daysFromCivil_day (y m d : Int) :
    daysFromCivil y m 1 + (d - 1) = daysFromCivil y m d := by
  simp only [daysFromCivil]; omega

/-- (day numbers of 1970-01-01, 1000-01-01, 9999-12-31) -/
theorem civil_year_bounds (z : Int) :
    (0 ≤ z → 1970 ≤ (civilFromDays z).1) ∧ (-354285 ≤ z → 1000 ≤ (civilFromDays z).1) ∧
    (z ≤ 2932896 → (civilFromDays z).1 ≤ 9999) := by
  obtain ⟨era, yoe, doy, mp, h0, h1, h2, h3, h4, h5, -, hm, hz, hc⟩ := civil_facts z
  rw [hc]
  refine ⟨fun h => ?_, fun h => ?_, fun h => ?_⟩
  all_goals (simp only; split <;> omega)

theorem civil_year_ge (z : Int) (h : 0 ≤ z) : 1970 ≤ (civilFromDays z).1 :=
  (civil_year_bounds z).1 h

/-! ### digits -/

theorem digit_facts : ∀ k : Nat, k < 10 →
    isDigit (digit k) = true ∧ dv (digit k) = k ∧ digit k ≠ 32 := by
  decide

theorem d2_ok (n : Int) (h0 : 0 ≤ n) (h1 : n ≤ 99) :
    ∃ a b, d2 n = [a, b] ∧ isDigit a = true ∧ isDigit b = true ∧ num2 a b = n := by
  refine ⟨_, _, rfl, ?_, ?_, ?_⟩
  · exact (digit_facts _ (by omega)).1
  · exact (digit_facts _ (by omega)).1
  · simp only [num2]
    rw [(digit_facts (n.toNat / 10) (by omega)).2.1, (digit_facts (n.toNat % 10) (by omega)).2.1]
    omega

theorem d2sp_ok (n : Int) (h0 : 0 ≤ n) (h1 : n ≤ 99) :
    ∃ a b, d2sp n = [a, b] ∧ (a = 32 ∨ isDigit a = true) ∧ isDigit b = true ∧
      (if a = 32 then 0 else 10 * dv a) + dv b = n := by
  refine ⟨_, _, rfl, ?_, ?_, ?_⟩
  · by_cases h : n.toNat < 10
    · simp [h]
    · simp only [h, if_false]
      right; exact (digit_facts _ (by omega)).1
  · exact (digit_facts _ (by omega)).1
  · by_cases h : n.toNat < 10
    · simp only [h, if_true]
      rw [(digit_facts (n.toNat % 10) (by omega)).2.1]
      omega
    · simp only [h, if_false]
      have hne := (digit_facts (n.toNat / 10) (by omega)).2.2
      simp only [hne, if_false]
      rw [(digit_facts (n.toNat / 10) (by omega)).2.1, (digit_facts (n.toNat % 10) (by omega)).2.1]
      omega

theorem natDecAux_lt (f : Nat) {n : Nat} (h : n < 10) : natDecAux (f + 1) n = [digit n] := by
  rw [natDecAux, if_pos h]

theorem natDecAux_ge (f : Nat) {n : Nat} (h : 10 ≤ n) :
    natDecAux (f + 1) n = natDecAux f (n / 10) ++ [digit (n % 10)] := by
  rw [natDecAux, if_neg (by omega)]

theorem natDecAux_eq : ∀ (f n : Nat), n < f → natDecAux f n = natToDec n
  | 0, _, h => by omega
  | f + 1, n, h => by
    rw [natToDec_rec]
    split
    · rename_i h10; rw [natDecAux_lt f h10, digit, (digitByte n h10).toUInt8]
    · rw [natDecAux_ge f (by omega), natDecAux_eq f (n / 10) (by omega), digit,
        (digitByte _ (Nat.mod_lt n (by decide))).toUInt8]

theorem natDec_eq (n : Nat) : natDec n = natToDec n := natDecAux_eq _ n (by omega)

theorem decVal_natDec (n : Nat) : decVal (natDec n) = n := (natDec_eq n).symm ▸ decOf_natToDec n

theorem natDec_digits (n : Nat) : natDec n ≠ [] ∧ ∀ d ∈ natDec n, isDigit d = true :=
  natDec_eq n ▸ ⟨natToDec_ne_nil n, natToDec_digits n⟩

theorem natDec4 (n : Nat) (h0 : 1000 ≤ n) (h1 : n ≤ 9999) :
    natDec n = [digit (n / 1000), digit (n / 100 % 10), digit (n / 10 % 10), digit (n % 10)] := by
  obtain ⟨f, hf⟩ : ∃ f, n + 1 = f + 4 := ⟨n - 3, by omega⟩
  rw [natDec, hf, natDecAux_ge _ (by omega), natDecAux_ge _ (by omega), natDecAux_ge _ (by omega),
    natDecAux_lt _ (by omega), Nat.div_div_eq_div_mul, Nat.div_div_eq_div_mul, Nat.div_div_eq_div_mul]
  rfl

theorem year4_ok (y : Int) (h0 : 1000 ≤ y) (h1 : y ≤ 9999) :
    ∃ a b c d, yearStr y = [a, b, c, d] ∧ isDigit a = true ∧ isDigit b = true ∧ isDigit c = true ∧
      isDigit d = true ∧ num2 a b * 100 + num2 c d = y := by
  have hn : ¬ y < 0 := by omega
  refine ⟨digit (y.toNat / 1000), digit (y.toNat / 100 % 10), digit (y.toNat / 10 % 10),
          digit (y.toNat % 10), ?_, ?_, ?_, ?_, ?_, ?_⟩
  · simp only [yearStr, hn, if_false]
    exact natDec4 y.toNat (by omega) (by omega)
  · exact (digit_facts _ (by omega)).1
  · exact (digit_facts _ (by omega)).1
  · exact (digit_facts _ (by omega)).1
  · exact (digit_facts _ (by omega)).1
  · simp only [num2]
    rw [(digit_facts (y.toNat / 1000) (by omega)).2.1, (digit_facts (y.toNat / 100 % 10) (by omega)).2.1,
        (digit_facts (y.toNat / 10 % 10) (by omega)).2.1, (digit_facts (y.toNat % 10) (by omega)).2.1]
    omega

/-! ### names -/

theorem wday_ok (w : Int) (h0 : 0 ≤ w) (h1 : w ≤ 6) :
    ∃ a b c, wdayAbbr w = [a, b, c] ∧ isWday a b c = true ∧
      (wdayRest w).dropWhile (fun b => b ≠ 44) = [] ∧ 3 ≤ (wdayRest w).length := by
  have : w = 0 ∨ w = 1 ∨ w = 2 ∨ w = 3 ∨ w = 4 ∨ w = 5 ∨ w = 6 := by omega
  rcases this with h | h | h | h | h | h | h <;> subst h <;>
    exact ⟨_, _, _, rfl, by decide +kernel, by decide +kernel, by decide +kernel⟩

theorem mon_ok (m : Int) (h0 : 0 ≤ m) (h1 : m ≤ 11) :
    ∃ a b c, monAbbr m = [a, b, c] ∧ monIdx a b c = some m := by
  have : m = 0 ∨ m = 1 ∨ m = 2 ∨ m = 3 ∨ m = 4 ∨ m = 5 ∨ m = 6 ∨ m = 7 ∨ m = 8 ∨ m = 9 ∨
      m = 10 ∨ m = 11 := by omega
  rcases this with h | h | h | h | h | h | h | h | h | h | h | h <;> subst h <;>
    exact ⟨_, _, _, rfl, by decide +kernel⟩

/-! ### gmtime / timegm -/

/-- field ranges of gmtime from 1000-01-01T00:00:00 (-30610224000) to 9999-12-31T23:59:59
    (253402300799), the instants whose year has four digits -/
theorem gmtime_fields (t : Int) (h0 : -30610224000 ≤ t) (h1 : t ≤ 253402300799) :
    let tm := (gmtime t).1
    1000 ≤ tm.year ∧ tm.year ≤ 9999 ∧ 0 ≤ tm.mon ∧ tm.mon ≤ 11 ∧ 1 ≤ tm.mday ∧ tm.mday ≤ 31 ∧
    0 ≤ tm.hour ∧ tm.hour ≤ 23 ∧ 0 ≤ tm.min ∧ tm.min ≤ 59 ∧ 0 ≤ tm.sec ∧ tm.sec ≤ 59 ∧
    0 ≤ (gmtime t).2 ∧ (gmtime t).2 ≤ 6 := by
  have hmd := civil_month_day (t / 86400)
  have hy1 := (civil_year_bounds (t / 86400)).2.2 (by omega)
  have hy0 := (civil_year_bounds (t / 86400)).2.1 (by omega)
  simp only [gmtime]
  refine ⟨hy0, hy1, ?_, ?_, hmd.2.2.1, hmd.2.2.2, ?_, ?_, ?_, ?_, ?_, ?_, ?_, ?_⟩ <;> omega

theorem timegm_gmtime (t : Int) : timegm (gmtime t).1 = t := by
  have hr := civil_roundtrip (t / 86400)
  simp only [gmtime, timegm]
  have e : (civilFromDays (t / 86400)).2.1 - 1 + 1 = (civilFromDays (t / 86400)).2.1 := by omega
  rw [e, daysFromCivil_day, hr]
  omega

/-! ### byte-level round trips -/

/-- the bytes the three formats share for `t`, with what the parsers test and read from them -/
structure Rendered (t : Int) where
  (w0 w1 w2 m0 m1 m2 H1 H0 I1 I0 S1 S0 : UInt8)
  wday : wdayAbbr (gmtime t).2 = [w0, w1, w2]
  isWday : isWday w0 w1 w2 = true
  wrest : (wdayRest (gmtime t).2).dropWhile (fun b => b ≠ 44) = []
  -- the shortest name leaves 3 letters: RFC 850 renderings have ≥ 30 bytes, so `strToTm` (> 29) picks `parseRFC850`
  wrest_len : 3 ≤ (wdayRest (gmtime t).2).length
  mon : monAbbr (gmtime t).1.mon = [m0, m1, m2]
  monIdx : monIdx m0 m1 m2 = some (gmtime t).1.mon
  hms : hmsStr (gmtime t).1 = [H1, H0, 58, I1, I0, 58, S1, S0]
  dH1 : isDigit H1 = true
  dH0 : isDigit H0 = true
  dI1 : isDigit I1 = true
  dI0 : isDigit I0 = true
  dS1 : isDigit S1 = true
  dS0 : isDigit S0 = true
  hour : num2 H1 H0 = (gmtime t).1.hour
  min : num2 I1 I0 = (gmtime t).1.min
  sec : num2 S1 S0 = (gmtime t).1.sec
  year : 1000 ≤ (gmtime t).1.year ∧ (gmtime t).1.year ≤ 9999
  mday : 0 ≤ (gmtime t).1.mday ∧ (gmtime t).1.mday ≤ 99

theorem rendered (t : Int) (h0 : -30610224000 ≤ t) (h1 : t ≤ 253402300799) : Nonempty (Rendered t) := by
  obtain ⟨hy0, hy1, hm0, hm1, hd0, hd1, hh0, hh1, hi0, hi1, hs0, hs1, hw0, hw1⟩ := gmtime_fields t h0 h1
  obtain ⟨w0, w1, w2, hw, hwd, hrest, hrlen⟩ := wday_ok (gmtime t).2 hw0 hw1
  obtain ⟨m0, m1, m2, hm, hmi⟩ := mon_ok (gmtime t).1.mon hm0 hm1
  obtain ⟨H1, H0, hH, hHd1, hHd0, hHv⟩ := d2_ok (gmtime t).1.hour hh0 (by omega)
  obtain ⟨I1, I0, hI, hId1, hId0, hIv⟩ := d2_ok (gmtime t).1.min hi0 (by omega)
  obtain ⟨S1, S0, hS, hSd1, hSd0, hSv⟩ := d2_ok (gmtime t).1.sec hs0 (by omega)
  exact ⟨⟨w0, w1, w2, m0, m1, m2, H1, H0, I1, I0, S1, S0, hw, hwd, hrest, hrlen, hm, hmi,
    by simp only [hmsStr, hH, hI, hS, List.cons_append, List.nil_append],
    hHd1, hHd0, hId1, hId0, hSd1, hSd0, hHv, hIv, hSv, ⟨hy0, hy1⟩, ⟨by omega, by omega⟩⟩⟩

theorem imf_roundtrip (now t : Int) (h0 : -30610224000 ≤ t) (h1 : t ≤ 253402300799) :
    (renderIMF t).length = 29 ∧ dateToTime now (renderIMF t) = some t := by
  obtain ⟨f⟩ := rendered t h0 h1
  obtain ⟨d1, d0, hd, hdd1, hdd0, hdv⟩ := d2_ok (gmtime t).1.mday f.mday.1 f.mday.2
  obtain ⟨y3, y2, y1, y0, hy, hyd3, hyd2, hyd1, hyd0, hyv⟩ := year4_ok (gmtime t).1.year f.year.1 f.year.2
  have hr : renderIMF t = [f.w0, f.w1, f.w2, 44, 32, d1, d0, 32, f.m0, f.m1, f.m2, 32, y3, y2, y1, y0,
      32, f.H1, f.H0, 58, f.I1, f.I0, 58, f.S1, f.S0, 32, 71, 77, 84] := by
    simp only [renderIMF, gmtStr, f.wday, hd, f.mon, hy, f.hms, List.cons_append, List.nil_append]
  refine ⟨by rw [hr]; rfl, ?_⟩
  rw [dateToTime, strToTm, hr]
  simp only [List.length_cons, List.length_nil, if_true, parseIMF, f.isWday, f.monIdx, hdd1, hdd0,
    hyd3, hyd2, hyd1, hyd0, f.dH1, f.dH0, f.dI1, f.dI0, f.dS1, f.dS0, Bool.and_self, decide_true,
    if_true, Option.map_some, hdv, hyv, f.hour, f.min, f.sec]
  exact congrArg some (timegm_gmtime t)

theorem asctime_roundtrip (now t : Int) (h0 : -30610224000 ≤ t) (h1 : t ≤ 253402300799) :
    (renderAsctime t).length = 24 ∧ dateToTime now (renderAsctime t) = some t := by
  obtain ⟨f⟩ := rendered t h0 h1
  obtain ⟨d1, d0, hd, hdd1, hdd0, hdv⟩ := d2sp_ok (gmtime t).1.mday f.mday.1 f.mday.2
  obtain ⟨y3, y2, y1, y0, hy, hyd3, hyd2, hyd1, hyd0, hyv⟩ := year4_ok (gmtime t).1.year f.year.1 f.year.2
  have hr : renderAsctime t = [f.w0, f.w1, f.w2, 32, f.m0, f.m1, f.m2, 32, d1, d0, 32, f.H1, f.H0, 58,
      f.I1, f.I0, 58, f.S1, f.S0, 32, y3, y2, y1, y0] := by
    simp only [renderAsctime, f.wday, hd, f.mon, hy, f.hms, List.cons_append, List.nil_append]
  have hl : (renderAsctime t).length = 24 := by rw [hr]; rfl
  refine ⟨hl, ?_⟩
  have hdd1' : (decide (d1 = 32) || isDigit d1) = true := by
    rcases hdd1 with h | h <;> simp [h]
  have hne : ¬ (renderAsctime t).length = 29 := by omega
  have hng : ¬ (renderAsctime t).length > 29 := by omega
  rw [dateToTime, strToTm]
  simp only [hne, hng, if_false]
  rw [hr]
  simp only [parseAsctime, f.isWday, f.monIdx, hdd0, hdd1',
    hyd3, hyd2, hyd1, hyd0, f.dH1, f.dH0, f.dI1, f.dI0, f.dS1, f.dS0, Bool.and_self, decide_true,
    if_true, Option.map_some, hdv, hyv, f.hour, f.min, f.sec]
  exact congrArg some (timegm_gmtime t)

/-- the years an RFC 850 date can denote for the code -/
def InWindow850 (cur year : Int) : Prop :=
  cur - 49 ≤ year ∧ year ≤ cur + 50 ∧ year ≤ cur - cur % 100 + 99

theorem year850_ok (cur year : Int) (h : InWindow850 cur year) :
    year850 cur (year % 100) = year := by
  obtain ⟨h1, h2, h3⟩ := h
  simp only [year850]
  split <;> omega

theorem rfc850_roundtrip (now t : Int) (h0 : -30610224000 ≤ t) (h1 : t ≤ 253402300799)
    (hwin : InWindow850 (yearOf now) (gmtime t).1.year) :
    (renderRFC850 t).length > 29 ∧ dateToTime now (renderRFC850 t) = some t := by
  obtain ⟨f⟩ := rendered t h0 h1
  obtain ⟨d1, d0, hd, hdd1, hdd0, hdv⟩ := d2_ok (gmtime t).1.mday f.mday.1 f.mday.2
  obtain ⟨y1, y0, hy, hyd1, hyd0, hyv⟩ := d2_ok ((gmtime t).1.year % 100) (by omega) (by omega)
  have hr : renderRFC850 t = f.w0 :: f.w1 :: f.w2 :: (wdayRest (gmtime t).2 ++
      [44, 32, d1, d0, 45, f.m0, f.m1, f.m2, 45, y1, y0, 32, f.H1, f.H0, 58, f.I1, f.I0, 58,
        f.S1, f.S0, 32, 71, 77, 84]) := by
    simp only [renderRFC850, gmtStr, f.wday, hd, f.mon, hy, f.hms, List.cons_append,
      List.nil_append, List.append_assoc]
  have hdw : ∀ l : Bytes, (wdayRest (gmtime t).2 ++ 44 :: l).dropWhile (fun b => b ≠ 44) = 44 :: l :=
    fun l => by rw [dropWhile_append_stop _ 44 (by simp), f.wrest]; rfl
  have hlen : (renderRFC850 t).length > 29 := by
    have := f.wrest_len
    rw [hr]; simp only [List.length_cons, List.length_append, List.length_nil]; omega
  refine ⟨hlen, ?_⟩
  have hne : ¬ (renderRFC850 t).length = 29 := by omega
  rw [dateToTime, strToTm]
  simp only [hne, hlen, if_true, if_false]
  rw [hr]
  simp only [parseRFC850, f.isWday, if_true, hdw]
  simp only [f.monIdx, hdd1, hdd0, hyd1, hyd0, f.dH1, f.dH0, f.dI1, f.dI0, f.dS1, f.dS0,
    Bool.and_self, decide_true, if_true, Option.map_some, hdv, hyv, f.hour, f.min, f.sec,
    year850_ok _ _ hwin]
  exact congrArg some (timegm_gmtime t)

theorem timeToStr_eq (t : Int) (h0 : -30610224000 ≤ t) (h1 : t ≤ 253402300799) :
    timeToStr t = renderIMF t := by
  have hl := (imf_roundtrip 0 t h0 h1).1
  have : 29 < Extracted.httpDateSz := by decide
  simp only [timeToStr, hl, this, if_true]

end Date
end LtVerif
