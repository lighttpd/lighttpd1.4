/-
  C17, chunk queue, the base: invariants (`QV`, `Fresh`), relations between worlds (`Quiet`
  gives `SameFiles` gives `Grows`; `Quiet` gives `SameRes`; all but `Grows` include `Calm`),
  resources (`Conserve`), the queued bytes, the shapes of the per-function facts (`QStep`, `LStep`,
  `QStep2`), and `TStep`/`TPost`: accounting while files grow, the type of `SStep.acct`.
-/
import LtVerif.Model.Cq
namespace LtVerif.Cq

/-! ## invariants -/

def sz (w : World) (fid : Nat) : Nat := (w.files fid).content.length

def Chunk.Valid (w : World) : Chunk → Prop
  | .mem d off _ => off ≤ d.length
  | .file fid off len t fd => fid < w.nfiles ∧ off ≤ len ∧ len ≤ sz w fid ∧
      -- readable: a descriptor, or a name that lives as long as the chunk does
      (fd.isOpen = true ∨ t = true ∨ fid < w.nsrc)

def ValidAll (w : World) (cs : List Chunk) : Prop := ∀ c ∈ cs, c.Valid w

/-- exact accounting: bytes_in − bytes_out = bytes still held by the chunks -/
structure QV (w : World) (q : Cq) : Prop where
  valid : ValidAll w q.chunks
  len : q.bytesIn - q.bytesOut = (remSum q.chunks : Int)

/-- ids from `nfiles` on are unused: such files are empty -/
def Fresh (w : World) : Prop := ∀ fid, w.nfiles ≤ fid → sz w fid = 0

structure Grows (w w' : World) : Prop where
  nfiles : w.nfiles ≤ w'.nfiles
  size : ∀ fid, sz w fid ≤ sz w' fid
  nsrc : w'.nsrc = w.nsrc

/-- the scripted syscall results are only consumed; the upload-dir configuration stays -/
structure Calm (w w' : World) : Prop where
  ws : w'.wsched <:+ w.wsched
  ms : w'.msched <:+ w.msched
  nd : w'.ndirs = w.ndirs
  dt : w'.defTempSize = w.defTempSize

theorem Calm.of_eq {w w' : World} (hw : w'.wsched = w.wsched) (hm : w'.msched = w.msched)
    (hn : w'.ndirs = w.ndirs) (hd : w'.defTempSize = w.defTempSize) : Calm w w' :=
  ⟨hw ▸ List.suffix_refl _, hm ▸ List.suffix_refl _, hn, hd⟩

theorem Calm.refl (w : World) : Calm w w := Calm.of_eq rfl rfl rfl rfl

theorem Calm.trans {a b c : World} (h1 : Calm a b) (h2 : Calm b c) : Calm a c :=
  ⟨h2.ws.trans h1.ws, h2.ms.trans h1.ms, h2.nd.trans h1.nd, h2.dt.trans h1.dt⟩

theorem Calm.wlen {w w' : World} (h : Calm w w') : w'.wsched.length ≤ w.wsched.length := h.ws.length_le

theorem Calm.ws_nil {w w' : World} (h : Calm w w') (hw : w.wsched = []) : w'.wsched = [] := by
  have := h.ws
  rw [hw] at this
  exact List.suffix_nil.mp this

/-- no file content changed (descriptors, names, pools, schedules may have) -/
structure SameFiles (w w' : World) : Prop where
  nfiles : w'.nfiles = w.nfiles
  nsrc : w'.nsrc = w.nsrc
  content : ∀ fid, (w'.files fid).content = (w.files fid).content
  /-- a file's name count (and the ghost of its owning chunk) stays, or the name goes away -/
  own : ∀ fid, ((w'.files fid).nlink = (w.files fid).nlink ∧ (w'.files fid).tl = (w.files fid).tl) ∨
    (w'.files fid).nlink < (w.files fid).nlink
  calm : Calm w w'

theorem SameFiles.refl (w : World) : SameFiles w w :=
  ⟨rfl, rfl, fun _ => rfl, fun _ => Or.inl ⟨rfl, rfl⟩, Calm.refl _⟩

theorem SameFiles.trans {a b c : World} (h1 : SameFiles a b) (h2 : SameFiles b c) : SameFiles a c := by
  refine ⟨h2.nfiles.trans h1.nfiles, h2.nsrc.trans h1.nsrc, fun fid => (h2.content fid).trans (h1.content fid), fun fid => ?_,
    h1.calm.trans h2.calm⟩
  rcases h1.own fid with ⟨a1, a2⟩ | a1 <;> rcases h2.own fid with ⟨b1, b2⟩ | b1
  · exact Or.inl ⟨b1.trans a1, b2.trans a2⟩
  · exact Or.inr (by omega)
  · exact Or.inr (by omega)
  · exact Or.inr (by omega)

theorem SameFiles.sz {w w' : World} (h : SameFiles w w') (fid : Nat) : sz w' fid = sz w fid := by
  simp [Cq.sz, h.content fid]

theorem SameFiles.grows {w w' : World} (h : SameFiles w w') : Grows w w' :=
  ⟨by rw [h.nfiles]; exact Nat.le_refl _, fun fid => by rw [h.sz fid]; exact Nat.le_refl _, h.nsrc⟩

theorem SameFiles.fresh {w w' : World} (h : SameFiles w w') (hf : Fresh w) : Fresh w' := by
  intro fid hle
  rw [h.sz fid]
  exact hf fid (by rw [← h.nfiles]; exact hle)

/-- a change of the world that touches no file record: the chunk pool, consumed schedule entries -/
structure Quiet (w w' : World) : Prop where
  files : w'.files = w.files
  nfiles : w'.nfiles = w.nfiles
  nsrc : w'.nsrc = w.nsrc
  calm : Calm w w'

theorem Quiet.refl (w : World) : Quiet w w := ⟨rfl, rfl, rfl, Calm.refl w⟩

theorem Quiet.trans {a b c : World} (h1 : Quiet a b) (h2 : Quiet b c) : Quiet a c :=
  ⟨h2.files.trans h1.files, h2.nfiles.trans h1.nfiles, h2.nsrc.trans h1.nsrc, h1.calm.trans h2.calm⟩

theorem Quiet.same {w w' : World} (h : Quiet w w') : SameFiles w w' :=
  ⟨h.nfiles, h.nsrc, fun _ => by rw [h.files], fun _ => Or.inl (by rw [h.files]; exact ⟨rfl, rfl⟩), h.calm⟩

theorem Grows.refl (w : World) : Grows w w := (SameFiles.refl w).grows

theorem Grows.trans {a b c : World} (h1 : Grows a b) (h2 : Grows b c) : Grows a c :=
  ⟨Nat.le_trans h1.nfiles h2.nfiles, fun fid => Nat.le_trans (h1.size fid) (h2.size fid), h2.nsrc.trans h1.nsrc⟩

theorem Chunk.Valid.mono {w w' : World} {c : Chunk} (h : c.Valid w) (g : Grows w w') : c.Valid w' := by
  cases c with
  | mem => exact h
  | file fid off len t fd =>
    obtain ⟨h1, h2, h3, h4⟩ := h
    exact ⟨Nat.lt_of_lt_of_le h1 g.nfiles, h2, Nat.le_trans h3 (g.size fid), by rw [g.nsrc]; exact h4⟩

theorem Chunk.Valid.setFd {w : World} {fid off len : Nat} {t : Bool} {fd fd' : Fd}
    (h : (Chunk.file fid off len t fd).Valid w) (hfd : fd.isOpen = true → fd'.isOpen = true) :
    (Chunk.file fid off len t fd').Valid w := by
  obtain ⟨h1, h2, h3, h4⟩ := h
  refine ⟨h1, h2, h3, ?_⟩
  rcases h4 with h4 | h4
  · exact Or.inl (hfd h4)
  · exact Or.inr h4

/-- chunkqueue_dup_file_chunk_fd(): the copy holds a descriptor unless it names an application file -/
theorem dupFd_readable {w : World} {fid : Nat} {t : Bool} {fd : Fd}
    (h : fd.isOpen = true ∨ t = true ∨ fid < w.nsrc) : (dupFd t fd).isOpen = true ∨ fid < w.nsrc := by
  unfold dupFd
  rcases h with h | h | h
  · rw [if_pos h]; exact Or.inl h
  · subst h
    split
    · rename_i h; exact Or.inl h
    · exact Or.inl rfl
  · exact Or.inr h

theorem ValidAll.mono {w w' : World} {cs : List Chunk} (h : ValidAll w cs) (g : Grows w w') :
    ValidAll w' cs := fun c hc => (h c hc).mono g

theorem QV.mono {w w' : World} {q : Cq} (h : QV w q) (g : Grows w w') : QV w' q :=
  ⟨h.valid.mono g, h.len⟩

theorem ValidAll.nil (w : World) : ValidAll w [] := fun _ h => nomatch h

theorem ValidAll.cons {w : World} {c : Chunk} {cs : List Chunk} (h : c.Valid w) (hs : ValidAll w cs) :
    ValidAll w (c :: cs) := List.forall_mem_cons.mpr ⟨h, hs⟩

theorem ValidAll.head {w : World} {c : Chunk} {cs : List Chunk} (h : ValidAll w (c :: cs)) : c.Valid w :=
  (List.forall_mem_cons.mp h).1

theorem ValidAll.tail {w : World} {c : Chunk} {cs : List Chunk} (h : ValidAll w (c :: cs)) :
    ValidAll w cs := (List.forall_mem_cons.mp h).2

theorem ValidAll.append {w : World} {a b : List Chunk} (ha : ValidAll w a) (hb : ValidAll w b) :
    ValidAll w (a ++ b) := List.forall_mem_append.mpr ⟨ha, hb⟩

theorem ValidAll.left {w : World} {a b : List Chunk} (h : ValidAll w (a ++ b)) : ValidAll w a :=
  (List.forall_mem_append.mp h).1

theorem ValidAll.right {w : World} {a b : List Chunk} (h : ValidAll w (a ++ b)) : ValidAll w b :=
  (List.forall_mem_append.mp h).2

theorem ValidAll.dropLast {w : World} {cs : List Chunk} (h : ValidAll w cs) : ValidAll w cs.dropLast :=
  fun x hx => h x (List.dropLast_subset _ hx)

theorem ValidAll.single {w : World} {c : Chunk} (h : c.Valid w) : ValidAll w [c] :=
  ValidAll.cons h (ValidAll.nil w)

/-! ## list bookkeeping -/

@[simp] theorem remSum_nil : remSum [] = 0 := rfl
@[simp] theorem remSum_cons (c : Chunk) (cs : List Chunk) : remSum (c :: cs) = c.rem + remSum cs := rfl

@[simp] theorem remSum_append (a b : List Chunk) : remSum (a ++ b) = remSum a + remSum b := by
  induction a with
  | nil => simp
  | cons c cs ih => simp [ih, Nat.add_assoc]

theorem split_last {cs : List Chunk} {c : Chunk} (h : cs.getLast? = some c) :
    cs = cs.dropLast ++ [c] := by
  obtain ⟨ys, rfl⟩ := List.getLast?_eq_some_iff.mp h
  simp

theorem remSum_last {cs : List Chunk} {c : Chunk} (h : cs.getLast? = some c) :
    remSum cs = remSum cs.dropLast + c.rem := by
  conv => lhs; rw [split_last h]
  simp

theorem valid_last {w : World} {cs : List Chunk} {c : Chunk} (hw : ValidAll w cs)
    (h : cs.getLast? = some c) : c.Valid w :=
  hw c (List.mem_of_getLast? h)

@[simp] theorem remSum_setLast (cs : List Chunk) (c : Chunk) :
    remSum (setLast cs c) = remSum cs.dropLast + c.rem := by simp [setLast]

theorem valid_setLast {w : World} {cs : List Chunk} {c : Chunk} (hw : ValidAll w cs) (hc : c.Valid w) :
    ValidAll w (setLast cs c) :=
  ValidAll.append hw.dropLast (ValidAll.single hc)

theorem Chunk.rem_adv {w : World} {c : Chunk} {n : Nat} (hn : n ≤ c.rem) (hw : c.Valid w) :
    (c.adv n).rem = c.rem - n ∧ (c.adv n).Valid w := by
  cases c with
  | mem => simp only [Chunk.adv, Chunk.rem, Chunk.Valid] at *; omega
  | file fid off len t fd =>
    simp only [Chunk.adv, Chunk.rem, Chunk.Valid] at *
    exact ⟨by omega, hw.1, by omega, by omega, hw.2.2.2⟩

theorem mem_chunk_valid (w : World) (d : Bytes) (cap : Nat) : (Chunk.mem d 0 cap).Valid w := by
  simp [Chunk.Valid]

theorem mem_chunk_rem (d : Bytes) (cap : Nat) : (Chunk.mem d 0 cap).rem = d.length := by
  simp [Chunk.rem]

/-! ## world primitives that leave file contents alone; the schedules -/

@[simp] theorem setFile_files_same (w : World) (fid : Nat) (f : File) : (w.setFile fid f).files fid = f := by
  simp [World.setFile]

theorem setFile_files_other (w : World) {fid i : Nat} (f : File) (h : i ≠ fid) :
    (w.setFile fid f).files i = w.files i := by
  simp [World.setFile, h]

theorem setFile_sameFiles (w : World) (fid : Nat) (f : File) (h : f.content = (w.files fid).content)
    (ho : (f.nlink = (w.files fid).nlink ∧ f.tl = (w.files fid).tl) ∨ f.nlink < (w.files fid).nlink) :
    SameFiles w (w.setFile fid f) := by
  refine ⟨rfl, rfl, fun i => ?_, fun i => ?_, Calm.of_eq rfl rfl rfl rfl⟩
  · by_cases hi : i = fid
    · subst hi; simp [h]
    · rw [setFile_files_other w f hi]
  · by_cases hi : i = fid
    · subst hi; simpa using ho
    · rw [setFile_files_other w f hi]; exact Or.inl ⟨rfl, rfl⟩

theorem openFd_same (w : World) (fid : Nat) : SameFiles w (w.openFd fid) :=
  setFile_sameFiles w fid _ rfl (Or.inl ⟨rfl, rfl⟩)

theorem closeFd_same (w : World) (fid : Nat) : SameFiles w (w.closeFd fid) :=
  setFile_sameFiles w fid _ rfl (Or.inl ⟨rfl, rfl⟩)

theorem unlink_same (w : World) (fid len : Nat) : SameFiles w (w.unlink fid len) :=
  setFile_sameFiles w fid _ rfl (Or.inr (by simp only; omega))

theorem pushOversized_quiet (w : World) (n : Nat) : Quiet w (pushOversized w n) := by
  unfold pushOversized
  split
  · exact ⟨rfl, rfl, rfl, Calm.of_eq rfl rfl rfl rfl⟩
  · split
    · split
      · exact ⟨rfl, rfl, rfl, Calm.of_eq rfl rfl rfl rfl⟩
      · exact Quiet.refl w
    · exact Quiet.refl w

theorem acquire_quiet (w : World) (n : Nat) : Quiet w (acquire w n).1 := by
  unfold acquire
  split
  · exact Quiet.refl w
  · split
    · dsimp only
      split
      · exact ⟨rfl, rfl, rfl, Calm.of_eq rfl rfl rfl rfl⟩
      · exact Quiet.refl w
    · exact Quiet.refl w

theorem release_mem_quiet (w : World) (d : Bytes) (off cap : Nat) : Quiet w (release w (.mem d off cap)) := by
  simp only [release]
  split
  · exact Quiet.refl w
  · split
    · exact pushOversized_quiet w cap
    · exact Quiet.refl w

theorem release_same (w : World) (c : Chunk) : SameFiles w (release w c) := by
  cases c with
  | mem d off cap => exact (release_mem_quiet w d off cap).same
  | file fid off len t fd =>
    simp only [release]
    have h1 : SameFiles w (if t = true then w.unlink fid len else w) := by
      split
      · exact unlink_same w fid len
      · exact SameFiles.refl w
    split
    · exact h1.trans (closeFd_same _ fid)
    · exact h1

theorem releaseAll_same (w : World) (cs : List Chunk) : SameFiles w (releaseAll w cs) := by
  induction cs generalizing w with
  | nil => exact SameFiles.refl w
  | cons c cs ih => exact (release_same w c).trans (ih _)

theorem popM_quiet (w : World) : Quiet w (popM w).1 := by
  unfold popM
  split
  · exact Quiet.refl w
  · rename_i f t hm
    exact ⟨rfl, rfl, rfl, List.suffix_refl _, by rw [hm]; exact List.suffix_cons f t, rfl, rfl⟩

theorem popW_quiet (w : World) : Quiet w (popW w).1 := by
  unfold popW
  split
  · exact Quiet.refl w
  · rename_i f t hm
    exact ⟨rfl, rfl, rfl, by rw [hm]; exact List.suffix_cons f t, List.suffix_refl _, rfl, rfl⟩

theorem popW_cases (w : World) :
    (w.wsched = [] ∧ popW w = (w, .ok)) ∨
      (∃ f t, w.wsched = f :: t ∧ popW w = ({ w with wsched := t }, f)) := by
  unfold popW
  split
  · rename_i h; exact Or.inl ⟨h, rfl⟩
  · rename_i f t h; exact Or.inr ⟨f, t, h, rfl⟩

theorem popW_len {w : World} (h : (popW w).2 ≠ .ok) : (popW w).1.wsched.length + 1 = w.wsched.length := by
  rcases popW_cases w with ⟨_, e⟩ | ⟨f, t, hw, e⟩
  · rw [e] at h; exact absurd rfl h
  · rw [e, hw]; rfl

/-- not `ok`, not the EIO `effFault` puts in: the result was scripted and is off the schedule -/
theorem popW_scripted {w : World} {q : Cq} {g : WFault} (h : effFault q (popW w).2 = g) (h1 : g ≠ .ok)
    (h2 : g ≠ .eio) : (popW w).1.wsched.length + 1 = w.wsched.length := by
  refine popW_len fun hf => ?_
  rw [hf] at h
  simp only [effFault] at h
  split at h
  · exact h2 h.symm
  · exact h1 h.symm

theorem SameFiles.valid_back {w w' : World} (h : SameFiles w w') {cs : List Chunk} (hv : ValidAll w' cs) :
    ValidAll w cs :=
  hv.mono ⟨Nat.le_of_eq h.nfiles, fun fid => Nat.le_of_eq (h.sz fid), h.nsrc.symm⟩

/-! ## resources: what the chunks hold and what the world counts -/

def Chunk.fdOn (f : Nat) : Chunk → Int
  | .file fid _ _ _ fd => if fid = f ∧ fd.isOpen = true then 1 else 0
  | .mem .. => 0

def Chunk.tmpOn (f : Nat) : Chunk → Int
  | .file fid _ _ t _ => if fid = f ∧ t = true then 1 else 0
  | .mem .. => 0

/-- c->file.length if `c` is the temp chunk that owns file `f` -/
def Chunk.lenOn (f : Nat) : Chunk → Int
  | .file fid _ len t _ => if fid = f ∧ t = true then len else 0
  | .mem .. => 0

/-- descriptors, names of temp files, and (ghost) the bytes the owning temp chunk accounts for -/
inductive Kind where
  | fd
  | name
  | tlen
deriving DecidableEq

def cres : Kind → Nat → Chunk → Int
  | .fd, f, c => c.fdOn f
  | .name, f, c => c.tmpOn f
  | .tlen, f, c => c.lenOn f

def csum (k : Kind) (f : Nat) : List Chunk → Int
  | [] => 0
  | c :: cs => cres k f c + csum k f cs

def wres : Kind → World → Nat → Int
  | .fd, w, f => (w.files f).nfd
  | .name, w, f => (w.files f).nlink
  | .tlen, w, f => (w.files f).tl

/-- what the world holds beyond what the chunks account for stays (0 descriptors, 1 name per
    source file in a well-accounted system); the scripted results are only consumed -/
structure Conserve (w : World) (cs : List Chunk) (w' : World) (cs' : List Chunk) : Prop where
  calm : Calm w w'
  bal : ∀ k f, wres k w' f - csum k f cs' = wres k w f - csum k f cs

@[simp] theorem csum_nil (k : Kind) (f : Nat) : csum k f [] = 0 := rfl
@[simp] theorem csum_cons (k : Kind) (f : Nat) (c : Chunk) (cs : List Chunk) :
    csum k f (c :: cs) = cres k f c + csum k f cs := rfl

@[simp] theorem csum_append (k : Kind) (f : Nat) (a b : List Chunk) :
    csum k f (a ++ b) = csum k f a + csum k f b := by
  induction a with
  | nil => simp
  | cons c cs ih => simp [ih, Int.add_assoc]

@[simp] theorem cres_mem (k : Kind) (f : Nat) (d : Bytes) (off cap : Nat) : cres k f (.mem d off cap) = 0 := by
  cases k <;> rfl

theorem Conserve.refl (w : World) (cs : List Chunk) : Conserve w cs w cs := ⟨Calm.refl w, fun _ _ => rfl⟩

theorem Conserve.trans {w1 w2 w3 : World} {a b c : List Chunk} (h1 : Conserve w1 a w2 b)
    (h2 : Conserve w2 b w3 c) : Conserve w1 a w3 c :=
  ⟨h1.calm.trans h2.calm, fun k f => (h2.bal k f).trans (h1.bal k f)⟩

theorem Conserve.frame_right {w w' : World} {a a' : List Chunk} (h : Conserve w a w' a') (x : List Chunk) :
    Conserve w (a ++ x) w' (a' ++ x) := by
  refine ⟨h.calm, fun k f => ?_⟩
  have := h.bal k f
  simp only [csum_append]
  omega

theorem Conserve.frame_left {w w' : World} {a a' : List Chunk} (h : Conserve w a w' a') (x : List Chunk) :
    Conserve w (x ++ a) w' (x ++ a') := by
  refine ⟨h.calm, fun k f => ?_⟩
  have := h.bal k f
  simp only [csum_append]
  omega

structure SameRes (w w' : World) : Prop where
  calm : Calm w w'
  same : ∀ k f, wres k w' f = wres k w f

theorem SameRes.refl (w : World) : SameRes w w := ⟨Calm.refl w, fun _ _ => rfl⟩

theorem Quiet.res {w w' : World} (h : Quiet w w') : SameRes w w' :=
  ⟨h.calm, fun k _ => by cases k <;> simp only [wres, h.files]⟩

theorem Conserve.of_csum {w w' : World} {cs cs' : List Chunk} (hw : SameRes w w')
    (hc : ∀ k f, csum k f cs' = csum k f cs) : Conserve w cs w' cs' :=
  ⟨hw.calm, fun k f => by rw [hw.same, hc]⟩

theorem SameRes.conserve {w w' : World} (h : SameRes w w') (cs : List Chunk) : Conserve w cs w' cs :=
  Conserve.of_csum h fun _ _ => rfl

theorem pwrite_res (w : World) (fid pos : Nat) (d : Bytes) : SameRes w (w.pwrite fid pos d) := by
  refine ⟨Calm.of_eq rfl rfl rfl rfl, fun k f => ?_⟩
  by_cases h : f = fid
  · subst h; cases k <;> simp [wres, World.pwrite]
  · cases k <;> simp [wres, World.pwrite, setFile_files_other w _ h]

/-- what a syscall or a chunk adds, as a summand -/
def hit (k k0 : Kind) (fid f : Nat) : Int := if fid = f ∧ k = k0 then 1 else 0

theorem wres_openFd (k : Kind) (w : World) (fid f : Nat) :
    wres k (w.openFd fid) f = wres k w f + hit k .fd fid f := by
  by_cases h : f = fid
  · subst h; cases k <;> simp [wres, World.openFd, hit]
  · have h' : ¬ fid = f := fun e => h e.symm
    cases k <;> simp [wres, World.openFd, setFile_files_other w _ h, h', hit]

theorem wres_closeFd (k : Kind) (w : World) (fid f : Nat) :
    wres k (w.closeFd fid) f = wres k w f - hit k .fd fid f := by
  by_cases h : f = fid
  · subst h; cases k <;> simp [wres, World.closeFd, hit]
  · have h' : ¬ fid = f := fun e => h e.symm
    cases k <;> simp [wres, World.closeFd, setFile_files_other w _ h, h', hit]

theorem wres_unlink (k : Kind) (w : World) (fid len f : Nat) :
    wres k (w.unlink fid len) f = wres k w f - hit k .name fid f - len * hit k .tlen fid f := by
  by_cases h : f = fid
  · subst h; cases k <;> simp [wres, World.unlink, hit]
  · have h' : ¬ fid = f := fun e => h e.symm
    cases k <;> simp [wres, World.unlink, setFile_files_other w _ h, h', hit]

theorem wres_addTl (k : Kind) (w : World) (fid : Nat) (n : Int) (f : Nat) :
    wres k (w.addTl fid n) f = wres k w f + n * hit k .tlen fid f := by
  by_cases h : f = fid
  · subst h; cases k <;> simp [wres, World.addTl, hit]
  · have h' : ¬ fid = f := fun e => h e.symm
    cases k <;> simp [wres, World.addTl, setFile_files_other w _ h, h', hit]

theorem cres_file (k : Kind) (f fid off len : Nat) (t : Bool) (fd : Fd) :
    cres k f (.file fid off len t fd) =
      (if fd.isOpen = true then hit k .fd fid f else 0) +
      (if t = true then hit k .name fid f + len * hit k .tlen fid f else 0) := by
  by_cases hf : fid = f <;> cases k <;> cases t <;> cases hfd : fd.isOpen <;>
    simp [cres, Chunk.fdOn, Chunk.tmpOn, Chunk.lenOn, hit, hf, hfd]

theorem wres_release (k : Kind) (w : World) (c : Chunk) (f : Nat) :
    wres k (release w c) f = wres k w f - cres k f c := by
  cases c with
  | mem d off cap =>
    rw [cres_mem, Int.sub_zero]
    exact (release_mem_quiet w d off cap).res.same k f
  | file fid off len t fd =>
    simp only [release, cres_file]
    cases t <;> cases hfd : fd.isOpen <;> simp [wres_closeFd, wres_unlink] <;> omega

theorem release_conserve (w : World) (c : Chunk) : Conserve w [c] (release w c) [] :=
  ⟨(release_same w c).calm, fun k f => by rw [wres_release]; simp⟩

theorem releaseAll_conserve (w : World) (cs : List Chunk) : Conserve w cs (releaseAll w cs) [] := by
  induction cs generalizing w with
  | nil => exact Conserve.refl w []
  | cons c cs ih => exact ((release_conserve w c).frame_right cs).trans (ih _)

theorem csum_setLast {cs : List Chunk} {c : Chunk} (k : Kind) (f : Nat) (c' : Chunk)
    (hl : cs.getLast? = some c) : csum k f (setLast cs c') = csum k f cs - cres k f c + cres k f c' := by
  conv => rhs; rw [split_last hl]
  simp only [setLast, csum_append, csum_cons, csum_nil]
  omega

theorem csum_pushChunk (k : Kind) (f : Nat) (q : Cq) (c : Chunk) (n : Nat) :
    csum k f (pushChunk q c n).chunks = csum k f q.chunks + cres k f c := by
  simp [pushChunk]

/-! ## the queued bytes -/

@[simp] theorem absChunks_nil (w : World) : absChunks w [] = [] := rfl

@[simp] theorem absChunks_cons (w : World) (c : Chunk) (cs : List Chunk) :
    absChunks w (c :: cs) = c.content w ++ absChunks w cs := by simp [absChunks]

@[simp] theorem absChunks_append (w : World) (a b : List Chunk) :
    absChunks w (a ++ b) = absChunks w a ++ absChunks w b := by simp [absChunks]

theorem content_same {w w' : World} (h : SameFiles w w') (c : Chunk) : c.content w' = c.content w := by
  cases c <;> simp [Chunk.content, h.content]

theorem absChunks_same {w w' : World} (h : SameFiles w w') (cs : List Chunk) :
    absChunks w' cs = absChunks w cs := by
  induction cs with
  | nil => rfl
  | cons c cs ih => simp [ih, content_same h]

theorem abs_same {w w' : World} (h : SameFiles w w') (q : Cq) : q.abs w' = q.abs w := absChunks_same h _

theorem content_length {w : World} {c : Chunk} (h : c.Valid w) : (c.content w).length = c.rem := by
  cases c with
  | mem d off cap => simp [Chunk.content, Chunk.rem]
  | file fid off len t fd =>
    simp only [Chunk.Valid, sz] at h
    simp only [Chunk.content, Chunk.rem, List.length_take, List.length_drop]
    omega

theorem absChunks_length {w : World} {cs : List Chunk} (h : ValidAll w cs) :
    (absChunks w cs).length = remSum cs := by
  induction cs with
  | nil => rfl
  | cons c cs ih => simp [ih h.tail, content_length h.head]

theorem absChunks_length_mem (w : World) {cs : List Chunk} (h : ∀ c ∈ cs, c.isMem = true) :
    (absChunks w cs).length = remSum cs := by
  induction cs with
  | nil => rfl
  | cons c cs ih =>
    have hc := h c (List.mem_cons_self ..)
    cases c with
    | file => cases hc
    | mem d off cap =>
      simp [Chunk.content, Chunk.rem, ih fun x hx => h x (List.mem_cons_of_mem _ hx)]

theorem QV.length_abs {w : World} {q : Cq} (h : QV w q) : q.length = ((q.abs w).length : Int) := by
  rw [Cq.abs, absChunks_length h.valid]
  exact h.len

theorem QV.of_abs {w : World} {q : Cq} (hv : ValidAll w q.chunks) (hl : q.length = ((q.abs w).length : Int)) :
    QV w q := by
  rw [Cq.abs, absChunks_length hv] at hl
  exact ⟨hv, hl⟩

theorem abs_setLast {w : World} {cs : List Chunk} {c c' : Chunk} {x : Bytes}
    (hl : cs.getLast? = some c) (hc : c'.content w = c.content w ++ x) :
    absChunks w (setLast cs c') = absChunks w cs ++ x := by
  conv => rhs; rw [split_last hl]
  simp [setLast, hc]

theorem content_adv {w : World} {c : Chunk} {n : Nat} (hn : n ≤ c.rem) :
    (c.adv n).content w = (c.content w).drop n := by
  cases c with
  | mem d off cap => simp [Chunk.adv, Chunk.content, Nat.add_comm]
  | file fid off len t fd =>
    simp only [Chunk.rem] at hn
    simp only [Chunk.adv, Chunk.content, List.drop_take, List.drop_drop]
    congr 1
    omega

theorem content_nil_of_rem {w : World} {c : Chunk} (hv : c.Valid w) (h0 : c.rem = 0) : c.content w = [] :=
  List.eq_nil_of_length_eq_zero (by rw [content_length hv, h0])

theorem take_content_length {w : World} {c : Chunk} {n : Nat} (hv : c.Valid w) (hn : n ≤ c.rem) :
    ((c.content w).take n).length = n := by
  rw [List.length_take, content_length hv]; omega

/-! ## the shape of the per-function facts -/

/-- what a function does to queue `q` in world `w` (result `r`); `a'`: the bytes afterwards,
    read in `w` (the same in `r.1`) -/
structure QStep (w : World) (q : Cq) (r : World × Cq) (a' : Bytes) : Prop where
  same : SameFiles w r.1
  res : Conserve w q.chunks r.1 r.2.chunks
  qv : QV w q → QV r.1 r.2 ∧ r.2.abs w = a'

theorem QStep.mk' {w w' : World} {q q' : Cq} {a' : Bytes} (hs : SameFiles w w')
    (hr : Conserve w q.chunks w' q'.chunks)
    (h : QV w q → ValidAll w q'.chunks ∧ q'.abs w = a' ∧
      q'.length = q.length + a'.length - (q.abs w).length) : QStep w q (w', q') a' := by
  refine ⟨hs, hr, fun hq => ?_⟩
  obtain ⟨hv, ha, hl⟩ := h hq
  refine ⟨QV.of_abs (hv.mono hs.grows) ?_, ha⟩
  rw [abs_same hs, ha, hl, hq.length_abs]
  omega

theorem QStep.world {w w' : World} {q : Cq} (h : Quiet w w') : QStep w q (w', q) (q.abs w) :=
  ⟨h.same, h.res.conserve _, fun hq => ⟨hq.mono h.same.grows, rfl⟩⟩

theorem QStep.refl (w : World) (q : Cq) : QStep w q (w, q) (q.abs w) :=
  QStep.world (Quiet.refl w)

theorem QStep.after {w w1 : World} {q : Cq} {r : World × Cq} {a' : Bytes} (h1 : Quiet w w1)
    (h2 : QStep w1 q r a') : QStep w q r a' := by
  refine ⟨h1.same.trans h2.1, (h1.res.conserve _).trans h2.res, fun hq => ?_⟩
  obtain ⟨a, b⟩ := h2.qv (hq.mono h1.same.grows)
  exact ⟨a, (absChunks_same h1.same _).symm.trans b⟩

/-- `QStep.res` alone, for the `f_spec` statements -/
def CStep (w : World) (q : Cq) (r : World × Cq) : Prop := Conserve w q.chunks r.1 r.2.chunks

/-- `QStep` for the loops over a chunk list (no counters) -/
structure LStep (w : World) (cs : List Chunk) (r : World × List Chunk) (a' : Bytes) : Prop where
  same : SameFiles w r.1
  res : Conserve w cs r.1 r.2
  valid : ValidAll w cs → ValidAll w r.2 ∧ absChunks w r.2 = a'

theorem LStep.refl (w : World) (cs : List Chunk) : LStep w cs (w, cs) (absChunks w cs) :=
  ⟨SameFiles.refl w, Conserve.refl w cs, fun hv => ⟨hv, rfl⟩⟩

theorem LStep.release {w : World} {c : Chunk} {rest : List Chunk} {r : World × List Chunk} {a' : Bytes}
    (h : LStep (release w c) rest r a') : LStep w (c :: rest) r a' := by
  have hr := release_same w c
  refine ⟨hr.trans h.1, ((release_conserve w c).frame_right rest).trans h.res, fun hv => ?_⟩
  obtain ⟨a, b⟩ := h.valid (hv.tail.mono hr.grows)
  exact ⟨hr.valid_back a, (absChunks_same hr _).symm.trans b⟩

theorem QStep.of_list {w : World} {q q' : Cq} {r : World × List Chunk} {a' : Bytes}
    (h : LStep w q.chunks r a') (hc : q'.chunks = r.2)
    (hl : QV w q → q'.length = q.length + a'.length - (q.abs w).length) : QStep w q (r.1, q') a' :=
  QStep.mk' h.1 (hc ▸ h.res) fun hq => by
    obtain ⟨a, b⟩ := h.valid hq.valid
    exact ⟨hc ▸ a, by rw [Cq.abs, hc]; exact b, hl hq⟩

/-- `QStep` for a function on two queues; `a'`, `b'`: the bytes of dest and of src afterwards -/
structure QStep2 (w : World) (dest src : Cq) (r : World × Cq × Cq) (a' b' : Bytes) : Prop where
  same : SameFiles w r.1
  res : Conserve w (dest.chunks ++ src.chunks) r.1 (r.2.1.chunks ++ r.2.2.chunks)
  qv : QV w dest → QV w src → QV r.1 r.2.1 ∧ QV r.1 r.2.2 ∧ r.2.1.abs w = a' ∧ r.2.2.abs w = b'

/-! ## accounting while files grow -/

structure TPost (w w' : World) (q' : Cq) : Prop where
  fresh : Fresh w'
  grows : Grows w w'
  qv : QV w' q'

def TStep (w : World) (q : Cq) (w' : World) (q' : Cq) : Prop :=
  Fresh w → QV w q → TPost w w' q'

theorem TStep.refl (w : World) (q : Cq) : TStep w q w q := fun hf hq => ⟨hf, Grows.refl w, hq⟩

theorem TStep.trans {w w1 w2 : World} {q q1 q2 : Cq} (h1 : TStep w q w1 q1) (h2 : TStep w1 q1 w2 q2) :
    TStep w q w2 q2 := by
  intro hf hq
  obtain ⟨f1, g1, q1'⟩ := h1 hf hq
  obtain ⟨f2, g2, q2'⟩ := h2 f1 q1'
  exact ⟨f2, g1.trans g2, q2'⟩

theorem QStep.tstep {w : World} {q : Cq} {r : World × Cq} {a' : Bytes} (h : QStep w q r a') :
    TStep w q r.1 r.2 :=
  fun hf hq => ⟨h.1.fresh hf, h.1.grows, (h.qv hq).1⟩

end LtVerif.Cq
