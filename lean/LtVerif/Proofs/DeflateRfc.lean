/-
  RFC 9110 12.5.3 / 12.4.2 specification of Accept-Encoding values (token list with weights, rendered with
  arbitrary optional white space) and the proof that the scanner of Model/Deflate.lean reads a rendered
  value exactly as the list it came from.
-/
import LtVerif.Proofs.DeflateScan
namespace LtVerif.Deflate
open LtVerif B

/-- qvalue = ( "0" [ "." 0*3DIGIT ] ) / ( "1" [ "." 0*3("0") ] ) -/
structure QValue where
  one : Bool                       -- "1" (else "0")
  frac : Option (List UInt8)       -- digits after the ".", if the "." is there
deriving DecidableEq, Repr

def QValue.wf (q : QValue) : Prop :=
  match q.frac with
  | none => True
  | some ds => ds.length ≤ 3 ∧ (∀ d ∈ ds, isDigit d = true) ∧ (q.one = true → ∀ d ∈ ds, d = 48)

def QValue.isZero (q : QValue) : Bool :=
  !q.one && (match q.frac with | none => true | some ds => ds.all (· = 48))

def QValue.render (q : QValue) : Bytes :=
  (if q.one then 49 else 48) :: (match q.frac with | none => [] | some ds => dot :: ds)

/-- one element: OWS coding [ OWS ";" OWS "q=" qvalue ] OWS -/
structure AEItem where
  pre : Bytes                      -- optional white space
  coding : Bytes                   -- token (or "*")
  weight : Option (Bytes × Bytes × Bool × QValue)   -- OWS before ';', OWS after ';', upper-case 'Q', value
  post : Bytes
deriving DecidableEq, Repr

def isOws (b : Bytes) : Prop := ∀ x ∈ b, x = sp ∨ x = ht

/-- a token never contains a delimiter the scanner looks at (tchar excludes SP HTAB , ; NUL) -/
def isTokenish (t : Bytes) : Prop := t ≠ [] ∧ ∀ x ∈ t, x ≠ sp ∧ x ≠ ht ∧ x ≠ comma ∧ x ≠ semi ∧ x ≠ 0

def AEItem.wf (it : AEItem) : Prop :=
  isOws it.pre ∧ isOws it.post ∧ isTokenish it.coding ∧
  match it.weight with
  | none => True
  | some (o1, o2, _, q) => isOws o1 ∧ isOws o2 ∧ q.wf

def AEItem.render (it : AEItem) : Bytes :=
  it.pre ++ it.coding ++
    (match it.weight with
     | none => []
     | some (o1, o2, up, q) => o1 ++ semi :: (o2 ++ (if up then 81 else 113) :: 61 :: q.render)) ++ it.post

def AEItem.refused (it : AEItem) : Bool :=
  match it.weight with
  | none => false
  | some (_, _, _, q) => q.isZero

def renderAE (l : List AEItem) : Bytes := join comma (l.map AEItem.render)

/-- RFC 9110 12.5.3 reading of the header -/
def listedAcceptable (l : List AEItem) (c : Coding) : Prop :=
  ∃ it ∈ l, it.coding = c.label ∧ it.refused = false

theorem dropWhile_append_all {p : UInt8 → Bool} (a b : Bytes) (ha : ∀ y ∈ a, p y = true) :
    (a ++ b).dropWhile p = b.dropWhile p :=
  List.dropWhile_append_of_pos ha

theorem q0Rest_ows (post : Bytes) (hpost : isOws post) : q0Rest post = true := by
  cases post with
  | nil => rfl
  | cons d r =>
    have hd : d = sp ∨ d = ht := hpost d (by simp)
    rcases hd with rfl | rfl <;> simp [q0Rest, q0End, sp, ht, dot]

theorem q0End_zeros (ds post : Bytes) (hpost : isOws post) (hdig : ∀ d ∈ ds, isDigit d = true) :
    q0End ((ds ++ post).dropWhile (· = 48)) = ds.all (· = 48) := by
  induction ds with
  | nil =>
    simp only [List.nil_append, List.all_nil]
    cases post with
    | nil => rfl
    | cons d r =>
      have hd : d = sp ∨ d = ht := hpost d (by simp)
      rcases hd with rfl | rfl <;> simp [q0End, sp, ht]
  | cons d ds ih =>
    by_cases hd : d = 48
    · subst hd
      simpa using ih (fun x hx => hdig x (by simp [hx]))
    · have hdd := hdig d (by simp)
      have h2 : d ≠ sp ∧ d ≠ ht := by
        constructor <;> intro e <;> subst e <;> simp [isDigit, sp, ht] at hdd
      simp [q0End, h2.1, h2.2, hd]

theorem paramIsQ0_render (o2 post : Bytes) (up : Bool) (q : QValue) (ho2 : isOws o2) (hpost : isOws post)
    (hq : q.wf) :
    paramIsQ0 ((o2 ++ (if up then 81 else 113) :: 61 :: q.render) ++ post) = q.isZero := by
  unfold paramIsQ0
  have hws : ∀ y ∈ o2, (fun b => b = sp || b = ht) y = true := by
    intro y hy; rcases ho2 y hy with rfl | rfl <;> simp
  have hc : (fun b => b = sp || b = ht) (if up then (81 : UInt8) else 113) = false := by
    cases up <;> simp [sp, ht]
  rw [List.append_assoc, List.cons_append, List.dropWhile_append_of_pos hws, List.dropWhile_cons_of_neg (by simp [hc])]
  obtain ⟨one, frac⟩ := q
  cases one with
  | true =>
    cases up <;> simp [QValue.render, QValue.isZero]
  | false =>
    cases frac with
    | none =>
      cases up <;> simp [QValue.render, QValue.isZero, q0Rest_ows post hpost]
    | some ds =>
      simp only [QValue.wf] at hq
      obtain ⟨_, hdig, _⟩ := hq
      have key := q0End_zeros ds post hpost hdig
      cases up <;> simp [QValue.render, QValue.isZero, q0Rest, key]

theorem ows_mem {a : Bytes} (h : isOws a) {x : UInt8} (hx : x ∈ a) :
    Scan.isWs x = true ∧ x ≠ semi ∧ x ≠ comma ∧ x ≠ 0 := by
  rcases h x hx with rfl | rfl <;> decide

theorem weight_mem {up : Bool} {q : QValue} (hq : q.wf) {x : UInt8}
    (hx : x ∈ (if up then 81 else 113) :: 61 :: q.render) : x ≠ semi ∧ x ≠ comma ∧ x ≠ 0 := by
  obtain ⟨one, frac⟩ := q
  simp only [QValue.render, List.mem_cons] at hx
  rcases hx with rfl | rfl | rfl | hx
  · cases up <;> decide
  · decide
  · cases one <;> simp [semi, comma]
  · cases frac with
    | none => cases hx
    | some ds =>
      rcases List.mem_cons.mp hx with rfl | hx
      · decide
      · have hd := hq.2.1 x hx
        refine ⟨?_, ?_, ?_⟩ <;> rintro rfl <;> exact absurd hd (by decide)

theorem render_mem (it : AEItem) (h : it.wf) (x : UInt8) (hx : x ∈ it.render) : x ≠ comma ∧ x ≠ 0 := by
  obtain ⟨pre, coding, weight, post⟩ := it
  obtain ⟨hpre, hpost, ⟨_, htok⟩, hw⟩ := h
  simp only [AEItem.render, List.mem_append] at hx
  rcases hx with ((hx | hx) | hx) | hx
  · exact (ows_mem hpre hx).2.2
  · obtain ⟨_, _, hc, _, h0⟩ := htok x hx
    exact ⟨hc, h0⟩
  · cases weight with
    | none => cases hx
    | some w =>
      obtain ⟨o1, o2, up, q⟩ := w
      obtain ⟨ho1, ho2, hq⟩ := hw
      simp only [List.mem_append, List.mem_cons] at hx
      rcases hx with hx | rfl | hx | hx
      · exact (ows_mem ho1 hx).2.2
      · decide
      · exact (ows_mem ho2 hx).2.2
      · exact (weight_mem hq (by simpa only [List.mem_cons] using hx)).2
  · exact (ows_mem hpost hx).2.2

theorem parseElement_render (it : AEItem) (h : it.wf) : parseElement it.render = [⟨it.coding, it.refused⟩] := by
  obtain ⟨pre, coding, weight, post⟩ := it
  obtain ⟨hpre, hpost, ⟨hne, htok⟩, hw⟩ := h
  have hTok : Scan.TokB coding := fun b hb => by
    obtain ⟨h1, h2, h3, h4, _⟩ := htok b hb
    simp [Scan.isTokEnd, h1, h2, h3, h4]
  cases weight with
  | none =>
    have hshape : AEItem.render ⟨pre, coding, none, post⟩ = pre ++ (coding ++ post ++ []) := by
      simp [AEItem.render]
    rw [hshape, Scan.parseElement_wss pre _ (fun b hb => (ows_mem hpre hb).1),
      Scan.pe_gen coding post [] hTok hne (fun b hb => (ows_mem hpost hb).1) (fun _ => Or.inl rfl)]
    rfl
  | some w =>
    obtain ⟨o1, o2, up, q⟩ := w
    obtain ⟨ho1, ho2, hq⟩ := hw
    have hshape : AEItem.render ⟨pre, coding, some (o1, o2, up, q), post⟩ =
        pre ++ (coding ++ o1 ++ semi :: ((o2 ++ (if up then 81 else 113) :: 61 :: q.render) ++ post)) := by
      simp [AEItem.render]
    have hnosemi : semi ∉ (o2 ++ (if up then 81 else 113) :: 61 :: q.render) ++ post := by
      intro hm
      rcases List.mem_append.mp hm with hm | hm
      · rcases List.mem_append.mp hm with hm | hm
        · exact (ows_mem ho2 hm).2.1 rfl
        · exact (weight_mem hq hm).1 rfl
      · exact (ows_mem hpost hm).2.1 rfl
    rw [hshape, Scan.parseElement_wss pre _ (fun b hb => (ows_mem hpre hb).1),
      Scan.pe_gen coding o1 _ hTok hne (fun b hb => (ows_mem ho1 hb).1) (fun _ => Or.inr ⟨semi, _, rfl, by simp⟩),
      Scan.q0Of_semi, splitOn_of_not_mem hnosemi]
    simp only [List.any_cons, List.any_nil, Bool.or_false, paramIsQ0_render o2 post up q ho2 hpost hq]
    simp [List.takeWhile, Scan.toksOf_nil, markLast, AEItem.refused]

theorem renderAE_mem (l : List AEItem) (hl : ∀ it ∈ l, it.wf) : ∀ x ∈ renderAE l, x ≠ 0 := by
  intro x hx
  rcases join_mem hx with rfl | ⟨seg, hs, hb⟩
  · decide
  · obtain ⟨it, hit, rfl⟩ := List.mem_map.mp hs
    exact (render_mem it (hl it hit) x hb).2

theorem ents_renderAE (l : List AEItem) (hl : ∀ it ∈ l, it.wf) :
    Scan.ents (renderAE l) = l.map (fun it => ⟨it.coding, it.refused⟩) := by
  cases l with
  | nil => decide
  | cons a l =>
    rw [Scan.ents, renderAE, splitOn_join _ (by simp) (fun seg hs hc => by
      obtain ⟨it, hit, rfl⟩ := List.mem_map.mp hs
      exact (render_mem it (hl it hit) comma hc).1 rfl), List.flatMap_map, List.map_eq_flatMap, List.flatMap_def,
      List.flatMap_def, List.map_congr_left fun it hit => parseElement_render it (hl it hit)]

theorem entries_renderAE (l : List AEItem) (hl : ∀ it ∈ l, it.wf) :
    entries (renderAE l) = l.map (fun it => ⟨it.coding, it.refused⟩) := by
  have hnz : ∀ x ∈ renderAE l, decide (x ≠ 0) = true := fun x hx => by simpa using renderAE_mem l hl x hx
  have : cstr (renderAE l) = renderAE l := by
    simpa [cstr] using List.takeWhile_append_of_pos (l₂ := []) hnz
  rw [← ents_renderAE l hl, entries, this]
  rfl

theorem acceptSet_renderAE (l : List AEItem) (hl : ∀ it ∈ l, it.wf) (c : Coding) :
    (acceptSet (renderAE l)).mem c = true ↔ listedAcceptable l c := by
  rw [acceptSet_mem_iff, entries_renderAE l hl]
  constructor
  · rintro ⟨e, he, hq, ht⟩
    obtain ⟨it, hit, rfl⟩ := List.mem_map.mp he
    exact ⟨it, hit, ht, hq⟩
  · rintro ⟨it, hit, ht, hq⟩
    exact ⟨_, List.mem_map.mpr ⟨it, hit, rfl⟩, hq, ht⟩

end LtVerif.Deflate
