/-
  Reading a backend response head (Model/BackendResp.lean): the response header store, field lines,
  `hoff`, `parseHeaders` in normal form, the head with Content-Length received in one read; a plain body.
-/
import LtVerif.Model.BackendResp
import LtVerif.Proofs.Bytes
namespace LtVerif.BeResp
open LtVerif B

/-! ## response header store and field lines -/

theorem hdrFind_append_none (hs : List (Bytes × Bytes)) (n k v : Bytes) (h : hdrFind hs n = none) :
    hdrFind (hs ++ [(k, v)]) n = if lower k = n then some (k, v) else none := by
  unfold hdrFind at h ⊢
  rw [List.find?_append, h]
  simp [List.find?]
  split <;> simp_all

theorem hdrFind_mapFirst (f : Bytes × Bytes → Bytes × Bytes) (n : Bytes) (hf : ∀ kv, (f kv).1 = kv.1) :
    ∀ hs, hdrFind (hdrMapFirst f n hs) n = (hdrFind hs n).map f := by
  intro hs
  induction hs with
  | nil => rfl
  | cons kv rest ih =>
    unfold hdrMapFirst
    by_cases h : lower kv.1 = n
    · simp [h, hdrFind, List.find?, hf]
    · simp only [h, if_false]
      unfold hdrFind at ih ⊢
      simp [List.find?, h, ih]

theorem hdrFind_none_of_not_mem (hs : List (Bytes × Bytes)) (n : Bytes)
    (h : n ∉ hs.map fun kv => lower kv.1) : hdrFind hs n = none :=
  List.find?_eq_none.mpr fun kv hkv e => h (List.mem_map.mpr ⟨kv, hkv, of_decide_eq_true e⟩)

theorem hasHdr_hdrSet (hs : List (Bytes × Bytes)) (k v : Bytes) :
    hasHdr (hdrSet hs k v) (lower k) = !v.isEmpty := by
  unfold hdrSet hasHdr
  cases hf : hdrFind hs (lower k) with
  | none => simp [hdrFind_append_none hs (lower k) k v hf]
  | some kv =>
    simp only
    rw [hdrFind_mapFirst (fun kv => (kv.1, v)) (lower k) (fun _ => rfl), hf]
    simp

theorem hasHdr_hdrAppend (hs : List (Bytes × Bytes)) (k v : Bytes) (hv : v ≠ []) :
    hasHdr (hdrAppend hs k v) (lower k) = true := by
  have hv' : v.isEmpty = false := by cases v <;> simp_all
  unfold hdrAppend hasHdr
  simp only [hv', Bool.false_eq_true, if_false]
  cases hf : hdrFind hs (lower k) with
  | none => simp [hdrFind_append_none hs (lower k) k v hf, hv']
  | some kv =>
    simp only
    rw [hdrFind_mapFirst (fun kv => if kv.2.isEmpty then (kv.1, v) else (kv.1, kv.2 ++ [44, sp] ++ v)) (lower k)
        (by intro kv; split <;> rfl), hf]
    simp only [Option.map_some]
    split <;> simp_all

theorem hdrUnset_nil (k : Bytes) : hdrUnset [] k = [] := by simp [hdrUnset, hasHdr, hdrFind]

theorem hdrSet_nil (k v : Bytes) : hdrSet [] k v = [(k, v)] := by simp [hdrSet, hdrFind]

theorem hdrInsert_fresh (h2 : Bool) (hs : List (Bytes × Bytes)) (k v : Bytes) (hv : v ≠ [])
    (hf : hdrFind hs (lower k) = none) : hdrInsert h2 hs k v = hs ++ [(k, v)] := by
  have hv' : v.isEmpty = false := by cases v <;> simp_all
  simp [hdrInsert, hv', hf]

theorem decBytes_ne_nil (n : Nat) : decBytes n ≠ [] := by
  unfold decBytes decDigits
  split <;> simp

theorem lower_cl : lower (ofString "Content-Length") = nContentLength := by decide +kernel

theorem lower_te : lower (ofString "Transfer-Encoding") = nTransferEncoding := by decide +kernel

theorem hasHdr_setCl (hs : List (Bytes × Bytes)) (v : Bytes) (hv : v ≠ []) :
    hasHdr (hdrSet hs (ofString "Content-Length") v) nContentLength = true := by
  rw [← lower_cl, hasHdr_hdrSet]
  cases v <;> simp_all

theorem findIdx_skip (p : UInt8 → Bool) (k : Bytes) : ∀ (rest : Bytes) (i : Nat), (∀ b ∈ k, p b = false) →
    findIdx p (k ++ rest) i = findIdx p rest (i + k.length) := by
  induction k with
  | nil => intro rest i _; simp
  | cons x xs ih =>
    intro rest i h
    have hx : p x = false := h x (by simp)
    simp only [List.cons_append, findIdx, hx, Bool.false_eq_true, if_false]
    rw [ih rest (i + 1) (fun b hb => h b (by simp [hb]))]
    simp only [List.length_cons]
    congr 1
    omega

def specialNames : List Bytes :=
  [nStatus, nUpgrade, nConnection, nContentType, nContentLength, nTransferEncoding, nHttp2Settings]

/-- in the order of the `if` cascade of `applyField`: a name differs from those tested before it -/
theorem specialNames_distinct : specialNames.Pairwise (fun a b => b ≠ a) := by decide +kernel

/-- an ordinary end-to-end field as a backend may send it: `name ": " value CRLF` -/
structure PlainField (k v : Bytes) : Prop where
  kne : k ≠ []
  kcolon : ∀ b ∈ k, (b = colon) = false
  klast : endsWs k = false
  kspecial : lower k ∉ specialNames
  vne : v ≠ []
  vhead : isWs (v.headD 0) = false

def fieldLine (k v : Bytes) : Bytes := k ++ [colon, sp] ++ v ++ [cr, lf]

theorem fieldOfLine_fieldLine {k v : Bytes} (kne : k ≠ []) (kcolon : ∀ b ∈ k, (b = colon) = false)
    (vne : v ≠ []) (vhead : isWs (v.headD 0) = false) : fieldOfLine (fieldLine k v) = some (k, v) := by
  unfold fieldOfLine fieldLine
  have hbody : (k ++ [colon, sp] ++ v ++ [cr, lf]).dropLast = k ++ (colon :: sp :: (v ++ [cr])) := by
    have : k ++ [colon, sp] ++ v ++ [cr, lf] = (k ++ (colon :: sp :: (v ++ [cr]))) ++ [lf] := by simp
    rw [this, List.dropLast_concat]
  simp only [hbody]
  rw [findIdx_skip (· = colon) k _ 0 (by intro b hb; simpa using kcolon b hb)]
  simp only [findIdx, decide_true, if_true, Nat.zero_add]
  have hk : k.isEmpty = false := by
    cases hk : k with
    | nil => exact absurd hk kne
    | cons a as => rfl
  have htake : (k ++ colon :: sp :: (v ++ [cr])).take k.length = k := by simp
  have hdrop : (k ++ colon :: sp :: (v ++ [cr])).drop (k.length + 1) = sp :: (v ++ [cr]) := by
    rw [List.drop_append]; simp
  simp only [htake, hk, Bool.false_eq_true, if_false, hdrop]
  obtain ⟨x, xs, hv⟩ : ∃ x xs, v = x :: xs := by
    cases v with
    | nil => exact absurd rfl vne
    | cons x xs => exact ⟨x, xs, rfl⟩
  have hx : isWs x = false := by simpa [hv] using vhead
  have hsp : isWs sp = true := by decide +kernel
  have hdw : (sp :: (v ++ [cr])).dropWhile isWs = v ++ [cr] := by
    rw [List.dropWhile_cons, if_pos hsp, hv, List.cons_append, List.dropWhile_cons, if_neg (by simp [hx])]
  rw [hdw]
  simp

theorem applyField_plain (cfg : Cfg) (st : St) {k v : Bytes} (h : PlainField k v) :
    applyField cfg st k v = { st with headers := hdrInsert (cfg.ver ≥ 2) st.headers k v } := by
  have hs := h.kspecial
  simp only [specialNames, List.mem_cons, List.not_mem_nil, or_false, not_or] at hs
  obtain ⟨h1, h2, h3, h4, h5, h6, h7⟩ := hs
  unfold applyField
  simp only [h1, h2, h3, h4, h5, h6, h7, if_false, h.klast, Bool.false_eq_true]

/-- Upgrade: not enabled in the model; Transfer-Encoding is consumed, not relayed -/
theorem applyField_hop_by_hop (cfg : Cfg) (st : St) (k v : Bytes) :
    (lower k = nUpgrade → applyField cfg st k v = st) ∧
    (lower k = nHttp2Settings → applyField cfg st k v = st) ∧
    (lower k = nConnection → (cfg.be = .proxy ∨ cfg.ver ≥ 2) → applyField cfg st k v = st) ∧
    (lower k = nTransferEncoding → (applyField cfg st k v).decodeChunked = true ∧
       (applyField cfg st k v).headers =
         (if hasHdr st.headers nContentLength then hdrUnset st.headers nContentLength else st.headers) ∧
       (applyField cfg st k v).scratch = (if hasHdr st.headers nContentLength then -1 else st.scratch)) := by
  have hd := specialNames_distinct
  simp only [specialNames, List.pairwise_cons, List.mem_cons, List.not_mem_nil, or_false, forall_eq_or_imp,
    forall_eq] at hd
  refine ⟨fun h => ?_, fun h => ?_, fun h hc => ?_, fun h => ?_⟩
  · simp [applyField, h, hd]
  · simp [applyField, h, hd]
  · rcases hc with hc | hc
    · simp [applyField, h, hd, hc]
    · by_cases hp : cfg.be = .proxy
      · simp [applyField, h, hd, hp]
      · simp [applyField, h, hd, hp, hc]
  · unfold applyField
    simp only [h, hd, if_false, if_true]
    by_cases hcl : hasHdr st.headers nContentLength = true <;> simp [hcl]

theorem foldl_applyLine_plain (cfg : Cfg) (fs : List (Bytes × Bytes)) : ∀ (st : St),
    (∀ f ∈ fs, PlainField f.1 f.2) →
    (fs.map fun f => fieldLine f.1 f.2).foldl (applyLine cfg) st =
      { st with headers := fs.foldl (fun hs f => hdrInsert (cfg.ver ≥ 2) hs f.1 f.2) st.headers } := by
  induction fs with
  | nil => intro st _; rfl
  | cons f rest ih =>
    intro st h
    simp only [List.map_cons, List.foldl_cons]
    have hf := h f (by simp)
    rw [applyLine, fieldOfLine_fieldLine hf.kne hf.kcolon hf.vne hf.vhead]
    dsimp only
    rw [applyField_plain cfg st hf, ih _ (fun g hg => h g (by simp [hg]))]

theorem foldl_hdrInsert_fresh (h2 : Bool) (fs : List (Bytes × Bytes)) : ∀ (hs : List (Bytes × Bytes)),
    (∀ f ∈ fs, f.2 ≠ []) → ((hs ++ fs).map fun kv => lower kv.1).Nodup →
    fs.foldl (fun hs f => hdrInsert h2 hs f.1 f.2) hs = hs ++ fs := by
  induction fs with
  | nil => intro hs _ _; simp
  | cons f rest ih =>
    intro hs hv hnd
    simp only [List.foldl_cons]
    have hfresh : hdrFind hs (lower f.1) = none := by
      apply hdrFind_none_of_not_mem
      simp only [List.map_append, List.map_cons] at hnd
      have := List.nodup_append.mp hnd
      intro hmem
      exact this.2.2 _ hmem _ (by simp) rfl
    rw [hdrInsert_fresh h2 hs f.1 f.2 (hv f (by simp)) hfresh, ih _ (fun g hg => hv g (by simp [hg]))]
    · simp
    · simpa using hnd

theorem foldl_applyLine_fresh (cfg : Cfg) (st : St) (fs : List (Bytes × Bytes))
    (hp : ∀ f ∈ fs, PlainField f.1 f.2)
    (hnd : ((st.headers ++ fs).map fun kv => lower kv.1).Nodup) :
    (fs.map fun f => fieldLine f.1 f.2).foldl (applyLine cfg) st = { st with headers := st.headers ++ fs } := by
  rw [foldl_applyLine_plain cfg fs st hp,
      foldl_hdrInsert_fresh _ fs st.headers (fun f hf => (hp f hf).vne) hnd]

/-! ## reading a head (http_header_parse_hoff) and a plain body -/

theorem hoffGo_noLf (p : Bytes) : ∀ (rest cur : Bytes) (lines : List Bytes) (n : Nat), lf ∉ p →
    hoffGo (p ++ rest) cur lines n = hoffGo rest (cur ++ p) lines (n + p.length) := by
  induction p with
  | nil => intro rest cur lines n _; simp
  | cons x xs ih =>
    intro rest cur lines n h
    have hx : ¬ (x = lf) := fun e => h (by simp [e])
    simp only [List.cons_append, hoffGo, hx, if_false]
    rw [ih rest (cur ++ [x]) lines (n + 1) (fun e => h (by simp [e]))]
    simp only [List.append_assoc, List.singleton_append, List.length_cons]
    congr 1
    omega

/-- a header line as `hoff` counts it -/
structure WfLine (l : Bytes) : Prop where
  pre : ∃ p, l = p ++ [lf] ∧ lf ∉ p
  notBlank : l ≠ [lf] ∧ l ≠ [cr, lf]

/-- 8190: `hoffGo` gives up there (the C's hoff[]); 65535 = `Extracted.maxHttpResponseFieldSize` -/
theorem hoffGo_line {l : Bytes} (h : WfLine l) (rest : Bytes) (lines : List Bytes) (n : Nat)
    (hn : lines.length + 1 < 8190) :
    hoffGo (l ++ rest) [] lines n = hoffGo rest [] (l :: lines) (n + l.length) := by
  obtain ⟨p, hl, hlf⟩ := h.pre
  have hnb := h.notBlank
  subst hl
  rw [List.append_assoc, hoffGo_noLf p _ [] lines n hlf]
  simp only [List.nil_append, List.singleton_append, hoffGo, if_true]
  have h1 : (decide (p ++ [lf] = [lf]) || decide (p ++ [lf] = [cr, lf])) = false := by
    simp [hnb.1, hnb.2]
  have h2 : ¬ (lines.length + 1 ≥ 8190) := by omega
  rw [if_neg (by rw [h1]; simp), if_neg h2]
  simp only [List.length_append, List.length_singleton, Nat.add_assoc]

theorem hoffGo_lines (ls : List Bytes) : ∀ (rest : Bytes) (lines : List Bytes) (n : Nat),
    (∀ l ∈ ls, WfLine l) → lines.length + ls.length < 8190 →
    hoffGo (ls.flatten ++ rest) [] lines n = hoffGo rest [] (ls.reverse ++ lines) (n + ls.flatten.length) := by
  induction ls with
  | nil => intro rest lines n _ _; simp
  | cons l more ih =>
    intro rest lines n hw hn
    simp only [List.flatten_cons, List.append_assoc, List.length_cons] at hn ⊢
    rw [hoffGo_line (hw l (by simp)) _ lines n (by omega),
        ih rest (l :: lines) (n + l.length) (fun x hx => hw x (by simp [hx])) (by simp; omega)]
    simp only [List.reverse_cons, List.append_assoc, List.singleton_append, List.length_append]
    congr 1
    omega

theorem hoff_head (ls : List Bytes) (rest : Bytes) (hw : ∀ l ∈ ls, WfLine l) (hn : ls.length < 8190) :
    hoff (ls.flatten ++ [cr, lf] ++ rest) = (ls, ls.flatten.length + 2) := by
  unfold hoff
  rw [List.append_assoc, hoffGo_lines ls _ [] 0 hw (by simpa using hn)]
  have : hoffGo ([cr, lf] ++ rest) [] (ls.reverse ++ []) (0 + ls.flatten.length)
      = ((ls.reverse ++ []).reverse, 0 + ls.flatten.length + 1 + 1) := by
    simp [hoffGo, cr, lf]
  rw [this]
  simp

theorem firstLine_line {l : Bytes} (h : WfLine l) (rest : Bytes) : firstLine (l ++ rest) = some l := by
  obtain ⟨p, hl, hlf⟩ := h.pre
  subst hl
  unfold firstLine
  rw [List.append_assoc, findIdx_skip (· = lf) p _ 0 (by intro b hb; simp; exact fun e => hlf (e ▸ hb))]
  have hf : findIdx (fun x => decide (x = lf)) ([lf] ++ rest) (0 + p.length) = some p.length := by
    simp [findIdx]
  rw [hf]
  simp only
  have : p ++ ([lf] ++ rest) = (p ++ [lf]) ++ rest := by simp
  rw [this, List.take_append_of_le_length (by simp), List.take_of_length_le (by simp)]

/-- `HTTP/1.1 d1d2d3 reason CRLF` -/
def statusLineBytes (d1 d2 d3 : UInt8) (reason : Bytes) : Bytes :=
  72 :: 84 :: 84 :: 80 :: 47 :: 49 :: 46 :: 49 :: 32 :: d1 :: d2 :: d3 :: 32 :: (reason ++ [cr, lf])

def codeOf (d1 d2 d3 : UInt8) : Nat := (d1 - 48).toNat * 100 + (d2 - 48).toNat * 10 + (d3 - 48).toNat

theorem statusLine_wf (d1 d2 d3 : UInt8) (reason : Bytes) (hd : isDigit d1 ∧ isDigit d2 ∧ isDigit d3)
    (hr : lf ∉ reason) : WfLine (statusLineBytes d1 d2 d3 reason) := by
  have hne : ∀ d : UInt8, isDigit d = true → d ≠ lf := by
    intro d h e; subst e; simp [isDigit, lf] at h
  refine ⟨⟨72 :: 84 :: 84 :: 80 :: 47 :: 49 :: 46 :: 49 :: 32 :: d1 :: d2 :: d3 :: 32 :: (reason ++ [cr]), ?_, ?_⟩, ?_, ?_⟩
  · simp [statusLineBytes]
  · simp only [List.mem_cons, List.mem_append, List.mem_singleton, not_or]
    refine ⟨by decide +kernel, by decide +kernel, by decide +kernel, by decide +kernel, by decide +kernel, by decide +kernel, by decide +kernel, by decide +kernel, by decide +kernel,
            fun e => hne d1 hd.1 e.symm, fun e => hne d2 hd.2.1 e.symm, fun e => hne d3 hd.2.2 e.symm, by decide +kernel, hr, by decide +kernel, ?_⟩
    simp
  · simp [statusLineBytes]
  · simp [statusLineBytes]

theorem nphStatus_statusLine (cfg : Cfg) (d1 d2 d3 : UInt8) (reason rest : Bytes)
    (hd : isDigit d1 ∧ isDigit d2 ∧ isDigit d3) (hc : codeOf d1 d2 d3 ≥ 100) :
    nphStatus cfg (statusLineBytes d1 d2 d3 reason ++ rest) = some (codeOf d1 d2 d3) := by
  unfold nphStatus statusLineBytes
  simp [List.getD, hd.1, hd.2.1, hd.2.2, dot, sp, cr, lf, ht, codeOf]
  exact hc

theorem fieldLine_wf (k v : Bytes) (hk : lf ∉ k) (hv : lf ∉ v) : WfLine (fieldLine k v) := by
  refine ⟨⟨k ++ [colon, sp] ++ v ++ [cr], by simp [fieldLine], ?_⟩, ?_, ?_⟩
  · simp only [List.mem_append, List.mem_cons, List.not_mem_nil, or_false, not_or]
    exact ⟨⟨⟨hk, by decide +kernel, by decide +kernel⟩, hv⟩, by decide +kernel⟩
  -- too long to be `LF` or `CR LF`
  all_goals
    intro e
    have := congrArg List.length e
    simp [fieldLine] at this
    omega

/-- `clv` is a Content-Length value that lighttpd stores as it stands and reads as `n` -/
structure ClValue (clv : Bytes) (n : Nat) : Prop where
  ne : clv ≠ []
  noWs : isWs (clv.headD 0) = false
  noPlus : clv.head? ≠ some 43
  trimmed : trimRightWs clv = clv
  num : strtoI64 clv = some n

theorem applyLine_contentLength (cfg : Cfg) (st : St) {clv : Bytes} {n : Nat} (hv : ClValue clv n)
    (hdc : st.decodeChunked = false) (hno : hdrFind st.headers nContentLength = none) :
    applyLine cfg st (fieldLine (ofString "Content-Length") clv) =
      { st with scratch := n, headers := st.headers ++ [(ofString "Content-Length", clv)] } := by
  have hfl : fieldOfLine (fieldLine (ofString "Content-Length") clv) = some (ofString "Content-Length", clv) :=
    fieldOfLine_fieldLine (by decide +kernel) (by decide +kernel) hv.ne hv.noWs
  unfold applyLine
  rw [hfl]
  have hl := lower_cl
  have hd := specialNames_distinct
  simp only [specialNames, List.pairwise_cons, List.mem_cons, List.not_mem_nil, or_false, forall_eq_or_imp,
    forall_eq] at hd
  have hhas : hasHdr st.headers nContentLength = false := by simp [hasHdr, hno]
  have hte : clv.isEmpty = false := List.isEmpty_eq_false_iff.mpr hv.ne
  unfold applyField
  simp only [hl, hd, if_false, if_true, hv.noPlus, hdc, hhas, Bool.not_false, Bool.and_self, hv.trimmed, hte,
    Bool.false_eq_true, hv.num]
  have hins : hdrInsert (decide (cfg.ver ≥ 2)) st.headers (ofString "Content-Length") clv
      = st.headers ++ [(ofString "Content-Length", clv)] :=
    hdrInsert_fresh _ st.headers _ clv hv.ne (by rw [hl]; exact hno)
  rw [hins]

theorem hdrFind_plain_cl (fs : List (Bytes × Bytes)) (hfs : ∀ f ∈ fs, PlainField f.1 f.2) :
    hdrFind fs nContentLength = none := by
  apply hdrFind_none_of_not_mem
  intro hmem
  simp only [List.mem_map] at hmem
  obtain ⟨f, hf, he⟩ := hmem
  have := (hfs f hf).kspecial
  simp only [specialNames, List.mem_cons, List.not_mem_nil, or_false, not_or] at this
  exact this.2.2.2.2.1 he

structure LineField (k v : Bytes) : Prop extends PlainField k v where
  klf : lf ∉ k
  vlf : lf ∉ v

def clLines (d1 d2 d3 : UInt8) (reason : Bytes) (fs : List (Bytes × Bytes)) (clv : Bytes) : List Bytes :=
  statusLineBytes d1 d2 d3 reason :: ((fs.map fun f => fieldLine f.1 f.2) ++ [fieldLine (ofString "Content-Length") clv])

def clHead (d1 d2 d3 : UInt8) (reason : Bytes) (fs : List (Bytes × Bytes)) (clv : Bytes) : Bytes :=
  (clLines d1 d2 d3 reason fs clv).flatten ++ [cr, lf]

theorem processHeaders_cl (cfg : Cfg) (st : St) (d1 d2 d3 : UInt8) (reason buf rest : Bytes)
    (fs : List (Bytes × Bytes)) (clv : Bytes) (n : Nat) (hbuf : buf = statusLineBytes d1 d2 d3 reason ++ rest)
    (hd : isDigit d1 ∧ isDigit d2 ∧ isDigit d3) (hc : codeOf d1 d2 d3 ≥ 100)
    (hfs : ∀ f ∈ fs, PlainField f.1 f.2) (hnd : (fs.map fun kv => lower kv.1).Nodup) (hv : ClValue clv n)
    (hh : st.headers = []) (hdc : st.decodeChunked = false) :
    processHeaders cfg st buf (clLines d1 d2 d3 reason fs clv) true =
      { st with status := codeOf d1 d2 d3, scratch := n, headers := fs ++ [(ofString "Content-Length", clv)] } := by
  subst hbuf
  have hdrop : (clLines d1 d2 d3 reason fs clv).drop 1
      = (fs.map fun f => fieldLine f.1 f.2) ++ [fieldLine (ofString "Content-Length") clv] := by
    simp [clLines]
  have hfold : ((fs.map fun f => fieldLine f.1 f.2) ++ [fieldLine (ofString "Content-Length") clv]).foldl
      (applyLine cfg) { st with status := codeOf d1 d2 d3 }
      = { st with status := codeOf d1 d2 d3, scratch := n,
                  headers := fs ++ [(ofString "Content-Length", clv)] } := by
    rw [List.foldl_append, foldl_applyLine_fresh cfg _ fs hfs (by simpa [hh] using hnd)]
    simp only [List.foldl_cons, List.foldl_nil]
    rw [applyLine_contentLength cfg _ hv (by simpa using hdc) (by simpa [hh] using hdrFind_plain_cl fs hfs)]
    simp [hh]
  have hcode : ¬ (codeOf d1 d2 d3 = 0) := by omega
  unfold processHeaders
  simp only [if_true, nphStatus_statusLine cfg d1 d2 d3 reason rest hd hc, hdrop]
  unfold applyLines
  simp only [hfold, hcode, decide_false, Bool.false_and, Bool.false_eq_true, if_false]

theorem clLines_wf (d1 d2 d3 : UInt8) (reason : Bytes) (fs : List (Bytes × Bytes)) (clv : Bytes)
    (hd : isDigit d1 ∧ isDigit d2 ∧ isDigit d3) (hr : lf ∉ reason)
    (hfs : ∀ f ∈ fs, LineField f.1 f.2) (hclv : lf ∉ clv) :
    ∀ l ∈ clLines d1 d2 d3 reason fs clv, WfLine l := by
  intro l hl
  simp only [clLines, List.mem_cons, List.mem_append, List.mem_map, List.mem_singleton, List.not_mem_nil,
    or_false] at hl
  rcases hl with rfl | ⟨f, hf, rfl⟩ | rfl
  · exact statusLine_wf d1 d2 d3 reason hd hr
  · exact fieldLine_wf f.1 f.2 (hfs f hf).klf (hfs f hf).vlf
  · exact fieldLine_wf _ clv (by decide +kernel) hclv

/-- NPH detection of http_response_parse_headers() -/
def isNphBuf (b : Bytes) : Bool :=
  match firstLine b with
  | some l => l.length ≥ 12 && b.take 5 = ofString "HTTP/"
  | none => false

/-- the early exits of http_response_parse_headers() (first line without colon) -/
def phEarly (cfg : Cfg) (st : St) : Option (St × Rc) :=
  let b := st.hbuf
  match firstLine b with
  | some l =>
    if !isNphBuf b && !(l.dropLast).contains colon then
      if l.length ≤ 2 && (l.length = 1 || b.head? = some cr) then none
      else if cfg.be = .cgi then
        some ({ (chunkAppend st b) with status := 200, started := true }, .goOn)
      else some ({ st with status := 502, handler := false }, .finished)
    else none
  | none => none

/-- `parseHeaders` after `processHeaders`; `rec_`: the recursive call -/
def phTail (cfg : Cfg) (rec_ : St → St × Rc) (st1 : St) (rest : Bytes) : St × Rc :=
  if st1.status < 200 && st1.status ≠ 0 && st1.status ≠ 101 then
    rec_ { (send1xx cfg st1) with hbuf := rest }
  else
    let st2 : St := { st1 with started := true }
    if !st2.handler then (st2, .finished)
    else if rest.isEmpty then (st2, .goOn)
    else
      let (st3, ok) := appendMem st2 rest
      (st3, if ok then .goOn else .error)

/-- `parseHeaders` past the size test and the early exits -/
def phRest (cfg : Cfg) (rec_ : St → St × Rc) (st : St) : St × Rc :=
  if (hoff st.hbuf).2 = 0 then (st, .goOn)
  else phTail cfg rec_ (processHeaders cfg st st.hbuf (hoff st.hbuf).1 (isNphBuf st.hbuf)) (st.hbuf.drop (hoff st.hbuf).2)

theorem parseHeaders_succ (cfg : Cfg) (n : Nat) (st : St) :
    parseHeaders cfg (n + 1) st =
      if (if (hoff st.hbuf).2 ≠ 0 then (hoff st.hbuf).2 else st.hbuf.length) > Extracted.maxHttpResponseFieldSize then
        ({ st with status := 502, handler := false }, .finished)
      else match phEarly cfg st with
        | some r => r
        | none => phRest cfg (parseHeaders cfg n) st := by
  unfold parseHeaders phEarly phRest phTail isNphBuf
  dsimp only
  generalize hoff st.hbuf = p
  cases p
  dsimp only
  congr 1

theorem phEarly_nph (cfg : Cfg) (st : St) (h : isNphBuf st.hbuf = true) : phEarly cfg st = none := by
  unfold phEarly
  dsimp only
  split
  · simp [h]
  · rfl

theorem parseHeaders_head (cfg : Cfg) (fuel : Nat) (st : St) (ls : List Bytes) (rest : Bytes)
    (hb : st.hbuf = ls.flatten ++ [cr, lf] ++ rest) (hw : ∀ l ∈ ls, WfLine l) (hn : ls.length < 8190)
    (hsize : ls.flatten.length + 2 ≤ 65535) (he : phEarly cfg st = none) :
    parseHeaders cfg (fuel + 1) st =
      phTail cfg (parseHeaders cfg fuel) (processHeaders cfg st st.hbuf ls (isNphBuf st.hbuf)) rest := by
  have hm : Extracted.maxHttpResponseFieldSize = 65535 := by decide +kernel
  have hp : ¬ (ls.flatten.length + 2 = 0) := by omega
  rw [parseHeaders_succ, he, phRest, hb, hoff_head ls rest hw hn]
  dsimp only
  rw [if_pos hp, if_neg (by omega), if_neg hp, List.drop_left' (by simp)]

/-- what `parseHeaders` leaves after head and whole body arrived in one read (`parseHeaders_cl`) -/
def clState (d1 d2 d3 : UInt8) (reason : Bytes) (fs : List (Bytes × Bytes)) (clv body : Bytes) : St :=
  { hbuf := clHead d1 d2 d3 reason fs clv ++ body, status := codeOf d1 d2 d3, started := true,
    finished := true, scratch := 0, headers := fs ++ [(ofString "Content-Length", clv)], wq := body }

/-- the one-read case -/
structure ClResponse (d1 d2 d3 : UInt8) (reason : Bytes) (fs : List (Bytes × Bytes)) (clv body : Bytes) :
    Prop where
  digits : isDigit d1 ∧ isDigit d2 ∧ isDigit d3
  final : codeOf d1 d2 d3 ≥ 200
  reasonLf : lf ∉ reason
  fields : ∀ f ∈ fs, LineField f.1 f.2
  distinct : (fs.map fun kv => lower kv.1).Nodup
  cl : ClValue clv body.length
  clLf : lf ∉ clv
  bodyNe : body ≠ []
  size : (clHead d1 d2 d3 reason fs clv).length ≤ 65535
  count : fs.length + 2 < 8190

theorem parseHeaders_cl (cfg : Cfg) {d1 d2 d3 : UInt8} {reason : Bytes}
    {fs : List (Bytes × Bytes)} {clv body : Bytes} (fuel : Nat) (h : ClResponse d1 d2 d3 reason fs clv body) :
    parseHeaders cfg (fuel + 1) { hbuf := clHead d1 d2 d3 reason fs clv ++ body } =
      (clState d1 d2 d3 reason fs clv body, .goOn) := by
  have hsl : clHead d1 d2 d3 reason fs clv ++ body
      = statusLineBytes d1 d2 d3 reason ++
        (((fs.map fun f => fieldLine f.1 f.2) ++ [fieldLine (ofString "Content-Length") clv]).flatten ++ [cr, lf] ++ body) := by
    simp [clHead, clLines]
  have hnph : isNphBuf (clHead d1 d2 d3 reason fs clv ++ body) = true := by
    unfold isNphBuf
    rw [hsl, firstLine_line (statusLine_wf d1 d2 d3 reason h.digits h.reasonLf)]
    simp [statusLineBytes, ofString]
  have hproc := processHeaders_cl cfg ({ hbuf := clHead d1 d2 d3 reason fs clv ++ body } : St) d1 d2 d3 reason _ _
    fs clv body.length hsl h.digits (Nat.le_trans (by decide) h.final) (fun f hf => (h.fields f hf).toPlainField) h.distinct h.cl rfl rfl
  have hsize' : (clLines d1 d2 d3 reason fs clv).flatten.length + 2 ≤ 65535 := by
    have := h.size; rw [clHead, List.length_append] at this; exact this
  -- (`Eq.trans`: a `rw` under the record literal is slow to check)
  refine (parseHeaders_head cfg fuel _ (clLines d1 d2 d3 reason fs clv) body rfl
    (clLines_wf d1 d2 d3 reason fs clv h.digits h.reasonLf h.fields h.clLf) (by have := h.count; simp [clLines]; omega) hsize' (phEarly_nph cfg _ hnph)).trans ?_
  dsimp only
  rw [hnph, hproc]
  -- a final status, the handler attached, a body: the rest goes through `appendMem`
  have h3 : ¬ (codeOf d1 d2 d3 < 200) := Nat.not_lt.mpr h.final
  have hbl : body.length > 0 := List.length_pos_iff.mpr h.bodyNe
  have hbe : body.isEmpty = false := List.isEmpty_eq_false_iff.mpr h.bodyNe
  simp [phTail, h3, hbe, appendMem, hbl, chunkAppend, clState]

theorem headerStep_append (cfg : Cfg) (st : St) (a b : Bytes) :
    headerStep cfg { st with hbuf := st.hbuf ++ a } b = headerStep cfg st (a ++ b) := by
  simp [headerStep, List.append_assoc, Nat.add_assoc]

theorem chunkAppend_plain (st : St) (data : Bytes) (hsc : st.sendChunked = false) :
    chunkAppend st data = { st with wq := st.wq ++ data } := by
  unfold chunkAppend
  cases data with
  | nil => simp
  | cons x xs => simp [hsc]

/-- http_response_append_mem() without chunked decoding / encoding, in closed form -/
theorem appendMem_plain (st : St) (data : Bytes) (hd : st.decodeChunked = false) (hsc : st.sendChunked = false) :
    (appendMem st data).1 =
      if st.scratch > 0 then
        if st.scratch - (data.length : Int) ≤ 0 then
          { st with scratch := 0, finished := true, wq := st.wq ++ data.take st.scratch.toNat }
        else { st with scratch := st.scratch - data.length, wq := st.wq ++ data }
      else if st.scratch = 0 then st
      else { st with wq := st.wq ++ data } := by
  unfold appendMem
  rw [if_neg (by simp [hd])]
  by_cases h1 : st.scratch > 0
  · rw [if_pos h1, if_pos h1]
    by_cases h2 : st.scratch - (data.length : Int) ≤ 0
    · rw [if_pos h2, if_pos h2, chunkAppend_plain _ _ (by simpa using hsc)]
    · rw [if_neg h2, if_neg h2, chunkAppend_plain _ _ (by simpa using hsc)]
  · rw [if_neg h1, if_neg h1]
    by_cases h2 : st.scratch = 0
    · rw [if_pos h2, if_pos h2]
    · rw [if_neg h2, if_neg h2, chunkAppend_plain _ _ hsc]

end LtVerif.BeResp
