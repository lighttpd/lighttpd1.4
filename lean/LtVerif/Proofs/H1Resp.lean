/-
  Response model (Model/H1Resp.lean).  Below this file, a chain: Proofs/H1Store (the header store),
  Proofs/H1Tables (status line, escape tables), Proofs/H1Wire (header section on the wire).
  Here: the §7.1 reference decoder, framing against §6.3 (`framing_sound_core`), what the response
  path keeps of the store, and `wireDecode_head`, where framing and wire meet.
-/
import LtVerif.Proofs.HttpChunkEnc
import LtVerif.Proofs.H1Wire
namespace LtVerif
open B

/-! ### the §7.1 reference decoder reads the encoder output back -/

/-- `readHex` of the §7.1 reference reader on the same digits: the twin of `ckHex_render` -/
theorem readHex_render (rest : Bytes) (hrest : rest.head?.bind hexVal = none) : ∀ (ds : Bytes) (v k : Nat),
    (∀ d ∈ ds, (hexVal d).isSome = true) → readHex (ds ++ rest) v k = (hexFold v ds, k + ds.length, rest) := by
  intro ds
  induction ds with
  | nil =>
    intro v k _
    cases rest with
    | nil => simp [readHex, hexFold]
    | cons b r =>
      simp only [List.head?_cons, Option.bind_some] at hrest
      simp [readHex, hexFold, hrest]
  | cons d ds ih =>
    intro v k hd
    obtain ⟨u, hu⟩ := Option.isSome_iff_exists.mp (hd d (by simp))
    rw [List.cons_append, readHex]
    simp only [hu]
    rw [ih _ _ fun x hx => hd x (by simp [hx])]
    simp only [hexFold, List.foldl_cons, hu, Option.getD_some, List.length_cons]
    congr 2
    omega

theorem rfcDechunk_chunk {ds : Bytes} (d rest acc : Bytes) (fuel : Nat) (hs : HexStr ds d.length) (hd0 : d ≠ []) :
    rfcDechunk (fuel + 1) (ds ++ [cr, lf] ++ d ++ [cr, lf] ++ rest) acc
      = rfcDechunk fuel rest (acc ++ d) := by
  have hrh := readHex_render ([cr, lf] ++ d ++ [cr, lf] ++ rest)
    (by simp only [List.cons_append, List.head?_cons, Option.bind_some]; decide) ds 0 0 hs.xdigit
  have hlen : 0 < ds.length := List.length_pos_iff.mpr hs.ne
  have hdl : 0 < d.length := List.length_pos_iff.mpr hd0
  have e : ds ++ [cr, lf] ++ d ++ [cr, lf] ++ rest = ds ++ ([cr, lf] ++ d ++ [cr, lf] ++ rest) := by simp
  rw [e]
  conv => lhs; unfold rfcDechunk
  rw [hrh, hs.value]
  simp only [Nat.zero_add]
  have h0 : ¬ ds.length = 0 := by omega
  have hn0 : ¬ d.length = 0 := by omega
  simp [h0, hn0, skipLine]
  intro h
  omega

theorem rfcDechunk_last (next acc : Bytes) (fuel : Nat) :
    rfcDechunk (fuel + 1) ([48, cr, lf, cr, lf] ++ next) acc = some (acc, next) := by
  have hrh := readHex_render ([cr, lf, cr, lf] ++ next)
    (by simp only [List.cons_append, List.head?_cons, Option.bind_some]; decide) [48] 0 0 (by decide)
  have e : ([48, cr, lf, cr, lf] ++ next : Bytes) = [48] ++ ([cr, lf, cr, lf] ++ next) := rfl
  rw [e]
  conv => lhs; unfold rfcDechunk
  rw [hrh]
  simp [hexFold, hexVal, isDigit, skipLine, skipTrailers]

theorem rfcDechunk_stream (next : Bytes) : ∀ (pieces : List Bytes) (acc : Bytes) (fuel : Nat),
    (∀ p ∈ pieces, chunkSizeOk p.length) → (chunkStream true pieces true).length < fuel →
    rfcDechunk fuel (chunkStream true pieces true ++ next) acc = some (acc ++ pieces.flatten, next) := by
  intro pieces
  induction pieces with
  | nil =>
    intro acc fuel _ hf
    cases fuel with
    | zero => omega
    | succ f =>
      simp only [chunkStream, chunkClose, List.flatMap_nil, List.nil_append, if_true, List.flatten_nil,
        List.append_nil]
      exact rfcDechunk_last next acc f
  | cons p rest ih =>
    intro acc fuel hp hf
    have hrest : ∀ q ∈ rest, chunkSizeOk q.length := fun q hq => hp q (by simp [hq])
    have hsplit : chunkStream true (p :: rest) true = chunkAppend true p ++ chunkStream true rest true := by
      simp [chunkStream]
    rw [hsplit] at hf ⊢
    by_cases hemp : p = []
    · subst hemp
      simp only [chunkAppend, List.isEmpty_nil, if_true, List.nil_append, List.flatten_cons] at hf ⊢
      exact ih acc fuel hrest hf
    · have hne : p.isEmpty = false := List.isEmpty_eq_false_iff.mpr hemp
      simp only [chunkAppend, hne, if_true, Bool.false_eq_true, if_false, chunkLenLine] at hf ⊢
      cases fuel with
      | zero => omega
      | succ f =>
        have e : encHex p.length ++ [cr, lf] ++ p ++ [cr, lf] ++ chunkStream true rest true ++ next
            = encHex p.length ++ [cr, lf] ++ p ++ [cr, lf] ++ (chunkStream true rest true ++ next) := by simp
        have hf' : (chunkStream true rest true).length < f := by
          simp only [List.length_append, List.length_cons, List.length_nil] at hf; omega
        rw [e, rfcDechunk_chunk p _ acc f (encHex_hexStr (hp p (by simp))).1 hemp, ih (acc ++ p) f hrest hf']
        simp

theorem rfcBody_chunked (q : Bytes) (ps : List Bytes) (next : Bytes)
    (hq : chunkSizeOk q.length) (hp : ∀ p ∈ ps, chunkSizeOk p.length) :
    rfcBody .chunked (chunkFirst q ++ chunkStream true ps true ++ next) = some (q ++ ps.flatten, next) := by
  show rfcDechunk ((chunkFirst q ++ chunkStream true ps true ++ next).length + 1)
    (chunkFirst q ++ chunkStream true ps true ++ next) [] = some (q ++ ps.flatten, next)
  by_cases he : q = []
  · subst he
    have := rfcDechunk_stream next ps [] ((chunkStream true ps true ++ next).length + 1) hp
      (by simp only [List.length_append]; omega)
    simpa [chunkFirst] using this
  · have hne : q.isEmpty = false := List.isEmpty_eq_false_iff.mpr he
    have e : chunkFirst q ++ chunkStream true ps true ++ next
        = hexBytesLc q.length ++ [cr, lf] ++ q ++ [cr, lf] ++ (chunkStream true ps true ++ next) := by
      simp [chunkFirst, hne]
    rw [e, rfcDechunk_chunk q _ [] _ (hexBytesLc_hexStr hq).1 he]
    have := rfcDechunk_stream next ps ([] ++ q)
      ((hexBytesLc q.length ++ [cr, lf] ++ q ++ [cr, lf] ++ (chunkStream true ps true ++ next)).length) hp
      (by simp only [List.length_append, List.length_cons, List.length_nil]; omega)
    simpa using this

/-! ### the framing decision delimits exactly the intended body -/
section framing
open Hdrs
theorem finalHdrs_cases (d : RespIn) (st : RespSt) (P : List Hdr → Prop) (h0 : P st.hdrs)
    (hco : ∀ v, NoCRLF v → P (Hdrs.set st.hdrs nConnection v))
    (hce : ∀ hs, P hs → P (Hdrs.unset hs nContentEncoding)) : P (finalHdrs d st) := by
  have hif : ∀ hs, P hs → P (if (st.status = 304 && Hdrs.has hs nContentEncoding) = true
      then Hdrs.unset hs nContentEncoding else hs) :=
    fun hs hP => ite_ind (fun _ => hce _ hP) (fun _ => hP)
  unfold finalHdrs
  apply hif
  exact ite_ind (fun _ => hco (ofString "upgrade") (by decide +kernel))
    (fun _ => ite_ind (fun _ => hco (ofString "close") (by decide +kernel))
      (fun _ => ite_ind (fun _ => hco (ofString "keep-alive") (by decide +kernel)) (fun _ => h0)))

theorem finalHdrs_get (d : RespIn) (st : RespSt) (k' : Bytes)
    (h : sameName nConnection k' = false ∧ sameName nContentEncoding k' = false) :
    Hdrs.get (finalHdrs d st) k' = Hdrs.get st.hdrs k' :=
  finalHdrs_cases d st (fun hs => Hdrs.get hs k' = Hdrs.get st.hdrs k') rfl
    (fun v _ => by rw [get_set]; simp [h.1]) (fun hs hP => by rw [get_unset_ne _ _ _ h.2]; exact hP)

theorem finalHdrs_has (d : RespIn) (st : RespSt) (k' : Bytes)
    (h : sameName nConnection k' = false ∧ sameName nContentEncoding k' = false) :
    Hdrs.has (finalHdrs d st) k' = Hdrs.has st.hdrs k' := by
  unfold has; rw [finalHdrs_get d st k' h]

theorem drop_suffix (w next : Bytes) : (w ++ next).drop ((w ++ next).length - next.length) = next := by
  have : (w ++ next).length - next.length = w.length := by simp
  rw [this]; simp

/-- the `st0` of `wpStatus`: the descriptor as the status switch finds it -/
def st0 (d : RespIn) : RespSt :=
  { status := d.status, hdrs := d.hdrs, body := d.queued, finished := d.finished,
    sendChunked := false, keepAlive := d.keepAlive }

theorem isBodiless_iff (s : Nat) : isBodiless s = true ↔ s = 204 ∨ s = 205 ∨ s = 304 := by
  simp [isBodiless, or_assoc]

theorem isBodiless_false (s : Nat) : isBodiless s = false ↔ s ≠ 204 ∧ s ≠ 205 ∧ s ≠ 304 := by
  simp [isBodiless, and_assoc]

theorem wpStatus_normal (d : RespIn) (hb : isBodiless d.status = false)
    (he : (400 ≤ d.status && d.status < 600 && errdocApplies d) = false) : wpStatus d = st0 d := by
  unfold wpStatus st0
  obtain ⟨h204, h205, h304⟩ := (isBodiless_false _).mp hb
  simp only [h204, h205, h304, decide_false, Bool.or_self, Bool.false_eq_true, if_false]
  split
  · rfl
  · split
    · rename_i hrange
      simp only [hrange, Bool.true_and] at he
      simp [staticErrdoc, he]
    · rfl

/-- why the framing step of http_response_write_prepare() leaves a state alone -/
inductive LeftAlone (d : RespIn) (st : RespSt) : Prop
  | hasCL : Hdrs.has st.hdrs nContentLength = true → LeftAlone d st
  | hasTE : Hdrs.has st.hdrs nTransferEncoding = true → LeftAlone d st
  | hasUpgrade : Hdrs.has st.hdrs nUpgrade = true → LeftAlone d st
  | head : d.meth = .head → LeftAlone d st
  | s204 : st.status = 204 → LeftAlone d st
  | s304 : st.status = 304 → LeftAlone d st
  | tunnel : d.meth = .connect ∧ st.status = 200 → LeftAlone d st

theorem wpFraming_cases (d : RespIn) (st : RespSt) (P : RespSt → Prop) (h0 : LeftAlone d st → P st)
    (hlen : ∀ n, st.finished = true → P { st with hdrs := Hdrs.set st.hdrs nContentLength (natToDec n) })
    (hch : st.finished = false →
      P { st with sendChunked := true, body := chunkFirst st.body,
                  hdrs := Hdrs.append st.hdrs nTransferEncoding (ofString "chunked") })
    (hcl : st.finished = false → P { st with keepAlive := false }) : P (wpFraming d st) := by
  unfold wpFraming
  refine ite_ind
    (fun hf => ite_ind
      (fun _ => ite_ind (fun _ => hlen _ hf)
        (fun _ => ite_ind (fun _ => natToDec_zero ▸ hlen 0 hf) (fun hc => h0 ?_)))
      (fun hc => h0 ?_))
    (fun hf => ite_ind
      (fun _ => ite_ind (fun hc => h0 ?_)
        (fun _ => ite_ind (fun _ => hch (by simpa using hf)) (fun _ => hcl (by simpa using hf))))
      (fun hc => h0 ?_))
  · by_cases a : d.meth = .head
    · exact .head a
    · by_cases b : st.status = 204
      · exact .s204 b
      · by_cases c : st.status = 304
        · exact .s304 c
        · exact absurd (by simp [a, b, c]) hc
  · have hc' : Hdrs.has st.hdrs nContentLength = false → Hdrs.has st.hdrs nTransferEncoding = true := by
      simpa using hc
    by_cases a : Hdrs.has st.hdrs nContentLength = true
    · exact .hasCL a
    · exact .hasTE (hc' (by simpa using a))
  · exact .tunnel (by simpa using hc)
  · have hc' : Hdrs.has st.hdrs nContentLength = false → Hdrs.has st.hdrs nTransferEncoding = false →
        Hdrs.has st.hdrs nUpgrade = true := by simpa using hc
    by_cases a : Hdrs.has st.hdrs nContentLength = true
    · exact .hasCL a
    · by_cases b : Hdrs.has st.hdrs nTransferEncoding = true
      · exact .hasTE b
      · exact .hasUpgrade (hc' (by simpa using a) (by simpa using b))

theorem wpFraming_status (d : RespIn) (st : RespSt) : (wpFraming d st).status = st.status :=
  wpFraming_cases d st (fun s => s.status = st.status) (fun _ => rfl) (fun _ _ => rfl) (fun _ => rfl)
    (fun _ => rfl)

theorem wpStatus_2045 (d : RespIn) (h : d.status = 204 ∨ d.status = 205) :
    wpStatus d = ⟨d.status, Hdrs.unset (Hdrs.unset d.hdrs nContentLength) nTransferEncoding, [], true, false,
      d.keepAlive⟩ := by
  unfold wpStatus
  rcases h with h | h <;> simp [h, bodyClear]

theorem wpStatus_304 (d : RespIn) (h : d.status = 304) :
    wpStatus d = ⟨d.status, Hdrs.unset d.hdrs nTransferEncoding, [], true, false, d.keepAlive⟩ := by
  unfold wpStatus
  simp [h, bodyClear]

/-- the `keep` of `staticErrdoc`: what http_response_errdoc_init() leaves of the store -/
def errKeep (d : RespIn) : List Hdr :=
  if d.status = 401 then
    match Hdrs.get d.hdrs nWwwAuthenticate with
    | some v => if v.isEmpty then [] else [⟨nWwwAuthenticate, v⟩]
    | none => []
  else []

theorem errKeep_has (d : RespIn) (k : Bytes) (hk : sameName nWwwAuthenticate k = false) :
    has (errKeep d) k = false := by
  unfold errKeep
  split
  · split
    · split
      · simp [Hdrs.has, Hdrs.get]
      · simp [Hdrs.has, Hdrs.get, hk]
    · simp [Hdrs.has, Hdrs.get]
  · simp [Hdrs.has, Hdrs.get]

theorem wpStatus_err (d : RespIn) (he : (400 ≤ d.status && d.status < 600 && errdocApplies d) = true) :
    wpStatus d = ⟨d.status, Hdrs.set (errKeep d) nContentType (ofString "text/html"), errorPage d.status, true,
      false, d.keepAlive⟩ := by
  simp only [Bool.and_eq_true, decide_eq_true_eq] at he
  obtain ⟨⟨h4, h6⟩, ha⟩ := he
  have h200 : d.status ≠ 200 := by omega
  have h204 : d.status ≠ 204 := by omega
  have h205 : d.status ≠ 205 := by omega
  have h304 : d.status ≠ 304 := by omega
  unfold wpStatus
  simp only [h200, h204, h205, h304, h4, h6, if_false, if_true, decide_false, decide_true, Bool.or_self,
    Bool.and_self, Bool.false_eq_true]
  unfold staticErrdoc
  simp only [ha, Bool.not_true, Bool.false_eq_true, if_false]
  rfl

theorem wpStatus_cases (d : RespIn) (P : RespSt → Prop)
    (h0 : isBodiless d.status = false → (400 ≤ d.status && d.status < 600 && errdocApplies d) = false → P (st0 d))
    (h2045 : d.status = 204 ∨ d.status = 205 →
      P ⟨d.status, Hdrs.unset (Hdrs.unset d.hdrs nContentLength) nTransferEncoding, [], true, false, d.keepAlive⟩)
    (h304 : d.status = 304 → P ⟨d.status, Hdrs.unset d.hdrs nTransferEncoding, [], true, false, d.keepAlive⟩)
    (herr : (400 ≤ d.status && d.status < 600 && errdocApplies d) = true →
      P ⟨d.status, Hdrs.set (errKeep d) nContentType (ofString "text/html"), errorPage d.status, true, false,
        d.keepAlive⟩) : P (wpStatus d) := by
  by_cases hb : isBodiless d.status = true
  · rcases (isBodiless_iff _).mp hb with h | h | h
    · rw [wpStatus_2045 d (Or.inl h)]; exact h2045 (Or.inl h)
    · rw [wpStatus_2045 d (Or.inr h)]; exact h2045 (Or.inr h)
    · rw [wpStatus_304 d h]; exact h304 h
  · by_cases he : (400 ≤ d.status && d.status < 600 && errdocApplies d) = true
    · rw [wpStatus_err d he]; exact herr he
    · rw [wpStatus_normal d (by simpa using hb) (by simpa using he)]
      exact h0 (by simpa using hb) (by simpa using he)

theorem wpStatus_status (d : RespIn) : (wpStatus d).status = d.status :=
  wpStatus_cases d (fun s => s.status = d.status) (fun _ _ => rfl) (fun _ => rfl) (fun _ => rfl) (fun _ => rfl)

theorem writePrepare_status (d : RespIn) : (writePrepare d).status = d.status := by
  unfold writePrepare wpHead
  split <;> simp [bodyClear, wpFraming_status, wpStatus_status]

theorem respond_bodiless (d : RespIn) (date : Bytes) (h : d.meth = .head ∨ isBodiless d.status = true) :
    (respond d date).body = [] := by
  have hfin : (writePrepare d).body = [] ∧ (writePrepare d).finished = true := by
    unfold writePrepare wpHead
    by_cases hm : d.meth = .head
    · simp [hm, bodyClear]
    · simp only [hm, if_false]
      have hb : isBodiless d.status = true := h.resolve_left hm
      have hst : (wpStatus d).body = [] ∧ (wpStatus d).finished = true :=
        wpStatus_cases d (fun s => s.body = [] ∧ s.finished = true) (fun hn => by simp [hb] at hn)
          (fun _ => ⟨rfl, rfl⟩) (fun _ => ⟨rfl, rfl⟩)
          (fun he => by
            simp only [Bool.and_eq_true, decide_eq_true_eq] at he
            rcases (isBodiless_iff _).mp hb with h1 | h1 | h1 <;> omega)
      exact wpFraming_cases d _ (fun s => s.body = [] ∧ s.finished = true) (fun _ => hst) (fun _ _ => hst)
        (fun hf => absurd hst.2 (by simp [hf])) (fun hf => absurd hst.2 (by simp [hf]))
  unfold respond
  simp [hfin.1, hfin.2]

/-- the status switch removes the handler's Content-Length, the framing step adds none -/
theorem respond_204 (d : RespIn) (date : Bytes) (h : d.status = 204) :
    has (respond d date).hdrs nContentLength = false := by
  show has (finalHdrs d (writePrepare d)) nContentLength = false
  rw [finalHdrs_has d _ _ nm_final_CL]
  unfold writePrepare
  rw [wpStatus_2045 d (Or.inl h)]
  by_cases hm : d.meth = .head <;>
    simp [wpHead, bodyClear, wpFraming, has_unset, nm_ne, sameName_self, h, hm]

/-- the part of `c04_framing_sound` that depends on how the response `r` is framed (§6.3: `f`), `next` following -/
structure Framed (d : RespIn) (next : Bytes) (r : RespOut) (f : Framing) : Prop where
  interpretable : f ≠ .invalid
  closeCase : f = .close → r.keepAlive = false ∧ rfcBody f r.body = some (intendedBody d, [])
  delimited : f ≠ .close → rfcBody f (r.body ++ next) = some (intendedBody d, next)

abbrev FramingGoal (d : RespIn) (date next : Bytes) : Prop :=
  Framed d next (respond d date)
    (rfcFraming (decide (d.meth = .head)) (respond d date).status (respond d date).hdrs)

theorem rfcFraming_final (d : RespIn) (st : RespSt) (hd : Bool) :
    rfcFraming hd st.status (finalHdrs d st)
      = framingOf hd st.status (Hdrs.vals st.hdrs nContentLength) (Hdrs.vals st.hdrs nTransferEncoding) := by
  unfold rfcFraming Hdrs.vals
  rw [finalHdrs_get d st _ nm_final_CL, finalHdrs_get d st _ nm_final_TE]

theorem intended_bodiless (d : RespIn) (h : d.meth = .head ∨ isBodiless d.status = true) :
    intendedBody d = [] := by
  unfold intendedBody
  rcases h with h | h <;> simp [h]

/-- §6.3 says no body before it looks at any field, and none is queued -/
theorem framing_none (d : RespIn) (date next : Bytes) (hn : d.meth = .head ∨ d.status = 204 ∨ d.status = 304) :
    FramingGoal d date next := by
  have hb : d.meth = .head ∨ isBodiless d.status = true := by
    rcases hn with h | h | h
    · exact Or.inl h
    · exact Or.inr (by simp [isBodiless, h])
    · exact Or.inr (by simp [isBodiless, h])
  have hf : rfcFraming (decide (d.meth = .head)) (respond d date).status (respond d date).hdrs = .none := by
    rw [show (respond d date).status = d.status from writePrepare_status d]
    rcases hn with h | h | h <;> simp [rfcFraming, framingOf, h]
  unfold FramingGoal
  rw [hf]
  exact ⟨by simp, by simp, by simp [rfcBody, respond_bodiless d date hb, intended_bodiless d hb]⟩

/-- a response §6.3 reads the framing fields of, and whose stream the handler ends -/
structure Bodied (d : RespIn) : Prop where
  notHead : d.meth ≠ .head
  final : ¬ d.status / 100 = 1
  not204 : d.status ≠ 204
  not304 : d.status ≠ 304
  closes : d.closeNormally = true

theorem HandlerSane.bodied {d : RespIn} (h : HandlerSane d) (hm : d.meth ≠ .head) (h204 : d.status ≠ 204)
    (h304 : d.status ≠ 304) : Bodied d :=
  ⟨hm, by have := h.status; omega, h204, h304, h.closes⟩

theorem framed_of_length {d : RespIn} (B : Bodied d) (date next : Bytes) {st : RespSt} (hw : writePrepare d = st)
    (hte : has st.hdrs nTransferEncoding = false) (hch : st.sendChunked = false)
    (hbody : st.body ++ (if st.finished then [] else d.pieces.flatten) = intendedBody d)
    (hcl : get st.hdrs nContentLength = some (natToDec (intendedBody d).length)) : FramingGoal d date next := by
  obtain ⟨hm, h1, h204, h304, hclose⟩ := B
  have hs : st.status = d.status := hw ▸ writePrepare_status d
  have hf : rfcFraming (decide (d.meth = .head)) st.status (finalHdrs d st)
      = .length (intendedBody d).length := by
    rw [rfcFraming_final, hs, vals_of_not_has hte, vals_of_get hcl (natToDec_isEmpty _), ltrim_natToDec]
    simp [framingOf, hm, h1, h204, h304, natToDec_isEmpty, natToDec_all_digit, decNat_natToDec]
  have hb : st.body ++ (if st.finished then [] else chunkStream st.sendChunked d.pieces d.closeNormally)
      = intendedBody d := by
    rw [hch, hclose, chunkStream_plain]; exact hbody
  unfold FramingGoal respond
  simp only [hw, hf, hb]
  exact ⟨by simp, by simp, fun _ => by simp [rfcBody]⟩

theorem framed_of_chunked {d : RespIn} (B : Bodied d) (date next : Bytes) {st : RespSt} (hw : writePrepare d = st)
    (hcl : has st.hdrs nContentLength = false)
    (hv : get st.hdrs nTransferEncoding = some (ofString "chunked")) (hch : st.sendChunked = true)
    (hfin : st.finished = false) (hbody : st.body = chunkFirst d.queued)
    (hint : intendedBody d = d.queued ++ d.pieces.flatten)
    (hsz : chunkSizeOk d.queued.length ∧ ∀ p ∈ d.pieces, chunkSizeOk p.length) : FramingGoal d date next := by
  obtain ⟨hm, h1, h204, h304, hclose⟩ := B
  have hs : st.status = d.status := hw ▸ writePrepare_status d
  have hf : rfcFraming (decide (d.meth = .head)) st.status (finalHdrs d st) = .chunked := by
    have : ltrim (ofString "chunked") = ofString "chunked" := by decide +kernel
    rw [rfcFraming_final, hs, vals_of_not_has hcl, vals_of_get hv (by decide), this]
    simp [framingOf, hm, h1, h204, h304]
  unfold FramingGoal respond
  simp only [hw, hf, hfin, hch, hclose, hbody]
  exact ⟨by simp, by simp, fun _ => by simpa [hint] using rfcBody_chunked d.queued d.pieces next hsz.1 hsz.2⟩

theorem framed_of_close {d : RespIn} (B : Bodied d) (date next : Bytes) {st : RespSt} (hw : writePrepare d = st)
    (hte : has st.hdrs nTransferEncoding = false) (hcl : has st.hdrs nContentLength = false)
    (hch : st.sendChunked = false) (hka : st.keepAlive = false)
    (hbody : st.body ++ (if st.finished then [] else d.pieces.flatten) = intendedBody d) :
    FramingGoal d date next := by
  obtain ⟨hm, h1, h204, h304, hclose⟩ := B
  have hs : st.status = d.status := hw ▸ writePrepare_status d
  have hf : rfcFraming (decide (d.meth = .head)) st.status (finalHdrs d st) = .close := by
    rw [rfcFraming_final, hs, vals_of_not_has hte, vals_of_not_has hcl]
    simp [framingOf, hm, h1, h204, h304]
  have hbd : st.body ++ (if st.finished then [] else chunkStream st.sendChunked d.pieces d.closeNormally)
      = intendedBody d := by
    rw [hch, hclose, chunkStream_plain]; exact hbody
  unfold FramingGoal respond
  simp only [hw, hf, hbd]
  exact ⟨by simp, fun _ => ⟨by simp [kaAfterLimits, hka], by simp [rfcBody]⟩, by simp⟩

theorem framing_normal (d : RespIn) (date next : Bytes) (h : HandlerSane d) (hm : d.meth ≠ .head)
    (hb : isBodiless d.status = false)
    (he : (400 ≤ d.status && d.status < 600 && errdocApplies d) = false) : FramingGoal d date next := by
  have hst := wpStatus_normal d hb he
  obtain ⟨h204, h205, h304⟩ := (isBodiless_false _).mp hb
  have B := h.bodied hm h204 h304
  have hint : intendedBody d = d.queued ++ (if d.finished then [] else d.pieces.flatten) := by
    simp [intendedBody, hm, hb, he]
  have hwp : writePrepare d = wpFraming d (st0 d) := by
    unfold writePrepare; rw [hst]; simp [wpHead, hm]
  by_cases hcl : has d.hdrs nContentLength = true
  · -- the handler declared the length itself
    have hw : writePrepare d = st0 d := by
      rw [hwp]; simp [wpFraming, st0, hcl]
    obtain ⟨v, hv, hvne⟩ := has_iff.mp hcl
    have hdecl := h.declared hm hb v hv hvne
    refine framed_of_length B date next hw (hte := h.noTE) (hch := rfl) (hbody := ?_) (hcl := ?_)
    · rw [hint]; rfl
    · rw [hint]; simp only [st0, hv, hdecl]
  have hcl' : has d.hdrs nContentLength = false := by simpa using hcl
  by_cases hfin : d.finished = true
  · -- finished, nothing declared: Content-Length := queued length
    have hw : writePrepare d = { st0 d with hdrs := Hdrs.set d.hdrs nContentLength (natToDec d.queued.length) } := by
      rw [hwp]
      by_cases hq : d.queued.length > 0
      · simp [wpFraming, st0, hfin, hcl', h.noTE, hq]
      · have hz : d.queued.length = 0 := by omega
        simp [wpFraming, st0, hfin, hcl', h.noTE, hz, hm, h204, h304, natToDec_zero]
    refine framed_of_length B date next hw (hte := ?_) (hch := rfl) (hbody := ?_) (hcl := ?_)
    · simp [has_set, nm_ne, h.noTE]
    · simp [st0, hint, hfin]
    · simp [get_set, sameName_self, hint, hfin]
  · have hfin' : d.finished = false := by simpa using hfin
    have hnt : (d.meth = .connect && d.status = 200) = false := by
      rw [Bool.and_eq_false_iff, decide_eq_false_iff_not, decide_eq_false_iff_not]
      exact Classical.not_and_iff_not_or_not.mp h.notTunnel
    by_cases hv : d.ver11 = true
    · -- unfinished on HTTP/1.1: chunked
      have hw : writePrepare d = ⟨d.status, Hdrs.append d.hdrs nTransferEncoding (ofString "chunked"),
          chunkFirst d.queued, false, true, d.keepAlive⟩ := by
        rw [hwp]; simp [wpFraming, st0, hfin', hcl', h.noTE, h.noUpgrade, hnt, hv]
      have hce : (ofString "chunked").isEmpty = false := by decide +kernel
      refine framed_of_chunked B date next hw (hcl := ?_) (hv := ?_) (hch := rfl) (hfin := rfl)
        (hbody := rfl) (hint := ?_) (hsz := h.sizes)
      · simp [has_append _ _ _ _ hce, nm_ne, hcl']
      · exact get_append_fresh _ _ _ hce h.noTE
      · simp [hint, hfin']
    · -- unfinished on HTTP/1.0: keep-alive off, close-delimited
      have hv' : d.ver11 = false := by simpa using hv
      have hw : writePrepare d = { st0 d with keepAlive := false } := by
        rw [hwp]; simp [wpFraming, st0, hfin', hcl', h.noTE, h.noUpgrade, hnt, hv']
      refine framed_of_close B date next hw (hte := h.noTE) (hcl := hcl') (hch := rfl) (hka := rfl)
        (hbody := ?_)
      · simp [st0, hint, hfin']

theorem framing_205 (d : RespIn) (date next : Bytes) (h : HandlerSane d) (hm : d.meth ≠ .head)
    (h205 : d.status = 205) : FramingGoal d date next := by
  have hw : writePrepare d = ⟨d.status, Hdrs.set (Hdrs.unset (Hdrs.unset d.hdrs nContentLength) nTransferEncoding)
      nContentLength [48], [], true, false, d.keepAlive⟩ := by
    unfold writePrepare
    rw [wpStatus_2045 d (Or.inr h205)]
    simp [wpHead, wpFraming, has_unset, nm_ne, sameName_self, h205, hm]
  have hint : intendedBody d = [] := intended_bodiless d (Or.inr (by simp [isBodiless, h205]))
  refine framed_of_length (h.bodied hm (by omega) (by omega)) date next hw (hte := ?_) (hch := rfl)
      (hbody := ?_) (hcl := ?_)
  · simp [has_set, has_unset, nm_ne, sameName_self]
  · simp [hint]
  · simp [get_set, sameName_self, hint, natToDec_zero]

theorem framing_errdoc (d : RespIn) (date next : Bytes) (h : HandlerSane d) (hm : d.meth ≠ .head)
    (he : (400 ≤ d.status && d.status < 600 && errdocApplies d) = true) : FramingGoal d date next := by
  have h1 : 400 ≤ d.status ∧ d.status < 600 := by
    simp only [Bool.and_eq_true, decide_eq_true_eq] at he; exact he.1
  have hb : isBodiless d.status = false := (isBodiless_false _).mpr (by omega)
  have hint : intendedBody d = errorPage d.status := by
    simp [intendedBody, hm, hb, he]
  have hpos := errorPage_pos d.status
  have hw : writePrepare d = ⟨d.status, Hdrs.set (Hdrs.set (errKeep d) nContentType (ofString "text/html"))
      nContentLength (natToDec (errorPage d.status).length), errorPage d.status, true, false, d.keepAlive⟩ := by
    unfold writePrepare
    rw [wpStatus_err d he]
    simp [wpHead, hm, wpFraming, has_set, nm_ne, errKeep_has, hpos]
  refine framed_of_length (h.bodied hm (by omega) (by omega)) date next hw (hte := ?_) (hch := rfl)
        (hbody := ?_) (hcl := ?_)
  · simp [has_set, nm_ne, errKeep_has]
  · simp [hint]
  · simp [get_set, sameName_self, hint]

theorem framing_sound_core (d : RespIn) (date next : Bytes) (h : HandlerSane d) : FramingGoal d date next := by
  by_cases hn : d.meth = .head ∨ d.status = 204 ∨ d.status = 304
  · exact framing_none d date next hn
  · have hm : d.meth ≠ .head := fun e => hn (Or.inl e)
    by_cases h205 : d.status = 205
    · exact framing_205 d date next h hm h205
    · have hb : isBodiless d.status = false :=
        (isBodiless_false _).mpr ⟨fun e => hn (Or.inr (Or.inl e)), h205, fun e => hn (Or.inr (Or.inr e))⟩
      by_cases he : (400 ≤ d.status && d.status < 600 && errdocApplies d) = true
      · exact framing_errdoc d date next h hm he
      · exact framing_normal d date next h hm hb (by simpa using he)

end framing

/-! ### the response path keeps what the store operations keep -/
section inv
variable {P : List Hdr → Prop} (I : StoreInv P)
include I

theorem errKeep_inv (d : RespIn) (h : P d.hdrs) : P (errKeep d) := by
  unfold errKeep
  split
  · split
    · split
      · exact I.nil
      · rename_i hg _; exact I.keep h hg tok_WA
    · exact I.nil
  · exact I.nil

theorem wpStatus_inv (d : RespIn) (h : P d.hdrs) : P (wpStatus d).hdrs :=
  wpStatus_cases d (fun s => P s.hdrs) (fun _ _ => h) (fun _ => I.unset _ (I.unset _ h)) (fun _ => I.unset _ h)
    (fun _ => I.set _ (ofString "text/html") (errKeep_inv I d h) tok_CT (by decide +kernel))

theorem respond_inv (d : RespIn) (date : Bytes) (h : P d.hdrs) : P (respond d date).hdrs := by
  have h1 := wpStatus_inv I d h
  have h2 : P (wpFraming d (wpStatus d)).hdrs :=
    wpFraming_cases d _ (fun s => P s.hdrs) (fun _ => h1) (fun _ _ => I.set _ _ h1 tok_CL (natToDec_clean _))
      (fun _ => I.append _ (ofString "chunked") h1 tok_TE (by decide +kernel)) (fun _ => h1)
  have h3 : P (writePrepare d).hdrs := by
    unfold writePrepare wpHead
    exact ite_ind (P := fun s : RespSt => P s.hdrs) (fun _ => I.unset _ h2) (fun _ => h2)
  exact finalHdrs_cases d _ P h3 (fun _ hv => I.set _ _ h3 tok_CO hv) (fun _ hP => I.unset _ hP)

end inv

theorem wireDecode_head (d : RespIn) (date after : Bytes) (isHead : Bool) (h100 : 100 ≤ d.status)
    (h1000 : d.status < 1000) (hso : StoreOk d.hdrs) (hc : HdrsClean d.hdrs) (hd : NoCRLF date)
    (ht : ∀ t, d.serverTag = some t → NoCRLF t) :
    wireDecode isHead ((respond d date).head ++ after)
      = (rfcBody (rfcFraming isHead (respond d date).status (respond d date).hdrs) after).map
          fun br => ((respond d date).status,
            (headFields (respond d date).hdrs date d.serverTag).map (fun f => (f.1, ltrim f.2)), br.1, br.2) :=
  wireDecode_render isHead d.ver11 (writePrepare d).status _ date after d.serverTag
    ((writePrepare_status d).symm ▸ h100) ((writePrepare_status d).symm ▸ h1000)
    (respond_inv storeInv_storeOk d date hso)
    (respond_inv storeInv_clean d date hc) hd ht

end LtVerif
