/-
  HPACK (C07), response direction: a header list h2_send_headers() accepts (size pre-pass ≤ 65535)
  fits the 128 KiB buffer it is encoded into, whatever lshpack's encoder chooses per field
  (`LsLike`): at most 9 octets of overhead per field (`encodeFieldCore_length_le`) against the 4
  the pre-pass counts (`cost9_le_cost4`).
-/
import LtVerif.Proofs.HpackResp
namespace LtVerif.Hpack
open LtVerif B

theorem encIntTailF_length (k : Nat) : ∀ (f n : Nat), n < 128 ^ (k + 1) →
    (encIntTailF f n).length ≤ k + 1 := by
  induction k with
  | zero =>
    intro f n hn
    cases f with
    | zero => simp [encIntTailF]
    | succ f => simp only [encIntTailF]; rw [if_pos (by simpa using hn)]; simp
  | succ k ih =>
    intro f n hn
    cases f with
    | zero => simp [encIntTailF]
    | succ f =>
      simp only [encIntTailF]
      split
      · simp
      · have : n / 128 < 128 ^ (k + 1) := by
          apply Nat.div_lt_of_lt_mul
          rw [Nat.pow_succ] at hn
          omega
        have := ih f (n / 128) this
        simp only [List.length_cons]; omega

theorem encInt_length_le (pbits hi n k : Nat) (hn : n < 128 ^ (k + 1)) :
    (encInt pbits hi n).length ≤ k + 2 := by
  unfold encInt
  split
  · simp
  · simp only [List.length_cons, encIntTail]
    have := encIntTailF_length k (n - (2 ^ pbits - 1)) (n - (2 ^ pbits - 1)) (by omega)
    omega

def NoExpand (huff : Bool) (s : Bytes) : Prop := huff = true → (huffEncode s).length ≤ s.length

/-- below `128 ^ 3` a length prefix has ≤ 4 octets -/
theorem encStr_length_le (huff : Bool) (s : Bytes) (hs : s.length < 128 ^ 3) (hx : NoExpand huff s) :
    (encStr huff s).length ≤ 4 + s.length := by
  unfold encStr
  cases huff with
  | false =>
    simp only [Bool.false_eq_true, if_false, List.length_append]
    have := encInt_length_le 7 0 s.length 2 hs
    omega
  | true =>
    have hl := hx rfl
    simp only [if_true, List.length_append]
    have := encInt_length_le 7 128 (huffEncode s).length 2 (by omega)
    omega

theorem encodeFieldCore_length_le (t : Table) (c : Choice) (h : Header) (hwf : t.WF)
    (h1 : h.1.length < 128 ^ 3) (h2 : h.2.length < 128 ^ 3)
    (hx1 : NoExpand c.huffName h.1) (hx2 : NoExpand c.huffValue h.2) :
    (encodeFieldCore t c h).1.length ≤ h.1.length + h.2.length + 9 := by
  unfold encodeFieldCore
  split
  · rename_i hix
    obtain ⟨_, hlt⟩ := Table.lookup_lt hwf hix.2
    have := encInt_length_le 7 128 c.idx 3 (by simpa using hlt)
    simp only []
    omega
  · simp only [List.length_append]
    have hv := encStr_length_le c.huffValue h.2 h2 hx2
    by_cases hnr : (t.lookup c.idx).map (·.1) = some h.1
    · have hne : c.idx ≠ 0 := by
        intro h0; rw [h0, Table.lookup_zero] at hnr; simp at hnr
      obtain ⟨e, hl, _⟩ := Option.map_eq_some_iff.mp hnr
      obtain ⟨_, hlt⟩ := Table.lookup_lt hwf hl
      have hidx : ∀ pb fl, (encInt pb fl c.idx).length ≤ 5 :=
        fun pb fl => encInt_length_le pb fl c.idx 3 (by simpa using hlt)
      simp only [hnr, if_true, hne, ne_eq, not_false_eq_true]
      exact Nat.le_trans (Nat.add_le_add (hidx _ _) hv) (by omega)
    · have hnm := encStr_length_le c.huffName h.1 h1 hx1
      simp only [hnr, if_false, ne_eq, not_true_eq_false, List.length_cons]
      omega

/-- per field: no size update of its own, Huffman only where not longer
    (lshpack_enc_enc_str(): `encStrLs`) -/
def LsLike : List Choice → List Header → Prop
  | _, [] => True
  | cs, h :: hs =>
    (cs.headD {}).resize = [] ∧ NoExpand (cs.headD {}).huffName h.1 ∧
      NoExpand (cs.headD {}).huffValue h.2 ∧ LsLike cs.tail hs

/-- `cost9`: bound on the HPACK encoding of a field (name, value, at most 9 octets of flag, index
    and length prefixes); `cost4`: what the size pre-pass of h2_send_headers() counts for it -/
def cost9 (h : Header) : Nat := h.1.length + h.2.length + 9
def cost4 (h : Header) : Nat := h.1.length + h.2.length + 4

theorem encodeBlock_length_le : ∀ (hs : List Header) (cs : List Choice) (t : Table), t.WF →
    LsLike cs hs → (∀ h ∈ hs, h.1.length < 128 ^ 3 ∧ h.2.length < 128 ^ 3) →
    (encodeBlock t cs hs).1.length ≤ (hs.map cost9).sum := by
  intro hs
  induction hs with
  | nil => intro cs t _ _ _; simp [encodeBlock]
  | cons h hs ih =>
    intro cs t hwf hls hok
    obtain ⟨hr, hx1, hx2, hrest⟩ := hls
    obtain ⟨h1, h2⟩ := hok h (by simp)
    simp only [encodeBlock, encodeField, hr, encResize, List.nil_append, List.length_append,
      List.map_cons, List.sum_cons]
    have hc := encodeFieldCore_length_le t (cs.headD {}) h hwf h1 h2 hx1 hx2
    have := ih cs.tail _ (encodeFieldCore_WF t (cs.headD {}) h hwf) hrest
      (fun x hx => hok x (by simp [hx]))
    have hc9 : cost9 h = h.1.length + h.2.length + 9 := rfl
    omega

theorem cost9_le_cost4 (fs : List Header) (h : ∀ f ∈ fs, 6 ≤ cost4 f) :
    6 * (fs.map cost9).sum ≤ 11 * (fs.map cost4).sum := by
  induction fs with
  | nil => simp
  | cons f fs ih =>
    have h1 := h f (by simp)
    have h2 := ih (fun x hx => h x (by simp [hx]))
    simp only [List.map_cons, List.sum_cons]
    unfold cost9 cost4 at *
    omega

end LtVerif.Hpack

namespace LtVerif.H2Headers
open LtVerif B Hpack

theorem wanted_cost (arr : List RespHdr) :
    ((arr.filterMap wantField).map cost4).sum ≤ (arr.map fieldCost).sum ∧
      ∀ f ∈ arr.filterMap wantField, 6 ≤ cost4 f := by
  induction arr with
  | nil => simp
  | cons e rest ih =>
    by_cases hw : e.key = [] ∨ e.value = [] ∨ omitHeader e.key = true
    · have hwn : wantField e = none := by simp [wantField, hw]
      simp only [List.filterMap_cons, hwn, List.map_cons, List.sum_cons]
      exact ⟨by omega, ih.2⟩
    · have hws : wantField e = some (lower e.key, e.value) := by simp [wantField, hw]
      have hk : e.key ≠ [] := fun h => hw (Or.inl h)
      have hv : e.value ≠ [] := fun h => hw (Or.inr (Or.inl h))
      have hkl : 0 < e.key.length := List.length_pos_iff.mpr hk
      have hvl : 0 < e.value.length := List.length_pos_iff.mpr hv
      have hf : fieldCost e = e.key.length + e.value.length + 4 := by simp [fieldCost, hk, hv]
      have hc : cost4 (lower e.key, e.value) = e.key.length + e.value.length + 4 := by
        simp [cost4, lower_length]
      simp only [List.filterMap_cons, hws, List.map_cons, List.sum_cons]
      refine ⟨by omega, ?_⟩
      intro f hf'
      rcases List.mem_cons.mp hf' with rfl | hf'
      · omega
      · exact ih.2 f hf'

theorem auto_cost (r : Resp) (tag : Option Bytes) :
    ((autoFields r tag).map cost4).sum ≤ 37 + serverCost tag ∧ ∀ f ∈ autoFields r tag, 6 ≤ cost4 f := by
  have hd : cost4 (ofString "date", autoDate) = 12 := by decide +kernel
  have hs : ∀ t : Bytes, cost4 (ofString "server", t) = t.length + 10 := fun t => by
    have : (ofString "server").length = 6 := by decide +kernel
    simp only [cost4, this]; omega
  unfold autoFields serverCost
  cases tag with
  | none =>
    cases r.tags.contains Extracted.hdrDate
    · simp [hd]       -- "date" added: 12
    · simp            -- nothing added
  | some t =>
    cases r.tags.contains Extracted.hdrDate
    · cases r.tags.contains Extracted.hdrServer
      · simp [hd, hs]; omega      -- both added: 12 + (10 + |t|)
      · simp [hd]; omega          -- "date" only
    · cases r.tags.contains Extracted.hdrServer
      · simp [hs]; omega          -- "server" only
      · simp

theorem respFields_fits (status : Nat) (r : Resp) (tag : Option Bytes) (hk : r.Keyed)
    (hrep : r.repeated = false)
    (h304 : ¬ (status = 304 ∧ r.tags.contains Extracted.hdrContentEncoding = true))
    (fs : List Header) (h : respFields status r tag = some fs)
    (t : Table) (hwf : t.WF) (cs : List Choice) (hls : LsLike cs fs) :
    (encodeBlock t cs fs).1.length + 6 ≤ 131072 := by
  have hsize : respSize r tag ≤ 65535 := Nat.le_of_not_lt (fun hc => by
    rw [respFields_oversize status r tag h304 hc] at h
    cases h)
  rw [respFields_single status r tag hk hrep hsize h304] at h
  simp only [Option.some.injEq] at h
  have hw := wanted_cost r.arr
  have ha := auto_cost r tag
  have hst : cost4 (ofString ":status", statusBytes status) = 14 := by
    have : (ofString ":status").length = 7 := by decide +kernel
    simp [cost4, statusBytes, this]
  have hsum : (fs.map cost4).sum ≤ 65535 := by
    rw [← h]
    simp only [List.map_cons, List.sum_cons, List.map_append, List.sum_append, hst]
    unfold respSize at hsize
    omega
  have hall : ∀ f ∈ fs, 6 ≤ cost4 f := by
    rw [← h]
    intro f hf
    simp only [List.mem_cons, List.mem_append] at hf
    rcases hf with (rfl | hf) | hf
    · rw [hst]; omega
    · exact hw.2 f hf
    · exact ha.2 f hf
  have hbound := cost9_le_cost4 fs hall
  have hlen := encodeBlock_length_le fs cs t hwf hls (by
    intro f hf
    have := le_sum_of_mem cost4 fs f hf
    have hc4 : cost4 f = f.1.length + f.2.length + 4 := rfl
    have hp : (128 : Nat) ^ 3 = 2097152 := by decide
    constructor <;> (rw [hp]; omega))
  -- every field counts ≥ 6 in the pre-pass, so 9 instead of 4 octets of overhead is at most 11/6
  -- of it: 65535 · 11 / 6 + 6 < 131072.  6: two size updates in front (`encInt 5 32 n`, n ≤ 4096: 3 octets)
  omega

end LtVerif.H2Headers
