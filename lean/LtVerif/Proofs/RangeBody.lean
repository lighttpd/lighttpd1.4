/-
  The bytes of a range response, independent of how the ranges were found: the chunk-queue
  operations of src/chunk.c on the flattened queue, `slice`, and the multipart/byteranges body
  of http_range_multi() in the shape of RFC 2046 5.1.1.
-/
import LtVerif.Model.Range
namespace LtVerif
namespace Range
open B Date

/-! ### chunk queues are byte strings -/

theorem cqDrop_flatten (n : Nat) (cq : Cq) : (cqDrop n cq).flatten = cq.flatten.drop n := by
  induction cq generalizing n with
  | nil => simp [cqDrop]
  | cons c cs ih =>
    rw [cqDrop, List.flatten_cons, List.drop_append]
    split
    · rename_i h; rw [ih, List.drop_eq_nil_of_le h, List.nil_append]
    · rename_i h; rw [Nat.sub_eq_zero_of_le (by omega), List.drop_zero, List.flatten_cons]

theorem cqTake_flatten (n : Nat) (cq : Cq) : (cqTake n cq).flatten = cq.flatten.take n := by
  induction cq generalizing n with
  | nil => simp [cqTake]
  | cons c cs ih =>
    rw [cqTake, List.flatten_cons, List.take_append]
    split
    · rename_i h; rw [List.flatten_cons, ih, List.take_of_length_le h]
    · rename_i h
      rw [Nat.sub_eq_zero_of_le (by omega), List.take_zero, List.append_nil]
      split
      · rename_i h0; rw [h0]; rfl
      · simp

theorem cqRange_flatten (cq : Cq) (off len : Nat) :
    cqRange cq off len = (cq.flatten.drop off).take len := by
  induction cq generalizing off len with
  | nil => simp [cqRange]
  | cons c cs ih =>
    rw [cqRange, List.flatten_cons, List.drop_append, List.take_append, List.length_drop]
    split
    · rename_i h0; rw [h0]; simp
    · split
      · rename_i h; rw [ih, List.drop_eq_nil_of_le h, Nat.sub_eq_zero_of_le h]; simp
      · rename_i h
        simp only [ih, Nat.sub_eq_zero_of_le (Nat.le_of_not_le h), List.drop_zero]
        split
        · rename_i hlt
          rw [Nat.sub_self, Nat.sub_eq_zero_of_le (Nat.le_of_lt hlt)]
        · rename_i hge
          rw [List.take_of_length_le (l := c.drop off) (i := len) (by simp; omega),
            List.take_of_length_le (l := c.drop off) (by simp)]

def slice (rep : Bytes) (a b : Nat) : Bytes := (rep.drop a).take (b - a + 1)

theorem slice_length {rep : Bytes} {a b : Nat} (h1 : a ≤ b) (h2 : b < rep.length) :
    (slice rep a b).length = b - a + 1 := by
  simp only [slice, List.length_take, List.length_drop]; omega

theorem slice_getElem? {rep : Bytes} {a b : Nat} (i : Nat) (hi : i ≤ b - a) :
    (slice rep a b)[i]? = rep[a + i]? := by
  simp only [slice, List.getElem?_take, List.getElem?_drop]
  have : i < b - a + 1 := by omega
  simp [this]

theorem single_flatten (cq : Cq) (a b : Nat) : (single cq a b).flatten = slice cq.flatten a b := by
  unfold single
  split
  · simp [slice]
  · rw [cqTake_flatten, cqDrop_flatten]; rfl

/-! ### multipart/byteranges body in the shape of RFC 2046 5.1.1 / RFC 9110 14.6 -/

/-- "--" boundary -/
def dashBoundary : Bytes := [45, 45] ++ boundary
/-- "--" boundary "--" CRLF -/
def closeDelimiter : Bytes := dashBoundary ++ [45, 45] ++ crlf

def partFields (ctype : Option Bytes) (a b total : Nat) : Bytes :=
  (match ctype with
   | some ct => ofString "Content-Type: " ++ ct ++ crlf
   | none => [])
  ++ ofString "Content-Range: " ++ contentRange a b total ++ crlf

/-- one encapsulated part followed by the CRLF that belongs to the next delimiter -/
def bodyPart (rep : Bytes) (ctype : Option Bytes) (r : Nat × Nat) : Bytes :=
  dashBoundary ++ crlf ++ partFields ctype r.1 r.2 rep.length ++ crlf ++ slice rep r.1 r.2 ++ crlf

def multipartBody (rep : Bytes) (ctype : Option Bytes) (parts : List (Nat × Nat)) : Bytes :=
  (parts.map (bodyPart rep ctype)).flatten ++ closeDelimiter

theorem partHeader_eq (rep : Bytes) (ctype : Option Bytes) (r : Nat × Nat) (T : Bytes) :
    partHeader ctype r.1 r.2 rep.length ++ (slice rep r.1 r.2 ++ (crlf ++ T)) =
      crlf ++ (bodyPart rep ctype r ++ T) := by
  cases ctype <;> simp [partHeader, bodyPart, partFields, boundaryPrefix, dashBoundary, List.append_assoc]

/-- http_range_multi() appends to the queue it reads from: the queue keeps the original bytes
    in front, so each copy is a slice of them -/
theorem multi_fold (orig : Bytes) (ctype : Option Bytes) (rs : List (Nat × Nat)) (q : Cq) (X : Bytes)
    (hq : q.flatten = orig ++ X) (hb : ∀ r ∈ rs, r.1 ≤ r.2 ∧ r.2 < orig.length) :
    (rs.foldl (fun q r => q ++ [partHeader ctype r.1 r.2 orig.length,
                                cqRange q r.1 (r.2 - r.1 + 1)]) q).flatten ++ crlf =
      q.flatten ++ (crlf ++ (rs.map (bodyPart orig ctype)).flatten) := by
  induction rs generalizing q X with
  | nil => simp
  | cons r rs ih =>
    obtain ⟨⟨h1, h2⟩, hrs⟩ := List.forall_mem_cons.mp hb
    have hr : cqRange q r.1 (r.2 - r.1 + 1) = slice orig r.1 r.2 := by
      rw [cqRange_flatten, hq, List.drop_append_of_le_length (by omega),
          List.take_append_of_le_length (by simp; omega)]
      rfl
    have hq' : (q ++ [partHeader ctype r.1 r.2 orig.length, cqRange q r.1 (r.2 - r.1 + 1)]).flatten
        = q.flatten ++ (partHeader ctype r.1 r.2 orig.length ++ slice orig r.1 r.2) := by
      rw [List.flatten_append, hr]; simp
    rw [List.foldl_cons, ih _ (X ++ _) (by rw [hq', hq, List.append_assoc]) hrs, hq',
      List.map_cons, List.flatten_cons, List.append_assoc, List.append_assoc, partHeader_eq]

theorem shift_crlf (Ys : List Bytes) :
    (Ys.map (fun y => crlf ++ y)).flatten ++ crlf = crlf ++ (Ys.map (fun y => y ++ crlf)).flatten := by
  induction Ys with
  | nil => simp
  | cons y ys ih =>
    simp only [List.map_cons, List.flatten_cons, List.append_assoc]
    rw [ih]

theorem multi_flatten (cq : Cq) (ctype : Option Bytes) (rs : List (Nat × Nat))
    (hb : ∀ r ∈ rs, r.1 ≤ r.2 ∧ r.2 < cq.flatten.length) :
    (multi cq ctype rs).flatten = multipartBody cq.flatten ctype rs := by
  have e1 : [boundaryEnd].flatten = crlf ++ closeDelimiter := by
    simp [boundaryEnd, closeDelimiter, dashBoundary, List.append_assoc]
  unfold multi
  simp only [cqLen]
  rw [cqDrop_flatten, List.flatten_append, e1, ← List.append_assoc,
    multi_fold cq.flatten ctype rs cq [] (by simp) hb, List.append_assoc, List.drop_append]
  simp [crlf, multipartBody]

end Range
end LtVerif
