/-
  C18 — well-formedness (every entry's parent is a collection) is preserved by every
  request the RFC reference covers.
-/
import LtVerif.Proofs.DavStep

namespace LtVerif.Dav
open LtVerif

theorem wf_set {t : Tree} (hwf : WF t) {p : Path} {n : Node}
    (hpar : p ≠ [] → get t p.dropLast = some .dir) (hn : n ≠ .dir → get t p ≠ some .dir) :
    WF (set p n t) := by
  intro q s m hg
  rw [get_set] at hg ⊢
  by_cases hp : p = q ++ [s]
  · have hq : p ≠ q := by
      intro e; rw [e] at hp; simpa using congrArg List.length hp
    rw [if_neg hq]
    have := hpar (by rw [hp]; simp)
    rw [hp, List.dropLast_concat] at this
    exact this
  · rw [if_neg hp] at hg
    have hd := hwf _ _ _ hg
    by_cases hq : p = q
    · subst hq
      rw [if_pos rfl]
      by_cases hnd : n = .dir
      · rw [hnd]
      · exact absurd hd (hn hnd)
    · rw [if_neg hq]; exact hd

theorem wf_erase {t : Tree} (hwf : WF t) (p : Path) : WF (erase p t) := by
  intro q s m hg
  rw [get_erase] at hg ⊢
  split at hg
  · simp at hg
  · rename_i hu
    have hq : ¬ under p q = true := fun h => hu (under_snoc_of_under s h)
    rw [if_neg hq]
    exact hwf _ _ _ hg

theorem wf_graft {t : Tree} (hwf : WF t) (move : Bool) {src dst : Path}
    (hpar : dst ≠ [] → get t dst.dropLast = some .dir) (hnn : move = true → under src dst = false) :
    WF (if move then moveTree src dst t else copyTree src dst t) := by
  intro q s m hg
  rw [get_graft] at hg ⊢
  unfold graftFS at hg ⊢
  by_cases hu : under dst (q ++ [s]) = true
  · rw [if_pos hu] at hg
    by_cases he : q ++ [s] = dst
    · have hq : ¬ under dst q = true := by
        intro h
        have := (under_iff.1 h).length_le
        rw [← he] at this
        simp at this
        omega
      have hsq : ¬ (move && under src q) = true := by
        intro h
        rw [Bool.and_eq_true] at h
        have := under_snoc_of_under s h.2
        rw [he, hnn h.1] at this
        cases this
      rw [if_neg hq, if_neg hsq]
      have := hpar (by rw [← he]; simp)
      rw [← he, List.dropLast_concat] at this
      exact this
    · have hq := under_parent hu he
      rw [if_pos hq]
      rw [drop_snoc hq, ← List.append_assoc] at hg
      exact hwf _ _ _ hg
  · rw [if_neg hu] at hg
    have hq : ¬ under dst q = true := fun h => hu (under_snoc_of_under s h)
    rw [if_neg hq]
    split at hg
    · cases hg
    · rename_i hs
      have hsq : ¬ (move && under src q) = true := by
        intro h
        rw [Bool.and_eq_true] at h
        exact hs (Bool.and_eq_true _ _ ▸ ⟨h.1, under_snoc_of_under s h.2⟩)
      rw [if_neg hsq]
      exact hwf _ _ _ hg

theorem wf_set_file {t : Tree} (hwf : WF t) {p : RPath} {c : Bytes}
    (h : lstat t p = .enoent ∧ parentIsDir t p.segs = true ∨ ∃ c', lstat t p = .isfile c') :
    WF (set p.segs (.file c) t) := by
  apply wf_set hwf
  · intro hne
    rcases h with ⟨-, hp⟩ | ⟨c', hl⟩
    · exact (parentIsDir_get hp).2
    · exact parent_of_exists hwf (lstat_isfile hl) hne
  · intro _
    rcases h with ⟨hl, -⟩ | ⟨c', hl⟩
    · rw [lstat_enoent hwf hl]; simp
    · rw [lstat_isfile hl]; simp

theorem wf_set_dir {t : Tree} (hwf : WF t) {p : Path} (hp : parentIsDir t p = true) : WF (set p .dir t) :=
  wf_set hwf (fun _ => (parentIsDir_get hp).2) (fun h => absurd rfl h)

theorem step_wf {t : Tree} {r : Req} (hwf : WF t) (hc : Conforming t r) : WF (step t r).2 := by
  have h := step_eff t r
  generalize (step t r).1 = s, (step t r).2 = t' at h
  cases h
  case refused | read | onto | self => exact hwf
  case put h hb => exact wf_set_file hwf h
  case mkcol hp | mkDest hp => exact wf_set_dir hwf hp
  case delete => exact wf_erase hwf _
  case graft d _ _ _ _ _ hnn hfree =>
    refine wf_graft hwf _ (fun hd => ?_) (fun _ => hnn)
    rcases hfree with ⟨-, hp⟩ | ⟨c, hw⟩ | ⟨hw, -⟩
    · exact (parentIsDir_get hp).2
    · exact parent_of_exists hwf (walk_isfile (cur := []) hw) hd
    · exact parent_of_exists hwf (walk_isdir (cur := []) hw) hd
  case merge hm _ _ hg hch => exact (hc.no_merge hm hg hch).elim
  case file d c hm hd _ hsrc hfree =>
    have hnd := hc.file_dest hm hd hsrc
    rw [cmFileTarget_eq hnd] at hfree ⊢
    have hpar : d.segs ≠ [] → get t d.segs.dropLast = some .dir := by
      intro hne
      rcases hfree with ⟨-, h | hp⟩ | ⟨c', hl⟩
      · exact absurd (lstat_isdir h) hnd
      · exact (parentIsDir_get hp).2
      · exact parent_of_exists hwf (lstat_isfile hl) hne
    unfold cmDone
    cases r.m == .move
    · exact wf_set hwf hpar (fun _ => hnd)
    · apply wf_set (wf_erase hwf _)
      · intro hne
        rw [get_erase, not_under_file hwf hsrc (hpar hne)]
        simpa using hpar hne
      · intro _
        rw [get_erase]
        split
        · simp
        · exact hnd

end LtVerif.Dav
