/-
  C09 — the fields proxy_create_env() writes are serialisable (token-like names, values without
  CR / leading blank) when the request's are; proxy.forwarded off (no "Forwarded" field generated).
-/
import LtVerif.Proofs.ProxyHead
namespace LtVerif.Proxy
open LtVerif B

theorem valueOk_append {a b : Bytes} (ha : ValueOk a) (hane : a ≠ []) (hb : cr ∉ b) : ValueOk (a ++ b) := by
  refine ⟨fun hm => (List.mem_append.mp hm).elim ha.1 hb, ?_⟩
  · intro x hx
    cases a with
    | nil => exact absurd rfl hane
    | cons y t => exact ha.2 x (by simpa using hx)

theorem wf_setHdr (hs : Hdrs) (n : String) (w : Bytes) (hn : NameOk (ofString n)) (hw : ValueOk w)
    (h : ∀ f ∈ hs, WfField f) : ∀ f ∈ setHdr hs n w, WfField f := by
  intro f hf
  unfold setHdr at hf
  split at hf
  · obtain ⟨q, hq, rfl⟩ := List.mem_map.mp hf
    by_cases hx : nameIs q.1 n = true
    · simp only [hx, ↓reduceIte]
      exact wf_mk ((wfField_iff q).mp (h q hq)).1 hw
    · simp only [hx, Bool.false_eq_true, ↓reduceIte]; exact h q hq
  · rcases List.mem_append.mp hf with hf | hf
    · exact h f hf
    · simp only [List.mem_singleton] at hf; rw [hf]; exact wf_mk hn hw

theorem wf_appendHdr (hs : Hdrs) (n : String) (w : Bytes) (hn : NameOk (ofString n)) (hw : ValueOk w)
    (h : ∀ f ∈ hs, WfField f) : ∀ f ∈ appendHdr hs n w, WfField f := by
  intro f hf
  unfold appendHdr at hf
  split at hf
  · exact h f hf
  · split at hf
    · obtain ⟨q, hq, rfl⟩ := List.mem_map.mp hf
      have hqw := (wfField_iff q).mp (h q hq)
      by_cases hx : nameIs q.1 n = true
      · simp only [hx, ↓reduceIte]
        by_cases he : q.2.isEmpty = true
        · simp only [he, ↓reduceIte]; exact wf_mk hqw.1 hw
        · simp only [he, Bool.false_eq_true, ↓reduceIte]
          refine wf_mk hqw.1 ?_
          have hne : q.2 ≠ [] := fun e => he (List.isEmpty_iff.mpr e)
          rw [List.append_assoc]
          refine valueOk_append hqw.2 hne ?_
          intro hm
          rcases List.mem_append.mp hm with h1 | h1
          · simp at h1; rcases h1 with h1 | h1 <;> exact absurd h1 (by decide)
          · exact hw.1 h1
      · simp only [hx, Bool.false_eq_true, ↓reduceIte]; exact h q hq
    · rcases List.mem_append.mp hf with hf | hf
      · exact h f hf
      · simp only [List.mem_singleton] at hf; rw [hf]; exact wf_mk hn hw

theorem hostNonBlank_some (r : Req) (h : Bytes) (hh : hostNonBlank r = some h) : r.host = some h := by
  unfold hostNonBlank at hh
  split at hh
  · split at hh
    · exact absurd hh (by simp)
    · simp only [Option.some.injEq] at hh; subst hh; assumption
  · exact absurd hh (by simp)

theorem wf_setForwarded0 (c : Cfg) (r : Req) (hw : HeadWf c r) (hs : Hdrs) (h : ∀ f ∈ hs, WfField f) :
    ∀ f ∈ setForwarded 0 r hs, WfField f := by
  unfold setForwarded
  refine wf_setHdr _ _ _ (by decide +kernel) hw.scheme ?_
  have h1 : ∀ f ∈ appendHdr (setFwdForwarded 0 r hs) "X-Forwarded-For" r.remoteAddr, WfField f := by
    refine wf_appendHdr _ _ _ (by decide +kernel) hw.remoteAddr ?_
    simp only [setFwdForwarded, ↓reduceIte]; exact h
  unfold setFwdHost
  cases hh : hostNonBlank r with
  | none => exact h1
  | some x =>
    have hx := hw.host x (hostNonBlank_some r x hh)
    exact wf_setHdr _ _ _ (by decide +kernel) hx (wf_setHdr _ _ _ (by decide +kernel) hx h1)

theorem valueOk_natDec (n : Nat) : ValueOk (natDec n) := by
  have h := natDec_eq n ▸ natToDec_digits n
  refine ⟨fun hm => absurd (h _ hm) (by decide), fun b hb => ?_⟩
  have hdig := h b (List.mem_of_mem_head? hb)
  cases ho : isOws b with
  | false => rfl
  | true =>
    simp only [isOws, Bool.or_eq_true, decide_eq_true_eq] at ho
    rcases ho with rfl | rfl <;> exact absurd hdig (by decide)

theorem valueOk_intDec (i : Int) : ValueOk (intDec i) := by
  unfold intDec
  split
  · refine ⟨?_, ?_⟩
    · exact List.not_mem_cons_of_ne_of_not_mem (by decide) (valueOk_natDec _).1
    · intro b hb
      simp only [List.head?_cons, Option.some.injEq] at hb
      rw [← hb]; decide
  · exact valueOk_natDec _

theorem wf_framing (c : Cfg) (r : Req) (hw : HeadWf c r) (ff : Option (Bytes × Bytes)) (hs0 : Hdrs) (ch : Bool)
    (h : Framed c r ff hs0 ch) :
    (∀ f ∈ hs0, WfField f) ∧ (∀ p, ff = some p → WfField p) := by
  cases h with
  | authorizer _ =>
    exact ⟨hw.fields, fun p hp => by cases hp; exact wf_mk (by decide +kernel) (by decide +kernel)⟩
  | plain _ _ => exact ⟨hw.fields, fun p hp => nomatch hp⟩
  | ownCL _ _ =>
    exact ⟨wf_setHdr _ _ _ (by decide +kernel) (valueOk_intDec _) hw.fields, fun p hp => nomatch hp⟩
  | chunked _ _ _ =>
    exact ⟨hw.fields, fun p hp => by cases hp; exact wf_mk (by decide +kernel) (by decide +kernel)⟩

theorem valueOk_connValue (c : Cfg) (r : Req) (hs : Hdrs) : ValueOk (connValue c r hs) := by
  unfold connValue
  simp only
  refine valueOk_append (by decide +kernel) (by decide) ?_
  intro hm
  rcases List.mem_append.mp hm with h | h
  · split at h
    · exact absurd h (by decide)
    · simp at h
  · split at h
    · exact absurd h (by decide)
    · simp at h

theorem wf_connTail (c : Cfg) (r : Req) (hs : Hdrs) : ∀ p ∈ connTail c r hs, WfField p := by
  intro p hp
  rcases mem_connTail c r hs p hp with rfl | hp
  · exact wf_mk (by decide +kernel) (valueOk_connValue c r hs)
  · simp only [List.mem_cons, List.not_mem_nil, or_false] at hp
    rcases hp with rfl | rfl | rfl | rfl <;> exact wf_mk (by decide +kernel) (by decide +kernel)

theorem cr_not_reqLine (c : Cfg) (r : Req) (hw : HeadWf c r) : cr ∉ (reqLine c r).1 := by
  have h0 : cr ∉ (if r.h2ConnectExt then ofString "GET" else r.method) ++ [sp] ++ r.target ++
      ofString (if c.forceHttp10 then " HTTP/1.0" else " HTTP/1.1") := by
    intro hm
    simp only [List.mem_append] at hm
    rcases hm with ((h | h) | h) | h
    · split at h
      · exact absurd h (by decide)
      · exact hw.method h
    · exact absurd h (by decide)
    · exact hw.target h
    · split at h <;> exact absurd h (by decide)
  unfold reqLine
  simp only
  split
  · exact h0
  · exact h0
  · intro hm
    rcases List.mem_append.mp hm with h | h
    · exact h0 (List.dropLast_subset _ h)
    · exact absurd h (by decide)

theorem wf_reqLine_host (c : Cfg) (r : Req) (hw : HeadWf c r) : ∀ p ∈ (reqLine c r).2.toList, WfField p := by
  intro p hp
  unfold reqLine at hp
  simp only at hp
  cases hrh : c.replaceHost with
  | some x =>
    rw [hrh] at hp
    simp only [Option.toList_some, List.mem_singleton] at hp; rw [hp]
    exact wf_mk (by decide +kernel) (hw.replaceHost x hrh)
  | none =>
    cases hh : r.host with
    | some x =>
      rw [hrh, hh] at hp
      simp only [Option.toList_some, List.mem_singleton] at hp; rw [hp]
      exact wf_mk (by decide +kernel) (hw.host x hh)
    | none =>
      rw [hrh, hh] at hp
      simp at hp

end LtVerif.Proxy
