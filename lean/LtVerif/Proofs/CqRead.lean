/-
  C17 — liveness of the read side.  `Cq.abs` reads a file store that keeps the content of
  unlinked files; under `FInv` that is harmless: peek_data / read_data (which fail, like the
  C, on a chunk whose file cannot be opened) succeed and return exactly `abs`.
-/
import LtVerif.Proofs.CqSpill
namespace LtVerif.Cq

/-- the bytes of the chunk can be fetched -/
def Chunk.Openable (w : World) : Chunk → Prop
  | .mem .. => True
  | .file fid _ _ _ fd => fd.isOpen = true ∨ 0 < (w.files fid).nlink

/-- a chunk without descriptor is a temp chunk (it owns the name of its file) or names an application file -/
theorem FInv.openable {base : Nat → Int} {s : Sys} (h : FInv base s) : ∀ c ∈ s.chunks, c.Openable s.w := by
  intro c hc
  cases c with
  | mem d off cap => trivial
  | file fid off len t fd =>
    have hv := h.gi.valid _ hc
    rcases hv.2.2.2 with ho | ht | hs
    · exact Or.inl ho
    · subst ht
      refine Or.inr ?_
      have ha := (h.gi.acct fid).1
      have hle := cres_le_csum (k := .name) (f := fid) hc
      have hc1 : cres .name fid (.file fid off len true fd) = 1 := by rw [cres_file]; simp [hit]
      have := (h.src fid).1
      omega
    · refine Or.inr ?_
      have ha := (h.gi.acct fid).1
      have := (h.src fid).2 hs
      have := csum_nonneg .name fid s.chunks
      omega

theorem openFd_nlink (w : World) (fid f : Nat) : ((w.openFd fid).files f).nlink = (w.files f).nlink := by
  simpa [wres, hit] using wres_openFd .name w fid f

theorem openFd_content (w : World) (fid f : Nat) : ((w.openFd fid).files f).content = (w.files f).content :=
  (openFd_same w fid).content f

theorem openChunk_ok {w : World} {fid len : Nat} {t : Bool} (hn : 0 < (w.files fid).nlink)
    (hl : len ≤ sz w fid) : openChunk w fid len t = (w.openFd fid, .ro, true) := by
  unfold openChunk
  rw [if_neg (by omega)]
  cases t
  · simp only [Bool.false_eq_true, if_false, openFd_content]
    simp only [sz] at hl
    simp [hl]
  · simp

theorem peekChunk_ok {w : World} {n : Nat} {acc : Bytes} {c : Chunk} (hv : c.Valid w) (ho : c.Openable w)
    (hn : acc.length < n) :
    (peekChunk w n acc c).2.2.2 = true ∧ ∀ f, ((peekChunk w n acc c).1.files f).nlink = (w.files f).nlink := by
  cases c with
  | mem d off cap => exact ⟨rfl, fun _ => rfl⟩
  | file fid off len t fd =>
    obtain ⟨_, h2, h3, _⟩ := hv
    -- the descriptor is there or can be opened; contents and names stay either way
    have hopen : ∃ w2 fd2, (if fd.isOpen = true then (w, fd, true) else openChunk w fid len t) = (w2, fd2, true) ∧
        (∀ f, (w2.files f).content = (w.files f).content) ∧ ∀ f, (w2.files f).nlink = (w.files f).nlink := by
      by_cases hfd : fd.isOpen = true
      · exact ⟨w, fd, if_pos hfd, fun _ => rfl, fun _ => rfl⟩
      · exact ⟨w.openFd fid, .ro, by rw [if_neg hfd, openChunk_ok (ho.resolve_left hfd) h3],
          openFd_content w fid, openFd_nlink w fid⟩
    obtain ⟨w2, fd2, e, hc, hl⟩ := hopen
    simp only [peekChunk, e]
    split
    · exact ⟨rfl, hl⟩
    · rw [if_neg (by rw [List.length_take, List.length_drop, hc]; simp only [sz] at h3; omega)]
      exact ⟨rfl, hl⟩

theorem Chunk.Openable.of_nlink {w w' : World} {c : Chunk} (h : c.Openable w)
    (hn : ∀ f, (w'.files f).nlink = (w.files f).nlink) : c.Openable w' := by
  cases c with
  | mem d off cap => trivial
  | file fid off len t fd =>
    rcases h with h | h
    · exact Or.inl h
    · exact Or.inr (by rw [hn]; exact h)

theorem peekLoop_ok (w : World) (n : Nat) (acc : Bytes) (cs : List Chunk) (hv : ValidAll w cs)
    (ho : ∀ c ∈ cs, c.Openable w) (hn : acc.length < n) : (peekLoop w n acc cs).2.2.2 = true := by
  fun_induction peekLoop w n acc cs with
  | case1 w acc => rfl
  | case2 w acc c rest w1 c' acc1 heq =>
    have := (peekChunk_ok hv.head (ho c (List.mem_cons_self ..)) hn).1
    rw [heq] at this
    cases this
  | case3 w acc c rest w1 c' acc1 heq hn' => rfl
  | case4 w acc c rest w1 c' acc1 heq hn' w2 rest2 acc2 ok heq2 ih =>
    obtain ⟨hs, _, hc⟩ := peekChunk_spec heq
    obtain ⟨_, _, _, c4⟩ := hc hv.head
    have hk := (peekChunk_ok hv.head (ho c (List.mem_cons_self ..)) hn).2
    rw [heq] at hk
    have e := c4 rfl
    have hlen : acc1.length < n := by
      have : acc1.length ≤ n := by rw [e, List.length_append, List.length_take]; omega
      omega
    have := ih (hv.tail.mono hs.grows)
      (fun x hx => (ho x (List.mem_cons_of_mem _ hx)).of_nlink hk) hlen
    rw [heq2] at this
    exact this

theorem peekData_ok (w : World) (q : Cq) (n : Nat) (hq : QV w q) (ho : ∀ c ∈ q.chunks, c.Openable w)
    (hn : 0 < n) : (peekData w q n).2.2.2 = true ∧ (peekData w q n).2.2.1 = (q.abs w).take n := by
  have hok : (peekData w q n).2.2.2 = true := by
    have := peekLoop_ok w n [] q.chunks hq.valid ho hn
    unfold peekData
    split
    rename_i w1 cs acc ok heq
    rw [heq] at this
    exact this
  exact ⟨hok, (peekData_spec (w := w) (q := q) (n := n) rfl).2 hq hok⟩

theorem readData_ok (w : World) (q : Cq) (n : Nat) (hq : QV w q) (ho : ∀ c ∈ q.chunks, c.Openable w)
    (hn : 0 < n) (hle : n ≤ (q.abs w).length) : (readData w q n).2.2 = some ((q.abs w).take n) := by
  obtain ⟨a, b⟩ := peekData_ok w q n hq ho hn
  unfold readData
  split
  rename_i w1 q1 acc ok heq
  rw [heq] at a b
  simp only at a b
  subst a
  simp only [b, List.length_take, Bool.not_true, Bool.false_or, ne_eq, decide_not, Bool.not_eq_eq_eq_not,
    decide_eq_false_iff_not]
  rw [if_neg (by omega)]

end LtVerif.Cq
