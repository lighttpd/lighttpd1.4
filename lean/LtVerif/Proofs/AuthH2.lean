/-
  C16, the HTTP/2 header path alone (`h2Request`): the method and the extended-CONNECT flag handed to
  mod_auth were sent in the header list (`h2Request_from`, for c16_digest_method_bound).
-/
import LtVerif.Model.Auth
import LtVerif.Proofs.Bytes
namespace LtVerif.Auth
open LtVerif B

/-- what an accumulator knows about :method / :protocol was sent in the fields `fs` -/
def H2From (fs : List (Bytes × Bytes)) (a0 a : H2Acc) : Prop :=
  (∀ m, a.method = some m → a0.method = some m ∨ (ofString ":method", m) ∈ fs) ∧
  (a.ext = true → a0.ext = true ∨ (ofString ":protocol", ofString "websocket") ∈ fs)

theorem H2From.of_keep {fs : List (Bytes × Bytes)} {a a' : H2Acc} (hm : a'.method = a.method)
    (he : a'.ext = a.ext) : H2From fs a a' :=
  ⟨fun _ h => Or.inl (hm ▸ h), fun h => Or.inl (he ▸ h)⟩

theorem H2From.trans {fs gs : List (Bytes × Bytes)} {a b c : H2Acc} (h1 : H2From fs a b)
    (h2 : H2From gs b c) : H2From (fs ++ gs) a c := by
  constructor
  · intro m hm
    rcases h2.1 m hm with h | h
    · exact (h1.1 m h).imp_right (List.mem_append_left _)
    · exact Or.inr (List.mem_append_right _ h)
  · intro he
    rcases h2.2 he with h | h
    · exact (h1.2 h).imp_right (List.mem_append_left _)
    · exact Or.inr (List.mem_append_right _ h)

theorem h2Pseudo_from {a a' : H2Acc} {k v : Bytes} (h : h2Pseudo a k v = .ok a') :
    H2From [(k, v)] a a' := by
  unfold h2Pseudo at h
  obtain ⟨_, h⟩ := ite_ne_left (by nofun) h
  obtain ⟨_, h⟩ := ite_ne_left (by nofun) h
  rcases of_ite_eq h with ⟨_, h⟩ | ⟨_, h⟩  -- :authority
  · obtain ⟨_, h⟩ := ite_ne_left (by nofun) h
    obtain ⟨_, h⟩ := ite_ne_left (by nofun) h
    cases h; exact .of_keep rfl rfl
  rcases of_ite_eq h with ⟨hk, h⟩ | ⟨_, h⟩  -- :method
  · obtain ⟨_, h⟩ := ite_ne_left (by nofun) h
    obtain ⟨_, h⟩ := ite_ne_left (by nofun) h
    cases h
    exact ⟨fun m hm => Or.inr (by cases hm; rw [hk]; exact List.mem_singleton_self _), fun he => Or.inl he⟩
  rcases of_ite_eq h with ⟨_, h⟩ | ⟨_, h⟩  -- :path
  · obtain ⟨_, h⟩ := ite_ne_left (by nofun) h
    cases h; exact .of_keep rfl rfl
  rcases of_ite_eq h with ⟨_, h⟩ | ⟨_, h⟩  -- :scheme
  · obtain ⟨_, h⟩ := ite_ne_left (by nofun) h
    cases h; exact .of_keep rfl rfl
  rcases of_ite_eq h with ⟨hk, h⟩ | ⟨_, h⟩  -- :protocol
  · obtain ⟨hv, h⟩ := ite_ne_left (by nofun) h
    cases h
    exact ⟨fun m hm => Or.inl hm,
           fun _ => Or.inr (by rw [hk, Decidable.not_not.mp hv]; exact List.mem_singleton_self _)⟩
  · cases h

theorem validatePseudo_keep {a a' : H2Acc} (h : validatePseudo a = .ok a') :
    a'.method = a.method ∧ a'.ext = a.ext := by
  unfold validatePseudo at h
  repeat' split at h
  all_goals cases h
  all_goals exact ⟨rfl, rfl⟩

theorem h2Regular_keep {a a' : H2Acc} {k v : Bytes} (h : h2Regular a k v = .ok a') :
    a'.method = a.method ∧ a'.ext = a.ext := by
  unfold h2Regular at h
  rcases of_ite_eq h with ⟨_, h⟩ | ⟨_, h⟩
  · cases h; exact ⟨rfl, rfl⟩
  obtain ⟨_, h⟩ := ite_ne_left (by nofun) h
  rcases of_ite_eq h with ⟨_, h⟩ | ⟨_, h⟩
  · cases h; exact ⟨rfl, rfl⟩
  obtain ⟨_, h⟩ := ite_ne_left (by nofun) h
  rcases of_ite_eq h with ⟨_, h⟩ | ⟨_, h⟩ <;> cases h <;> exact ⟨rfl, rfl⟩

theorem h2Field_from {a a' : H2Acc} {k v : Bytes} (h : h2Field a k v = .ok a') :
    H2From [(k, v)] a a' := by
  unfold h2Field at h
  obtain ⟨_, h⟩ := ite_ne_left (by nofun) h  -- empty name
  obtain ⟨_, h⟩ := ite_ne_left (by nofun) h  -- 431
  rcases of_ite_eq h with ⟨_, h⟩ | ⟨_, h⟩  -- pseudo-header
  · exact h2Pseudo_from (a := { a with hlen := a.hlen + k.length + v.length + 4 }) h
  rcases of_ite_eq h with ⟨_, h⟩ | ⟨_, h⟩  -- first regular field: pseudo block validated
  · split at h
    · cases h
    · rename_i a1 hv
      obtain ⟨h1, h2⟩ := validatePseudo_keep hv
      obtain ⟨h3, h4⟩ := h2Regular_keep h
      exact .of_keep (h3.trans h1) (h4.trans h2)
  · obtain ⟨h3, h4⟩ := h2Regular_keep h
    exact .of_keep h3 h4

theorem h2Fields_from (fs : List (Bytes × Bytes)) {a a' : H2Acc} (h : h2Fields fs a = .ok a') :
    H2From fs a a' := by
  induction fs generalizing a with
  | nil => cases h; exact .of_keep rfl rfl
  | cons kv rest ih =>
    unfold h2Fields at h
    split at h
    · cases h
    · rename_i a1 hf
      exact (h2Field_from hf).trans (ih h)

theorem h2Request_from {o : Opts} {fields : List (Bytes × Bytes)} {req : Req} (h : h2Request o fields = .ok req) :
    (ofString ":method", req.method) ∈ fields ∧
    (req.protocol = true → (ofString ":protocol", ofString "websocket") ∈ fields) := by
  unfold h2Request at h
  split at h  -- field loop
  · cases h
  · rename_i a0 hf
    obtain ⟨hm, he⟩ := h2Fields_from fields hf
    split at h  -- closing `validatePseudo`
    · cases h
    · rename_i a hv
      have hk : a.method = a0.method ∧ a.ext = a0.ext := by
        split at hv  -- (or already closed)
        · exact validatePseudo_keep hv
        · simp only [Except.ok.injEq] at hv; subst hv; exact ⟨rfl, rfl⟩
      split at h  -- :method missing
      · cases h
      · rename_i m hmeth
        simp only at h
        split at h  -- `parseTarget`
        · cases h
        · split at h  -- host missing
          · cases h
          · simp only [Except.ok.injEq] at h
            subst h
            simp only
            constructor
            · rw [hk.1] at hmeth
              rcases hm m hmeth with h | h
              · cases h
              · exact h
            · intro hp
              rw [hk.2] at hp
              rcases he hp with h | h
              · cases h
              · exact h

end LtVerif.Auth
