/-
  Helper lemmas for C09 about Model/Cgi.lean: header-name mapping, meta-variable list, path-info
  split, decimal numbers, envp block, HTTP/2 DATA frames.
-/
import LtVerif.Model.Cgi
import LtVerif.Proofs.Bytes
namespace LtVerif
open LtVerif B

/-! ### header name -> variable name -/

theorem enc_letter_iff : ∀ c : UInt8,
    (encodeVarnameByte c = 80 ↔ toLower c = 112) ∧ (encodeVarnameByte c = 82 ↔ toLower c = 114) ∧
    (encodeVarnameByte c = 79 ↔ toLower c = 111) ∧ (encodeVarnameByte c = 88 ↔ toLower c = 120) ∧
    (encodeVarnameByte c = 89 ↔ toLower c = 121) := by
  apply forall_uint8; decide +kernel

theorem enc_charset : ∀ c : UInt8,
    isUpper (encodeVarnameByte c) = true ∨ isDigit (encodeVarnameByte c) = true ∨
      encodeVarnameByte c = uscore := by
  apply forall_uint8; decide +kernel

theorem map_enc_proxy (n : Bytes) :
    n.map encodeVarnameByte = [80, 82, 79, 88, 89] ↔ n.map toLower = [112, 114, 111, 120, 121] := by
  match n with
  | [] => simp
  | [_] => simp
  | [_, _] => simp
  | [_, _, _] => simp
  | [_, _, _, _] => simp
  | [a, b, c, d, e] =>
    obtain ⟨hP, _⟩ := enc_letter_iff a
    obtain ⟨_, hR, _⟩ := enc_letter_iff b
    obtain ⟨_, _, hO, _⟩ := enc_letter_iff c
    obtain ⟨_, _, _, hX, _⟩ := enc_letter_iff d
    obtain ⟨_, _, _, _, hY⟩ := enc_letter_iff e
    simp only [List.map_cons, List.map_nil, List.cons.injEq, and_true]
    rw [hP, hR, hO, hX, hY]
  | _ :: _ :: _ :: _ :: _ :: _ :: _ => simp

theorem encodeVarname_hdr (n : Bytes) : encodeVarname true n = httpPrefix ++ n.map encodeVarnameByte := by
  simp [encodeVarname]

theorem encodeVarname_proxy_iff (n : Bytes) :
    encodeVarname true n = ofString "HTTP_PROXY" ↔ eqIcase n (ofString "Proxy") = true := by
  have h1 : ofString "HTTP_PROXY" = httpPrefix ++ [80, 82, 79, 88, 89] := by decide
  have h2 : (ofString "Proxy").map toLower = [112, 114, 111, 120, 121] := by decide
  rw [encodeVarname_hdr, h1, List.append_cancel_left_eq, map_enc_proxy]
  simp only [eqIcase, h2, beq_iff_eq]

/-! ### the meta-variable list; the header loop's output -/

theorem contentType_not_meta : ofString "CONTENT_TYPE" ∉ metaNames := by decide +kernel

theorem metaNames_no_http_prefix : ∀ m ∈ metaNames, httpPrefix.isPrefixOf m = false := by decide +kernel

theorem encodeVarname_not_meta (n : Bytes) : encodeVarname true n ∉ metaNames := by
  intro h
  have := metaNames_no_http_prefix _ h
  rw [encodeVarname_hdr] at this
  have hp : httpPrefix.isPrefixOf (httpPrefix ++ n.map encodeVarnameByte) = true := by
    rw [List.isPrefixOf_iff_prefix]; exact List.prefix_append _ _
  rw [hp] at this
  exact absurd this (by simp)

theorem some_eq_optE (c : Bool) (x y : String × Bytes) : some y = optE c x ↔ c = true ∧ x = y := by
  unfold optE; cases c <;> simp [eq_comm]

theorem cgiMetaS_names (o : CgiOpts) (r : CgiReq) :
    ∀ p ∈ cgiMetaS o r, p.1 ∈ metaNamesS ∨ (r.h2ConnectExt = true ∧ p.1 ∈ h2ExtNamesS) := by
  intro p hp
  simp only [cgiMetaS, List.mem_filterMap, id_eq, exists_eq_right, List.mem_cons, List.not_mem_nil,
    or_false, some_eq_optE, Option.some.injEq, Bool.and_eq_true] at hp
  -- the 24 entries in emission order; `hx`: the three that need an extended CONNECT
  rcases hp with ⟨_, rfl⟩ | rfl | rfl | ⟨_, rfl⟩ | ⟨_, rfl⟩ | ⟨_, rfl⟩ | ⟨_, rfl⟩ | ⟨_, rfl⟩ | rfl | rfl | rfl |
    rfl | ⟨⟨hx, _⟩, rfl⟩ | ⟨hx, rfl⟩ | ⟨hx, rfl⟩ | rfl | rfl | rfl | ⟨_, rfl⟩ | rfl | rfl | rfl | rfl | rfl
  all_goals simp [metaNamesS, h2ExtNamesS, *]

theorem cgiMetaS_names_mem (o : CgiOpts) (r : CgiReq) (p : String × Bytes) (hp : p ∈ cgiMetaS o r) :
    p.1 ∈ metaNamesS ++ h2ExtNamesS := by
  rcases cgiMetaS_names o r p hp with h | ⟨_, h⟩
  · exact List.mem_append_left _ h
  · exact List.mem_append_right _ h

theorem headerVars_sound (hs : List (Bytes × Bytes)) :
    ∀ p ∈ headerVars hs,
      p.1 ≠ ofString "HTTP_PROXY" ∧ p.1 ∉ metaNames ∧
      ∃ k, (k, p.2) ∈ hs ∧ p.2 ≠ [] ∧ eqIcase k (ofString "Proxy") = false ∧
        ((eqIcase k (ofString "Content-Type") = true ∧ p.1 = ofString "CONTENT_TYPE") ∨
         (eqIcase k (ofString "Content-Type") = false ∧ p.1 = encodeVarname true k)) := by
  intro p hp
  simp only [headerVars, List.mem_filterMap] at hp
  obtain ⟨⟨k, v⟩, hmem, hv⟩ := hp
  simp only [headerVar] at hv
  by_cases h1 : v.isEmpty = true
  · simp [h1] at hv
  · by_cases h2 : eqIcase k (ofString "Proxy") = true
    · simp [h1, h2] at hv
    · have hvne : v ≠ [] := fun e => h1 (List.isEmpty_iff.mpr e)
      have h2' : eqIcase k (ofString "Proxy") = false := by simpa using h2
      by_cases h3 : eqIcase k (ofString "Content-Type") = true
      · simp only [h1, Bool.false_eq_true, ↓reduceIte, h2, h3, Option.some.injEq] at hv
        subst hv
        exact ⟨by show ofString "CONTENT_TYPE" ≠ ofString "HTTP_PROXY"; decide,
               contentType_not_meta, k, hmem, hvne, h2', Or.inl ⟨h3, rfl⟩⟩
      · simp only [h1, Bool.false_eq_true, ↓reduceIte, h2, h3, Option.some.injEq] at hv
        subst hv
        refine ⟨?_, encodeVarname_not_meta k, k, hmem, hvne, h2', Or.inr ⟨by simpa using h3, rfl⟩⟩
        intro e
        exact h2 ((encodeVarname_proxy_iff k).mp e)

theorem cgiMetaS_values (o : CgiOpts) (r : CgiReq) (v : Bytes) :
    (("QUERY_STRING", v) ∈ cgiMetaS o r ↔ v = r.query) ∧
    (("REQUEST_URI", v) ∈ cgiMetaS o r ↔ v = requestUri o.stripRequestUri r.targetOrig) ∧
    (("CONTENT_LENGTH", v) ∈ cgiMetaS o r ↔ o.authorizer = false ∧ v = intDec r.bodyLen) ∧
    (("SCRIPT_NAME", v) ∈ cgiMetaS o r ↔ o.authorizer = false ∧ v = r.path) ∧
    (("PATH_INFO", v) ∈ cgiMetaS o r ↔ o.authorizer = false ∧ r.pathinfo ≠ [] ∧ v = r.pathinfo) ∧
    (("REQUEST_METHOD", v) ∈ cgiMetaS o r ↔
        v = if r.h2ConnectExt then ofString "GET" else r.method) ∧
    (("SERVER_PROTOCOL", v) ∈ cgiMetaS o r ↔
        v = if r.h2ConnectExt then ofString "HTTP/1.1" else versionName r.version) ∧
    (("REMOTE_ADDR", v) ∈ cgiMetaS o r ↔ v = r.remoteAddr) := by
  -- membership in the 24-entry list; `String.reduceEq` removes every entry but the one named
  simp only [cgiMetaS, List.mem_filterMap, id_eq, exists_eq_right, List.mem_cons, List.not_mem_nil,
    some_eq_optE, Option.some.injEq, Prod.mk.injEq, String.reduceEq, false_and, and_false, false_or,
    or_false, true_and, eq_comm (a := v), Bool.and_eq_true, Bool.not_eq_true', List.isEmpty_eq_false_iff,
    ne_eq, and_assoc, and_self]

theorem names_inj : ∀ a ∈ metaNamesS ++ h2ExtNamesS, ∀ b ∈ metaNamesS ++ h2ExtNamesS,
    ofString a = ofString b → a = b := by
  have ascii : ∀ n ∈ metaNamesS ++ h2ExtNamesS, ∀ c ∈ n.toList, c.toNat < 256 := by decide +kernel
  exact fun a ha b hb => ofString_inj (ascii a ha) (ascii b hb)

theorem cgiEnv_meta_iff (o : CgiOpts) (r : CgiReq) (v : Bytes)
    (henv : ∀ e ∈ r.env, encodeVarname false e.1 ∉ metaNames) (n : String) (hn : n ∈ metaNamesS) :
    (ofString n, v) ∈ cgiEnv o r ↔ (n, v) ∈ cgiMetaS o r := by
  simp only [cgiEnv, List.mem_append, cgiMeta, List.mem_map, envVars]
  constructor
  · rintro ((⟨s, hs, he⟩ | hh) | ⟨e, he, hee⟩)
    · simp only [Prod.mk.injEq] at he
      have := names_inj s.1 (cgiMetaS_names_mem o r s hs) n (List.mem_append_left _ hn) he.1
      rw [← this, ← he.2]; exact hs
    · have := (headerVars_sound r.headers _ hh).2.1
      exact absurd (List.mem_map.mpr ⟨n, hn, rfl⟩) this
    · simp only [Prod.mk.injEq] at hee
      exact absurd (List.mem_map.mpr ⟨n, hn, hee.1.symm⟩) (henv e he)
  · intro h
    exact Or.inl (Or.inl ⟨(n, v), h, rfl⟩)

/-! ### first occurrence of a byte: `indexOf` (path-info split) -/

theorem indexOf_spec (x : UInt8) : ∀ (l : Bytes) (k i : Nat), indexOf x l k = some i →
    k ≤ i ∧ i - k < l.length ∧ l.getD (i - k) 0 = x := by
  intro l
  induction l with
  | nil => intro k i h; simp [indexOf] at h
  | cons b t ih =>
    intro k i h
    unfold indexOf at h
    by_cases hb : b = x
    · simp only [hb, ↓reduceIte, Option.some.injEq] at h
      subst h; simp [hb]
    · simp only [hb, ↓reduceIte] at h
      obtain ⟨h1, h2, h3⟩ := ih (k + 1) i h
      refine ⟨by omega, by simp only [List.length_cons]; omega, ?_⟩
      have : i - k = (i - (k + 1)) + 1 := by omega
      rw [this, List.getD_cons_succ]; exact h3

theorem gwPathinfoSplit_concat (key : Bytes) (fix : Bool) (path : Bytes) :
    (gwPathinfoSplit key fix path).1 ++ (gwPathinfoSplit key fix path).2 = path := by
  unfold gwPathinfoSplit
  split
  · simp
  · split
    · split
      · simp only [List.take_append_drop]
      · simp
    · simp

theorem gwPathinfoSplit_pathinfo (key : Bytes) (fix : Bool) (path : Bytes)
    (hp : path.head? = some slash) :
    (gwPathinfoSplit key fix path).2 = [] ∨ (gwPathinfoSplit key fix path).2.head? = some slash := by
  unfold gwPathinfoSplit
  split
  · right; exact hp
  · split
    · split
      · rename_i i hi
        right
        obtain ⟨_, h2, h3⟩ := indexOf_spec slash _ 0 i hi
        simp only [Nat.sub_zero, List.length_drop] at h2 h3
        rw [List.getD_eq_getElem?_getD, List.getElem?_drop] at h3
        rw [List.head?_drop]
        have hlt : key.length + i < path.length := by omega
        rw [List.getElem?_eq_getElem hlt] at h3 ⊢
        simp only [Option.getD_some] at h3
        rw [h3]
      · left; rfl
    · left; rfl

/-! ### decimal numbers -/

theorem decDigitsAux_eq : ∀ (fuel n : Nat) (acc : Bytes), n < fuel → decDigitsAux fuel n acc = natToDec n ++ acc
  | 0, _, _, h => by omega
  | f + 1, n, acc, h => by
    rw [natToDec_rec, decDigitsAux]
    by_cases hz : n / 10 = 0
    · have : n < 10 := by omega
      simp [hz, this, Nat.mod_eq_of_lt this]
    · have : ¬ n < 10 := by omega
      simp [hz, this, decDigitsAux_eq f (n / 10) _ (by omega)]

theorem natDec_eq (n : Nat) : natDec n = natToDec n := by
  simpa [natDec] using decDigitsAux_eq (n + 1) n [] (by omega)

theorem natDec_length_le (n k : Nat) (h : n < 10 ^ (k + 1)) : (natDec n).length ≤ k + 1 := by
  rw [natDec_eq]
  exact (natToDec_length_le_iff n (Nat.succ_pos k)).2 h

theorem intDec_ne_nil (i : Int) : intDec i ≠ [] := by
  unfold intDec
  split
  · simp
  · exact natDec_eq _ ▸ natToDec_ne_nil _

theorem intDec_ofNat (n : Nat) : intDec (n : Int) = natDec n := by
  unfold intDec
  have : ¬ ((n : Int) < 0) := by omega
  simp [this]

/-! ### splitting at a byte; the envp block of mod_cgi -/

theorem splitAtByte_append (x : UInt8) (a rest : Bytes) (h : x ∉ a) :
    splitAtByte x (a ++ x :: rest) = (a, some rest) := by
  induction a with
  | nil => simp [splitAtByte]
  | cons b t ih =>
    have hb : b ≠ x := fun e => h (by simp [e])
    have ht : x ∉ t := fun e => h (by simp [e])
    simp only [List.cons_append, splitAtByte, hb, ↓reduceIte, ih ht]

theorem envpDecodeAux_entry (fuel : Nat) (k v rest : Bytes)
    (hk : (61 : UInt8) ∉ k) (hk0 : NulFree k) (hv : NulFree v) :
    envpDecodeAux (fuel + 1) (envpEntry k v ++ rest) = (envpDecodeAux fuel rest).map ((k, v) :: ·) := by
  have hcat : envpEntry k v ++ rest = (k ++ 61 :: v) ++ 0 :: rest := by
    simp [envpEntry, List.append_assoc]
  have hnul : (0 : UInt8) ∉ (k ++ 61 :: v) := by
    intro hm
    rcases List.mem_append.mp hm with hm | hm
    · exact hk0 hm
    · exact List.not_mem_cons_of_ne_of_not_mem (by decide) hv hm
  have hne : ((k ++ 61 :: v) ++ 0 :: rest).isEmpty = false := by cases k <;> simp
  rw [hcat, envpDecodeAux]
  simp only [hne, Bool.false_eq_true, ↓reduceIte, splitAtByte_append 0 _ _ hnul,
    splitAtByte_append 61 k v hk]
  cases envpDecodeAux fuel rest <;> rfl

/-! ### HTTP/2 DATA frames -/

theorem data_mk' (d : Bytes) (pad : Option Nat) (e : Bool) (hp : ∀ n, pad = some n → n < 256) :
    (DataFrame.mk' d pad e).data = some d := by
  cases pad with
  | none => simp [DataFrame.mk', DataFrame.data]
  | some n =>
    have hn : n < 256 := hp n rfl
    have e1 : n.toUInt8.toNat = n := UInt8.toNat_ofNat_of_lt' hn
    simp only [DataFrame.mk', DataFrame.data, ↓reduceIte]
    show (if n.toUInt8.toNat ≥ (n.toUInt8 :: (d ++ List.replicate n 0)).length then none
          else some (List.take ((d ++ List.replicate n 0).length - n.toUInt8.toNat) (d ++ List.replicate n 0))) = some d
    rw [e1]
    simp only [List.length_cons, List.length_append, List.length_replicate]
    have h1 : ¬ (n ≥ d.length + n + 1) := by omega
    rw [if_neg h1]
    have : d.length + n - n = d.length := by omega
    rw [this, List.take_left]

theorem framesData_cons (f : DataFrame) (tl : List DataFrame) (d : Bytes) (h : f.data = some d) :
    framesData (f :: tl) = d ++ framesData tl := by
  simp [framesData, h]

theorem mk'_endStream (d : Bytes) (p : Option Nat) (e : Bool) : (DataFrame.mk' d p e).endStream = e := by
  cases p <;> rfl

theorem framesData_mk' (ds : List (Bytes × Option Nat)) (hp : ∀ x ∈ ds, ∀ n, x.2 = some n → n < 256) :
    framesData (ds.map fun x => DataFrame.mk' x.1 x.2 false) = (ds.map (·.1)).flatten := by
  induction ds with
  | nil => rfl
  | cons x tl ih =>
    simp only [List.map_cons, List.flatten_cons]
    rw [framesData_cons _ _ x.1 (data_mk' x.1 x.2 false (hp x (by simp))),
      ih (fun y hy => hp y (by simp [hy]))]

theorem h2_fold_open (c : H2Cfg) (fs : List DataFrame)
    (hne : ∀ f ∈ fs, f.endStream = false ∧ f.data.isSome = true) :
    ∀ (st : H2Body), st.state = .open → st.goaway = false →
      (st.bodyLen = -1 ∨ ((st.out.length + (framesData fs).length : Nat) : Int) ≤ st.bodyLen) →
      (c.maxSize = 0 ∨ st.out.length + (framesData fs).length ≤ c.maxSize * 1024) →
      fs.foldl (h2RecvData c) st = { st with out := st.out ++ framesData fs } := by
  induction fs with
  | nil => intro st _ _ _ _; simp [framesData]
  | cons f tl ih =>
    intro st hopen hga hb hm
    obtain ⟨hf, hd⟩ := hne f (by simp)
    obtain ⟨d, hdd⟩ := Option.isSome_iff_exists.mp hd
    rw [framesData_cons f tl d hdd, List.length_append] at hb hm
    have h2 : ¬ (st.bodyLen ≥ 0 ∧ st.bodyLen < ((st.out.length + d.length : Nat) : Int)) := by omega
    have hn : c.maxSize ≠ 0 →
        ((c.maxSize * 1024 : Nat) : Int) - ((st.out.length + d.length : Nat) : Int) ≥ 0 := by omega
    have hstep : h2RecvData c st f = { st with out := st.out ++ d } := by
      unfold h2RecvData
      simp only [hga, Bool.false_eq_true, ↓reduceIte, hdd, hopen, ne_eq, not_true_eq_false, hf, h2]
      by_cases hz : c.maxSize = 0
      · simp only [hz, ↓reduceIte]
      · simp only [hz, ↓reduceIte, hn hz]
    rw [List.foldl_cons, hstep,
      ih (fun x hx => hne x (by simp [hx])) { st with out := st.out ++ d } hopen hga
        (by simp only [List.length_append]; omega) (by simp only [List.length_append]; omega),
      framesData_cons f tl d hdd, List.append_assoc]

theorem h2Body_frames (c : H2Cfg) (cl : Int) (fs : List DataFrame) (last : DataFrame) (d : Bytes)
    (hne : ∀ f ∈ fs, f.endStream = false ∧ f.data.isSome = true)
    (hd : last.data = some d) (hend : last.endStream = true)
    (hcl : cl = -1 ∨ cl = (((framesData fs ++ d).length : Nat) : Int))
    (hmax : c.maxSize = 0 ∨ (framesData fs ++ d).length ≤ c.maxSize * 1024) :
    h2Body c cl (fs ++ [last]) =
      { out := framesData fs ++ d, bodyLen := (((framesData fs ++ d).length : Nat) : Int),
        state := .halfClosedRemote } := by
  have hlen : (framesData fs ++ d).length = (framesData fs).length + d.length := List.length_append
  rw [hlen] at hcl hmax
  unfold h2Body
  rw [List.foldl_append,
    h2_fold_open c _ hne { bodyLen := cl } rfl rfl
      (by rcases hcl with h | h
          · exact Or.inl h
          · right
            show ((([] : Bytes).length + _ : Nat) : Int) ≤ cl
            simp only [List.length_nil]; omega)
      (by rcases hmax with h | h
          · exact Or.inl h
          · right
            show ([] : Bytes).length + _ ≤ _
            simp only [List.length_nil]; omega)]
  simp only [List.foldl_cons, List.foldl_nil, List.nil_append]
  unfold h2RecvData
  simp only [hd, hend, Bool.false_eq_true, ↓reduceIte, ne_eq, not_true_eq_false]
  rcases hcl with h | h
  · subst h
    simp
  · have h2 : ¬ (cl ≥ 0 ∧ cl < (((framesData fs).length + d.length : Nat) : Int)) := by omega
    have h3 : ¬ (cl = -1) := by omega
    have h4 : ¬ (cl ≠ (((framesData fs).length + d.length : Nat) : Int) ∧
        (if c.consumer = true then (framesData fs).length else 0) = 0) := by
      rw [h]; simp
    simp only [h2, h3, h4, ↓reduceIte]
    rw [h, hlen]

theorem h2_bounded_step (c : H2Cfg) (cl : Int) (hcl : cl ≥ 0) (st : H2Body) (f : DataFrame)
    (h : st.bodyLen = cl ∧ (st.out.length : Int) ≤ cl) :
    (h2RecvData c st f).bodyLen = cl ∧ ((h2RecvData c st f).out.length : Int) ≤ cl := by
  obtain ⟨h1, h2⟩ := h
  let P : H2Body → Prop := fun s => s.bodyLen = cl ∧ (s.out.length : Int) ≤ cl
  have hst : P st := ⟨h1, h2⟩
  unfold h2RecvData
  refine ite_ind (P := P) (fun _ => hst) fun _ => ?_                         -- GOAWAY already sent
  cases f.data with
  | none => exact hst                                                        -- bad padding
  | some d =>
    refine ite_ind (P := P) (fun _ => hst) fun _ =>                          -- stream not open
      ite_ind (P := P) (fun _ => hst) fun hov => ?_                          -- over Content-Length
    have hlen : (((st.out ++ d).length : Nat) : Int) ≤ cl := by rw [List.length_append]; omega
    exact ite_ind (P := P)
      (fun _ =>                                                              -- END_STREAM
        ite_ind (P := P) (fun hm1 => absurd hm1 (by omega)) fun _ =>         --   no Content-Length
          ite_ind (P := P) (fun _ => hst) fun _ => ⟨h1, hlen⟩)               --   short, nothing consumed
      fun _ => ite_ind (P := P) (fun _ => ⟨h1, hlen⟩) fun _ =>               -- no max-request-size
        ite_ind (P := P) (fun _ => ⟨h1, hlen⟩) fun _ =>                      -- within max-request-size
          ite_ind (P := P)
            (fun _ => ite_ind (P := P) (fun _ => hst) fun _ => hst)          -- 413 / RST_STREAM
            fun _ => ⟨h1, hlen⟩                                              -- sink up to 64 KiB

theorem h2ReqbodyRead_ready_iff (streaming : Bool) (st : H2Body) :
    h2ReqbodyRead streaming st = .ready ↔ (st.out.length : Int) = st.bodyLen := by
  unfold h2ReqbodyRead
  refine ⟨fun h => ?_, fun h => if_pos h⟩
  by_cases hx : (st.out.length : Int) = st.bodyLen
  · exact hx
  · rw [if_neg hx] at h
    split at h
    · cases h
    · split at h <;> cases h

end LtVerif
