/-
  HPACK (C07), h2.c glue around the decoder: h2_recv_headers() in one walk over its branches
  (`recvHeaders_ran`), hence table equality along any sequence of HEADERS (`runPeer_sync`); a field
  the request parser refuses does not stop the decoder (`parseFrameAux_state`).
-/
import LtVerif.Proofs.H2Headers
import LtVerif.Proofs.HpackWeak
import LtVerif.Proofs.HpackHints
namespace LtVerif.H2Headers
open LtVerif B Hpack

theorem _root_.LtVerif.Hpack.HintOk.static {hint : Nat} {name : Bytes} (h : HintOk hint name) (h0 : hint ≠ 0) :
    hint ≤ 61 ∧ staticName hint = name := by
  rcases h with h | ⟨hle, hn⟩
  · exact absurd h h0
  · obtain ⟨e, he, hen⟩ := Option.map_eq_some_iff.mp hn
    refine ⟨hle, ?_⟩
    unfold staticName
    rw [List.getD_eq_getElem?_getD, he]
    exact hen

theorem setGoaway_dec (c : GConn) (code : Int) : (setGoaway c code).dec = c.dec := by
  unfold setGoaway; split <;> rfl

theorem setGoaway_pos (c : GConn) (code : Int) (h : 0 < code ∨ 0 < c.goaway) :
    0 < (setGoaway c code).goaway := by
  unfold setGoaway
  split
  · rename_i hc; omega
  · simp only; omega

/-- all that the bookkeeping of h2_recv_headers() in front of the decoding does to a connection -/
def Same (c c' : GConn) : Prop := c'.dec = c.dec ∧ (0 < c.goaway → 0 < c'.goaway)

theorem Same.of_eq {c c' : GConn} (hd : c'.dec = c.dec) (hg : c'.goaway = c.goaway) : Same c c' :=
  ⟨hd, fun h => hg ▸ h⟩

theorem Same.setGoaway {c c' : GConn} (h : Same c c') (code : Int) : Same c (setGoaway c' code) :=
  ⟨(setGoaway_dec c' code).trans h.1, fun g => setGoaway_pos c' code (.inr (h.2 g))⟩

/-- `c'` is `c` after h2_recv_headers() dealt with `block`, as far as HPACK can tell -/
inductive Ran (cap : Nat) (block : Bytes) (c c' : GConn) : Prop
  | dead (dec : c'.dec = c.dec) (goaway : 0 < c'.goaway)
  | decoded (dec : c'.dec = (decodeBlock cap c.dec block).dec)
      (ok : 0 < c'.goaway ∨ (decodeBlock cap c.dec block).err = none) (keeps : 0 < c.goaway → 0 < c'.goaway)

section
variable {cap : Nat} {block : Bytes} {c c' : GConn}

theorem Ran.keeps (h : Ran cap block c c') (hg : 0 < c.goaway) : 0 < c'.goaway := by
  cases h with
  | dead _ g => exact g
  | decoded _ _ k => exact k hg

theorem Ran.goaway (code : Int) (h : 0 < code) : Ran cap block c (setGoaway c code) :=
  .dead (setGoaway_dec c code) (setGoaway_pos c code (.inl h))

theorem decodeInto_eq (cap : Nat) (c : GConn) (block : Bytes) :
    decodeInto cap c block =
      match (decodeBlock cap c.dec block).err with
      | none => { c with dec := (decodeBlock cap c.dec block).dec }
      | some e => setGoaway { c with dec := (decodeBlock cap c.dec block).dec } (errGoaway e) := rfl

theorem Ran.decodeInto (h : Same c c') : Ran cap block c (decodeInto cap c' block) := by
  rw [decodeInto_eq, h.1]
  cases herr : (decodeBlock cap c.dec block).err with
  | none => exact .decoded rfl (.inr herr) h.2
  | some e =>
    have hpos := setGoaway_pos { c' with dec := (decodeBlock cap c.dec block).dec } (errGoaway e)
      (.inl (by cases e <;> decide))
    exact .decoded (setGoaway_dec _ _) (.inl hpos) fun _ => hpos

theorem Ran.discardPath (h : Same c c') : Ran cap block c (discardPath cap c' block) := by
  unfold H2Headers.discardPath
  split
  · rename_i hg; exact .dead h.1 hg
  · have h' : Same c { c' with ndisc := c'.ndisc + 1 } := h
    exact Ran.decodeInto (ite_ind (fun _ => h'.setGoaway 11) fun _ => h')

theorem Ran.of_eq {c'' : GConn} (h : Ran cap block c c') (hd : c''.dec = c'.dec)
    (hg : c''.goaway = c'.goaway) : Ran cap block c c'' := by
  cases h with
  | dead d g => exact .dead (hd.trans d) (hg ▸ g)
  | decoded d o k => exact .decoded (hd.trans d) (hg ▸ o) (hg ▸ k)

theorem Ran.hints (h : Ran cap block c c') (hh : HintsOk c.dec) : HintsOk c'.dec := by
  cases h with
  | dead d _ => rw [d]; exact hh
  | decoded d _ _ => rw [d]; exact (decodeBlock_hint cap c.dec block hh).1

end

theorem recvHeaders_ran (cap : Nat) (c : GConn) (id : Nat) (es : Bool) (dep : Option Nat)
    (block : Bytes) (keep pb : Bool) :
    ((recvHeaders cap c id es dep block keep pb).2 = .deferred ∧
      (recvHeaders cap c id es dep block keep pb).1 = c) ∨
    Ran cap block c (recvHeaders cap c id es dep block keep pb).1 := by
  fun_cases recvHeaders cap c id es dep block keep pb
  -- `Same.of_eq rfl rfl`: the bookkeeping in front of the decoding touches neither `dec` nor `goaway`
  -- even id; self-dependency; trailers for a stream not tracked; table full, SETTINGS not acked, id > 200
  case case1 | case2 | case3 | case10 => exact .inr (Ran.goaway _ (by decide))
  -- trailers: stream closed; no END_STREAM; body incomplete.  New stream after GOAWAY
  case case4 | case5 | case6 | case8 => exact .inr (Ran.discardPath (Same.of_eq rfl rfl))
  -- trailers taken; new stream whose block does not decode
  case case7 | case13 => exact .inr (Ran.decodeInto (Same.of_eq rfl rfl))
  -- h2_send_refused_stream() postponed
  case case9 | case11 => exact .inl ⟨rfl, rfl⟩
  -- h2_send_refused_stream(): a graceful GOAWAY may come first
  case case12 =>
    exact .inr (Ran.discardPath
      (ite_ind (fun _ => (Same.of_eq rfl rfl).setGoaway (-1)) fun _ => Same.of_eq rfl rfl))
  -- new stream served: `streams` is all that changes after the decoding
  case case14 =>
    exact .inr (ite_ind
      (fun _ => Ran.of_eq (Ran.decodeInto (c' := { c with cid := id }) (Same.of_eq rfl rfl)) rfl rfl)
      fun _ => Ran.decodeInto (Same.of_eq rfl rfl))

/-- one HEADERS(+CONTINUATION) sequence of the peer: the frame fields h2.c looks
    at and the header list `hs`, HPACK-encoded with the peer's choices `cs`; `keep` = the new
    stream stays in h2c->r[] afterwards (the request is not finished at once) -/
structure HEvent where
  id : Nat
  endStream : Bool
  dep : Option Nat
  keep : Bool
  pendingBody : Bool
  cs : List Choice
  hs : List Header

/-- a frame lighttpd leaves in the read queue (`.deferred`) blocks everything behind it: the result is
    the state and the peer's encoder table after the last frame consumed -/
def runPeer (cap : Nat) : GConn → Table → List HEvent → GConn × Table
  | c, t, [] => (c, t)
  | c, t, e :: es =>
    let enc := encodeBlock t e.cs e.hs
    let r := recvHeaders cap c e.id e.endStream e.dep enc.1 e.keep e.pendingBody
    if r.2 = .deferred then (c, t) else runPeer cap r.1 enc.2 es

theorem runPeer_keeps (cap : Nat) : ∀ (evs : List HEvent) (c : GConn) (t : Table), 0 < c.goaway →
    0 < (runPeer cap c t evs).1.goaway := by
  intro evs
  induction evs with
  | nil => intro c t h; exact h
  | cons e es ih =>
    intro c t h
    simp only [runPeer]
    split
    · exact h
    · rcases recvHeaders_ran cap c e.id e.endStream e.dep (encodeBlock t e.cs e.hs).1 e.keep
        e.pendingBody with ⟨_, he⟩ | hr
      · exact ih _ _ (by rw [he]; exact h)
      · exact ih _ _ (hr.keeps h)

theorem runPeer_sync (cap : Nat) : ∀ (evs : List HEvent) (c : GConn) (t : Table),
    c.dec.tbl = t → t.WF → (runPeer cap c t evs).1.goaway ≤ 0 →
    (runPeer cap c t evs).1.dec.tbl = (runPeer cap c t evs).2 := by
  intro evs
  induction evs with
  | nil => intro c t h _ _; exact h
  | cons e es ih =>
    intro c t ht hwf hg
    subst ht
    simp only [runPeer] at hg ⊢
    split
    · rfl
    · rename_i hdef
      rw [if_neg hdef] at hg
      have hdead : ∀ {c' : GConn}, 0 < c'.goaway →
          ¬ (runPeer cap c' (encodeBlock c.dec.tbl e.cs e.hs).2 es).1.goaway ≤ 0 := fun h => by
        have := runPeer_keeps cap es _ (encodeBlock c.dec.tbl e.cs e.hs).2 h
        omega
      rcases recvHeaders_ran cap c e.id e.endStream e.dep (encodeBlock c.dec.tbl e.cs e.hs).1 e.keep
        e.pendingBody with ⟨hd, _⟩ | hr
      · exact absurd hd hdef
      · cases hr with
        | dead _ hg' => exact absurd hg (hdead hg')
        | decoded hdec ok _ =>
          rcases ok with hg' | herr
          · exact absurd hg (hdead hg')
          · have htbl := (decodeBlock_encodeBlock_weak cap c.dec e.cs e.hs hwf herr).2
            rw [← hdec] at htbl
            exact ih _ _ htbl (by rw [← htbl, hdec]; exact decodeBlock_WF cap c.dec _ hwf) hg

theorem parseFrameAux_state (cap : Nat) (accept : Field → Bool) :
    ∀ (fuel : Nat) (d : Dec) (bs : Bytes) (acc : List Field),
    (parseFrameAux cap accept fuel d bs acc).dec = (decodeBlockAux cap fuel d bs []).dec ∧
    (parseFrameAux cap accept fuel d bs acc).err = (decodeBlockAux cap fuel d bs []).err := by
  intro fuel
  induction fuel with
  | zero => intro d bs acc; exact ⟨rfl, rfl⟩
  | succ k ih =>
    intro d bs acc
    rw [decodeBlockAux_succ]
    unfold parseFrameAux
    by_cases hb : bs = []
    · simp only [hb, if_true]; exact ⟨trivial, trivial⟩
    · simp only [hb, if_false]
      cases h : decodeItem cap d bs with
      | err e d' => exact ⟨rfl, rfl⟩
      | upd rest d' => exact ih _ _ _
      | fld f rest d' =>
        -- the fields collected so far matter to neither side
        simp only
        rw [decodeBlockAux_pre cap k d' rest [f]]
        by_cases ha : accept f = true
        · simp only [ha, if_true]; exact ih _ _ _
        · simp only [ha]; exact ⟨rfl, rfl⟩

end LtVerif.H2Headers
