/-
  Helper lemmas for C09: FastCGI record / name-value round trips (instances of `decode_flatMap`,
  Proofs/Bytes.lean) and the chunking of the STDIN loop (Model/Fcgi.lean).
-/
import LtVerif.Model.Fcgi
import LtVerif.Proofs.Bytes
namespace LtVerif
open LtVerif B

namespace Fcgi

/-! ### records -/

def wire (recs : List Rec) : Bytes := recs.flatMap fun r => record r.type r.reqId r.content

/-- the fields fit the 8-bit type, 16-bit request id and 16-bit length of fcgi_header() -/
def Rec.ok (r : Rec) : Prop := r.type < 256 ∧ r.reqId < 65536 ∧ r.content.length ≤ 65535

theorem record_length (t rid : Nat) (c : Bytes) : (record t rid c).length = 8 + c.length := by
  simp [record, header]; omega

theorem decodeRecords_record (fuel t rid : Nat) (c rest : Bytes)
    (ht : t < 256) (hid : rid < 65536) (hc : c.length ≤ 65535) :
    decodeRecords (fuel + 1) (record t rid c ++ rest) =
      match decodeRecords fuel rest with
      | some rs => some ({ type := t, reqId := rid, content := c } :: rs)
      | none => none := by
  have hlen : c.length / 256 % 256 * 256 + c.length % 256 = c.length := by omega
  -- (`omega` fails with both `/ 256 % 256` facts in its context)
  have hidv : rid / 256 % 256 * 256 + rid % 256 = rid := by clear hlen; omega
  have hv : Extracted.C09.fcgiVersion = 1 := rfl
  have h1 : (c.length / 256 % 256).toUInt8.toNat = c.length / 256 % 256 := toNat_toUInt8 (by omega)
  have h2 : (c.length % 256).toUInt8.toNat = c.length % 256 := toNat_toUInt8 (by omega)
  have h3 : (rid / 256 % 256).toUInt8.toNat = rid / 256 % 256 := toNat_toUInt8 (by omega)
  have h4 : (rid % 256).toUInt8.toNat = rid % 256 := toNat_toUInt8 (by omega)
  have h5 : t.toUInt8.toNat = t := toNat_toUInt8 ht
  simp only [record, header, List.cons_append, List.nil_append, decodeRecords, hv]
  simp only [h1, h2, h3, h4, h5, hlen, hidv]
  have h0 : (0 : Nat).toUInt8.toNat = 0 := rfl
  have h1' : (1 : Nat).toUInt8.toNat = 1 := rfl
  simp only [h0, h1', Nat.add_zero, List.length_append, ne_eq, not_true_eq_false, ↓reduceIte]
  have : ¬ (c.length + rest.length < c.length) := by omega
  simp only [this, ↓reduceIte, List.drop_left, List.take_left]
  rfl

theorem decodeRecords_wire (recs : List Rec) (h : ∀ r ∈ recs, r.ok) :
    ∀ fuel, (wire recs).length < fuel → decodeRecords fuel (wire recs) = some recs :=
  decode_flatMap_list _ decodeRecords recs (fun _ _ => by simp [record, header]) (fun _ => rfl)
    fun r hr fuel rest => by
    rw [decodeRecords_record fuel r.type r.reqId r.content rest (h r hr).1 (h r hr).2.1 (h r hr).2.2]
    cases decodeRecords fuel rest <;> rfl

/-! ### name-value pairs -/

theorem decLen_lenEnc (n : Nat) (rest : Bytes) (h : n ≤ 0x7fffffff) :
    decLen (lenEnc n ++ rest) = some (n, rest) := by
  unfold lenEnc
  split
  · rename_i hn
    have e0 : (n / 16777216 % 128 + 128).toUInt8.toNat = n / 16777216 % 128 + 128 :=
      toNat_toUInt8 (by omega)
    have e1 : (n / 65536 % 256).toUInt8.toNat = n / 65536 % 256 := toNat_toUInt8 (by omega)
    have e2 : (n / 256 % 256).toUInt8.toNat = n / 256 % 256 := toNat_toUInt8 (by omega)
    have e3 : (n % 256).toUInt8.toNat = n % 256 := toNat_toUInt8 (by omega)
    have hb : ¬ ((n / 16777216 % 128 + 128).toUInt8 < 128) := by
      intro hlt
      have : (n / 16777216 % 128 + 128).toUInt8.toNat < 128 := hlt
      omega
    simp only [List.cons_append, List.nil_append, decLen, hb, ↓reduceIte, e0, e1, e2, e3]
    congr 2
    omega
  · rename_i hn
    have e : n.toUInt8.toNat = n := toNat_toUInt8 (by omega)
    have hb : n.toUInt8 < 128 := by
      show n.toUInt8.toNat < 128
      omega
    simp [decLen, hb, e]

theorem lenEnc_ne_nil (n : Nat) : lenEnc n ≠ [] := by
  unfold lenEnc; split <;> simp

theorem decodeNV_pair (fuel : Nat) (k v rest : Bytes)
    (hk : k.length ≤ 0x7fffffff) (hv : v.length ≤ 0x7fffffff) :
    decodeNV (fuel + 1) (nvPair k v ++ rest) = (decodeNV fuel rest).map ((k, v) :: ·) := by
  have hne : (nvPair k v ++ rest).isEmpty = false := by
    have := lenEnc_ne_nil k.length
    cases h : lenEnc k.length with
    | nil => exact absurd h this
    | cons a t => simp [nvPair, h]
  have e1 : nvPair k v ++ rest = lenEnc k.length ++ (lenEnc v.length ++ (k ++ (v ++ rest))) := by
    simp [nvPair, List.append_assoc]
  rw [decodeNV]
  simp only [hne, Bool.false_eq_true, ↓reduceIte]
  rw [e1, decLen_lenEnc _ _ hk]
  simp only [decLen_lenEnc _ _ hv]
  have : ¬ ((k ++ (v ++ rest)).length < k.length + v.length) := by
    simp only [List.length_append]; omega
  simp only [this, ↓reduceIte]
  have d1 : (k ++ (v ++ rest)).drop (k.length + v.length) = rest := by
    rw [← List.drop_drop]; simp
  have d2 : (k ++ (v ++ rest)).take k.length = k := by simp
  have d3 : ((k ++ (v ++ rest)).drop k.length).take v.length = v := by simp
  rw [d1, d2, d3]
  cases decodeNV fuel rest <;> rfl

theorem nvPairs_eq (env : List (Bytes × Bytes)) : nvPairs env = env.flatMap fun p => nvPair p.1 p.2 := by
  rfl

theorem decodeNV_pairs (env : List (Bytes × Bytes))
    (h : ∀ p ∈ env, p.1.length ≤ 0x7fffffff ∧ p.2.length ≤ 0x7fffffff) :
    ∀ fuel, (nvPairs env).length < fuel → decodeNV fuel (nvPairs env) = some env := by
  rw [nvPairs_eq]
  exact decode_flatMap_list _ decodeNV env (fun _ _ => by simp [nvPair, lenEnc_ne_nil]) (fun _ => rfl)
    fun p hp fuel rest => decodeNV_pair fuel p.1 p.2 rest (h p hp).1 (h p hp).2

theorem addAll_spec (env : List (Bytes × Bytes)) :
    ∀ acc : Bytes, acc.length ≤ maxLen →
      (addAll acc env = some (acc ++ nvPairs env) ∧ (acc ++ nvPairs env).length ≤ maxLen) ∨
      (addAll acc env = none ∧ maxLen < (acc ++ nvPairs env).length) := by
  induction env with
  | nil => intro acc h; left; simp [addAll, nvPairs, h]
  | cons p ps ih =>
    intro acc hacc
    obtain ⟨k, v⟩ := p
    have hcat : nvPairs ((k, v) :: ps) = nvPair k v ++ nvPairs ps := by simp [nvPairs]
    have hm : maxLen = 65535 := rfl
    have hkl : k.length ≤ (nvPair k v).length := by simp [nvPair, List.length_append]; omega
    have hvl : v.length ≤ (nvPair k v).length := by simp [nvPair, List.length_append]; omega
    simp only [addAll, envAdd]
    by_cases hbig : k.length > 0x7fffffff ∨ v.length > 0x7fffffff
    · right
      simp only [hbig, ↓reduceIte, true_and]
      rw [hcat]; simp only [List.length_append]
      rcases hbig with hb | hb <;> omega
    · simp only [hbig, ↓reduceIte]
      by_cases hfit : (nvPair k v).length > maxLen - acc.length
      · right
        simp only [hfit, ↓reduceIte, true_and]
        rw [hcat]; simp only [List.length_append]; omega
      · simp only [hfit, ↓reduceIte]
        have hacc' : (acc ++ nvPair k v).length ≤ maxLen := by
          simp only [List.length_append]; omega
        rcases ih (acc ++ nvPair k v) hacc' with ⟨h1, h2⟩ | ⟨h1, h2⟩
        · left; rw [hcat, ← List.append_assoc]; exact ⟨h1, h2⟩
        · right; rw [hcat, ← List.append_assoc]; exact ⟨h1, h2⟩

/-! ### chunking -/

theorem chunksOf_flatten (n : Nat) (hn : 0 < n) :
    ∀ fuel (s : Bytes), s.length ≤ fuel → (chunksOf n fuel s).flatten = s := by
  intro fuel
  induction fuel with
  | zero => intro s h; simp at h; simp [chunksOf, h]
  | succ f ih =>
    intro s h
    unfold chunksOf
    cases s with
    | nil => rfl
    | cons a t =>
      simp only [List.isEmpty_cons, Bool.false_eq_true, ↓reduceIte, List.flatten_cons]
      rw [ih ((a :: t).drop n) (by simp only [List.length_drop, List.length_cons] at h ⊢; omega)]
      exact List.take_append_drop n (a :: t)

theorem chunksOf_bounds (n : Nat) (hn : 0 < n) :
    ∀ fuel (s : Bytes), ∀ c ∈ chunksOf n fuel s, c ≠ [] ∧ c.length ≤ n := by
  intro fuel
  induction fuel with
  | zero => intro s c hc; simp [chunksOf] at hc
  | succ f ih =>
    intro s c hc
    unfold chunksOf at hc
    cases s with
    | nil => simp at hc
    | cons a t =>
      simp only [List.isEmpty_cons, Bool.false_eq_true, ↓reduceIte, List.mem_cons] at hc
      rcases hc with rfl | hc
      · constructor
        · cases n with
          | zero => omega
          | succ m => simp
        · simp only [List.length_take]; omega
      · exact ih _ c hc

theorem stdinRecs_append (id : Nat) (a b : List Bytes) :
    stdinRecs id (a ++ b) = stdinRecs id a ++ stdinRecs id b := by
  simp [stdinRecs]

theorem stdinRecs_length (id : Nat) (cs : List Bytes) :
    (stdinRecs id cs).length = 8 * cs.length + cs.flatten.length := by
  induction cs with
  | nil => simp [stdinRecs]
  | cons c t ih =>
    have : stdinRecs id (c :: t) = record tStdin id c ++ stdinRecs id t := by simp [stdinRecs]
    rw [this, List.length_append, ih, record_length]
    simp only [List.length_cons, List.flatten_cons, List.length_append]
    omega

/-! ### streams on the receiving side -/

theorem takeStream_chunks (t id : Nat) (cs : List Bytes) (rest : List Rec)
    (h : ∀ c ∈ cs, c ≠ []) :
    takeStream t (cs.map (fun c => { type := t, reqId := id, content := c }) ++
                  { type := t, reqId := id, content := [] } :: rest) =
      some (cs.flatten, rest) := by
  induction cs with
  | nil => simp [takeStream]
  | cons c tl ih =>
    have hce := List.isEmpty_eq_false_iff.mpr (h c (by simp))
    simp only [List.map_cons, List.cons_append, takeStream, ne_eq, not_true_eq_false, ↓reduceIte, hce,
      Bool.false_eq_true]
    rw [ih (fun x hx => h x (by simp [hx]))]
    simp

end Fcgi
end LtVerif
