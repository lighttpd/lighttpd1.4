/-
  Admission in the connection-lifetime model (C13): the configured limit, accept count and load check; the
  accept tower accept, acceptMany, round, admitLoop walked once (`Lets`; `Sys.NoIdleWait`, `Admits`);
  one round re-admits (`round_accepts`), and the fuel of `admitLoop` is enough.
-/
import LtVerif.Proofs.LifeSys
namespace LtVerif.Lifecycle
open LtVerif.Extracted

/-! ## the configured connection limit, the accept count, the load check -/

theorem effMaxConns_pos (mc maxFds : Nat) (h : minMaxFds ≤ maxFds) :
    effMaxConns mc maxFds ≠ 0 ∧ 2 * effMaxConns mc maxFds ≤ maxFds := by
  unfold effMaxConns
  unfold minMaxFds at h
  split
  · omega
  · split <;> omega

theorem cfg_maxFds_ge (cfg : Cfg) : minMaxFds ≤ cfg.maxFds := by
  unfold Cfg.maxFds; split <;> omega

theorem acceptCount_le (lim : Nat) : acceptCount lim ≤ lim := by
  unfold acceptCount; split <;> omega

theorem acceptCount_le_cap (lim : Nat) : acceptCount lim ≤ acceptLoopCap := by
  unfold acceptCount; split <;> omega

theorem acceptCount_pos (lim : Nat) (h : lim ≠ 0) : 1 ≤ acceptCount lim := by
  unfold acceptCount acceptLoopCap; split <;> omega

theorem lowat_le_hiwat (cfg : Cfg) : cfg.lowat ≤ cfg.hiwat := by
  unfold Cfg.lowat Cfg.hiwat lowatNum lowatDen hiwatNum hiwatDen
  omega

theorem loadCheck_ne3 (c l h : Int) (lim d : Nat) (hd : d ≠ 3) : loadCheck c l h lim d ≠ 3 := by
  unfold loadCheck
  split
  · split <;> omega
  · split <;> omega

theorem loadCheck_open (cfg : Cfg) (curFds : Int) (lim d : Nat) (hf : curFds < cfg.lowat) (hl : lim ≠ 0) :
    loadCheck curFds cfg.lowat cfg.hiwat lim d = 0 := by
  have := lowat_le_hiwat cfg
  unfold loadCheck
  by_cases hd : d = 0
  · have : ¬ (curFds > cfg.hiwat ∨ lim = 0) := by omega
    simp [hd, this]
  · simp [hd, hf, hl]

/-! ## the accept loop -/

theorem calm_acceptBytes (cfg : Cfg) (s : Sys) (i : Nat) (cl : Client) (c0 : Conn) :
    Calm s (s.acceptBytes cfg i cl c0) := by
  unfold Sys.acceptBytes
  split
  · split
    · exact calm_putConn s i _
    · exact Calm.refl s
  · exact Calm.refl s

theorem accept_calm (cfg : Cfg) (s : Sys) (j : Nat) :
    Calm (s.pushConn j { rts := s.now }) (Sys.accept cfg s j) := by
  unfold Sys.accept
  simp only
  split
  · exact calm_release _ j
  · unfold Sys.acceptData
    simp only
    split
    · exact (calm_acceptBytes cfg _ j _ _).trans (calm_onConn _ j _)
    · exact calm_acceptBytes cfg _ j _ _

theorem accept_conns_le (cfg : Cfg) (s : Sys) (i : Nat) :
    (Sys.accept cfg s i).conns.length ≤ s.conns.length + 1 := by
  have := (accept_calm cfg s i).conns_le
  simpa [Sys.pushConn] using this

theorem accept_conns (cfg : Cfg) (s : Sys) (j : Nat) (hjn : s.conn j = none) :
    (Sys.accept cfg s j).conns = s.conns ∨
    ∃ c, (0 < s.now → c.Rest) ∧ (Sys.accept cfg s j).conns = (j, c) :: s.conns := by
  -- the new entry sits at the head of the table, where lookup, setConn and eraseConn act first
  have h1 : (s.pushConn j { rts := s.now }).conns = (j, { rts := s.now }) :: s.conns := rfl
  unfold Sys.accept
  simp only
  split
  · left
    simp [Sys.release, Sys.pushConn, lookupConn, eraseConn]
  · have hb : ((s.pushConn j { rts := s.now }).acceptBytes cfg j (s.client j) { rts := s.now }).conns = s.conns ∨
        ∃ c, (0 < s.now → c.Rest) ∧
          ((s.pushConn j { rts := s.now }).acceptBytes cfg j (s.client j) { rts := s.now }).conns = (j, c) :: s.conns := by
      have h0 : (0 < s.now → ({ rts := s.now } : Conn).Rest) := fun _ => Or.inl ⟨rfl, rfl⟩
      unfold Sys.acceptBytes
      split
      · split
        · rw [putConn_head _ j _ _ h1]
          split
          · exact Or.inl rfl
          · rename_i c' hr
            exact Or.inr ⟨c', fun hn => rest_recv cfg s.now (by omega) _ _ _ (h0 hn) c' hr, rfl⟩
        · exact Or.inr ⟨_, h0, rfl⟩
      · exact Or.inr ⟨_, h0, rfl⟩
    unfold Sys.acceptData
    simp only
    split
    · rcases hb with h | ⟨c, hc, h⟩
      · left
        unfold Sys.onConn
        have : Sys.conn ((s.pushConn j { rts := s.now }).acceptBytes cfg j (s.client j) { rts := s.now }) j = none := by
          rw [Sys.conn, h]; exact hjn
        rw [this]
        exact h
      · rw [onConn_head _ j c _ h]
        split
        · exact Or.inl rfl
        · rename_i c' hf
          exact Or.inr ⟨c', fun hn => rest_finConn false c (hc hn) c' hf, rfl⟩
    · exact hb

/-- nobody waits in the listen queue without a reason -/
def Sys.NoIdleWait (cfg : Cfg) (s : Sys) : Prop :=
  s.backlog ≠ [] → s.lim = 0 ∨ cfg.lowat ≤ s.curFds

/-- what the accept loop can only do: take clients from the queue, use slots, use descriptors -/
structure Admits (s s' : Sys) : Prop where
  wf : s'.WF
  total : s'.total = s.total
  fds : s'.fdsBase = s.fdsBase
  conns : s.conns.length ≤ s'.conns.length
  backlog : s'.backlog.length ≤ s.backlog.length
  graceful : s'.graceful = s.graceful
  exited : s'.exited = s.exited

theorem Admits.noIdleWait {cfg : Cfg} {s s' : Sys} (h : Admits s s') (hq : s.NoIdleWait cfg) : s'.NoIdleWait cfg := by
  intro hb
  have hb0 : s.backlog ≠ [] := by
    intro he
    have := h.backlog
    rw [he] at this
    simp at this
    exact hb this
  have ht := h.total; have hf := h.fds; have hc := h.conns
  simp only [Sys.total, Sys.fdsBase] at ht hf
  rcases hq hb0 with h0 | h0
  · left; omega
  · right; omega

/-- what accept, acceptMany, round and admitLoop do, from any state: the accounting balances, the queue only
    shrinks, graceful, exited and the clock stay, listen is not closed; from a WF state no connection is lost (so `Admits`) -/
structure Lets (cfg : Cfg) (s s' : Sys) : Prop where
  total : s'.total = s.total
  fds : s'.fdsBase = s.fdsBase
  backlog : s'.backlog.length ≤ s.backlog.length
  graceful : s'.graceful = s.graceful
  exited : s'.exited = s.exited
  now : s'.now = s.now
  listen : s.disabled ≠ 3 → s'.disabled ≠ 3
  conns : s.WF → s.conns.length ≤ s'.conns.length
  sim : Sim cfg none [] s s'

theorem Lets.admits {cfg : Cfg} {s s' : Sys} (h : Lets cfg s s') (hw : s.WF) : Admits s s' :=
  ⟨h.sim.wf hw, h.total, h.fds, h.conns hw, h.backlog, h.graceful, h.exited⟩

theorem lets_disabled (cfg : Cfg) (s : Sys) (d : Nat) (hd : s.disabled ≠ 3 → d ≠ 3) :
    Lets cfg s { s with disabled := d } :=
  ⟨rfl, rfl, Nat.le_refl _, rfl, rfl, rfl, hd, fun _ => Nat.le_refl _, sim_same cfg rfl rfl (Int.le_refl _) id⟩

theorem Lets.trans {cfg : Cfg} {a b c : Sys} (h1 : Lets cfg a b) (h2 : Lets cfg b c) : Lets cfg a c :=
  ⟨h2.total.trans h1.total, h2.fds.trans h1.fds, Nat.le_trans h2.backlog h1.backlog,
   h2.graceful.trans h1.graceful, h2.exited.trans h1.exited, h2.now.trans h1.now,
   fun hd => h2.listen (h1.listen hd), fun hw => Nat.le_trans (h1.conns hw) (h2.conns (h1.sim.wf hw)),
   h1.sim.trans h2.sim⟩

theorem accept_lets (cfg : Cfg) (s : Sys) (j : Nat) (rest : List Nat) (hb : s.backlog = j :: rest)
    (hl : 1 ≤ s.lim) : Lets cfg s (Sys.accept cfg { s with backlog := rest } j) := by
  have hc := accept_calm cfg { s with backlog := rest } j
  have hcs := accept_conns cfg { s with backlog := rest } j
  generalize Sys.accept cfg { s with backlog := rest } j = t at hc hcs ⊢
  -- from a consistent state: `j` was waiting, so it has no connection yet
  have good : s.WF → t.WF ∧ s.conns.length ≤ t.conns.length ∧
      (∀ i, i ∉ s.backlog → i ∉ t.backlog ∧ t.conn i = s.conn i) ∧ (0 < s.now → s.AllRest → t.AllRest) := by
    intro hw
    have hnd : (j :: rest).Nodup := hb ▸ hw.backlogNodup
    have hj : j ∉ rest := (List.nodup_cons.mp hnd).1
    have hjn : lookupConn s.conns j = none := hw.disjoint j (by rw [hb]; exact List.mem_cons_self)
    replace hcs := hcs hjn
    have hlk : ∀ i, j ≠ i → lookupConn t.conns i = lookupConn s.conns i := by
      intro i hji
      rcases hcs with h | ⟨c, _, h⟩ <;> rw [h]
      simp only [lookupConn, hji, if_false]
    refine ⟨⟨?_, ?_, ?_⟩, ?_, ?_, ?_⟩
    · rcases hcs with h | ⟨c, _, h⟩ <;> rw [h]
      · exact hw.keysNodup
      · exact List.nodup_cons.mpr ⟨(lookup_none_iff _ _).mp hjn, hw.keysNodup⟩
    · rw [hc.backlog]; exact (List.nodup_cons.mp hnd).2
    · intro k hk
      rw [hc.backlog] at hk
      have hk' : k ∈ rest := hk
      rw [hlk k (fun e => hj (e ▸ hk'))]
      exact hw.disjoint k (by rw [hb]; exact List.mem_cons_of_mem _ hk')
    · rcases hcs with h | ⟨c, _, h⟩ <;> rw [h] <;> simp
    · intro i hi
      refine ⟨?_, hlk i (fun e => hi (by rw [hb, e]; exact List.mem_cons_self))⟩
      rw [hc.backlog]
      exact fun h => hi (by rw [hb]; exact List.mem_cons_of_mem _ h)
    · intro hn hr k c hk
      rcases hcs with h | ⟨c', hc', h⟩ <;> rw [Sys.conn, h] at hk
      · exact hr k c hk
      · unfold lookupConn at hk
        split at hk
        · cases hk; exact hc' hn
        · exact hr k c hk
  exact
    { total := by rw [hc.total]; simp only [Sys.pushConn, Sys.total, List.length_cons]; omega
      fds := by rw [hc.fds]; simp only [Sys.fdsBase, Sys.pushConn, List.length_cons]; omega
      backlog := by rw [hc.backlog, hb]; simp [Sys.pushConn]
      graceful := hc.graceful
      exited := hc.exited
      now := hc.now
      listen := fun hd => by rw [hc.disabled]; exact hd
      conns := fun hw => let ⟨_, h, _, _⟩ := good hw; h
      sim :=
        { now := fun hn => by rw [hc.now]; exact hn
          exited := fun he => hc.exited.trans he
          wf := fun hw => (good hw).1
          rest := fun hw => let ⟨_, _, _, h⟩ := good hw; h
          frame := fun hw i _ hi =>
            let ⟨_, _, h, _⟩ := good hw
            ⟨(h i hi).1, fun _ => (h i hi).2.trans (runIdle_nil cfg _).symm⟩ } }

theorem acceptMany_lets (cfg : Cfg) (k : Nat) (s : Sys) (hk : k ≤ s.lim) : Lets cfg s (acceptMany cfg k s) := by
  induction k generalizing s with
  | zero => exact lets_disabled cfg s s.disabled id
  | succ k ih =>
    unfold acceptMany
    split
    · exact lets_disabled cfg s s.disabled id
    · rename_i j rest hb
      have hl := (accept_calm cfg { s with backlog := rest } j).neutral.lim
      simp only [Sys.pushConn] at hl
      exact (accept_lets cfg s j rest hb (by omega)).trans (ih _ (by omega))

theorem acceptMany_disabled (cfg : Cfg) (k : Nat) (s : Sys) : (acceptMany cfg k s).disabled = s.disabled := by
  induction k generalizing s with
  | zero => rfl
  | succ k ih =>
    unfold acceptMany
    split
    · rfl
    · rw [ih, (accept_calm cfg _ _).disabled]; rfl

theorem acceptMany_backlog_lt (cfg : Cfg) (k : Nat) (s : Sys) (hb : s.backlog ≠ []) (hk : k + 1 ≤ s.lim) :
    (acceptMany cfg (k + 1) s).backlog.length < s.backlog.length := by
  unfold acceptMany
  split
  · rename_i h; exact absurd h hb
  · rename_i j rest h
    have hc := accept_calm cfg { s with backlog := rest } j
    have hl := hc.neutral.lim
    simp only [Sys.pushConn] at hl
    have := (acceptMany_lets cfg k _ (by omega : k ≤ (Sys.accept cfg { s with backlog := rest } j).lim)).backlog
    rw [hc.backlog] at this
    rw [h]
    simpa [Sys.pushConn] using Nat.lt_succ_of_le this

/-! ## overload -/

theorem round_accepts (cfg : Cfg) (s : Sys) (hf : s.curFds < cfg.lowat) (hl : s.lim ≠ 0) (hb : s.backlog ≠ []) :
    (s.round cfg).disabled = 0 ∧ (s.round cfg).backlog.length < s.backlog.length := by
  obtain ⟨k, hk⟩ : ∃ k, acceptCount s.lim = k + 1 :=
    ⟨acceptCount s.lim - 1, by have := acceptCount_pos s.lim hl; omega⟩
  have hle := acceptCount_le s.lim
  unfold Sys.round
  simp only [loadCheck_open cfg s.curFds s.lim s.disabled hf hl, if_true, hk]
  exact ⟨acceptMany_disabled cfg _ _, acceptMany_backlog_lt cfg k _ hb (by show k + 1 ≤ s.lim; omega)⟩

theorem round_progress (cfg : Cfg) (s : Sys) (hq : ¬ s.NoIdleWait cfg) :
    (s.round cfg).backlog.length < s.backlog.length := by
  unfold Sys.NoIdleWait at hq
  have hb : s.backlog ≠ [] := fun h => hq (fun h' => absurd h h')
  have hl : s.lim ≠ 0 := fun h => hq (fun _ => Or.inl h)
  have hf : s.curFds < cfg.lowat := Int.not_le.mp fun h => hq (fun _ => Or.inr h)
  exact (round_accepts cfg s hf hl hb).2

theorem round_stable (cfg : Cfg) (s : Sys) (hst : s.round cfg = s) (hb : s.backlog ≠ []) :
    s.lim = 0 ∨ cfg.lowat ≤ s.curFds :=
  Decidable.byContradiction fun h => by
    have := round_progress cfg s (fun hq => h (hq hb))
    rw [hst] at this
    exact Nat.lt_irrefl _ this

/-! ## the accept loop settles -/

theorem round_lets (cfg : Cfg) (s : Sys) : Lets cfg s (s.round cfg) := by
  unfold Sys.round
  simp only
  have h0 := lets_disabled cfg s (loadCheck s.curFds cfg.lowat cfg.hiwat s.lim s.disabled) (loadCheck_ne3 _ _ _ _ _)
  split
  · exact h0.trans (acceptMany_lets cfg _ _ (acceptCount_le s.lim))
  · exact h0

theorem admitLoop_lets (cfg : Cfg) (k : Nat) (s : Sys) : Lets cfg s (admitLoop cfg k s) := by
  induction k generalizing s with
  | zero => exact lets_disabled cfg s s.disabled id
  | succ k ih => exact (round_lets cfg s).trans (ih _)

/-- the fuel of `admitLoop` is enough -/
theorem admitLoop_adequate (cfg : Cfg) (k : Nat) (s : Sys) (hw : s.WF)
    (hk : s.NoIdleWait cfg ∨ s.backlog.length ≤ k) :
    Admits s (admitLoop cfg k s) ∧ (admitLoop cfg k s).NoIdleWait cfg := by
  refine ⟨(admitLoop_lets cfg k s).admits hw, ?_⟩
  induction k generalizing s with
  | zero =>
    rcases hk with h | h
    · exact h
    · intro hb; exact absurd (List.length_eq_zero_iff.mp (Nat.le_zero.mp h)) hb
  | succ k ih =>
    have hr := (round_lets cfg s).admits hw
    refine ih (s.round cfg) hr.wf ?_
    by_cases hq : s.NoIdleWait cfg
    · exact Or.inl (hr.noIdleWait hq)
    · have := round_progress cfg s hq
      exact Or.inr (by rcases hk with h | h; exact absurd h hq; omega)

end LtVerif.Lifecycle
