/-
  C11, part 2a: the primitive steps (`Prim`, `Reach`) by which alone the world moves, the static configuration
  along them, the retry measure (`mu`, `recOf`, `Mono`) and `Tr`, through the primitives of Model/Gw.lean;
  `pickProc` picks a RUNNING proc (`pickProc_running`).
-/
import LtVerif.Proofs.Gw
namespace LtVerif.Gw

def HostKeep (f : Host → Host) : Prop :=
  ∀ H, (f H).nprocs = H.nprocs ∧ (f H).active = H.active ∧ (f H).disableTime = H.disableTime ∧
    (f H).ctimeout = H.ctimeout ∧ (f H).rtimeout = H.rtimeout ∧ (f H).wtimeout = H.wtimeout ∧
    (f H).unix = H.unix ∧ (f H).gwHash = H.gwHash

def ProcKeep (f : Proc → Proc) : Prop :=
  ∀ P, (f P).state = P.state ∧ (f P).disabledUntil = P.disabledUntil ∧ (f P).isLocal = P.isLocal ∧
    (f P).pid = P.pid

def isDispatch : Ev → Bool
  | .dispatch _ _ _ => true
  | _ => false

/-- the primitive moves.  None touches `active`, a proc's `state` or `disabledUntil` but `disable`, `enable` and
    `killedTick`, and `dispatch` logs a connect() only to a RUNNING proc. -/
inductive Prim : World → World → Prop
  | misc (w : World) (sl : Nat → Option Ctx) (lu : Int) (ns : Bool) (ga cf : Int) (pc op cl : Nat)
      (sc : Script) (jb : List Nat) :
      Prim w { w with slot := sl, lastUsed := lu, noteSent := ns, globalActive := ga, curFds := cf,
                      pendClose := pc, opened := op, closed := cl, script := sc, jobs := jb }
  | host (w : World) (h : Nat) (f : Host → Host) (hf : HostKeep f)
      (hl : ∀ H, (f H).load = H.load ∧ (f H).label = H.label) : Prim w (w.updHost h f)
  | proc (w : World) (h p : Nat) (f : Proc → Proc) (hf : ProcKeep f) (hl : ∀ P, (f P).load = P.load) :
      Prim w (w.updProc h p f)
  | hostLoad (w : World) (h : Nat) (v : Int) : Prim w (setHostLoad w h v)   -- load and its statistics entry, at once
  | procLoad (w : World) (h p : Nat) (v : Int) : Prim w (setProcLoad w h p v)
  | disable (w : World) (h p : Nat) (hp : p < (w.host h).nprocs) :
      Prim w (setPState (w.updProc h p fun P => { P with disabledUntil := w.now + (w.host h).disableTime })
                h p .overloaded)
  | enable (w : World) (h p : Nat) (hp : p < (w.host h).nprocs) (hs : (w.proc h p).state = .overloaded)
      (ht : (w.proc h p).disabledUntil < w.now) : Prim w (setPState w h p .running)
  | killedTick (w : World) (h p : Nat) (hs : (w.proc h p).state = .killed) :
      Prim w (w.updProc h p fun P => { P with disabledUntil := P.disabledUntil + 1 })
  | emit (w : World) (e : Ev) (he : isDispatch e = false) : Prim w (w.emit e)
  | dispatch (w : World) (s h p : Nat) (hp : p < (w.host h).nprocs) (hs : (w.proc h p).state = .running) :
      Prim w (w.emit (.dispatch s h p))
  | tick (w : World) (dt : Nat) : Prim w { w with now := w.now + dt }

inductive Reach : World → World → Prop
  | refl (w : World) : Reach w w
  | step {w w' w'' : World} : Reach w w' → Prim w' w'' → Reach w w''

theorem Reach.trans {a b c : World} (h1 : Reach a b) (h2 : Reach b c) : Reach a c := by
  induction h2 with
  | refl => exact h1
  | step _ p ih => exact Reach.step ih p

theorem Reach.one {a b : World} (p : Prim a b) : Reach a b := Reach.step (Reach.refl a) p

theorem Reach.inv {P : World → Prop} (hP : ∀ a b, Prim a b → P a → P b) {a b : World} (h : Reach a b) :
    P a → P b := by
  induction h with
  | refl => exact id
  | step _ p ih => exact fun ha => hP _ _ p (ih ha)

/-! ### static configuration, monotone clock -/

structure Static (a b : World) : Prop where
  nhosts : b.nhosts = a.nhosts
  nslots : b.nslots = a.nslots
  balance : b.balance = a.balance
  wkr : b.wkr = a.wkr
  nprocs : ∀ h, (b.host h).nprocs = (a.host h).nprocs
  disableTime : ∀ h, (b.host h).disableTime = (a.host h).disableTime
  timeouts : ∀ h, (b.host h).ctimeout = (a.host h).ctimeout ∧ (b.host h).rtimeout = (a.host h).rtimeout ∧
    (b.host h).wtimeout = (a.host h).wtimeout
  isLocal : ∀ h p, (b.proc h p).isLocal = (a.proc h p).isLocal ∧ (b.proc h p).pid = (a.proc h p).pid
  now : a.now ≤ b.now

theorem Static.refl (a : World) : Static a a :=
  ⟨rfl, rfl, rfl, rfl, fun _ => rfl, fun _ => rfl, fun _ => ⟨rfl, rfl, rfl⟩, fun _ _ => ⟨rfl, rfl⟩, Int.le_refl _⟩

theorem Static.trans {a b c : World} (h1 : Static a b) (h2 : Static b c) : Static a c :=
  ⟨h2.1.trans h1.1, h2.2.trans h1.2, h2.3.trans h1.3, h2.4.trans h1.4,
   fun h => (h2.5 h).trans (h1.5 h), fun h => (h2.6 h).trans (h1.6 h),
   fun h => ⟨(h2.7 h).1.trans (h1.7 h).1, (h2.7 h).2.1.trans (h1.7 h).2.1, (h2.7 h).2.2.trans (h1.7 h).2.2⟩,
   fun h p => ⟨(h2.8 h p).1.trans (h1.8 h p).1, (h2.8 h p).2.trans (h1.8 h p).2⟩,
   Int.le_trans h1.9 h2.9⟩

theorem static_same {a b : World} (h1 : b.nhosts = a.nhosts) (h2 : b.nslots = a.nslots) (h3 : b.balance = a.balance)
    (h4 : b.wkr = a.wkr) (hh : b.host = a.host) (hp : b.proc = a.proc) (hn : a.now ≤ b.now) : Static a b :=
  ⟨h1, h2, h3, h4, fun _ => by rw [hh], fun _ => by rw [hh], fun _ => by rw [hh]; exact ⟨rfl, rfl, rfl⟩,
   fun _ _ => by rw [hp]; exact ⟨rfl, rfl⟩, hn⟩

theorem static_updHost (a : World) (h : Nat) (f : Host → Host)
    (hf : ∀ H, (f H).nprocs = H.nprocs ∧ (f H).disableTime = H.disableTime ∧ (f H).ctimeout = H.ctimeout ∧
      (f H).rtimeout = H.rtimeout ∧ (f H).wtimeout = H.wtimeout) : Static a (a.updHost h f) := by
  refine ⟨rfl, rfl, rfl, rfl, ?_, ?_, ?_, fun _ _ => ⟨rfl, rfl⟩, Int.le_refl _⟩
  all_goals (intro h'; simp only [World.updHost]; by_cases e : h' = h <;> simp [e, hf])

theorem static_updProc (a : World) (h p : Nat) (f : Proc → Proc)
    (hf : ∀ P, (f P).isLocal = P.isLocal ∧ (f P).pid = P.pid) : Static a (a.updProc h p f) := by
  refine ⟨rfl, rfl, rfl, rfl, fun _ => rfl, fun _ => rfl, fun _ => ⟨rfl, rfl, rfl⟩, ?_, Int.le_refl _⟩
  intro h' p'; simp only [World.updProc]; by_cases e : h' = h ∧ p' = p <;> simp [e, hf]

theorem static_host (a : World) (h : Nat) (f : Host → Host) (hf : HostKeep f) : Static a (a.updHost h f) :=
  static_updHost a h f fun H => ⟨(hf H).1, (hf H).2.2.1, (hf H).2.2.2.1, (hf H).2.2.2.2.1, (hf H).2.2.2.2.2.1⟩

theorem hostKeep_load (v : Int) : HostKeep fun H => { H with load := v, statLoad := v } :=
  fun _ => ⟨rfl, rfl, rfl, rfl, rfl, rfl, rfl, rfl⟩
theorem procKeep_load (v : Int) : ProcKeep fun P => { P with load := v, statLoad := v } :=
  fun _ => ⟨rfl, rfl, rfl, rfl⟩

theorem static_prim {a b : World} (p : Prim a b) : Static a b := by
  have same : ∀ {x y : World}, y.nhosts = x.nhosts → y.nslots = x.nslots → y.balance = x.balance → y.wkr = x.wkr →
      y.host = x.host → y.proc = x.proc → y.now = x.now → Static x y :=
    fun h1 h2 h3 h4 hh hp hn => static_same h1 h2 h3 h4 hh hp (Int.le_of_eq hn.symm)
  cases p with
  | misc => exact same rfl rfl rfl rfl rfl rfl rfl
  | emit => exact same rfl rfl rfl rfl rfl rfl rfl
  | dispatch => exact same rfl rfl rfl rfl rfl rfl rfl
  | tick dt => exact static_same rfl rfl rfl rfl rfl rfl (show a.now ≤ a.now + dt by omega)
  | host h f hf hl => exact static_host a h f hf
  | proc h p f hf hl => exact static_updProc a h p f fun P => (hf P).2.2
  | killedTick h p hs => exact static_updProc a h p _ fun _ => ⟨rfl, rfl⟩
  | hostLoad h v => exact (static_host a h _ (hostKeep_load v)).trans (same rfl rfl rfl rfl rfl rfl rfl)
  | procLoad h p v =>
    exact (static_updProc a h p _ fun P => ((procKeep_load v) P).2.2).trans (same rfl rfl rfl rfl rfl rfl rfl)
  | disable h p hp =>
    rw [setPState_eq]
    refine Static.trans (Static.trans ?_ (static_updHost _ h _ ?_)) (static_updProc _ h p _ ?_)
    · exact static_updProc a h p _ fun _ => ⟨rfl, rfl⟩
    · exact fun _ => ⟨rfl, rfl, rfl, rfl, rfl⟩
    · exact fun _ => ⟨rfl, rfl⟩
  | enable h p hp hs ht =>
    rw [setPState_eq]
    refine Static.trans (static_updHost a h _ ?_) (static_updProc _ h p _ ?_)
    · exact fun _ => ⟨rfl, rfl, rfl, rfl, rfl⟩
    · exact fun _ => ⟨rfl, rfl⟩

theorem reach_static {a b : World} (h : Reach a b) : Static a b := by
  induction h with
  | refl => exact Static.refl _
  | step _ p ih => exact ih.trans (static_prim p)

/-! ### the retry measure -/

def recOf (w : World) (s : Nat) : Nat := (w.auxOf s).reconnects

/-- retry budget left: nothing ever resets hctx->reconnects within a request -/
def mu (s : Nat) (w : World) : Nat := 5 - recOf w s

/-- slot s's budget did not rise and the slot was neither freed nor filled (an empty slot reads full budget) -/
structure Mono (s : Nat) (w w' : World) : Prop where
  mu_le : mu s w' ≤ mu s w
  some_eq : (w'.slot s).isSome = (w.slot s).isSome

theorem Mono.refl (s : Nat) (w : World) : Mono s w w := ⟨Nat.le_refl _, rfl⟩
theorem Mono.trans {s : Nat} {a b c : World} (h1 : Mono s a b) (h2 : Mono s b c) : Mono s a c :=
  ⟨Nat.le_trans h2.1 h1.1, h2.2.trans h1.2⟩

theorem mono_of_slot {s : Nat} {w w' : World} (h : w'.slot = w.slot) : Mono s w w' := by
  refine ⟨?_, by rw [h]⟩
  unfold mu recOf World.auxOf; rw [h]; exact Nat.le_refl _

theorem recOf_updSlot (w : World) (s s' : Nat) (f : Ctx → Ctx) :
    recOf (w.updSlot s' f) s = if s = s' then ((w.slot s).map fun c => (f c).aux.reconnects).getD 0
                               else recOf w s := by
  unfold recOf World.auxOf World.updSlot
  by_cases e : s = s'
  · subst e; cases w.slot s <;> simp
  · simp [e]

theorem mono_updSlot (w : World) (s s' : Nat) (f : Ctx → Ctx)
    (hf : ∀ c, c.aux.reconnects ≤ (f c).aux.reconnects) : Mono s w (w.updSlot s' f) := by
  have hrec : recOf w s ≤ recOf (w.updSlot s' f) s := by
    rw [recOf_updSlot]
    by_cases e : s = s'
    · subst e
      simp only [if_true]
      unfold recOf World.auxOf
      cases hs : w.slot s with
      | none => simp
      | some c => simp; exact hf c
    · simp [e]
  refine ⟨by unfold mu; omega, ?_⟩
  simp only [World.updSlot]; by_cases e : s = s'
  · subst e; cases w.slot s <;> simp
  · simp [e]

/-! ### below the COMEBACK loop -/

/-- `Reach` + `Mono` for every slot: all below `runCon`; `finish` frees a slot: `Reach` only -/
structure Tr (w w' : World) : Prop where
  reach : Reach w w'
  mono : ∀ s, Mono s w w'

theorem reach_eq {w w' : World} (h : w' = w) : Reach w w' := h ▸ Reach.refl w

theorem prim_slot (w : World) (sl : Nat → Option Ctx) : Prim w { w with slot := sl } :=
  Prim.misc w sl w.lastUsed w.noteSent w.globalActive w.curFds w.pendClose w.opened w.closed w.script w.jobs

theorem Tr.refl (w : World) : Tr w w := ⟨Reach.refl w, fun s => Mono.refl s w⟩

theorem Tr.trans {a b c : World} (h1 : Tr a b) (h2 : Tr b c) : Tr a c :=
  ⟨h1.reach.trans h2.reach, fun s => (h1.mono s).trans (h2.mono s)⟩

theorem Tr.one {a b : World} (p : Prim a b) (h : b.slot = a.slot) : Tr a b :=
  ⟨Reach.one p, fun _ => mono_of_slot h⟩

theorem tr_updSlot (w : World) (s : Nat) (e : Ctx → Ctx) (he : ∀ c, c.aux.reconnects ≤ (e c).aux.reconnects) :
    Tr w (w.updSlot s e) :=
  ⟨Reach.one (prim_slot w _), fun i => mono_updSlot w i s e he⟩

theorem tr_aux (w : World) (s : Nat) (f : Aux → Aux) (hf : ∀ a, (f a).reconnects = a.reconnects := by intro; rfl) :
    Tr w (w.updAux s f) := tr_updSlot w s _ fun c => Nat.le_of_eq (hf c.aux).symm

theorem tr_updLink (w : World) (s : Nat) (f : Link → Link) : Tr w (w.updLink s f) :=
  tr_updSlot w s _ fun _ => Nat.le_refl _

theorem tr_script (w : World) (sc : Script) : Tr w { w with script := sc } :=
  Tr.one (Prim.misc w w.slot w.lastUsed w.noteSent w.globalActive w.curFds w.pendClose w.opened w.closed sc w.jobs) rfl
theorem tr_jobs (w : World) (j : List Nat) : Tr w { w with jobs := j } :=
  Tr.one (Prim.misc w w.slot w.lastUsed w.noteSent w.globalActive w.curFds w.pendClose w.opened w.closed w.script j) rfl
theorem tr_lastUsed (w : World) (n : Int) : Tr w { w with lastUsed := n } :=
  Tr.one (Prim.misc w w.slot n w.noteSent w.globalActive w.curFds w.pendClose w.opened w.closed w.script w.jobs) rfl
theorem tr_noteSent (w : World) (b : Bool) : Tr w { w with noteSent := b } :=
  Tr.one (Prim.misc w w.slot w.lastUsed b w.globalActive w.curFds w.pendClose w.opened w.closed w.script w.jobs) rfl
theorem tr_counters (w : World) (ga cf : Int) (pc op cl : Nat) :
    Tr w { w with globalActive := ga, curFds := cf, pendClose := pc, opened := op, closed := cl } :=
  Tr.one (Prim.misc w w.slot w.lastUsed w.noteSent ga cf pc op cl w.script w.jobs) rfl
theorem tr_hostLoad (w : World) (h : Nat) (v : Int) : Tr w (setHostLoad w h v) := Tr.one (Prim.hostLoad w h v) rfl
theorem tr_procLoad (w : World) (h p : Nat) (v : Int) : Tr w (setProcLoad w h p v) := Tr.one (Prim.procLoad w h p v) rfl
theorem tr_hctxs (w : World) (h : Nat) (f : List Nat → List Nat) :
    Tr w (w.updHost h fun H => { H with hctxs := f H.hctxs }) :=
  Tr.one (Prim.host w h _ (fun _ => ⟨rfl, rfl, rfl, rfl, rfl, rfl, rfl, rfl⟩) (fun _ => ⟨rfl, rfl⟩)) rfl

theorem tr_quiet {s : Nat} {w w' : World} (h : Quiet s w w') : Tr w w' := by
  obtain ⟨sc, e, he, rfl⟩ := h
  exact (tr_script w sc).trans (tr_updSlot _ s e fun c => Nat.le_of_eq (he.reconnects c).symm)

theorem reach_popConn (w : World) : Reach w (popConn w).2 := (tr_quiet (s := 0) (quiet_pop (popConn_eq w))).reach
theorem reach_popSock (w : World) : Reach w (popSock w).2 := (tr_quiet (s := 0) (quiet_pop (popSock_eq w))).reach
theorem mono_popConn (w : World) (s : Nat) : Mono s w (popConn w).2 :=
  (tr_quiet (s := 0) (quiet_pop (popConn_eq w))).mono s
theorem mono_jobs (w : World) (s : Nat) (j : List Nat) : Mono s w { w with jobs := j } := mono_of_slot rfl

theorem reach_connectError (w : World) (h p pid : Nat) (hp : p < (w.host h).nprocs) :
    Reach w (connectError w h p pid) := by
  unfold connectError
  split
  · exact Reach.one (Prim.disable w h p hp)
  · exact Reach.refl _

theorem reach_slotConnectError (w : World) (s : Nat) : Reach w (slotConnectError w s) := by
  unfold slotConnectError
  split
  · split
    · rename_i hp; exact reach_connectError _ _ _ _ hp
    · exact Reach.refl _
  · exact Reach.refl _

theorem reach_checkEnable (w : World) (h p : Nat) (hp : p < (w.host h).nprocs) : Reach w (checkEnable w h p) := by
  unfold checkEnable
  split
  · exact Reach.refl _
  · split
    · exact Reach.refl _
    · rename_i h1 h2
      exact Reach.one (Prim.enable w h p hp (by simpa using h2) (by omega))

theorem reach_restartDeadProc (w : World) (h : Nat) (tr : Bool) (p : Nat) (hp : p < (w.host h).nprocs) :
    Reach w (restartDeadProc w h tr p) := by
  unfold restartDeadProc
  split
  · exact Reach.refl _
  · exact reach_checkEnable w h p hp
  · rename_i hk
    split
    · exact Reach.one (Prim.killedTick w h p hk)
    · exact Reach.refl _
  · exact Reach.refl _
  · exact Reach.refl _

theorem reach_restartDeadProcs (w : World) (h : Nat) (tr : Bool) : Reach w (restartDeadProcs w h tr) := by
  unfold restartDeadProcs
  -- the pass stays below nprocs, which no move changes
  have : ∀ (l : List Nat) (w' : World), Reach w w' → (∀ p, p ∈ l → p < (w.host h).nprocs) →
      Reach w (l.foldl (fun w p => restartDeadProc w h tr p) w') := by
    intro l
    induction l with
    | nil => exact fun _ hw _ => hw
    | cons p l ih =>
      intro w' hw hl
      refine ih _ (hw.trans (reach_restartDeadProc w' h tr p ?_)) fun q hq => hl q (List.mem_cons_of_mem _ hq)
      rw [(reach_static hw).nprocs]; exact hl p List.mem_cons_self
  exact this _ w (Reach.refl w) fun p hp => by simpa using hp

theorem reach_restartIfLocal (w : World) (s : Nat) : Reach w (restartIfLocal w s) := by
  unfold restartIfLocal
  split
  · split
    · exact reach_restartDeadProcs _ _ _
    · exact Reach.refl _
  · exact Reach.refl _

theorem tr_hostGet (w : World) (s : Nat) : Tr w (hostGet w s).2 := by
  rcases hostGet_snd w s with ⟨_, h⟩ | ⟨_, h⟩ <;> rw [h]
  · exact tr_lastUsed _ _
  · exact ((tr_lastUsed _ _).trans (tr_aux _ _ _)).trans (tr_noteSent _ _)

theorem tr_hostAssign (w : World) (s h : Nat) : Tr w (hostAssign w s h) := by
  unfold hostAssign
  split
  · exact Tr.refl _
  · exact (tr_updLink _ _ _).trans (tr_hostLoad _ h _)

theorem tr_procAcquire (w : World) (s h p : Nat) : Tr w (procAcquire w s h p) := by
  unfold procAcquire
  split
  · exact Tr.refl _
  · dsimp only
    exact ((tr_updLink _ _ _).trans (tr_procLoad _ h p _)).trans (tr_counters _ _ _ _ _ _)

theorem tr_openFd (w : World) (s : Nat) : Tr w (openFd w s) := by
  unfold openFd
  split
  · exact Tr.refl _
  · exact (tr_counters w w.globalActive (w.curFds + 1) w.pendClose (w.opened + 1) w.closed).trans
      (tr_updLink _ _ _)

theorem tr_backendClose (w : World) (s : Nat) : Tr w (backendClose w s) := by
  unfold backendClose
  split
  · exact Tr.refl _
  · rename_i c _
    extract_lets wp wq w1
    have R1 : Tr w w1 := by
      unfold w1; split
      · refine (((tr_counters w w.globalActive w.curFds (w.pendClose + 1) w.opened w.closed).trans ?_).trans
          (tr_updLink _ _ _)).trans (tr_aux _ _ _)
        unfold wq; split
        · exact tr_hctxs _ _ (·.erase s)
        · exact Tr.refl _
      · exact Tr.refl _
    split
    · exact R1
    · rename_i h _
      extract_lets w2
      refine ((R1.trans ?_).trans (tr_hostLoad _ h _)).trans (tr_updLink _ _ _)
      unfold w2; split
      · rename_i p _
        dsimp only
        exact ((tr_procLoad _ h p _).trans (tr_counters _ _ _ _ _ _)).trans (tr_updLink _ _ _)
      · exact Tr.refl _

theorem reach_backendClose (w : World) (s : Nat) : Reach w (backendClose w s) := (tr_backendClose w s).reach

theorem tr_reconnect (w : World) (s : Nat) : Tr w (reconnect w s).2 := by
  have R := (tr_backendClose w s).trans (tr_hostGet _ s)
  unfold reconnect; dsimp only
  split
  · exact R
  · dsimp only; exact (R.trans (tr_hostAssign _ _ _)).trans (tr_updLink _ _ _)

theorem tr_recInc (w : World) (s : Nat) : Tr w (w.updAux s fun a => { a with reconnects := a.reconnects + 1 }) :=
  tr_updSlot _ _ _ fun _ => Nat.le_succ _

theorem tr_wrRegister (w : World) (s h p : Nat) : Tr w (wrRegister w s h p) := by
  unfold wrRegister; dsimp only
  exact ((tr_openFd w s).trans (tr_aux _ _ _)).trans (tr_hctxs _ h (s :: ·))

/-! ### pickProc, `*_keeps` -/

theorem pickProc_fold (w : World) (h : Nat) (l : List Nat) (acc : Option Nat) (n : Nat)
    (hacc : ∀ q, acc = some q → q < n ∧ (w.proc h q).state = .running) (hl : ∀ q, q ∈ l → q < n) :
    ∀ p, l.foldl (pickStep w h) acc = some p → p < n ∧ (w.proc h p).state = .running := by
  induction l generalizing acc with
  | nil => intro p hp; exact hacc p hp
  | cons q l ih =>
    simp only [List.foldl_cons]
    apply ih
    · intro q' hq'
      unfold pickStep at hq'
      split at hq'
      · exact hacc q' hq'
      · rename_i hr
        have hr' : (w.proc h q).state = .running := by simpa using hr
        split at hq'
        · cases hq'; exact ⟨hl q List.mem_cons_self, hr'⟩
        · split at hq'
          · cases hq'; exact ⟨hl q List.mem_cons_self, hr'⟩
          · exact hacc q' hq'
    · intro q' hq'; exact hl q' (List.mem_cons_of_mem _ hq')

theorem pickProc_running {w : World} {h p : Nat} (hp : pickProc w h = some p) :
    p < (w.host h).nprocs ∧ (w.proc h p).state = .running := by
  unfold pickProc at hp
  exact pickProc_fold w h _ none _ (by simp) (by intro q hq; simpa using hq) p hp

theorem procAcquire_keeps (w : World) (s h p : Nat) :
    (∀ h', ((procAcquire w s h p).host h') = w.host h') ∧
    (∀ h' p', ((procAcquire w s h p).proc h' p').state = (w.proc h' p').state) := by
  unfold procAcquire
  cases w.slot s with
  | none => simp
  | some c =>
    refine ⟨fun _ => rfl, fun h' p' => ?_⟩
    simp only [setProcLoad, World.updProc, World.updLink, World.updSlot]
    by_cases e : h' = h ∧ p' = p <;> simp [e]

theorem wrRegister_keeps (w : World) (s h p : Nat) :
    (∀ h', ((wrRegister w s h p).host h').nprocs = (w.host h').nprocs) ∧
    (wrRegister w s h p).proc = w.proc := by
  have S := reach_static (tr_wrRegister w s h p).reach
  refine ⟨S.nprocs, ?_⟩
  unfold wrRegister openFd
  cases w.slot s <;> rfl

/-! ### a context goes -/

theorem reach_emit (w : World) (e : Ev) (he : isDispatch e = false) : Reach w (w.emit e) :=
  Reach.one (Prim.emit w e he)

theorem reach_finish (w : World) (s : Nat) (ab : Bool) : Reach w (finish w s ab) := by
  unfold finish
  split
  · exact Reach.refl _
  · dsimp only
    refine Reach.trans ?_ (Reach.one (prim_slot _ _))
    refine Reach.trans ?_ (reach_backendClose _ _)
    split
    · exact Reach.refl _
    · exact reach_emit _ _ rfl

end LtVerif.Gw
