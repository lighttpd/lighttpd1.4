/-
  C18 — the implementation model against the RFC 4918 reference (`rfcEffect`).
-/
import LtVerif.Proofs.DavStep

namespace LtVerif.Dav
open LtVerif

/-- webdav_copymove_file() done is the RFC effect: nothing lives below a file or a missing name -/
theorem cmDone_effect {t : Tree} (hwf : WF t) {src d : Path} {c : Bytes} (hsrc : get t src = some (.file c))
    (hd : get t d ≠ some .dir) (move : Bool) (s : Nat) (q : Path) :
    get (cmDone t move src d c s).2 q = graftFS move src d (get t) q := by
  unfold graftFS
  by_cases hu : under d q = true
  · rw [if_pos hu]
    by_cases hq : d = q
    · subst hq
      cases move <;> simp [cmDone, get_set, hsrc]
    · have h1 : get t (src ++ q.drop d.length) = none :=
        hwf.no_child_of_nondir (fun e => hq (by rw [under_split hu, e]; simp)) (by simp [hsrc])
      have h2 : get t q = none := below_nondir hwf hd hu (fun e => hq e.symm)
      cases move <;> simp [cmDone, get_set, get_erase, hq, h1, h2]
  · have hq : d ≠ q := fun e => hu (e ▸ under_refl d)
    cases move <;> simp [cmDone, get_set, get_erase, hq, hu]

theorem step_effect {t : Tree} {r : Req} (hwf : WF t) (hc : Conforming t r)
    (hs : Success (step t r).1) (h207 : (step t r).1 ≠ 207) :
    ∀ q, get (step t r).2 q = rfcEffect (get t) r q := by
  intro q
  have hs := isSuccess_iff.2 ⟨hs, h207⟩
  have h := step_eff t r
  generalize (step t r).1 = s, (step t r).2 = t' at h hs ⊢
  cases h
  case refused h0 => rw [hs] at h0; cases h0
  case read hm => simp [rfcEffect, hm]
  case put hm _ _ hb => rw [get_set, ← hb]; simp only [rfcEffect, hm, eq_comm]
  case mkcol hm _ _ _ => rw [get_set]; simp only [rfcEffect, hm, eq_comm]
  case delete hm _ => rw [get_erase]; simp only [rfcEffect, hm]
  case onto d hm hd hz _ hsrc hdst =>
    -- the destination is an empty collection already
    have hch := (hc.dest (Or.inl hm) hd hdst).2
    simp only [rfcEffect, hm, hsrc, hz, destOf_ok hd, and_self, ↓reduceIte]
    by_cases hq : q = d.segs
    · simp [hq, hdst]
    · by_cases hu : under d.segs q = true
      · simpa [hq, hu] using hasChild_false hch hu hq
      · simp [hq, hu]
  case mkDest d hm hd hz _ hsrc hl hp =>
    have hg : get t d.segs = none := lstat_enoent hwf (p := ⟨d.segs, true⟩) hl
    simp only [rfcEffect, hm, hsrc, hz, destOf_ok hd, and_self, ↓reduceIte]
    rw [get_set]
    by_cases hq : q = d.segs
    · simp [hq]
    · have hq' : d.segs ≠ q := fun e => hq e.symm
      by_cases hu : under d.segs q = true
      · simpa [hq, hq', hu] using below_nondir hwf (by simp [hg]) hu hq
      · simp [hq, hq', hu]
  case self d hm hd hz _ hsrc he =>
    -- same path: the identity
    have : rfcEffect (get t) r q = graftFS (r.m == .move) r.src.segs d.segs (get t) q := by
      rcases hm with hm | hm <;> simp [rfcEffect, graftFS, hm, destOf_ok hd, hsrc, hz]
    rw [this, ← he]
    by_cases hu : under r.src.segs q = true
    · have := (under_split hu).symm
      cases r.m == .move <;> simp [graftFS, hu, this]
    · cases r.m == .move <;> simp [graftFS, hu]
  case graft d hm hd hz _ hsrc _ _ =>
    rw [get_graft]
    rcases hm with hm | hm <;> simp [rfcEffect, graftFS, hm, destOf_ok hd, hsrc, hz]
  case merge hm _ _ hg hch => exact (hc.no_merge hm hg hch).elim
  case file d c hm hd _ hsrc _ =>
    have hnd := hc.file_dest hm hd hsrc
    rw [cmFileTarget_eq hnd, cmDone_effect hwf hsrc hnd]
    rcases hm with hm | hm <;> simp [rfcEffect, graftFS, hm, destOf_ok hd, hsrc]

end LtVerif.Dav
