/-
  C17 — the splice() path (Model/CqSplice.lean): with no scripted write result pending it is
  the pwrite() path; the theorems about `.appendMemToTempfile` transfer.
-/
import LtVerif.Model.CqSplice
import LtVerif.Proofs.CqSStep
namespace LtVerif.Cq

theorem mtLoop_one_nil (w : World) (q : Cq) (d : Bytes) (hw : w.wsched = []) :
    mtLoop 1 w q d =
      (match getAppendTempfile w q with
       | (w, q, false) => (w, q, false)
       | (w, q, true) =>
         if d.length = 0 then (w, q, true)
         else if lastReadOnly q then
           match tempfileErr w q false with
           | (w, q, _) => (w, q, false)
         else (writeLast w q d, growLast q d.length, true)) := by
  have hc : Calm w (getAppendTempfile w q).1 := (getAppendTempfile_sstep (w := w) (q := q) rfl).res.calm
  unfold mtLoop
  rcases hg : getAppendTempfile w q with ⟨w2, q2, ok⟩
  rw [hg] at hc
  have h2 : popW w2 = (w2, .ok) := by unfold popW; rw [hc.ws_nil hw]
  cases ok
  · rfl
  · simp only []
    by_cases hd : d.length = 0
    · simp only [hd, ↓reduceIte]
    · simp only [hd, ↓reduceIte, h2, effFault]
      by_cases hro : lastReadOnly q2 = true
      · simp only [hro, ↓reduceIte]
        have hn := tempfileErr_noretry w2 q2
        generalize tempfileErr w2 q2 false = r at hn ⊢
        obtain ⟨a, b, c⟩ := r
        simp only at hn
        subst hn
        rfl
      · simp only [hro]
        simp

theorem appendSplice_eq (w : World) (q : Cq) (d : Bytes) (hw : w.wsched = []) :
    appendSplice w q d = appendMemToTempfile w q d := by
  unfold appendSplice appendMemToTempfile
  have hc : Calm w (if firstIsMem q = true then toTempfiles w q else (w, q, true)).1 := by
    split
    · exact (toTempfiles_sstep w q).res.1
    · exact Calm.refl w
  rcases hp : (if firstIsMem q = true then toTempfiles w q else (w, q, true)) with ⟨w1, q1, ok⟩
  rw [hp] at hc
  have h1 : w1.wsched = [] := hc.ws_nil hw
  cases ok
  · rfl
  · simp only [h1, List.length_nil, Nat.zero_add]
    exact (mtLoop_one_nil w1 q1 d h1).symm

end LtVerif.Cq
