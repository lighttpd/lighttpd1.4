/-
  The backend chunked decoder (Model/HttpChunkDecode.lean): `dcFeed` on accepted size lines, chunk
  data, the trailer section; error and done are final.
-/
import LtVerif.Model.HttpChunkDecode
import LtVerif.Proofs.Bytes
namespace LtVerif.BeResp
open LtVerif B

theorem dcFeed_nil (s : DcSt) : dcFeed s [] = s := rfl

theorem dcFeed_cons (s : DcSt) (b : UInt8) (bs : Bytes) : dcFeed s (b :: bs) = dcFeed (dcStep s b) bs := rfl

theorem dcFeed_append (s : DcSt) (a b : Bytes) : dcFeed s (a ++ b) = dcFeed (dcFeed s a) b := by
  simp [dcFeed, List.foldl_append]

/-- a chunk-size line (with its LF) that the decoder accepts for a chunk of `n` bytes: any
    spelling (leading zeros, upper/lower-case hex, BWS, chunk extensions) -/
structure DcGoodLine (l : Bytes) (n : Nat) : Prop where
  parse : dcParseLine l = some n
  pre : ∃ p, l = p ++ [lf] ∧ lf ∉ p
  short : l.length ≤ 1024

/-- `t` is what follows the last-chunk line `l` up to and including the first empty line -/
structure DcTrailerEnd (l t : Bytes) : Prop where
  nonempty : t ≠ []
  noNul : (l ++ t).contains 0 = false
  ends : endsCrlfCrlf (l ++ t) = true
  first : ∀ q r, t = q ++ r → r ≠ [] → q ≠ [] → endsCrlfCrlf (l ++ q) = false

theorem dcFeed_hdr_pre (p acc out : Bytes) (hlf : lf ∉ p) (hlen : acc.length + p.length < 1024) :
    dcFeed { mode := .hdr acc, out := out } p = { mode := .hdr (acc ++ p), out := out } := by
  refine foldl_closed dcStep (fun q => { mode := .hdr (acc ++ q), out := out }) p (by simp) ?_
  intro q b r hq
  have hb : b ≠ lf := fun e => hlf (by simp [hq, e])
  have : acc.length + q.length + 1 < 1024 := by simp [hq] at hlen; omega
  simp [dcStep, hb]
  omega

theorem dcFeed_sizeLine {l : Bytes} {n : Nat} (h : DcGoodLine l n) (out : Bytes) :
    dcFeed { mode := .hdr [], out := out } l = { mode := if n = 0 then .trailer l else .data n, out := out } := by
  obtain ⟨p, hl, hlf⟩ := h.pre
  have hshort := h.short
  have hp := h.parse
  subst hl
  simp only [List.length_append, List.length_singleton] at hshort
  rw [dcFeed_append, dcFeed_hdr_pre p [] out hlf (by simp; omega)]
  simp only [List.nil_append, dcFeed_cons, dcFeed_nil]
  cases n <;> simp [dcStep, hp]

theorem dcFeed_data (d : Bytes) (n : Nat) (out : Bytes) (hd : d ≠ []) (hlen : d.length = n) :
    dcFeed { mode := .data n, out := out } d = { mode := .cr, out := out ++ d } := by
  obtain ⟨q, b, rfl⟩ := (List.eq_nil_or_concat d).resolve_left hd
  rw [List.concat_eq_append] at *
  have hn : n = q.length + 1 := by simpa using hlen.symm
  have hq : dcFeed { mode := .data n, out := out } q = { mode := .data (n - q.length), out := out ++ q } :=
    foldl_closed dcStep (fun x => { mode := .data (n - x.length), out := out ++ x }) q (by simp) fun x c r hx => by
      have : ¬ (n - x.length ≤ 1) := by simp [hx] at hn; omega
      simp [dcStep, this]
      omega
  rw [dcFeed_append, hq]
  simp [dcFeed, dcStep, hn]

theorem dcFeed_chunk {l d : Bytes} (h : DcGoodLine l d.length) (hd : d ≠ []) (out : Bytes) :
    dcFeed { mode := .hdr [], out := out } (l ++ d ++ [cr, lf]) = { mode := .hdr [], out := out ++ d } := by
  have hn : d.length ≠ 0 := fun e => hd (List.length_eq_zero_iff.mp e)
  rw [dcFeed_append, dcFeed_append, dcFeed_sizeLine h, if_neg hn, dcFeed_data d d.length out hd rfl]
  simp [dcFeed_cons, dcFeed_nil, dcStep]

theorem dcFeed_chunks (cs : List (Bytes × Bytes)) : ∀ (out : Bytes),
    (∀ c ∈ cs, DcGoodLine c.1 c.2.length ∧ c.2 ≠ []) →
    dcFeed { mode := .hdr [], out := out } (cs.flatMap fun c => c.1 ++ c.2 ++ [cr, lf])
      = { mode := .hdr [], out := out ++ cs.flatMap (·.2) } := by
  induction cs with
  | nil => intro out _; simp [dcFeed_nil]
  | cons c rest ih =>
    intro out hcs
    have hc := hcs c (by simp)
    rw [List.flatMap_cons, dcFeed_append, dcFeed_chunk hc.1 hc.2, ih _ fun x hx => hcs x (by simp [hx])]
    simp

theorem dcFeed_trailer (out : Bytes) {acc t : Bytes} (h : DcTrailerEnd acc t) :
    dcFeed { mode := .trailer acc, out := out } t = { mode := .done (acc ++ t), out := out } := by
  obtain ⟨q, b, rfl⟩ := (List.eq_nil_or_concat t).resolve_left h.nonempty
  rw [List.concat_eq_append] at *
  -- up to the last byte the section is collected, the last byte completes it
  have hq : dcFeed { mode := .trailer acc, out := out } q = { mode := .trailer (acc ++ q), out := out } :=
    foldl_closed dcStep (fun x => { mode := .trailer (acc ++ x), out := out }) q (by simp) fun x c r hx => by
      have := h.first (x ++ [c]) (r ++ [b]) (by simp [hx]) (by simp) (by simp)
      simp [dcStep, this]
  have hn' : ¬ (0 : UInt8) ∈ acc ∧ ¬ (0 : UInt8) ∈ q ∧ ¬ (0 : UInt8) = b := by simpa using h.noNul
  rw [dcFeed_append, hq]
  simp [dcFeed, dcStep, h.ends, hn'.1, hn'.2.1, hn'.2.2]

theorem dcFeed_final {l t : Bytes} (hl : DcGoodLine l 0) (ht : DcTrailerEnd l t) (out : Bytes) :
    dcFeed { mode := .hdr [], out := out } (l ++ t) = { mode := .done (l ++ t), out := out } := by
  rw [dcFeed_append, dcFeed_sizeLine hl, if_pos rfl]
  exact dcFeed_trailer out ht

theorem dcFeed_err (bs : Bytes) (out : Bytes) : dcFeed { mode := .err, out := out } bs = { mode := .err, out := out } :=
  foldl_inv (fun t : DcSt => t = { mode := .err, out := out }) dcStep bs _ rfl fun _ _ ht => by rw [ht]; rfl

theorem dcFeed_done_excess (acc out : Bytes) (bs : Bytes) (h : bs ≠ []) :
    dcFeed { mode := .done acc, out := out } bs = { mode := .err, out := out } := by
  cases bs with
  | nil => exact absurd rfl h
  | cons b rest => rw [dcFeed_cons]; simpa [dcStep] using dcFeed_err rest out

theorem dcFeed_stuck (s : DcSt) (q : Bytes) (hq : q ≠ []) (h : s.mode.isDone = true ∨ s.mode.isErr = true) :
    (dcFeed s q).mode = .err := by
  obtain ⟨mode, out⟩ := s
  cases mode <;> simp [DcMode.isDone, DcMode.isErr] at h
  · rw [dcFeed_done_excess _ out q hq]
  · rw [dcFeed_err]

theorem dcParseLine_needs_hex (l : Bytes) (h : (l.head?.bind hexVal) = none) : dcParseLine l = none := by
  unfold dcParseLine
  cases l with
  | nil => simp [ckHex]
  | cons b rest =>
    simp only [List.head?_cons, Option.bind_some] at h
    simp [ckHex, h]

end LtVerif.BeResp
