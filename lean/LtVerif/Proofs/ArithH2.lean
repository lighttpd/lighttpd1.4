/-
  C12: the pad / priority length checks of h2_recv_headers() and h2_recv_data(), and h2_recv_continuation():
  the scan establishes `Frames`, the merge walks them.
-/
import LtVerif.Proofs.ArithBase
import LtVerif.Proofs.Bytes
namespace LtVerif
namespace Arith

/-! ### HTTP/2 length checks -/

def padOf (flags : UInt8) (pad : Nat) : Nat := if has flags flagPadded then pad else 0

theorem subU_ok (a b : Nat) (w : String) (h : b ≤ a) : subU a b w = .ok (a - b) := by
  simp [subU, h]

theorem h2HeadersLen_spec (flen : Nat) (flags : UInt8) (pad : Nat) :
    (∀ w, h2HeadersLen flen flags pad ≠ .ub w) ∧
    (∀ off alen, h2HeadersLen flen flags pad = .ok off alen → off + alen + padOf flags pad = flen) := by
  unfold h2HeadersLen padOf subU
  by_cases hp : has flags flagPadded = true
  · by_cases h1 : flen < 1 + pad
    · simp [hp, h1]
    · have h1' : 1 + pad ≤ flen := by omega
      by_cases hq : has flags flagPriority = true
      · by_cases h2 : flen - (1 + pad) < 5
        · simp [hp, h1, h1', hq, h2]
        · have h2' : 5 ≤ flen - (1 + pad) := by omega
          simp [hp, h1, h1', hq, h2, h2']; omega
      · simp [hp, h1, h1', hq]; omega
  · by_cases hq : has flags flagPriority = true
    · by_cases h2 : flen < 5
      · simp [hp, hq, h2]
      · have h2' : 5 ≤ flen := by omega
        simp [hp, hq, h2, h2']
    · simp [hp, hq]

theorem h2DataLen_spec (len : Nat) (flags : UInt8) (pad : Nat) :
    (∀ w, h2DataLen len flags pad ≠ .ub w) ∧
    (∀ off alen, h2DataLen len flags pad = .ok off alen → off + alen + padOf flags pad = len) := by
  unfold h2DataLen padOf
  by_cases hp : has flags flagPadded = true
  · by_cases h1 : pad ≥ len
    · simp [hp, h1]
    · have h1' : 1 + pad ≤ len := by omega
      simp [hp, h1, h1', subU]; omega
  · simp [hp]

/-! ### h2_recv_continuation() -/

theorem u24_lt (bs : Bytes) (i : Nat) : u24 bs i < 16777216 := by
  unfold u24
  have h1 := (bs.getD i 0).toNat_lt
  have h2 := (bs.getD (i + 1) 0).toNat_lt
  have h3 := (bs.getD (i + 2) 0).toNat_lt
  omega

theorem h2ContCap_eq : Extracted.h2ContCap = 65536 := by decide +kernel

/-- the CONTINUATION frames from `n` to `nEnd` are complete in `buf`, END_HEADERS only on the last.
    The length is a variable `f`: the kernel unfolds `u24` under `omega` otherwise. -/
inductive Frames (buf : Bytes) : Nat → Nat → Prop
  | last (n f : Nat) : u24 buf n = f → n + 9 + f ≤ buf.length → has (buf.getD (n + 4) 0) flagEndHeaders = true →
      Frames buf n (n + 9 + f)
  | more (n f nEnd : Nat) : u24 buf n = f → n + 9 + f ≤ buf.length →
      has (buf.getD (n + 4) 0) flagEndHeaders = false → Frames buf (n + 9 + f) nEnd → Frames buf n nEnd

def ScanOk (buf : Bytes) (n : Nat) : Sum (ScanStop × Nat) (Nat × Nat) → Prop
  | .inl (.ub _, _) => False
  -- a frame end below the cap, or the header of the frame at `n`
  | .inl (.incomplete need, _) => buf.length < need ∧ (need ≤ Extracted.h2ContCap + 8 ∨ need ≤ n + 9)
  | .inl (.goaway _, _) => True
  | .inr (nEnd, _) => Frames buf n nEnd ∧ nEnd < Extracted.h2ContCap ∧ nEnd ≤ buf.length ∧ n + 9 ≤ nEnd

theorem ScanOk.more {buf : Bytes} {n f : Nat} {x : Sum (ScanStop × Nat) (Nat × Nat)} (hfe : u24 buf n = f)
    (h1 : n + 9 + f ≤ buf.length) (hc : n + 9 + f < Extracted.h2ContCap)
    (h2 : has (buf.getD (n + 4) 0) flagEndHeaders = false) (h : ScanOk buf (n + 9 + f) x) : ScanOk buf n x :=
  match x, h with
  | .inl (.ub _, _), h => h
  | .inl (.incomplete _, _), ⟨g1, g2⟩ => ⟨g1, Or.inl (by rcases g2 with g2 | g2 <;> omega)⟩
  | .inl (.goaway _, _), _ => trivial
  | .inr (nEnd, _), ⟨fr, g1, g2, g3⟩ => ⟨Frames.more n f nEnd hfe h1 h2 fr, g1, g2, by omega⟩

-- 2^31: n + 9 + a 24-bit length stays below 2^32, so the two `wraps` arms are dead
theorem contScan_ok (fsize id : Nat) (buf : Bytes) (hlen : buf.length ≤ 2147483648) :
    ∀ (fuel n loops : Nat), n ≤ buf.length → buf.length + 1 ≤ fuel + n →
      ScanOk buf n (contScan fsize id buf fuel n loops) := by
  intro fuel
  induction fuel with
  | zero => intro n loops h1 h2; omega
  | succ fuel ih =>
    intro n loops h1 h2
    have hf := u24_lt buf n
    rw [contScan]
    generalize hfe : u24 buf n = f at hf ⊢
    have hcap := h2ContCap_eq
    exact ite_ind (fun c => absurd c (by rw [u32Max_eq]; omega)) fun _ =>  -- n+9 wraps
      ite_ind (fun c2 => ⟨c2, Or.inr (Nat.le_refl _)⟩) fun c2 =>            -- header incomplete
      ite_ind (fun _ => trivial) fun _ =>                                    -- not CONTINUATION
      ite_ind (fun _ => trivial) fun _ =>                                    -- other stream
      ite_ind (fun _ => trivial) fun _ =>                                    -- above the frame size
      ite_ind (fun c => absurd c (by rw [u32Max_eq]; omega)) fun _ =>        -- frame end wraps
      ite_ind (fun _ => trivial) fun c7 =>                                   -- 64 KiB cap
      ite_ind (fun c8 => ⟨c8, Or.inl (by omega)⟩) fun c8 =>                  -- payload incomplete
      ite_ind (fun c9 => ⟨Frames.last n f hfe (by omega) c9, by omega, by omega, by omega⟩) fun c9 =>  -- END_HEADERS
      .more hfe (by omega) (by omega) (by simpa using c9) (ih (n + 9 + f) (loops + 1) (by omega) (by omega))

theorem contMerge_step (buf : Bytes) (fuel n m f : Nat) (acc : Bytes) (hf : u24 buf n = f)
    (h1 : n + 9 + f ≤ buf.length) (hm : m ≤ n) :
    contMerge buf (fuel + 1) n m acc =
      if has (buf.getD (n + 4) 0) flagEndHeaders then .ok (n + 9 + f, m + f, acc ++ (buf.drop (n + 9)).take f)
      else contMerge buf fuel (n + 9 + f) (m + f) (acc ++ (buf.drop (n + 9)).take f) := by
  rw [contMerge, hf]
  exact (if_neg (by omega)).trans ((if_neg (by omega)).trans (if_neg (by omega)))

theorem contMerge_spec (buf : Bytes) {n nEnd : Nat} (hf : Frames buf n nEnd) :
    ∀ (fuel m : Nat) (acc : Bytes), m ≤ n → buf.length + 1 ≤ fuel + n →
      ∃ m' acc', contMerge buf fuel n m acc = .ok (nEnd, m', acc') ∧ m ≤ m' ∧
        m' + (n - m) + 9 ≤ nEnd ∧ acc'.length = acc.length + (m' - m) := by
  induction hf with
  | last n f hfe h1 h2 =>
    intro fuel m acc hm hfuel
    cases fuel with
    | zero => omega
    | succ fuel =>
      rw [contMerge_step buf fuel n m f acc hfe h1 hm, if_pos h2]
      refine ⟨_, _, rfl, by omega, by omega, ?_⟩
      simp only [List.length_append, List.length_take, List.length_drop]
      omega
  | more n f nEnd hfe h1 h2 _ ih =>
    intro fuel m acc hm hfuel
    cases fuel with
    | zero => omega
    | succ fuel =>
      rw [contMerge_step buf fuel n m f acc hfe h1 hm, h2, if_neg Bool.false_ne_true]
      obtain ⟨m', acc', e, g1, g3, g4⟩ := ih fuel (m + f) (acc ++ (buf.drop (n + 9)).take f) (by omega) (by omega)
      refine ⟨m', acc', e, by omega, by omega, ?_⟩
      rw [g4]
      simp only [List.length_append, List.length_take, List.length_drop]
      omega

/-- h2_recv_continuation(); `n0` = end of the first frame -/
def ContOk (buf : Bytes) (n0 : Nat) : ContOut → Prop
  | .ub _ => False
  | .goaway _ => True
  | .merged m out _ => 9 ≤ m ∧ m < Extracted.h2ContCap ∧ m ≤ out.length ∧ out.length ≤ buf.length
  | .incomplete need _ => buf.length < need ∧ (need ≤ Extracted.h2ContCap + 8 ∨ need ≤ n0 + 9)

/-- steps over one `have`; `dsimp only` reduces those inside the `match` arms too, and the kernel then
    compares the two versions of the whole term -/
theorem ContOk.have_ {β : Type} {buf : Bytes} {n0 : Nat} {v : β} {f : β → ContOut}
    (h : ContOk buf n0 (f v)) : ContOk buf n0 (have x := v; f x) := h

theorem h2Cont_ok (fsize : Nat) (buf : Bytes) (h0 : 9 + u24 buf 0 ≤ buf.length)
    (hlen : buf.length ≤ 2147483648) : ContOk buf (9 + u24 buf 0) (h2Cont fsize buf) := by
  have hs := contScan_ok fsize (u31be buf 5) buf hlen (buf.length + 1) (9 + u24 buf 0) 0 h0 (Nat.le_add_right _ _)
  rw [h2Cont]
  generalize u24 buf 0 = f0 at h0 hs ⊢
  split
  · rename_i heq; rw [heq] at hs; exact hs.elim
  · rename_i heq; rw [heq] at hs; exact hs
  · trivial
  · rename_i nEnd loops heq
    rw [heq] at hs
    obtain ⟨hfr, hcap, hend, hge⟩ := hs
    generalize (if has (buf.getD (9 + f0 + 4) 0) flagPriority = true then 5 else 0) = kk
    refine ite_ind (fun _ => trivial) fun hc1 => ite_ind (fun hc2 => ?_) fun _ => ?_
    · -- the padding was checked against the frame length just before
      simp only [Bool.and_eq_true, decide_eq_true_eq, not_and, Nat.not_lt] at hc1 hc2
      have := hc1 hc2.1
      omega
    generalize hm0 : (if has (buf.getD 4 0) flagPadded = true then 9 + f0 - (buf.getD 9 0).toNat else 9 + f0) = m0
    have hm0b : 9 ≤ m0 ∧ m0 ≤ 9 + f0 := by
      by_cases hp : has (buf.getD 4 0) flagPadded = true
      · rw [if_pos hp] at hm0
        simp only [hp, Bool.true_and, decide_eq_true_eq, Nat.not_lt] at hc1
        omega
      · rw [if_neg hp] at hm0; omega
    generalize hhead : (if has (buf.getD 4 0) flagPadded = true then (buf.take m0).set 9 0 else buf.take m0) = head
    have hheadlen : head.length = m0 := by
      rw [← hhead]; split <;> simp <;> omega
    obtain ⟨m', acc', e, g1, g2, g3⟩ := contMerge_spec buf hfr (buf.length + 1) m0 head (by omega) (by omega)
    refine .have_ ?_
    rw [e]
    refine ite_ind (fun c => absurd c (by omega)) fun _ => ?_
    have hol : ((setU24 (m' - 9) ++ acc'.drop 3).set 4 ((setU24 (m' - 9) ++ acc'.drop 3).getD 4 0 ||| flagEndHeaders)
        ++ (if nEnd < buf.length then buf.drop nEnd else [])).length
        = m' + (if nEnd < buf.length then buf.length - nEnd else 0) := by
      simp only [List.length_append, List.length_set, setU24, List.length_cons, List.length_nil, List.length_drop, g3, hheadlen]
      split <;> simp <;> omega
    refine ⟨by omega, by omega, ?_, ?_⟩
    · rw [hol]; omega
    · rw [hol]; split <;> omega

theorem h2Cont_spec (fsize : Nat) (buf : Bytes) (h0 : 9 + u24 buf 0 ≤ buf.length)
    (hlen : buf.length ≤ 2147483648) :
    (∀ w, h2Cont fsize buf ≠ .ub w) ∧
    (∀ m out calm, h2Cont fsize buf = .merged m out calm →
      9 ≤ m ∧ m < Extracted.h2ContCap ∧ m ≤ out.length ∧ out.length ≤ buf.length) ∧
    (∀ need calm, h2Cont fsize buf = .incomplete need calm →
      buf.length < need ∧ (need ≤ Extracted.h2ContCap + 8 ∨ need ≤ 9 + u24 buf 0 + 9)) := by
  have h := h2Cont_ok fsize buf h0 hlen
  refine ⟨fun w e => ?_, fun m out calm e => ?_, fun need calm e => ?_⟩ <;> (rw [e] at h; exact h)

end Arith
end LtVerif
