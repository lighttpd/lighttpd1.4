/-
  The field section of a request head (Model/H1Parse.lean): one accepted field (`SingleOk`, `FieldEffect`,
  `singleHeader_spec`, `applyField_spec`), tokenisation (`fieldOf_spec`, `NameOk`), `applyFields` with
  `parseHeaders_ok_iff`, the framing invariant `FramingInv`; `Fresh`, `nCL`, `nTE`, `nHost`, `vChunked`.
-/
import LtVerif.Model.H1Parse
import LtVerif.Proofs.Bytes
namespace LtVerif
open B

def nCL : Bytes := ofString "content-length"
def nTE : Bytes := ofString "transfer-encoding"
def vChunked : Bytes := ofString "chunked"
def nHost : Bytes := ofString "host"

@[simp] theorem appendHeader_keeps (r : PReq) (n v : Bytes) :
    (appendHeader r n v).bodyLen = r.bodyLen ∧ (appendHeader r n v).clSeen = r.clSeen ∧
    (appendHeader r n v).version = r.version ∧ (appendHeader r n v).method = r.method ∧
    (appendHeader r n v).host = r.host ∧ (appendHeader r n v).target = r.target := by
  unfold appendHeader; split <;> exact ⟨rfl, rfl, rfl, rfl, rfl, rfl⟩
@[simp] theorem setHost_bodyLen (r : PReq) (h : Bytes) : (setHost r h).bodyLen = r.bodyLen := rfl
@[simp] theorem setHost_clSeen (r : PReq) (h : Bytes) : (setHost r h).clSeen = r.clSeen := rfl
@[simp] theorem setHost_version (r : PReq) (h : Bytes) : (setHost r h).version = r.version := rfl
@[simp] theorem setHost_target (r : PReq) (h : Bytes) : (setHost r h).target = r.target := rfl
@[simp] theorem setHost_method (r : PReq) (h : Bytes) : (setHost r h).method = r.method := rfl

/-- the request state produced by the request line is "fresh": no body framing yet -/
def Fresh (r0 : PReq) : Prop := r0.clSeen = false ∧ r0.bodyLen = 0

theorem classifyHeader_spec (n : Bytes) :
    (classifyHeader n = .host → n = nHost) ∧ (classifyHeader n = .contentLength → n = nCL) ∧
    (classifyHeader n = .transferEncoding → n = nTE) := by
  unfold classifyHeader
  by_cases h1 : n = ofString "host"
  · rw [if_pos h1]; exact ⟨fun _ => h1, nofun, nofun⟩
  rw [if_neg h1]
  by_cases h2 : n = ofString "if-none-match"
  · rw [if_pos h2]; exact ⟨nofun, nofun, nofun⟩
  rw [if_neg h2]
  split
  · exact ⟨nofun, nofun, nofun⟩
  by_cases h4 : n = ofString "connection"
  · rw [if_pos h4]; exact ⟨nofun, nofun, nofun⟩
  rw [if_neg h4]
  by_cases h5 : n = ofString "content-length"
  · rw [if_pos h5]; exact ⟨nofun, fun _ => h5, nofun⟩
  rw [if_neg h5]
  by_cases h6 : n = ofString "transfer-encoding"
  · rw [if_pos h6]; exact ⟨nofun, nofun, fun _ => h6⟩
  rw [if_neg h6]; exact ⟨nofun, nofun, nofun⟩

theorem nCL_ne_nTE : nCL ≠ nTE := by decide +kernel
theorem classifyHeader_nCL : classifyHeader nCL = .contentLength := by decide +kernel
theorem classifyHeader_nTE : classifyHeader nTE = .transferEncoding := by decide +kernel

/-- the accepting leaves of `singleHeader` -/
inductive SingleOk (r : PReq) (n v : Bytes) : PReq → Prop
  | same (h1 : n ≠ nCL) (h2 : n ≠ nTE) : SingleOk r n v r
  | host (hn : n = nHost) (h1 : n ≠ nCL) (h2 : n ≠ nTE) : SingleOk r n v (setHost r v)
  | append (ka : Bool) (h1 : n ≠ nCL) (h2 : n ≠ nTE) : SingleOk r n v (appendHeader { r with keepAlive := ka } n v)
  | cl (k : Nat) (hn : n = nCL) (hseen : r.clSeen = false) (hk : strtoInt64 v = some k) :
      SingleOk r n v { appendHeader r n v with
        bodyLen := if r.bodyLen = 0 then (k : Int) else r.bodyLen, clSeen := true }
  | te (hn : n = nTE) (hver : r.version = 1) (hch : eqIcase v vChunked = true) (hdup : r.bodyLen ≠ -1) :
      SingleOk r n v { r with bodyLen := -1 }

/-- `SingleOk` seen from the framing state -/
structure FieldEffect (o : Opts) (r : PReq) (n v : Bytes) (r' : PReq) : Prop where
  version : r'.version = r.version
  strictVal : o.headerStrict = true → v.any lineCharInvalidStrict = false
  cl : n = nCL → v ≠ [] ∧ r.clSeen = false ∧ r'.clSeen = true ∧
        ∃ k, strtoInt64 v = some k ∧ r'.bodyLen = if r.bodyLen = 0 then (k : Int) else r.bodyLen
  te : n = nTE → v ≠ [] ∧ eqIcase v vChunked = true ∧ r.version = 1 ∧ r.bodyLen ≠ -1 ∧ r'.bodyLen = -1 ∧
        r'.clSeen = r.clSeen
  other : n ≠ nCL → n ≠ nTE → r'.bodyLen = r.bodyLen ∧ r'.clSeen = r.clSeen

theorem SingleOk.effect {o : Opts} {r r' : PReq} {n v : Bytes} (h : SingleOk r n v r')
    (hs : o.headerStrict = true → v.any lineCharInvalidStrict = false) (hv : v = [] → n ≠ nCL ∧ n ≠ nTE) :
    FieldEffect o r n v r' := by
  cases h with
  | same h1 h2 => exact ⟨rfl, hs, (absurd · h1), (absurd · h2), fun _ _ => ⟨rfl, rfl⟩⟩
  | host _ h1 h2 => exact ⟨rfl, hs, (absurd · h1), (absurd · h2), fun _ _ => ⟨rfl, rfl⟩⟩
  | append ka h1 h2 => exact ⟨by simp, hs, (absurd · h1), (absurd · h2), fun _ _ => by simp⟩
  | cl k hn hseen hk =>
    exact ⟨by simp, hs, fun _ => ⟨fun e => (hv e).1 hn, hseen, rfl, k, hk, rfl⟩, fun e => absurd (hn ▸ e) nCL_ne_nTE,
      (absurd hn ·)⟩
  | te hn hver hch hdup =>
    exact ⟨rfl, hs, fun e => absurd (hn ▸ e) nCL_ne_nTE.symm, fun _ => ⟨fun e => (hv e).2 hn, hch, hver, hdup, rfl, rfl⟩,
      fun _ => (absurd hn ·)⟩

theorem SingleOk.keeps {r r' : PReq} {n v : Bytes} (h : SingleOk r n v r') :
    r'.target = r.target ∧ r'.method = r.method ∧ (n ≠ nHost → r'.host = r.host) := by
  cases h with
  | host hn _ _ => exact ⟨rfl, rfl, (absurd hn ·)⟩
  | _ => simp

theorem singleHeader_spec (r : PReq) (n v : Bytes) :
    (∀ r', singleHeader r n v = .ok r' → SingleOk r n v r') ∧
    (∀ e, singleHeader r n v = .error e → e = 400 ∨ e = 501) := by
  have ne : classifyHeader n ≠ .contentLength → classifyHeader n ≠ .transferEncoding → n ≠ nCL ∧ n ≠ nTE :=
    fun h1 h2 => ⟨fun e => h1 (e ▸ classifyHeader_nCL), fun e => h2 (e ▸ classifyHeader_nTE)⟩
  fun_cases singleHeader r n v
  all_goals refine ⟨fun _ h => ?_, fun _ h => ?_⟩ <;> cases h
  case case13 hk hseen k hkk =>  -- Content-Length: the first one, numeric
    exact .cl k ((classifyHeader_spec n).2.1 hk) (by simpa using hseen) hkk
  case case19 hk hver hch hdup =>  -- Transfer-Encoding: `chunked` on HTTP/1.1, the first one
    exact .te ((classifyHeader_spec n).2.2 hk) (by simpa using hver) (by simpa [vChunked] using hch) hdup
  -- the error leaves: 501 for a Transfer-Encoding other than `chunked`, else 400
  all_goals try first | exact .inl rfl | exact .inr rfl
  -- the other accepting leaves.  Host: first `host`, repeated `same`; dup-checked fields, If-None-Match: first
  -- `append`, repeated `same`; Connection: `append ka`; any other field: `append`
  all_goals
    have := ne (by simp [*]) (by simp [*])
    first
      | exact .same this.1 this.2
      | exact .host ((classifyHeader_spec n).1 ‹_›) this.1 this.2
      | exact .append _ this.1 this.2
      | exact .append r.keepAlive this.1 this.2

theorem applyField_spec (o : Opts) (r : PReq) (f : Bytes × Bytes) :
    (∀ r', applyField o r f = .ok r' → SingleOk r f.1 f.2 r' ∧
      (o.headerStrict = true → f.2.any lineCharInvalidStrict = false) ∧ (f.2 = [] → f.1 ≠ nCL ∧ f.1 ≠ nTE)) ∧
    (∀ e, applyField o r f = .error e → e = 400 ∨ e = 501) := by
  fun_cases applyField o r f
  case case1 => exact ⟨nofun, fun _ h => by cases h; exact .inl rfl⟩  -- empty Content-Length / Transfer-Encoding
  case case2 k v hv hn =>  -- another empty value: ignored
    have hn : k ≠ nCL ∧ k ≠ nTE := by simpa [nCL, nTE] using hn
    exact ⟨fun _ h => by cases h; exact ⟨.same hn.1 hn.2, fun _ => by simp [List.isEmpty_iff.mp hv], fun _ => hn⟩, nofun⟩
  case case3 => exact ⟨nofun, fun _ h => by cases h; exact .inl rfl⟩  -- strict: control character in the value
  case case4 k v hv hs =>  -- handed to `singleHeader`
    exact ⟨fun r' h => ⟨(singleHeader_spec r k v).1 r' h, fun hso => by simpa [hso] using hs,
      fun e => absurd (by simp [show v = [] from e]) hv⟩, (singleHeader_spec r k v).2⟩

/-- `parseHeaders` behind the tokenisation (`parseHeaders_ok_iff`) -/
def applyFields (o : Opts) : PReq → List (Bytes × Bytes) → PRes
  | r, [] => .ok r
  | r, f :: fs =>
    match applyField o r f with
    | .error e => .error e
    | .ok r' => applyFields o r' fs

theorem foldl_headerStep_error (o : Opts) (gs : List (List Bytes)) (e : Nat) :
    gs.foldl (headerStep o) (.error e) = .error e := by
  induction gs with
  | nil => rfl
  | cons g rest ih => simpa [List.foldl_cons, headerStep] using ih

theorem foldl_headerStep_ok_iff (o : Opts) (groups : List (List Bytes)) : ∀ (r r' : PReq),
    (groups.foldl (headerStep o) (.ok r) = .ok r') ↔
    ∃ fs : List (Bytes × Bytes), groups.map (fieldOf o) = fs.map Except.ok ∧ applyFields o r fs = .ok r' := by
  induction groups with
  | nil =>
    intro r r'
    simp only [List.foldl_nil, List.map_nil]
    constructor
    · intro h; exact ⟨[], rfl, by simpa [applyFields] using h⟩
    · rintro ⟨fs, hfs, h⟩
      cases fs with
      | nil => simpa [applyFields] using h
      | cons _ _ => simp at hfs
  | cons g rest ih =>
    intro r r'
    simp only [List.foldl_cons, List.map_cons]
    simp only [headerStep, parseFieldLine]
    cases hf : fieldOf o g with
    | error e =>
      simp only
      rw [foldl_headerStep_error]
      constructor
      · intro h; simp at h
      · rintro ⟨fs, hfs, _⟩
        cases fs <;> simp at hfs
    | ok f =>
      simp only
      cases ha : applyField o r f with
      | error e =>
        rw [foldl_headerStep_error]
        constructor
        · intro h; simp at h
        · rintro ⟨fs, hfs, h⟩
          obtain ⟨_, fs', rfl, hff, _⟩ := List.map_eq_cons_iff.mp hfs.symm
          cases hff
          simp [applyFields, ha] at h
      | ok r1 =>
        rw [ih r1 r']
        constructor
        · rintro ⟨fs, hfs, h⟩
          exact ⟨f :: fs, by simp [hfs], by simp [applyFields, ha, h]⟩
        · rintro ⟨fs, hfs, h⟩
          obtain ⟨_, fs', rfl, hff, hrest⟩ := List.map_eq_cons_iff.mp hfs.symm
          cases hff
          simp only [applyFields, ha] at h
          exact ⟨fs', hrest.symm, h⟩

theorem parseHeaders_ok_iff (o : Opts) (r r' : PReq) (lines : List Bytes) :
    parseHeaders o r lines = .ok r' ↔
    ∃ fs : List (Bytes × Bytes), (groupFolds lines).map (fieldOf o) = fs.map Except.ok ∧
      applyFields o r fs = .ok r' :=
  foldl_headerStep_ok_iff o (groupFolds lines) r r'

/-- the field-name check of `fieldOf` passed -/
def NameOk (strict : Bool) (key : Bytes) : Prop :=
  ¬ ((!hkeyKnown (key.map toLower) &&
      (key.dropWhile (fun b => isAlpha b || decide (b = 45))).any (nameCharBad strict)) = true)

theorem fieldOf_spec (o : Opts) (phys : List Bytes) :
    (∀ f, fieldOf o phys = .ok f → ∃ key j body : Bytes, f.1 = key.map toLower ∧
      NameOk o.headerStrict key ∧
      joinFolds o.headerStrict phys = some j ∧ stripEol o.headerStrict j = some body) ∧
    (∀ e, fieldOf o phys = .error e → e = 400) := by
  fun_cases fieldOf o phys
  all_goals refine ⟨fun _ h => ?_, fun _ h => ?_⟩ <;> cases h
  -- error leaves: 400; the accepting leaf has the three facts as branch conditions
  all_goals first | rfl | exact ⟨_, _, _, rfl, by assumption, by assumption, by assumption⟩

theorem stripEol_strict_crlf (l body : Bytes) (h : stripEol true l = some body) :
    l.length ≥ 2 ∧ l.getD (l.length - 2) 0 = cr := by
  unfold stripEol at h
  simp only at h
  split at h
  · rename_i hc; simpa using hc
  · simp at h

/-- `r`: the record after `fs` applied in order to the request line's `r0` -/
structure FramingInv (o : Opts) (r0 : PReq) (fs : List (Bytes × Bytes)) (r : PReq) : Prop where
  version : r.version = r0.version
  clSeen : r.clSeen = true ↔ ∃ v, (nCL, v) ∈ fs
  clOnce : (fs.filter (fun f => f.1 = nCL)).length ≤ 1
  clNum : ∀ v, (nCL, v) ∈ fs → v ≠ [] ∧ ∃ k : Nat, strtoInt64 v = some k ∧ (r.bodyLen = (k : Int) ∨ r.bodyLen = -1)
  chunked : r.bodyLen = -1 ↔ ∃ v, (nTE, v) ∈ fs
  teOnce : (fs.filter (fun f => f.1 = nTE)).length ≤ 1
  noCl : (¬ ∃ v, (nCL, v) ∈ fs) → r.bodyLen = 0 ∨ r.bodyLen = -1
  te : ∀ v, (nTE, v) ∈ fs → v ≠ [] ∧ eqIcase v vChunked = true ∧ r0.version = 1
  strictVal : o.headerStrict = true → ∀ f ∈ fs, f.2.any lineCharInvalidStrict = false

theorem FramingInv.init (o : Opts) (r0 : PReq) (h : Fresh r0) : FramingInv o r0 [] r0 :=
  ⟨rfl, by simp [h.1], by simp, by simp, by simp [h.2], by simp, fun _ => Or.inl h.2, by simp, by simp⟩

theorem FramingInv.step {o : Opts} {r0 r r1 : PReq} {pre : List (Bytes × Bytes)} {n v : Bytes}
    (inv : FramingInv o r0 pre r) (h : applyField o r (n, v) = .ok r1) :
    FramingInv o r0 (pre ++ [(n, v)]) r1 := by
  have ⟨e1, e2, e3⟩ := (applyField_spec o r (n, v)).1 r1 h
  have eff := e1.effect e2 e3
  have mem : ∀ {k w}, (k, w) ∈ pre ++ [(n, v)] ↔ (k, w) ∈ pre ∨ (k = n ∧ w = v) := by simp
  have ex : ∀ {k}, (∃ w, (k, w) ∈ pre ++ [(n, v)]) ↔ (∃ w, (k, w) ∈ pre) ∨ k = n := by
    intro k; simp only [mem, exists_or, exists_and_left, exists_eq, and_true]
  have cnt : ∀ k, ((pre ++ [(n, v)]).filter (fun f => f.1 = k)).length =
      (pre.filter (fun f => f.1 = k)).length + if n = k then 1 else 0 := by
    intro k; by_cases hk : n = k <;> simp [List.filter_append, hk]
  have cnt0 : ∀ {k}, (¬ ∃ w, (k, w) ∈ pre) → (pre.filter (fun f => f.1 = k)).length = 0 := by
    intro k hno
    rw [List.length_eq_zero_iff, List.filter_eq_nil_iff]
    intro f hf hfe
    exact hno ⟨f.2, by rw [← of_decide_eq_true hfe]; exact hf⟩
  have hsv : o.headerStrict = true → ∀ f ∈ pre ++ [(n, v)], f.2.any lineCharInvalidStrict = false := by
    intro hso f hf
    rcases List.mem_append.mp hf with hf | hf
    · exact inv.strictVal hso f hf
    · rw [List.mem_singleton.mp hf]; exact eff.strictVal hso
  by_cases hcl : n = nCL
  · -- a Content-Length field: the first one
    subst hcl
    obtain ⟨hv, hunseen, hseen, k, hk, hbl⟩ := eff.cl rfl
    have hnone : ¬ ∃ v, (nCL, v) ∈ pre := fun hex => by simpa [hunseen] using inv.clSeen.mpr hex
    have hte : (∃ w, (nTE, w) ∈ pre ++ [(nCL, v)]) ↔ ∃ w, (nTE, w) ∈ pre := by
      rw [ex]; simp [Ne.symm nCL_ne_nTE]
    refine ⟨eff.version.trans inv.version, by simp [hseen], by rw [cnt, cnt0 hnone]; simp, ?_, ?_,
      by rw [cnt, if_neg nCL_ne_nTE]; exact inv.teOnce, fun hno => absurd (ex.mpr (.inr rfl)) hno, ?_, hsv⟩
    · intro w hw
      rcases mem.mp hw with hw | ⟨_, rfl⟩
      · exact absurd ⟨w, hw⟩ hnone
      · refine ⟨hv, k, hk, ?_⟩
        rw [hbl]
        rcases inv.noCl hnone with h0 | h1
        · exact .inl (by rw [if_pos h0])
        · exact .inr (by rw [h1]; rfl)
    · rw [hbl, hte, ← inv.chunked]
      rcases inv.noCl hnone with h0 | h1
      · rw [if_pos h0, h0]; omega
      · rw [h1]; simp
    · intro w hw
      rcases mem.mp hw with hw | ⟨e, _⟩
      · exact inv.te w hw
      · exact absurd e.symm nCL_ne_nTE
  · by_cases hte : n = nTE
    · -- a Transfer-Encoding field: the first one
      subst hte
      obtain ⟨hv, hch, hver, hnot, hbl, hcs⟩ := eff.te rfl
      have hnone : ¬ ∃ v, (nTE, v) ∈ pre := fun hex => hnot (inv.chunked.mpr hex)
      have hcl' : ∀ {w}, (nCL, w) ∈ pre ++ [(nTE, v)] ↔ (nCL, w) ∈ pre := by
        intro w; rw [mem]; simp [nCL_ne_nTE]
      refine ⟨eff.version.trans inv.version, by rw [hcs, inv.clSeen]; simp only [hcl'],
        by rw [cnt, if_neg (Ne.symm nCL_ne_nTE)]; exact inv.clOnce, ?_, by simp [hbl],
        by rw [cnt, cnt0 hnone]; simp, fun _ => .inr hbl, ?_, hsv⟩
      · intro w hw
        obtain ⟨h1, k, hk, _⟩ := inv.clNum w (hcl'.mp hw)
        exact ⟨h1, k, hk, .inr hbl⟩
      · intro w hw
        rcases mem.mp hw with hw | ⟨_, rfl⟩
        · exact inv.te w hw
        · exact ⟨hv, hch, by rw [← inv.version]; exact hver⟩
    · -- any other field
      obtain ⟨hbl, hcs⟩ := eff.other hcl hte
      have hk : ∀ {k w}, k ≠ n → ((k, w) ∈ pre ++ [(n, v)] ↔ (k, w) ∈ pre) := by
        intro k w hk; rw [mem]; simp [hk]
      refine ⟨eff.version.trans inv.version, by rw [hcs, inv.clSeen]; simp only [hk (Ne.symm hcl)],
        by rw [cnt, if_neg hcl]; exact inv.clOnce,
        fun w hw => by rw [hbl]; exact inv.clNum w ((hk (Ne.symm hcl)).mp hw),
        by rw [hbl, inv.chunked]; simp only [hk (Ne.symm hte)],
        by rw [cnt, if_neg hte]; exact inv.teOnce,
        fun hno => by rw [hbl]; exact inv.noCl fun ⟨w, hw⟩ => hno ⟨w, (hk (Ne.symm hcl)).mpr hw⟩,
        fun w hw => inv.te w ((hk (Ne.symm hte)).mp hw), hsv⟩

theorem FramingInv.run {o : Opts} {r0 : PReq} : ∀ (fs : List (Bytes × Bytes)) {pre : List (Bytes × Bytes)} {r r' : PReq},
    FramingInv o r0 pre r → applyFields o r fs = .ok r' → FramingInv o r0 (pre ++ fs) r' := by
  intro fs
  induction fs with
  | nil => intro pre r r' inv h; simp [applyFields] at h; subst h; simpa using inv
  | cons f rest ih =>
    intro pre r r' inv h
    obtain ⟨n, v⟩ := f
    simp only [applyFields] at h
    cases ha : applyField o r (n, v) with
    | error e => simp [ha] at h
    | ok r1 =>
      simp only [ha] at h
      have := ih (inv.step ha) h
      simpa using this

theorem FramingInv.of_fresh {o : Opts} {r0 r1 : PReq} {fs : List (Bytes × Bytes)} (hfresh : Fresh r0)
    (h : applyFields o r0 fs = .ok r1) : FramingInv o r0 fs r1 := by
  simpa using FramingInv.run fs (FramingInv.init o r0 hfresh) h

/-- the tokenisation of a field section is unique, so `FramingInv` holds of whatever list the lines tokenise to -/
theorem parseHeaders_framingInv {o : Opts} {r0 r : PReq} {lines : List Bytes} {fs : List (Bytes × Bytes)}
    (hfresh : Fresh r0) (htok : (groupFolds lines).map (fieldOf o) = fs.map Except.ok)
    (h : parseHeaders o r0 lines = .ok r) : FramingInv o r0 fs r := by
  obtain ⟨fs', htok', happ⟩ := (parseHeaders_ok_iff o r0 r lines).mp h
  have : fs' = fs := (List.map_inj_right (fun a b hab => by injection hab)).mp (htok'.symm.trans htok)
  subst this
  exact FramingInv.of_fresh hfresh happ

theorem applyFields_keeps (o : Opts) : ∀ (fs : List (Bytes × Bytes)) (r r' : PReq), applyFields o r fs = .ok r' →
    r'.target = r.target ∧ r'.method = r.method ∧ ((∀ f ∈ fs, f.1 ≠ nHost) → r'.host = r.host) := by
  intro fs
  induction fs with
  | nil => intro r r' h; simp [applyFields] at h; subst h; simp
  | cons f rest ih =>
    intro r r' h
    obtain ⟨n, v⟩ := f
    simp only [applyFields] at h
    cases ha : applyField o r (n, v) with
    | error e => simp [ha] at h
    | ok r1 =>
      simp only [ha] at h
      obtain ⟨h1, h2, h3⟩ := ((applyField_spec o r (n, v)).1 r1 ha).1.keeps
      obtain ⟨g1, g2, g3⟩ := ih r1 r' h
      refine ⟨g1.trans h1, g2.trans h2, fun hall => ?_⟩
      rw [g3 (fun f hf => hall f (by simp [hf])), h3 (hall (n, v) (by simp))]

-- `ofString_ofList`: the kernel's `String.toList` on the literals costs more than rewriting them
theorem headerTable_nul_free : ∀ nm ∈ headerTable, (0 : UInt8) ∉ nm := by
  unfold headerTable Extracted.headerNames
  simp only [List.map_cons, List.map_nil]
  repeat rw [ofString_ofList]
  decide +kernel
theorem name_nul_free (strict : Bool) (key : Bytes)
    (hname : NameOk strict key) :
    (0 : UInt8) ∉ key.map toLower := by
  intro hz
  simp only [List.mem_map] at hz
  obtain ⟨b, hb, hb0⟩ := hz
  have hb0' := toLower_eq_of_not_lower (c := 0) (by decide) hb0
  subst hb0'
  by_cases hk : hkeyKnown (key.map toLower) = true
  · unfold hkeyKnown at hk
    have := headerTable_nul_free _ (by simpa using hk)
    exact this (by simp only [List.mem_map]; exact ⟨0, hb, by decide⟩)
  · have hk' : hkeyKnown (key.map toLower) = false := by simpa using hk
    apply hname
    simp only [hk', Bool.not_false, Bool.true_and, List.any_eq_true]
    refine ⟨0, ?_, by cases strict <;> decide⟩
    have hsplit := List.takeWhile_append_dropWhile (p := fun b => isAlpha b || decide (b = 45)) (l := key)
    rw [← hsplit] at hb
    simp only [List.mem_append] at hb
    rcases hb with hb | hb
    · have := (takeWhile_cut _ key).1 0 hb
      simp [isAlpha, isUpper, isLower] at this
    · exact hb

theorem fieldOf_name_nul_free {o : Opts} {phys : List Bytes} {lc v : Bytes} (h : fieldOf o phys = .ok (lc, v)) :
    (0 : UInt8) ∉ lc := by
  obtain ⟨key, _, _, hk, hname, _, _⟩ := (fieldOf_spec o phys).1 _ h
  rw [show lc = key.map toLower from hk]
  exact name_nul_free o.headerStrict key hname

theorem parseHeaders_err {o : Opts} {r : PReq} {lines : List Bytes} {e : Nat}
    (h : parseHeaders o r lines = .error e) : e = 400 ∨ e = 501 := by
  refine foldl_inv (fun acc : PRes => ∀ e, acc = .error e → e = 400 ∨ e = 501) (headerStep o) (groupFolds lines) (.ok r) nofun
    (fun acc g hacc e h => ?_) e h
  unfold headerStep parseFieldLine at h
  split at h
  · exact hacc e h
  · split at h
    · rename_i he
      cases h
      exact .inl ((fieldOf_spec o g).2 _ he)
    · exact (applyField_spec o _ _).2 e h

end LtVerif
