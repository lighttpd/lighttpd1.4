/-
  The segment machine of Model/Path.lean: canonical paths, buffer_path_simplify(), buffer_urldecode_path().
-/
import LtVerif.Model.Path
import LtVerif.Proofs.Bytes
namespace LtVerif
open B

/-! ### clean segments, canonical absolute paths -/

def Clean (seg : Bytes) : Prop :=
  seg ≠ [] ∧ seg ≠ segDot ∧ seg ≠ segDotDot ∧ slash ∉ seg

theorem Clean.ne {seg : Bytes} (h : Clean seg) : seg ≠ [] := h.1
theorem Clean.notDot {seg : Bytes} (h : Clean seg) : seg ≠ segDot := h.2.1
theorem Clean.notDotDot {seg : Bytes} (h : Clean seg) : seg ≠ segDotDot := h.2.2.1
theorem Clean.noSlash {seg : Bytes} (h : Clean seg) : slash ∉ seg := h.2.2.2

def AllClean (l : List Bytes) : Prop := ∀ seg ∈ l, Clean seg

/-- `"/" seg1 "/" ... "/" segN ["/"]` -/
def CanonicalAbs (r : Bytes) : Prop :=
  ∃ stack : List Bytes, AllClean stack ∧
    (r = slash :: join slash stack ∨ (stack ≠ [] ∧ r = slash :: (join slash stack ++ [slash])))

theorem canonical_split {r : Bytes} (h : CanonicalAbs r) :
    ∃ stack : List Bytes, AllClean stack ∧
      (splitOn slash r = [] :: stack ++ [[]] ∨ (stack ≠ [] ∧ splitOn slash r = [] :: stack)) := by
  obtain ⟨stack, hc, hr⟩ := h
  refine ⟨stack, hc, ?_⟩
  have hns : ∀ seg ∈ stack, slash ∉ seg := fun s hs => (hc s hs).noSlash
  rcases hr with hr | ⟨hne, hr⟩
  · by_cases he : stack = []
    · left; subst he; subst hr; simp [join, splitOn]
    · right; refine ⟨he, ?_⟩
      subst hr
      rw [splitOn_cons_sep, splitOn_join stack he hns]
  · left
    subst hr
    rw [splitOn_cons_sep, splitOn_at_sep, splitOn_join stack hne hns]; rfl

theorem canonical_head {r : Bytes} (h : CanonicalAbs r) : r.head? = some slash := by
  obtain ⟨st, _, hr⟩ := h
  rcases hr with hr | ⟨_, hr⟩ <;> simp [hr]

theorem canonical_ne_nil {r : Bytes} (h : CanonicalAbs r) : r ≠ [] := by
  intro e; have := canonical_head h; simp [e] at this

theorem canonical_mid_nonempty {r : Bytes} (h : CanonicalAbs r) :
    ∀ seg ∈ ((splitOn slash r).drop 1).dropLast, seg ≠ [] := by
  obtain ⟨stack, hc, hs⟩ := canonical_split h
  intro seg hseg
  rcases hs with hs | ⟨hne, hs⟩ <;> rw [hs] at hseg
  · simp only [List.cons_append, List.drop_succ_cons, List.drop_zero,
               List.dropLast_concat] at hseg
    exact (hc seg hseg).ne
  · simp only [List.drop_succ_cons, List.drop_zero] at hseg
    exact (hc seg (List.dropLast_subset _ hseg)).ne

theorem canonical_no_double_slash {A B : Bytes} (h : CanonicalAbs (A ++ slash :: slash :: B)) : False := by
  obtain ⟨a, as, ha⟩ := splitOn_cons_exists slash A
  obtain ⟨b, bs, hb⟩ := splitOn_cons_exists slash B
  have hmid := canonical_mid_nonempty h
  rw [splitOn_at_sep, splitOn_cons_sep, ha, hb] at hmid
  exact hmid [] (by simp [List.dropLast_append_of_ne_nil]) rfl

/-! ### the segment machine -/

theorem pop_stack_subset (st : SimpSt) : ∀ seg ∈ st.pop.stack, seg ∈ st.stack := by
  unfold SimpSt.pop
  split
  · simp
  · rename_i hl; intro seg hs; exact List.dropLast_subset _ (by simpa using hs)

theorem simpMid_push_clean {st : SimpSt} {seg : Bytes} (hc : Clean seg) : simpMid st seg = st.push seg := by
  unfold simpMid
  rw [if_neg (by rintro (e | e); exact hc.ne e; exact hc.notDot e), if_neg hc.notDotDot]

theorem simpLast_fst (st : SimpSt) (seg : Bytes) : (simpLast st seg).1 = simpMid st seg := by
  unfold simpLast simpMid; split
  · rfl
  · split <;> rfl

theorem simpLast_push_clean {st : SimpSt} {seg : Bytes} (hc : Clean seg) :
    simpLast st seg = (st.push seg, false) := by
  unfold simpLast
  rw [if_neg (by rintro (e | e); exact hc.ne e; exact hc.notDot e), if_neg hc.notDotDot]

theorem simpRun_single (st : SimpSt) (x : Bytes) :
    simpRun st [x] = (simpMid st x).render (simpLast st x).2 := by
  unfold simpRun; simp [simpLast_fst]

theorem simpRun_cons (st : SimpSt) (x y : Bytes) (more : List Bytes) :
    simpRun st (x :: y :: more) = simpRun (simpMid st x) (y :: more) := by
  unfold simpRun
  rw [List.getLast?_cons_cons, List.getLast?_eq_some_getLast (l := y :: more) (by simp)]
  simp [List.dropLast]

theorem simpRun_concat (st : SimpSt) (init : List Bytes) (last : Bytes) :
    simpRun st (init ++ [last]) =
      (simpMid (init.foldl simpMid st) last).render (simpLast (init.foldl simpMid st) last).2 := by
  unfold simpRun; simp [simpLast_fst]

theorem simpRun_fold (st : SimpSt) {segs : List Bytes} (hne : segs ≠ []) :
    ∃ tr, simpRun st segs = (segs.foldl simpMid st).render tr := by
  rw [← List.dropLast_concat_getLast hne, simpRun_concat, List.foldl_append]
  exact ⟨_, rfl⟩

theorem foldl_simpMid_ind {P : SimpSt → Prop} {segs : List Bytes} (hpop : ∀ st, P st → P st.pop)
    (hpush : ∀ st, ∀ seg ∈ segs, seg ≠ [] → seg ≠ segDot → seg ≠ segDotDot → P st → P (st.push seg)) :
    ∀ {st : SimpSt}, P st → P (segs.foldl simpMid st) := by
  induction segs with
  | nil => intro st h; exact h
  | cons x xs ih =>
    intro st h
    refine ih (fun st seg hs => hpush st seg (by simp [hs])) ?_
    unfold simpMid
    split
    · exact h
    · rename_i h1
      split
      · exact hpop st h
      · rename_i h2
        exact hpush st x (by simp) (fun e => h1 (Or.inl e)) (fun e => h1 (Or.inr e)) h2 h

theorem pop_clean {st : SimpSt} (h : AllClean st.stack) : AllClean st.pop.stack :=
  fun seg hs => h seg (pop_stack_subset st seg hs)

theorem push_clean {st : SimpSt} {seg : Bytes} (h : AllClean st.stack) (hc : Clean seg) :
    AllClean (st.push seg).stack := by
  intro s hs
  simp only [SimpSt.push, List.mem_append, List.mem_singleton] at hs
  rcases hs with hs | hs
  · exact h s hs
  · exact hs ▸ hc

theorem pop_rel {st : SimpSt} (h : st.rel = false) : st.pop.rel = false := by
  unfold SimpSt.pop; split <;> simp [h]

theorem foldl_simpMid_rel {segs : List Bytes} {st : SimpSt} (h : st.rel = false) :
    (segs.foldl simpMid st).rel = false :=
  foldl_simpMid_ind (P := fun st => st.rel = false) (fun _ => pop_rel) (fun _ _ _ _ _ _ h => h) h

theorem render_abs_canonical {st : SimpSt} (hr : st.rel = false) (h : AllClean st.stack)
    (tr : Bool) : CanonicalAbs (st.render tr) := by
  refine ⟨st.stack, h, ?_⟩
  unfold SimpSt.render
  simp only [hr]
  by_cases hc : (tr && !st.stack.isEmpty) = true
  · right
    simp only [hc, if_true]
    simp only [Bool.and_eq_true, Bool.not_eq_true', List.isEmpty_eq_false_iff] at hc
    exact ⟨hc.2, by simp⟩
  · left; simp [hc]

theorem render_mem {st : SimpSt} {tr : Bool} {b : UInt8} (hb : b ∈ st.render tr) :
    b = slash ∨ ∃ seg ∈ st.stack, b ∈ seg := by
  have hpre : b ∈ (if st.rel then [] else [slash]) → b = slash := by
    cases st.rel <;> simp
  unfold SimpSt.render at hb
  by_cases hc : (tr && !st.stack.isEmpty) = true
  · rw [if_pos hc] at hb
    simp only [List.mem_append, List.mem_singleton] at hb
    rcases hb with (h | h) | h
    · exact Or.inl (hpre h)
    · exact join_mem h
    · exact Or.inl h
  · rw [if_neg hc, List.mem_append] at hb
    rcases hb with h | h
    · exact Or.inl (hpre h)
    · exact join_mem h

theorem pathSimplify_abs (t : Bytes) :
    pathSimplify (slash :: t) = simpRun { rel := false, stack := [] } (splitOn slash t) := by
  unfold pathSimplify
  simp only [splitOn_cons_sep]
  simp

/-! ### relative inputs: the machine's full invariant -/

def SimpInv (st : SimpSt) : Prop := AllClean st.stack ∧ (st.rel = true → st.stack ≠ [])

theorem pop_inv {st : SimpSt} (h : SimpInv st) : SimpInv st.pop := by
  refine ⟨pop_clean h.1, ?_⟩
  unfold SimpSt.pop
  split
  · simp
  · rename_i hl; intro _; simpa using hl

theorem push_inv {st : SimpSt} {seg : Bytes} (h : SimpInv st) (hc : Clean seg) : SimpInv (st.push seg) :=
  ⟨push_clean h.1 hc, by intro _; simp [SimpSt.push]⟩

theorem foldl_simpMid_inv {segs : List Bytes} {st : SimpSt} (hn : ∀ seg ∈ segs, slash ∉ seg)
    (h : SimpInv st) : SimpInv (segs.foldl simpMid st) :=
  foldl_simpMid_ind (P := SimpInv) (fun _ => pop_inv) (fun _ seg hs h1 h2 h3 h => push_inv h ⟨h1, h2, h3, hn seg hs⟩) h

theorem render_rel_head {st : SimpSt} (h : SimpInv st) (hr : st.rel = true) (tr : Bool) :
    (st.render tr).head? ≠ some slash := by
  cases hst : st.stack with
  | nil => exact absurd hst (h.2 hr)
  | cons s0 rest =>
    obtain ⟨hne, _, _, hns⟩ := h.1 s0 (by simp [hst])
    cases s0 with
    | nil => exact absurd rfl hne
    | cons a as =>
      have ha : a ≠ slash := fun e => hns (by simp [e])
      unfold SimpSt.render
      cases rest <;> cases tr <;> simp [hr, hst, join, ha]

theorem pathSimplify_noslash {f : Bytes} (hs : slash ∉ f) :
    pathSimplify f = if f = segDot ∨ f = segDotDot then [] else f := by
  cases f with
  | nil => simp [pathSimplify, segDot, segDotDot]
  | cons x t => unfold pathSimplify; simp [splitOn_of_not_mem hs]

theorem pathSimplify_rel {f : Bytes} (r : Bytes) (hf : f ≠ []) (hs : slash ∉ f) :
    pathSimplify (f ++ slash :: r) =
      if f = segDot ∨ f = segDotDot then simpRun { rel := false, stack := [] } (splitOn slash r)
      else simpRun { rel := true, stack := [f] } (splitOn slash r) := by
  have hsp := splitOn_append_sep r hs
  obtain ⟨p, ps, hp⟩ := splitOn_cons_exists slash r
  rw [hp] at hsp ⊢
  cases f with
  | nil => exact absurd rfl hf
  | cons x t =>
    unfold pathSimplify
    simp only [List.cons_append] at hsp ⊢
    simp [hsp]

/-- no '/', or a machine run from a `SimpInv` state over segments of `s` -/
theorem pathSimplify_cases (s : Bytes) :
    (slash ∉ s ∧ (pathSimplify s = [] ∨ pathSimplify s = s)) ∨
    ∃ st segs, segs ≠ [] ∧ SimpInv st ∧ (∀ seg ∈ st.stack ++ segs, seg ∈ splitOn slash s) ∧
      pathSimplify s = simpRun st segs := by
  have h0 : SimpInv { rel := false, stack := [] } := ⟨by intro s hs; simp at hs, by simp⟩
  obtain ⟨f, hf, rfl | ⟨r, rfl⟩⟩ := first_seg slash s
  · left; refine ⟨hf, ?_⟩; rw [pathSimplify_noslash hf]; split <;> simp
  · right
    rw [splitOn_append_sep r hf]
    by_cases hfe : f = []
    · subst hfe
      exact ⟨_, _, splitOn_ne_nil _ _, h0, fun seg hs => List.mem_cons_of_mem _ (by simpa using hs),
        pathSimplify_abs r⟩
    · rw [pathSimplify_rel r hfe hf]
      split
      · exact ⟨_, _, splitOn_ne_nil _ _, h0, fun seg hs => List.mem_cons_of_mem _ (by simpa using hs), rfl⟩
      · rename_i hd
        refine ⟨{ rel := true, stack := [f] }, _, splitOn_ne_nil _ _, ⟨?_, by simp⟩, by simp, rfl⟩
        intro s hs
        simp only [List.mem_singleton] at hs
        exact hs ▸ ⟨hfe, fun e => hd (Or.inl e), fun e => hd (Or.inr e), hf⟩

theorem pathSimplify_head_canonical (s : Bytes) (h : (pathSimplify s).head? = some slash) :
    CanonicalAbs (pathSimplify s) := by
  rcases pathSimplify_cases s with ⟨hns, e | e⟩ | ⟨st, segs, hne, hinv, hmem, heq⟩
  · rw [e] at h; simp at h
  · rw [e] at h; exact absurd (List.mem_of_mem_head? h) hns
  · obtain ⟨tr, hr⟩ := simpRun_fold st hne
    have hinv' := foldl_simpMid_inv (segs := segs)
      (fun seg hs => splitOn_mem_nosep slash s seg (hmem seg (by simp [hs]))) hinv
    rw [heq, hr] at h ⊢
    cases hrel : (segs.foldl simpMid st).rel with
    | false => exact render_abs_canonical hrel hinv'.1 tr
    | true => exact absurd h (render_rel_head hinv' hrel tr)

theorem pathSimplify_abs_canonical (t : Bytes) : CanonicalAbs (pathSimplify (slash :: t)) := by
  refine pathSimplify_head_canonical _ ?_
  rw [pathSimplify_abs]
  obtain ⟨tr, hr⟩ := simpRun_fold { rel := false, stack := [] } (splitOn_ne_nil slash t)
  rw [hr, SimpSt.render, foldl_simpMid_rel rfl]
  split <;> rfl

theorem pathSimplify_bytes (s : Bytes) : ∀ b ∈ pathSimplify s, b = slash ∨ b ∈ s := by
  rcases pathSimplify_cases s with ⟨_, e | e⟩ | ⟨st, segs, hne, _, hmem, heq⟩
  · rw [e]; simp
  · rw [e]; exact fun b hb => Or.inr hb
  · obtain ⟨tr, hr⟩ := simpRun_fold st hne
    have hst : ∀ seg ∈ (segs.foldl simpMid st).stack, seg ∈ splitOn slash s :=
      foldl_simpMid_ind (P := fun st => ∀ seg ∈ st.stack, seg ∈ splitOn slash s)
        (fun st h seg hs => h seg (pop_stack_subset st seg hs))
        (fun st seg hs _ _ _ h x hx => by
          simp only [SimpSt.push, List.mem_append, List.mem_singleton] at hx
          rcases hx with hx | rfl
          · exact h x hx
          · exact hmem _ (by simp [hs]))
        (fun seg hs => hmem seg (by simp [hs]))
    rw [heq, hr]
    intro b hb
    rcases render_mem hb with e | ⟨seg, hseg, hbs⟩
    · exact Or.inl e
    · exact Or.inr (splitOn_mem_sub slash s seg (hst seg hseg) b hbs)

/-! ### idempotence -/

theorem foldl_simpMid_push (segs : List Bytes) : ∀ (st : SimpSt), AllClean segs →
    segs.foldl simpMid st = { st with stack := st.stack ++ segs } := by
  induction segs with
  | nil => intro st _; simp
  | cons x xs ih =>
    intro st h
    simp only [List.foldl_cons]
    rw [simpMid_push_clean (h x (by simp)), ih _ (fun s hs => h s (by simp [hs]))]
    simp [SimpSt.push]

theorem pathSimplify_canonical_fix {r : Bytes} (h : CanonicalAbs r) : pathSimplify r = r := by
  obtain ⟨stack, hc, hr⟩ := h
  have hns : ∀ seg ∈ stack, slash ∉ seg := fun s hs => (hc s hs).noSlash
  rcases hr with rfl | ⟨hne, rfl⟩
  · rw [pathSimplify_abs]
    by_cases he : stack = []
    · subst he; simp [join, splitOn, simpRun_single, simpMid, simpLast, SimpSt.render]
    · rw [splitOn_join stack he hns, ← List.dropLast_concat_getLast he, simpRun_concat]
      have hcl : Clean (stack.getLast he) := hc _ (List.getLast_mem he)
      rw [foldl_simpMid_push _ _ (fun s hs => hc s (List.dropLast_subset _ hs)),
        simpLast_push_clean hcl, simpMid_push_clean hcl]
      simp [SimpSt.render, SimpSt.push, List.dropLast_concat_getLast he]
  · rw [pathSimplify_abs, splitOn_at_sep, splitOn_join stack hne hns,
      show splitOn slash [] = [[]] from rfl, simpRun_concat,
      foldl_simpMid_push _ _ hc]
    simp [simpMid, simpLast, SimpSt.render, hne]

/-! ### lower-casing keeps a path canonical -/

theorem map_toLower_join (l : List Bytes) :
    (join slash l).map toLower = join slash (l.map (·.map toLower)) := by
  induction l with
  | nil => simp [join]
  | cons p ps ih =>
    cases ps with
    | nil => simp [join]
    | cons q qs => simp only [join, List.map_append, List.map_cons, toLower_slash] at ih ⊢; rw [ih]

theorem clean_map_toLower {seg : Bytes} (h : Clean seg) : Clean (seg.map toLower) := by
  refine ⟨by simpa using h.ne, fun e => h.notDot (map_toLower_eq (by decide) e),
    fun e => h.notDotDot (map_toLower_eq (by decide) e), ?_⟩
  intro hm
  obtain ⟨b, hb, e⟩ := List.mem_map.mp hm
  exact h.noSlash (toLower_eq_slash e ▸ hb)

theorem canonical_map_toLower {r : Bytes} (h : CanonicalAbs r) : CanonicalAbs (r.map toLower) := by
  obtain ⟨stack, hc, hr⟩ := h
  refine ⟨stack.map (·.map toLower), ?_, ?_⟩
  · intro seg hs
    obtain ⟨s0, hs0, e⟩ := List.mem_map.mp hs
    exact e ▸ clean_map_toLower (hc s0 hs0)
  · rcases hr with hr | ⟨hne, hr⟩
    · left; subst hr; simp [toLower_slash, map_toLower_join]
    · right; subst hr
      exact ⟨by simpa using hne, by simp [toLower_slash, map_toLower_join]⟩

/-! ### buffer_urldecode_path() -/

theorem urldecodePath_cons_ne {b : UInt8} (hb : b ≠ pct) (X : Bytes) :
    urldecodePath (b :: X) = b :: urldecodePath X := by
  match X with
  | [] => simp [urldecodePath]
  | [x] => simp [urldecodePath]
  | h :: l :: r => rw [urldecodePath]; simp [hb]

theorem urldecodePath_prefix : ∀ (pre rest : Bytes), pct ∉ pre →
    urldecodePath (pre ++ rest) = pre ++ urldecodePath rest := by
  intro pre
  induction pre with
  | nil => intro rest _; rfl
  | cons c cs ih =>
    intro rest h
    have hc : c ≠ pct := fun e => h (by simp [e])
    simp only [List.cons_append]
    rw [urldecodePath_cons_ne hc, ih rest (fun e => h (by simp [e]))]

theorem urldecodePath_nopct (s : Bytes) (h : pct ∉ s) : urldecodePath s = s := by
  have := urldecodePath_prefix s [] h
  simpa [urldecodePath] using this

/-- the three defining clauses at '%' as one equation: reading past the end yields NUL, which is no hex
    digit - the form in which the C reads `src[1]`, `src[2]` -/
theorem urldecodePath_pct (r : Bytes) : urldecodePath (pct :: r) =
    match hexVal (r.getD 0 0), hexVal (r.getD 1 0) with
    | some hv, some lv => decodeByte hv lv :: urldecodePath (r.drop 2)
    | _, _ => pct :: urldecodePath r := by
  match r with
  | [] => simp [urldecodePath, hexVal_zero]
  | [h] => cases hh : hexVal h <;> simp [urldecodePath, hexVal_zero, hh]
  | h :: l :: rest =>
    rw [urldecodePath, if_pos rfl]
    show _ = match hexVal h, hexVal l with
      | some hv, some lv => decodeByte hv lv :: urldecodePath rest
      | _, _ => pct :: urldecodePath (h :: l :: rest)
    cases hexVal h <;> cases hexVal l <;> rfl

theorem decodeByte_range (hv lv : UInt8) : 32 ≤ decodeByte hv lv ∧ decodeByte hv lv ≠ 127 := by
  unfold decodeByte
  simp only
  split
  · rename_i hc; simpa using hc
  · decide

theorem urldecodePath_step (b : UInt8) (X : Bytes) : ∃ y k,
    urldecodePath (b :: X) = y :: urldecodePath (X.drop k) ∧ (y = b ∨ (32 ≤ y ∧ y ≠ 127)) := by
  by_cases hb : b = pct
  · subst hb
    rw [urldecodePath_pct]
    split
    · exact ⟨_, 2, rfl, Or.inr (decodeByte_range _ _)⟩
    · exact ⟨pct, 0, rfl, Or.inl rfl⟩
  · exact ⟨b, 0, urldecodePath_cons_ne hb X, Or.inl rfl⟩

theorem urldecodePath_no_ctl : ∀ (s : Bytes), ∀ b ∈ urldecodePath s, b ∈ s ∨ (32 ≤ b ∧ b ≠ 127) := by
  intro s
  induction hn : s.length using Nat.strongRecOn generalizing s with
  | _ n ih =>
    cases s with
    | nil => simp [urldecodePath]
    | cons c X =>
      obtain ⟨y, k, he, hy⟩ := urldecodePath_step c X
      rw [he]
      intro b hb
      rcases List.mem_cons.mp hb with rfl | hb
      · exact hy.imp (fun e => by simp [e]) id
      · exact (ih _ (by subst hn; simp; omega) (X.drop k) rfl b hb).imp
          (fun h => List.mem_cons_of_mem _ ((List.drop_sublist _ _).subset h)) id

end LtVerif
