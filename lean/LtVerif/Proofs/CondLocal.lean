/-
  C14: the local comparison `evalLocal` sees a request through `attr` (and `addr`); what a
  `remoteip ==` block computes (`evalLocal_remoteip_eq`); the host[:port] rule of `==` (`HostMatches`,
  `host_eq_iff`). Rests on Model/Cond.lean and two list facts of Proofs/Bytes.lean, not on the tree.
-/
import LtVerif.Model.Cond
import LtVerif.Proofs.Bytes
namespace LtVerif.Cond
open LtVerif B

theorem evalLocal_congr (nd : Node) {e e' : Env} (h1 : attr nd e' = attr nd e)
    (h2 : nd.comp = .remoteIp → e'.addr = e.addr) : evalLocal nd e' = evalLocal nd e := by
  unfold evalLocal eqLike
  simp only [h1]
  by_cases hr : nd.comp = .remoteIp
  · simp only [h2 hr]
  · simp [hr]

theorem attr_set_other (nd : Node) (e : Env) (a : Comp) (v : AttrVal) (h : nd.comp ≠ a) :
    attr nd (e.set a v) = attr nd e := by
  unfold Env.set attr
  split <;> try rfl
  -- either the field the block reads is not the one written, or the block tests `a`
  all_goals split <;> first | rfl | exact absurd ‹_› h

theorem addr_set_other (e : Env) (a : Comp) (v : AttrVal) (h : a ≠ .remoteIp) :
    (e.set a v).addr = e.addr := by
  unfold Env.set
  split <;> first | rfl | exact absurd rfl h

theorem evalLocal_set_other (nd : Node) (e : Env) (a : Comp) (v : AttrVal) (h : nd.comp ≠ a) :
    evalLocal nd (e.set a v) = evalLocal nd e :=
  evalLocal_congr nd (attr_set_other nd e a v h) fun hr => addr_set_other e a v (hr ▸ h).symm

theorem evalLocal_conn_level (nd : Node) (e e' : Env) (hs : e'.socket = e.socket)
    (ha : e'.addr = e.addr) (hi : e'.ipStr = e.ipStr)
    (hc : nd.comp = .socket ∨ nd.comp = .remoteIp) : evalLocal nd e' = evalLocal nd e :=
  evalLocal_congr nd (by rcases hc with hc | hc <;> simp [attr, hc, hs, hi]) fun _ => ha

theorem evalLocal_remoteip_eq (nd : Node) (e : Env) (a : SockAddr) (bits : Nat)
    (hc : nd.comp = .remoteIp) (ho : nd.cond = .eq) (hs : nd.str.head? ≠ some slash)
    (hn : nd.cidr = some (a, bits)) :
    evalLocal nd e = if bits ≠ 0 then a.addrEqBits e.addr bits else a.addrEq e.addr := by
  simp [evalLocal, eqLike, hc, ho, hs, hn]

theorem hostPort_iff (l d : Bytes) (hne : l.length ≠ d.length) :
    hostPort l d = true ↔
      (∃ p, l = d ++ colon :: p ∧ p.length ≤ 5) ∨ (∃ p, d = l ++ colon :: p) := by
  unfold hostPort
  split
  · rename_i hgt
    simp only [Bool.and_eq_true, beq_iff_eq, decide_eq_true_eq]
    constructor
    · rintro ⟨⟨hc, hl6⟩, ht⟩
      obtain ⟨p, hp⟩ := (split_at_iff hgt).mp ⟨hc, ht⟩
      have := length_append_cons hp
      exact Or.inl ⟨p, hp, by omega⟩
    · rintro (⟨p, hp, hp5⟩ | ⟨p, hp⟩)
      · obtain ⟨hc, ht⟩ := (split_at_iff hgt).mpr ⟨p, hp⟩
        have := length_append_cons hp
        exact ⟨⟨hc, by omega⟩, ht⟩
      · have := length_append_cons hp
        omega
  · have hlt : l.length < d.length := by omega
    simp only [Bool.and_eq_true, beq_iff_eq]
    constructor
    · exact fun h => Or.inr ((split_at_iff hlt).mp h)
    · rintro (⟨p, hp, _⟩ | hp)
      · have := length_append_cons hp
        omega
      · exact (split_at_iff hlt).mpr hp

/-- `$HTTP["host"] == "d"` (d not starting with '/') -/
def HostMatches (host d : Bytes) : Prop :=
  host = d ∨
    (host ≠ [] ∧ ((∃ p, host = d ++ colon :: p ∧ p.length ≤ 5) ∨ (∃ p, d = host ++ colon :: p)))

theorem host_eq_iff (nd : Node) (e : Env) (hc : nd.comp = .host) (hs : nd.str.head? ≠ some slash) :
    eqLike nd e = true ↔ HostMatches e.host nd.str := by
  unfold HostMatches
  unfold eqLike
  have hattr : attr nd e = e.host := by simp [attr, hc]
  simp only [hattr, hc, true_and, hs, ne_eq, not_false_eq_true]
  by_cases h1 : e.host = []
  · simp [h1]
  · by_cases h2 : e.host.length = nd.str.length
    · simp only [h1, h2, not_true_eq_false, and_false, if_false, not_false_eq_true, true_and]
      constructor
      · intro h; exact Or.inl (by simpa using h)
      · rintro (h | ⟨p, hp, _⟩ | ⟨p, hp⟩)
        · simp [h]
        · have := length_append_cons hp; omega
        · have := length_append_cons hp; omega
    · simp only [h1, h2, not_false_eq_true, and_self, if_true, true_and]
      rw [hostPort_iff _ _ h2]
      exact ⟨Or.inr, fun h => h.resolve_left fun h => h2 (congrArg List.length h)⟩

end LtVerif.Cond
