/-
  The response header store of Model/H1Resp.lean: what `get`/`has` see after each operation, the
  names lighttpd writes itself, decimal values, and the predicates the operations keep
  (`HdrsClean`, `StoreOk`, `FieldsOk`).
-/
import LtVerif.Model.H1Resp
import LtVerif.Proofs.Bytes
namespace LtVerif
open B

instance (b : Bytes) : Decidable (NoCRLF b) := inferInstanceAs (Decidable (cr ∉ b ∧ lf ∉ b))

namespace Hdrs

/-- the case-folded name: what array_keycmp() compares -/
def nm (k : Bytes) : Bytes := k.map toLower

theorem sameName_iff (a b : Bytes) : sameName a b = true ↔ nm a = nm b := by
  simp [sameName, eqIcase, nm]

theorem sameName_self (k : Bytes) : sameName k k = true := (sameName_iff k k).mpr rfl

theorem sameName_false_iff (a b : Bytes) : sameName a b = false ↔ nm a ≠ nm b := by
  have := sameName_iff a b
  cases h : sameName a b <;> simp_all

theorem get_congr (hs : List Hdr) {k k' : Bytes} (h : sameName k k' = true) : get hs k = get hs k' := by
  rw [sameName_iff] at h
  unfold get
  congr 1
  induction hs with
  | nil => rfl
  | cons x rest ih =>
    simp only [List.find?_cons]
    have : sameName x.key k = sameName x.key k' := by
      cases h1 : sameName x.key k <;> cases h2 : sameName x.key k' <;> try rfl
      · rw [sameName_false_iff] at h1; rw [sameName_iff] at h2; exact absurd (h2.trans h.symm) h1
      · rw [sameName_iff] at h1; rw [sameName_false_iff] at h2; exact absurd (h1.trans h) h2
    rw [this, ih]

theorem has_iff {hs : List Hdr} {k : Bytes} :
    has hs k = true ↔ ∃ v, get hs k = some v ∧ v.isEmpty = false := by
  unfold has; cases get hs k <;> simp

theorem has_congr (hs : List Hdr) {k k' : Bytes} (h : sameName k k' = true) : has hs k = has hs k' := by
  unfold has; rw [get_congr hs h]

theorem get_update (hs : List Hdr) (k v k' : Bytes) :
    get (update hs k v) k' = if sameName k k' then (get hs k').map (fun _ => v) else get hs k' := by
  unfold get update
  induction hs with
  | nil => simp
  | cons x rest ih =>
    simp only [List.map_cons, List.find?_cons]
    by_cases hxk : sameName x.key k = true
    · by_cases hxk' : sameName x.key k' = true
      · have hkk : sameName k k' = true := by
          rw [sameName_iff] at *; exact hxk.symm.trans hxk'
        simp [hxk, hxk', hkk]
      · have hkk : sameName k k' = false := by
          rw [sameName_false_iff]
          intro e
          rw [sameName_iff] at hxk
          exact hxk' ((sameName_iff _ _).mpr (hxk.trans e))
        simp only [hxk, if_true, hxk', Bool.false_eq_true, if_false, hkk] at ih ⊢
        exact ih
    · by_cases hxk' : sameName x.key k' = true
      · have hkk : sameName k k' = false := by
          rw [sameName_false_iff]
          intro e
          rw [sameName_iff] at hxk'
          exact hxk ((sameName_iff _ _).mpr (hxk'.trans e.symm))
        simp [hxk, hxk', hkk]
      · simp only [hxk, Bool.false_eq_true, if_false, hxk'] at ih ⊢
        exact ih

theorem get_append_entry (hs : List Hdr) (k v k' : Bytes) :
    get (hs ++ [⟨k, v⟩]) k' = match get hs k' with
      | some x => some x
      | none => if sameName k k' then some v else none := by
  unfold get
  rw [List.find?_append]
  cases h : List.find? (fun h => sameName h.key k') hs with
  | some x => simp
  | none =>
    by_cases hk : sameName k k' = true <;> simp [hk]

theorem get_set (hs : List Hdr) (k v k' : Bytes) :
    get (set hs k v) k' = if sameName k k' then some v else get hs k' := by
  unfold set
  split
  · rename_i hsome
    rw [get_update]
    by_cases hkk : sameName k k' = true
    · have : get hs k' = get hs k := (get_congr hs hkk).symm
      rw [this]
      cases hg : get hs k with
      | none => simp [hg] at hsome
      | some x => simp [hkk]
    · simp [hkk]
  · rename_i hnone
    rw [get_append_entry]
    by_cases hkk : sameName k k' = true
    · have : get hs k' = get hs k := (get_congr hs hkk).symm
      rw [this]
      cases hg : get hs k with
      | none => simp [hkk]
      | some x => simp [hg] at hnone
    · cases hg : get hs k' <;> simp [hkk]

theorem has_set (hs : List Hdr) (k v k' : Bytes) :
    has (set hs k v) k' = if sameName k k' then !v.isEmpty else has hs k' := by
  unfold has
  rw [get_set]
  by_cases hkk : sameName k k' = true <;> simp [hkk]

theorem get_unset_ne (hs : List Hdr) (k k' : Bytes) (h : sameName k k' = false) :
    get (unset hs k) k' = get hs k' := by
  unfold unset
  split
  · rw [get_update]; simp [h]
  · rfl

theorem has_unset (hs : List Hdr) (k k' : Bytes) :
    has (unset hs k) k' = if sameName k k' then false else has hs k' := by
  by_cases hkk : sameName k k' = true
  · simp only [hkk, if_true]
    have hc := has_congr hs hkk
    unfold unset
    split
    · unfold has
      rw [get_update]
      simp only [hkk, if_true]
      cases get hs k' <;> simp
    · rename_i hno
      rw [← hc]
      simpa using hno
  · have hf : sameName k k' = false := by simpa using hkk
    simp only [hf, Bool.false_eq_true, if_false]
    unfold has
    rw [get_unset_ne hs k k' hf]

/-- http_header_response_append() of a non-blank token -/
theorem has_append (hs : List Hdr) (k v k' : Bytes) (hv : v.isEmpty = false) :
    has (append hs k v) k' = if sameName k k' then true else has hs k' := by
  unfold append
  simp only [hv, Bool.false_eq_true, if_false]
  cases hg : get hs k with
  | some old =>
    simp only []
    split <;>
    · unfold has; rw [get_update]
      by_cases hkk : sameName k k' = true
      · simp [hkk, ← get_congr hs hkk, hg, hv]
      · simp [hkk]
  | none =>
    simp only []
    unfold has
    rw [get_append_entry]
    by_cases hkk : sameName k k' = true
    · simp [hkk, ← get_congr hs hkk, hg, hv]
    · cases get hs k' <;> simp [hkk]

theorem get_append_ne (hs : List Hdr) (k v k' : Bytes) (h : sameName k k' = false) :
    get (append hs k v) k' = get hs k' := by
  unfold append
  split
  · rfl
  · cases hg : get hs k with
    | some old =>
      simp only []
      split <;> (rw [get_update]; simp [h])
    | none =>
      simp only []
      rw [get_append_entry]
      cases get hs k' <;> simp [h]

theorem get_append_fresh (hs : List Hdr) (k v : Bytes) (hv : v.isEmpty = false) (hno : has hs k = false) :
    get (append hs k v) k = some v := by
  have hkk := sameName_self k
  unfold append
  simp only [hv, Bool.false_eq_true, if_false]
  cases hg : get hs k with
  | some old =>
    have : old.isEmpty = true := by simpa [has, hg] using hno
    simp only [this, if_true]
    rw [get_update]; simp [hkk, hg]
  | none =>
    simp only []
    rw [get_append_entry]; simp [hg, hkk]

end Hdrs

theorem get_mem {hs : List Hdr} {k v : Bytes} (h : Hdrs.get hs k = some v) :
    ∃ x ∈ hs, Hdrs.sameName x.key k = true ∧ x.value = v := by
  obtain ⟨x, hf, hx⟩ := Option.map_eq_some_iff.mp h
  exact ⟨x, List.mem_of_find?_eq_some hf, by simpa using List.find?_some hf, hx⟩

theorem get_none_all {hs : List Hdr} {k : Bytes} (h : Hdrs.get hs k = none) :
    ∀ x ∈ hs, Hdrs.sameName x.key k = false :=
  fun x hx => by simpa using List.find?_eq_none.mp (Option.map_eq_none_iff.mp h) x hx

theorem filter_eq_find (hs : List Hdr) (k : Bytes) (h : Hdrs.NoDup hs) :
    hs.filter (fun x => Hdrs.sameName x.key k) = (hs.find? (fun x => Hdrs.sameName x.key k)).toList := by
  induction hs with
  | nil => rfl
  | cons x t ih =>
    unfold Hdrs.NoDup at h
    rw [List.pairwise_cons] at h
    simp only [List.filter_cons, List.find?_cons]
    by_cases hx : Hdrs.sameName x.key k = true
    · simp only [hx, if_true, Option.toList_some]
      congr 1
      apply List.filter_eq_nil_iff.mpr
      intro y hy hyk
      have := h.1 y hy
      rw [Hdrs.sameName_false_iff] at this
      rw [Hdrs.sameName_iff] at hx hyk
      exact this (hx.trans hyk.symm)
    · simp only [hx, Bool.false_eq_true, if_false]
      exact ih h.2

theorem get_of_mem {hs : List Hdr} {h : Hdr} {k : Bytes} (hnd : Hdrs.NoDup hs) (hm : h ∈ hs)
    (hk : Hdrs.sameName h.key k = true) : Hdrs.get hs k = some h.value := by
  have hf : h ∈ hs.filter (fun x => Hdrs.sameName x.key k) := List.mem_filter.mpr ⟨hm, hk⟩
  rw [filter_eq_find hs k hnd] at hf
  unfold Hdrs.get
  cases hfind : hs.find? (fun x => Hdrs.sameName x.key k) with
  | none => rw [hfind] at hf; simp at hf
  | some x => rw [hfind] at hf; simp at hf; subst hf; rfl

section lookups
open Hdrs
theorem has_nil (k : Bytes) : has [] k = false := by simp [Hdrs.has, Hdrs.get]

theorem has_of_get_some {hs : List Hdr} {k v : Bytes} (h : get hs k = some v) : has hs k = !v.isEmpty := by
  simp [has, h]

theorem vals_of_get {hs : List Hdr} {k v : Bytes} (h : Hdrs.get hs k = some v) (hv : v.isEmpty = false) :
    Hdrs.vals hs k = [ltrim v] := by
  simp [Hdrs.vals, h, hv]

theorem vals_of_not_has {hs : List Hdr} {k : Bytes} (h : Hdrs.has hs k = false) : Hdrs.vals hs k = [] := by
  unfold Hdrs.has at h
  unfold Hdrs.vals
  cases hg : Hdrs.get hs k with
  | none => rfl
  | some v =>
    simp only [hg] at h
    have : v.isEmpty = true := by simpa using h
    simp [this]

end lookups

/-! ### `nm_*`: names that differ (CL Content-Length, TE Transfer-Encoding, UP Upgrade, CT Content-Type,
  WA WWW-Authenticate); `nm_final_X`: `finalHdrs` leaves X alone -/
section names
open Hdrs
theorem nm_ne : sameName nContentLength nTransferEncoding = false ∧ sameName nTransferEncoding nContentLength = false ∧
    sameName nContentType nContentLength = false ∧ sameName nContentType nTransferEncoding = false ∧
    sameName nWwwAuthenticate nContentLength = false ∧ sameName nWwwAuthenticate nTransferEncoding = false := by
  unfold Hdrs.sameName nContentLength nTransferEncoding nContentType nWwwAuthenticate
  repeat rw [B.ofString_ofList]
  decide +kernel
theorem nm_final_CL : sameName nConnection nContentLength = false ∧ sameName nContentEncoding nContentLength = false := by
  unfold Hdrs.sameName nConnection nContentEncoding nContentLength; repeat rw [B.ofString_ofList]
  decide +kernel
theorem nm_final_TE : sameName nConnection nTransferEncoding = false ∧ sameName nContentEncoding nTransferEncoding = false := by
  unfold Hdrs.sameName nConnection nContentEncoding nTransferEncoding; repeat rw [B.ofString_ofList]
  decide +kernel
theorem nm_final_UP : sameName nConnection nUpgrade = false ∧ sameName nContentEncoding nUpgrade = false := by
  unfold Hdrs.sameName nConnection nContentEncoding nUpgrade; repeat rw [B.ofString_ofList]
  decide +kernel
theorem nm_CL_UP : sameName nContentLength nUpgrade = false := by
  unfold Hdrs.sameName nContentLength nUpgrade; rw [B.ofString_ofList, B.ofString_ofList]; decide +kernel
theorem nm_TE_UP : sameName nTransferEncoding nUpgrade = false := by
  unfold Hdrs.sameName nTransferEncoding nUpgrade; rw [B.ofString_ofList, B.ofString_ofList]; decide +kernel
theorem nm_CT_UP : Hdrs.sameName nContentType nUpgrade = false := by
  unfold Hdrs.sameName nContentType nUpgrade; rw [B.ofString_ofList, B.ofString_ofList]; decide +kernel
theorem nm_WA_UP : Hdrs.sameName nWwwAuthenticate nUpgrade = false := by
  unfold Hdrs.sameName nWwwAuthenticate nUpgrade; rw [B.ofString_ofList, B.ofString_ofList]; decide +kernel
end names

/-! ### decimal values, strings without CR or LF -/

theorem decNat_natToDec (n : Nat) : decNat (natToDec n) = n :=
  (decOf_eq_foldl _).symm.trans (decOf_natToDec n)

theorem natToDec_all_digit (n : Nat) : (natToDec n).all isDigit = true :=
  List.all_eq_true.mpr (natToDec_digits n)

theorem natToDec_isEmpty (n : Nat) : (natToDec n).isEmpty = false :=
  List.isEmpty_eq_false_iff.mpr (natToDec_ne_nil n)

theorem natToDec_zero : natToDec 0 = [48] := by decide

theorem NoCRLF.append {a b : Bytes} (ha : NoCRLF a) (hb : NoCRLF b) : NoCRLF (a ++ b) :=
  ⟨fun h => (List.mem_append.mp h).elim ha.1 hb.1, fun h => (List.mem_append.mp h).elim ha.2 hb.2⟩

theorem NoCRLF.nil : NoCRLF [] := ⟨by simp, by simp⟩

theorem natToDec_clean (n : Nat) : NoCRLF (natToDec n) := by
  constructor <;> intro hm <;> have := natToDec_digits n _ hm <;> simp [isDigit, cr, lf] at this

theorem ltrim_of_head {v : Bytes} (h : ∀ b, v.head? = some b → isOws b = false) : ltrim v = v := by
  cases v with
  | nil => rfl
  | cons b t => simp [ltrim, List.dropWhile, h b rfl]

theorem ltrim_natToDec (n : Nat) : ltrim (natToDec n) = natToDec n := by
  apply ltrim_of_head
  intro b hb
  have := natToDec_digits n b (List.mem_of_mem_head? hb)
  simp only [isDigit, Bool.and_eq_true, decide_eq_true_eq] at this
  have h1 : b ≠ 32 := by intro e; subst e; revert this; decide
  have h2 : b ≠ 9 := by intro e; subst e; revert this; decide
  simp [isOws, sp, ht, h1, h2]

/-! ### predicates that the store operations keep -/

/-- a field name lighttpd itself writes: CR/LF-free, and as `KeysOk` asks of a stored name -/
structure Token (k : Bytes) : Prop where
  clean : NoCRLF k
  key : k ≠ [] ∧ colon ∉ k

/-- kept by every store operation of the response path (`respond_inv`); `keep`:
    http_response_errdoc_init() carries WWW-Authenticate over into an empty store -/
structure StoreInv (P : List Hdr → Prop) : Prop where
  nil : P []
  set : ∀ {hs} k v, P hs → Token k → NoCRLF v → P (Hdrs.set hs k v)
  unset : ∀ {hs} k, P hs → P (Hdrs.unset hs k)
  append : ∀ {hs} k v, P hs → Token k → NoCRLF v → P (Hdrs.append hs k v)
  keep : ∀ {hs k v}, P hs → Hdrs.get hs k = some v → Token k → P [⟨k, v⟩]

theorem tok_CL : Token nContentLength := by
  unfold nContentLength; rw [B.ofString_ofList]; exact ⟨by decide +kernel, by decide +kernel⟩
theorem tok_TE : Token nTransferEncoding := by
  unfold nTransferEncoding; rw [B.ofString_ofList]; exact ⟨by decide +kernel, by decide +kernel⟩
theorem tok_CO : Token nConnection := by
  unfold nConnection; rw [B.ofString_ofList]; exact ⟨by decide +kernel, by decide +kernel⟩
theorem tok_CT : Token nContentType := by
  unfold nContentType; rw [B.ofString_ofList]; exact ⟨by decide +kernel, by decide +kernel⟩
theorem tok_WA : Token nWwwAuthenticate := by
  unfold nWwwAuthenticate; rw [B.ofString_ofList]; exact ⟨by decide +kernel, by decide +kernel⟩
theorem tok_DA : Token nDate := by
  unfold nDate; rw [B.ofString_ofList]; exact ⟨by decide +kernel, by decide +kernel⟩
theorem tok_SV : Token nServer := by
  unfold nServer; rw [B.ofString_ofList]; exact ⟨by decide +kernel, by decide +kernel⟩

theorem forall_update {Q : Hdr → Prop} {hs : List Hdr} (k v : Bytes) (h : ∀ x ∈ hs, Q x)
    (hv : ∀ x ∈ hs, Hdrs.sameName x.key k = true → Q { x with value := v }) :
    ∀ x ∈ Hdrs.update hs k v, Q x := by
  intro x hx
  unfold Hdrs.update at hx
  obtain ⟨y, hy, rfl⟩ := List.mem_map.mp hx
  split
  · exact hv y hy ‹_›
  · exact h y hy

theorem forall_snoc {Q : Hdr → Prop} {hs : List Hdr} {y : Hdr} (h : ∀ x ∈ hs, Q x) (hy : Q y) :
    ∀ x ∈ hs ++ [y], Q x :=
  List.forall_mem_append.mpr ⟨h, List.forall_mem_singleton.mpr hy⟩

theorem clean_update {hs : List Hdr} (k v : Bytes) (h : HdrsClean hs) (hv : NoCRLF v) :
    HdrsClean (Hdrs.update hs k v) :=
  forall_update k v h fun x hx _ => ⟨(h x hx).1, hv⟩

theorem clean_snoc {hs : List Hdr} (k v : Bytes) (h : HdrsClean hs) (hk : NoCRLF k) (hv : NoCRLF v) :
    HdrsClean (hs ++ [⟨k, v⟩]) :=
  forall_snoc h ⟨hk, hv⟩

theorem clean_set {hs : List Hdr} (k v : Bytes) (h : HdrsClean hs) (hk : NoCRLF k) (hv : NoCRLF v) :
    HdrsClean (Hdrs.set hs k v) := by
  unfold Hdrs.set
  split
  · exact clean_update k v h hv
  · exact clean_snoc k v h hk hv

theorem clean_unset {hs : List Hdr} (k : Bytes) (h : HdrsClean hs) : HdrsClean (Hdrs.unset hs k) := by
  unfold Hdrs.unset
  split
  · exact clean_update k [] h NoCRLF.nil
  · exact h

theorem clean_append {hs : List Hdr} (k v : Bytes) (h : HdrsClean hs) (hk : NoCRLF k) (hv : NoCRLF v) :
    HdrsClean (Hdrs.append hs k v) := by
  unfold Hdrs.append
  split
  · exact h
  · cases hg : Hdrs.get hs k with
    | some old =>
      simp only []
      obtain ⟨x, hx, _, hxv⟩ := get_mem hg
      have hold : NoCRLF old := hxv ▸ (h x hx).2
      split
      · exact clean_update k v h hv
      · exact clean_update k _ h ((hold.append (by decide +kernel)).append hv)
    | none => exact clean_snoc k v h hk hv

theorem storeInv_clean : StoreInv HdrsClean where
  nil := fun x hx => by simp at hx
  set k v h hk hv := clean_set k v h hk.clean hv
  unset k h := clean_unset k h
  append k v h hk hv := clean_append k v h hk.clean hv
  keep h hg hk := by
    obtain ⟨x, hx, _, rfl⟩ := get_mem hg
    exact List.forall_mem_singleton.mpr ⟨hk.clean, (h x hx).2⟩

theorem storeOk_update {hs : List Hdr} (k v : Bytes) (h : StoreOk hs) : StoreOk (Hdrs.update hs k v) := by
  have hkey : ∀ x : Hdr, (if Hdrs.sameName x.key k then { x with value := v } else x).key = x.key :=
    fun x => by split <;> rfl
  refine ⟨?_, ?_⟩
  · unfold Hdrs.NoDup Hdrs.update
    rw [List.pairwise_map]
    simpa only [hkey, Hdrs.NoDup] using h.1
  · exact forall_update k v h.2 fun x hx _ => h.2 x hx

theorem storeOk_snoc {hs : List Hdr} (k v : Bytes) (h : StoreOk hs) (hg : Hdrs.get hs k = none)
    (hk : k ≠ [] ∧ colon ∉ k) : StoreOk (hs ++ [⟨k, v⟩]) := by
  refine ⟨?_, ?_⟩
  · unfold Hdrs.NoDup
    rw [List.pairwise_append]
    refine ⟨h.1, by simp, ?_⟩
    intro a ha b hb
    simp at hb
    subst hb
    exact get_none_all hg a ha
  · exact forall_snoc h.2 hk

theorem storeOk_set {hs : List Hdr} (k v : Bytes) (h : StoreOk hs) (hk : k ≠ [] ∧ colon ∉ k) :
    StoreOk (Hdrs.set hs k v) := by
  unfold Hdrs.set
  split
  · exact storeOk_update k v h
  · rename_i hn
    have : Hdrs.get hs k = none := by
      cases hg : Hdrs.get hs k with
      | none => rfl
      | some x => simp [hg] at hn
    exact storeOk_snoc k v h this hk

theorem storeOk_unset {hs : List Hdr} (k : Bytes) (h : StoreOk hs) : StoreOk (Hdrs.unset hs k) := by
  unfold Hdrs.unset
  split
  · exact storeOk_update k [] h
  · exact h

theorem storeOk_append {hs : List Hdr} (k v : Bytes) (h : StoreOk hs) (hk : k ≠ [] ∧ colon ∉ k) :
    StoreOk (Hdrs.append hs k v) := by
  unfold Hdrs.append
  split
  · exact h
  · cases hg : Hdrs.get hs k with
    | some old =>
      simp only []
      split <;> exact storeOk_update k _ h
    | none => exact storeOk_snoc k v h hg hk

theorem storeOk_insert {hs : List Hdr} (k v : Bytes) (h : StoreOk hs) (hk : k ≠ [] ∧ colon ∉ k) :
    StoreOk (Hdrs.insert hs k v) := by
  unfold Hdrs.insert
  split
  · exact h
  · cases hg : Hdrs.get hs k with
    | some old =>
      simp only []
      split <;> exact storeOk_update k _ h
    | none => exact storeOk_snoc k v h hg hk

theorem storeOk_nil : StoreOk [] := ⟨by simp [Hdrs.NoDup], by intro x hx; simp at hx⟩

theorem storeInv_storeOk : StoreInv StoreOk where
  nil := storeOk_nil
  set k v h hk _ := storeOk_set k v h hk.key
  unset k h := storeOk_unset k h
  append k v h hk _ := storeOk_append k v h hk.key
  keep _ _ hk := storeOk_snoc _ _ storeOk_nil (by simp [Hdrs.get]) hk.key

theorem ValueOk.append_clean {k old s : Bytes} (h : ValueOk k old) (hs : NoCRLF s) : ValueOk k (old ++ s) := by
  induction h with
  | plain v hv => exact .plain _ (hv.append hs)
  | more old k' v _ hsame hk' hne hv _ =>
    have : old ++ [cr, lf] ++ k' ++ [colon, sp] ++ v ++ s = old ++ [cr, lf] ++ k' ++ [colon, sp] ++ (v ++ s) := by
      simp
    rw [this]
    exact .more old k' (v ++ s) ‹_› hsame hk' hne (hv.append hs)

theorem ValueOk.congr {k k2 v : Bytes} (h : ValueOk k v) (hk : Hdrs.nm k = Hdrs.nm k2) : ValueOk k2 v := by
  induction h with
  | plain v hv => exact .plain v hv
  | more old k' v _ hsame hk' hne hv ih =>
    refine .more old k' v ih ?_ hk' hne hv
    rw [Hdrs.sameName_iff] at hsame ⊢
    exact hsame.trans hk

theorem fieldsOk_update {hs : List Hdr} (k v : Bytes) (h : FieldsOk hs)
    (hv : ∀ x ∈ hs, Hdrs.sameName x.key k = true → ValueOk x.key v) : FieldsOk (Hdrs.update hs k v) :=
  forall_update k v h fun x hx hs' => ⟨(h x hx).1, hv x hx hs'⟩

theorem fieldsOk_update_clean {hs : List Hdr} (k v : Bytes) (h : FieldsOk hs) (hv : NoCRLF v) :
    FieldsOk (Hdrs.update hs k v) :=
  fieldsOk_update k v h (fun _ _ _ => .plain v hv)

theorem fieldsOk_snoc {hs : List Hdr} (k v : Bytes) (h : FieldsOk hs) (hk : NoCRLF k) (hv : NoCRLF v) :
    FieldsOk (hs ++ [⟨k, v⟩]) :=
  forall_snoc h ⟨hk, .plain v hv⟩

theorem fieldsOk_set {hs : List Hdr} (k v : Bytes) (h : FieldsOk hs) (hk : NoCRLF k) (hv : NoCRLF v) :
    FieldsOk (Hdrs.set hs k v) := by
  unfold Hdrs.set
  split
  · exact fieldsOk_update_clean k v h hv
  · exact fieldsOk_snoc k v h hk hv

theorem fieldsOk_unset {hs : List Hdr} (k : Bytes) (h : FieldsOk hs) : FieldsOk (Hdrs.unset hs k) := by
  unfold Hdrs.unset
  split
  · exact fieldsOk_update_clean k [] h NoCRLF.nil
  · exact h

theorem fieldsOk_append {hs : List Hdr} (k v : Bytes) (h : FieldsOk hs) (hnd : Hdrs.NoDup hs) (hk : NoCRLF k)
    (hv : NoCRLF v) : FieldsOk (Hdrs.append hs k v) := by
  unfold Hdrs.append
  split
  · exact h
  · cases hg : Hdrs.get hs k with
    | some old =>
      simp only []
      split
      · exact fieldsOk_update_clean k v h hv
      · apply fieldsOk_update k _ h
        intro x hx hsame
        have := get_of_mem hnd hx hsame
        rw [hg] at this
        have e : old = x.value := by simpa using this
        have hval := (h x hx).2
        rw [← e] at hval
        have : old ++ [44, sp] ++ v = old ++ ([44, sp] ++ v) := by simp
        rw [this]
        exact hval.append_clean (NoCRLF.append (by decide +kernel) hv)
    | none => exact fieldsOk_snoc k v h hk hv

/-- http_header_response_insert(): a repeated field becomes a continuation line with the same name -/
theorem fieldsOk_insert {hs : List Hdr} (k v : Bytes) (h : FieldsOk hs) (hnd : Hdrs.NoDup hs) (hk : NoCRLF k)
    (hne : k ≠ []) (hv : NoCRLF v) : FieldsOk (Hdrs.insert hs k v) := by
  unfold Hdrs.insert
  split
  · exact h
  · cases hg : Hdrs.get hs k with
    | some old =>
      simp only []
      split
      · exact fieldsOk_update_clean k v h hv
      · apply fieldsOk_update k _ h
        intro x hx hsame
        have := get_of_mem hnd hx hsame
        rw [hg] at this
        have e : old = x.value := by simpa using this
        have hval := (h x hx).2
        rw [← e] at hval
        refine .more old k v hval ?_ hk hne hv
        rw [Hdrs.sameName_iff] at hsame ⊢
        exact hsame.symm
    | none => exact fieldsOk_snoc k v h hk hv

theorem fieldsOk_of_clean {hs : List Hdr} (h : HdrsClean hs) : FieldsOk hs :=
  fun x hx => ⟨(h x hx).1, .plain _ (h x hx).2⟩

theorem storeInv_fieldsOk : StoreInv fun hs => StoreOk hs ∧ FieldsOk hs where
  nil := ⟨storeOk_nil, by intro x hx; simp at hx⟩
  set k v h hk hv := ⟨storeOk_set k v h.1 hk.key, fieldsOk_set k v h.2 hk.clean hv⟩
  unset k h := ⟨storeOk_unset k h.1, fieldsOk_unset k h.2⟩
  append k v h hk hv := ⟨storeOk_append k v h.1 hk.key, fieldsOk_append k v h.2 h.1.1 hk.clean hv⟩
  keep h hg hk := by
    refine ⟨storeInv_storeOk.keep h.1 hg hk, ?_⟩
    obtain ⟨x, hx, hsame, rfl⟩ := get_mem hg
    exact List.forall_mem_singleton.mpr ⟨hk.clean, (h.2 x hx).2.congr ((Hdrs.sameName_iff _ _).mp hsame)⟩

end LtVerif
