/-
  Lemmas about the byte-level HTTP/2 frame reader (Model/H2Reader.lean): prefix stability of
  one parse round, the reader loop on a ++ x, the reference encoder, and the composition with
  the frame-level machine.
-/
import LtVerif.Model.H2Reader
import LtVerif.Proofs.H2
namespace LtVerif

/-! ### one parse round -/

theorem slice_append (b x : Bytes) (off n : Nat) (h : off + n ≤ b.length) :
    slice (b ++ x) off n = slice b off n := by
  unfold slice
  rw [List.drop_append_of_le_length (by omega)]
  rw [List.take_append_of_le_length (by simp [List.length_drop]; omega)]

/-- `r` = the scan of `b` from offset `n`, `rx` = the same scan of `b ++ x` -/
structure ScanStable (b : Bytes) (n : Nat) (rx r : Scan) : Prop where
  eq : r ≠ .more → rx = r
  bound : ∀ n' acc' k', r = .done n' acc' k' → n + 9 ≤ n' ∧ n' ≤ b.length

theorem contScan_stable (fsize id : Nat) (b x : Bytes) :
    ∀ (fuel n : Nat) (acc : Bytes) (k : Nat),
      ScanStable b n (contScan fsize id (b ++ x) fuel n acc k) (contScan fsize id b fuel n acc k) := by
  intro fuel
  have more : ∀ n rx, ScanStable b n rx .more := fun _ _ => ⟨fun h => absurd rfl h, nofun⟩
  induction fuel with
  | zero => intro n acc k; exact more _ _
  | succ fuel ih =>
    intro n acc k
    have err : ∀ code k, ScanStable b n (.err code k) (.err code k) := fun _ _ => ⟨fun _ => rfl, nofun⟩
    rw [contScan, contScan]
    -- the two waits are the only tests on the length; past each, the octets looked at lie within `b`
    refine ite_ind (P := ScanStable b n _) (fun _ => more _ _) fun h1 => ?_
    rw [if_neg (by rw [List.length_append]; omega), slice_append b x n 9 (by omega)]
    refine ite_ind₂ (fun _ => err _ _) fun _ => ite_ind₂ (fun _ => err _ _) fun _ => ite_ind₂ (fun _ => err _ _) fun _ =>
      ite_ind₂ (fun _ => err _ _) fun _ => ?_
    refine ite_ind (P := ScanStable b n _) (fun _ => more _ _) fun h6 => ?_
    rw [if_neg (by rw [List.length_append]; omega), slice_append b x (n + 9) _ (by omega)]
    refine ite_ind₂ (fun _ => ⟨fun _ => rfl, fun n' _ _ e => ?_⟩) fun _ => ⟨(ih _ _ _).eq, fun n' acc' k' e => ?_⟩
    · injection e with hn _ _
      omega
    · have := (ih _ _ _).bound n' acc' k' e
      omega

/-- `hn`: the merge reads the first CONTINUATION header's flags, `slice b (9 + h.len) 9`; a scan ending at `n` has passed it -/
theorem mergeHeaders_append (b x : Bytes) (h : FHdr) (n : Nat) (acc : Bytes) (k : Nat)
    (hn : 9 + h.len + 9 ≤ n) (hb : n ≤ b.length) :
    mergeHeaders (b ++ x) h n acc k = mergeHeaders b h n acc k := by
  have e1 := slice_append b x 9 1 (by omega)
  have e2 := slice_append b x (9 + h.len) 9 (by omega)
  have e3 := slice_append b x 10 (h.len - 1 - be (slice b 9 1)) (by omega)
  have e4 := slice_append b x 9 h.len (by omega)
  unfold mergeHeaders
  simp only [e1, e2, e3, e4]

theorem mergeHeaders_not_more (b : Bytes) (h : FHdr) (n : Nat) (acc : Bytes) (k : Nat) :
    mergeHeaders b h n acc k ≠ .more :=
  ite_ind (P := (· ≠ Parse.more)) (fun _ => ite_ind (P := (· ≠ Parse.more)) (fun _ => nofun) fun _ => nofun) fun _ => nofun

theorem mergeHeaders_used (b : Bytes) (h : FHdr) (n : Nat) (acc : Bytes) (k : Nat) (f : RawFrame) (k' used : Nat) :
    mergeHeaders b h n acc k = .frame f k' used → used = n :=
  have fr : ∀ g : RawFrame, Parse.frame g k n = .frame f k' used → used = n := fun _ e => by
    injection e with _ _ hu; exact hu.symm
  have ite := @ite_ind Parse fun r => r = .frame f k' used → used = n
  ite (fun _ => ite nofun fun _ => fr _) fun _ => fr _

/-- **prefix stability**: `r` = one parse round on `b`, `rx` = on `b ++ x` -/
structure ParseStable (b : Bytes) (rx r : Parse) : Prop where
  eq : r ≠ .more → rx = r
  bound : ∀ f k used, r = .frame f k used → 9 ≤ used ∧ used ≤ b.length

theorem parseOne_stable (fsize : Nat) (b x : Bytes) : ParseStable b (parseOne fsize (b ++ x)) (parseOne fsize b) := by
  have more : ∀ rx, ParseStable b rx .more := fun _ => ⟨fun h => absurd rfl h, nofun⟩
  unfold parseOne
  refine ite_ind (P := ParseStable b _) (fun _ => more _) fun h1 => ?_
  rw [if_neg (by rw [List.length_append]; omega), slice_append b x 0 9 (by omega)]
  refine ite_ind₂ (fun _ => ⟨fun _ => rfl, nofun⟩) fun _ => ?_
  refine ite_ind (P := ParseStable b _) (fun _ => more _) fun h3 => ?_
  rw [if_neg (by rw [List.length_append]; omega)]
  refine ite_ind₂ (fun _ => ?_) fun _ => ?_
  · -- HEADERS without END_HEADERS: the scan of the CONTINUATION frames is stable, then the merge is
    have hd := contScan_stable fsize ((fhdr (slice b 0 9)).sid % 2147483648) b x contFuel
      (9 + (fhdr (slice b 0 9)).len) [] 0
    generalize contScan fsize _ (b ++ x) contFuel _ [] 0 = sc' at hd ⊢
    generalize contScan fsize _ b contFuel _ [] 0 = sc at hd ⊢
    cases sc with
    | more => exact more _
    | err code k => rw [hd.eq nofun]; exact ⟨fun _ => rfl, nofun⟩
    | done n acc k =>
      have hb := hd.bound n acc k rfl
      rw [hd.eq nofun]
      refine ⟨fun _ => mergeHeaders_append b x _ n acc k (by omega) hb.2, fun f k' used e => ?_⟩
      have := mergeHeaders_used _ _ _ _ _ _ _ _ e
      omega
  · rw [slice_append b x 9 _ (by omega)]
    refine ⟨fun _ => rfl, fun f k used e => ?_⟩
    injection e with _ _ hu
    omega

theorem parseOne_nil (fsize : Nat) : parseOne fsize [] = .more := by simp [parseOne]

theorem parseOne_used {fsize : Nat} {b : Bytes} {f : RawFrame} {k used : Nat} (hp : parseOne fsize b = .frame f k used) :
    9 ≤ used ∧ used ≤ b.length :=
  (parseOne_stable fsize b []).bound f k used hp

/-! ### the reader loop -/

/-- the loop of h2_parse_frames() without fuel: what `drain` computes once its fuel covers the buffer
    (`Drains.drain_eq`, `drains_drain`) -/
inductive Drains (fsize : Nat) : Bytes → RSt → List REv → Prop
  | more {b} : parseOne fsize b = .more → Drains fsize b ⟨b, false⟩ []
  | err {b code k} : parseOne fsize b = .err code k → Drains fsize b ⟨[], true⟩ [.err code k]
  | frame {b f k used st evs} : parseOne fsize b = .frame f k used → Drains fsize (b.drop used) st evs →
      Drains fsize b st (.frame f k :: evs)

theorem Drains.drain_eq {fsize : Nat} {b : Bytes} {st : RSt} {evs : List REv} (h : Drains fsize b st evs) :
    ∀ fuel, b.length ≤ fuel → drain fsize fuel b = (st, evs) := by
  induction h with
  | more hp => intro fuel _; cases fuel <;> simp only [drain, hp]
  | @err b _ _ hp =>
    intro fuel hf
    cases fuel with
    | zero => rw [List.eq_nil_of_length_eq_zero (Nat.le_zero.mp hf), parseOne_nil] at hp; cases hp
    | succ n => simp only [drain, hp]
  | @frame b _ _ used _ _ hp _ ih =>
    intro fuel hf
    -- a frame takes at least its header: one unit of fuel per frame is enough
    have hu := parseOne_used hp
    cases fuel with
    | zero => omega
    | succ n =>
      simp only [drain, hp]
      rw [ih n (by rw [List.length_drop]; omega)]

theorem drains_drain (fsize : Nat) : ∀ (fuel : Nat) (b : Bytes), b.length ≤ fuel →
    Drains fsize b (drain fsize fuel b).1 (drain fsize fuel b).2 := by
  intro fuel
  induction fuel with
  | zero =>
    intro b hb
    rw [List.eq_nil_of_length_eq_zero (Nat.le_zero.mp hb)]
    exact .more (parseOne_nil fsize)
  | succ n ih =>
    intro b hb
    cases hp : parseOne fsize b with
    | more => simp only [drain, hp]; exact .more hp
    | err code k => simp only [drain, hp]; exact .err hp
    | frame f k used =>
      simp only [drain, hp]
      have hu := parseOne_used hp
      exact .frame hp (ih _ (by rw [List.length_drop]; omega))

theorem Drains.append {fsize : Nat} {b : Bytes} {st : RSt} {evs : List REv} (h : Drains fsize b st evs) (x : Bytes) :
    (st.dead = true → Drains fsize (b ++ x) st evs) ∧
    (st.dead = false → ∀ st' evs', Drains fsize (st.buf ++ x) st' evs' → Drains fsize (b ++ x) st' (evs ++ evs')) := by
  induction h with
  | more hp => exact ⟨nofun, fun _ _ _ h' => h'⟩
  | err hp => exact ⟨fun _ => .err (((parseOne_stable fsize _ x).eq (by rw [hp]; nofun)).trans hp), nofun⟩
  | @frame b _ _ used _ _ hp _ ih =>
    have hp' := ((parseOne_stable fsize b x).eq (by rw [hp]; nofun)).trans hp
    have hdrop : (b ++ x).drop used = b.drop used ++ x := List.drop_append_of_le_length (parseOne_used hp).2
    rw [← hdrop] at ih
    exact ⟨fun hd => .frame hp' (ih.1 hd), fun hd st' evs' h' => .frame hp' (ih.2 hd st' evs' h')⟩

/-- what the loop leaves in the buffer is an incomplete frame -/
theorem Drains.final {fsize : Nat} {b : Bytes} {st : RSt} {evs : List REv} (h : Drains fsize b st evs)
    (hd : st.dead = false) : Drains fsize st.buf st [] := by
  induction h with
  | more hp => exact .more hp
  | err => cases hd
  | frame _ _ ih => exact ih hd

/-- **round trip**; the hypothesis holds of a serialised frame (`parseOne_serialize`) and of a HEADERS frame with
    its CONTINUATION frames (`parseOne_continuation`) -/
theorem Drains.items {fsize : Nat} {α : Type} (P : α → Bytes) (F : α → RawFrame) (K : α → Nat) :
    ∀ as : List α, (∀ a ∈ as, ∀ rest, parseOne fsize (P a ++ rest) = .frame (F a) (K a) (P a).length) →
      Drains fsize (as.flatMap P) ⟨[], false⟩ (as.map fun a => .frame (F a) (K a))
  | [], _ => .more (parseOne_nil fsize)
  | a :: as, h => by
    refine .frame (h a List.mem_cons_self _) ?_
    rw [List.flatMap_cons, List.drop_left' rfl]
    exact Drains.items P F K as fun a' ha' => h a' (List.mem_cons_of_mem _ ha')

theorem readerFeed_dead {st : RSt} (hd : st.dead = true) (x : Bytes) : readerFeed st x = (st, []) := by
  rw [readerFeed, hd]; rfl

theorem readerFeed_drains {st : RSt} (hd : st.dead = false) (x : Bytes) :
    Drains readerMaxFrame (st.buf ++ x) (readerFeed st x).1 (readerFeed st x).2 := by
  rw [readerFeed, hd]
  exact drains_drain _ _ _ (Nat.le_of_eq List.length_append)

theorem Drains.readerFeed_eq {st st' : RSt} {x : Bytes} {evs : List REv} (hd : st.dead = false)
    (h : Drains readerMaxFrame (st.buf ++ x) st' evs) : readerFeed st x = (st', evs) := by
  rw [readerFeed, hd]
  exact h.drain_eq _ (Nat.le_of_eq List.length_append)

theorem readerFeed_append (st : RSt) (a b : Bytes) :
    readerFeed st (a ++ b) =
      ((readerFeed (readerFeed st a).1 b).1, (readerFeed st a).2 ++ (readerFeed (readerFeed st a).1 b).2) := by
  cases hd : st.dead with
  | true => rw [readerFeed_dead hd, readerFeed_dead hd, readerFeed_dead hd]; rfl
  | false =>
    have h1 := (readerFeed_drains hd a).append b
    rw [List.append_assoc] at h1
    cases hd1 : (readerFeed st a).1.dead with
    | true => rw [readerFeed_dead hd1, List.append_nil]; exact (h1.1 hd1).readerFeed_eq hd
    | false => exact (h1.2 hd1 _ _ (readerFeed_drains hd1 b)).readerFeed_eq hd

theorem readerFeed_nil_after (st : RSt) (a : Bytes) :
    readerFeed (readerFeed st a).1 [] = ((readerFeed st a).1, []) := by
  cases hd1 : (readerFeed st a).1.dead with
  | true => exact readerFeed_dead hd1 []
  | false =>
    have hd : st.dead = false := by
      cases h : st.dead with
      | false => rfl
      | true => rw [readerFeed_dead h] at hd1; exact h.symm.trans hd1
    refine Drains.readerFeed_eq hd1 ?_
    rw [List.append_nil]
    exact (readerFeed_drains hd a).final hd1

/-! ### the reference encoder read back -/

theorem be_beBytes (k n : Nat) : be (beBytes k n) = n % 256 ^ k := by
  have h : ∀ k a, (beBytes k n).foldl (fun a x => a * 256 + x.toNat) a = a * 256 ^ k + n % 256 ^ k := by
    intro k
    induction k with
    | zero => intro a; simp [beBytes, Nat.mod_one]
    | succ k ih =>
      intro a
      rw [beBytes, List.foldl_cons, ih, Nat.mod_pow_succ, UInt8.toNat_ofNat', Nat.mod_mod_of_dvd _ (by decide : 256 ∣ 2 ^ 8),
        Nat.add_mul, Nat.mul_assoc, Nat.pow_succ, Nat.mul_comm 256, Nat.mul_comm (n / 256 ^ k % 256)]
      omega
  have := h k 0
  rw [Nat.zero_mul, Nat.zero_add] at this
  exact this

@[simp] theorem beBytes_length (k n : Nat) : (beBytes k n).length = k := by
  induction k with
  | zero => rfl
  | succ k ih => simp [beBytes, ih]

def hdr9 (f : RawFrame) : Bytes :=
  beBytes 3 f.payload.length ++ beBytes 1 f.ftype ++ beBytes 1 f.flags ++ beBytes 4 f.sid

theorem hdr9_length (f : RawFrame) : (hdr9 f).length = 9 := by simp [hdr9]

theorem serialize_eq (f : RawFrame) : serialize f = hdr9 f ++ f.payload := by simp [serialize, hdr9]

/-- field widths: 24-bit length, 8-bit type and flags, 32-bit stream id incl. the reserved bit;
    `complete`: a HEADERS frame carries END_HEADERS -/
structure WfRaw (fsize : Nat) (f : RawFrame) : Prop where
  ftype : f.ftype < 256
  flags : f.flags < 256
  sid : f.sid < 4294967296
  len : f.payload.length ≤ fsize
  complete : f.ftype = 1 → flagSet f.flags 4 = true

theorem fhdr_hdr9 (f : RawFrame) (h1 : f.payload.length < 16777216) (h2 : f.ftype < 256) (h3 : f.flags < 256)
    (h4 : f.sid < 4294967296) : fhdr (hdr9 f) = ⟨f.payload.length, f.ftype, f.flags, f.sid⟩ := by
  -- the nine octets of `hdr9 f` are explicit, so the four slices compute
  show FHdr.mk (be (beBytes 3 f.payload.length)) (be (beBytes 1 f.ftype)) (be (beBytes 1 f.flags)) (be (beBytes 4 f.sid)) = _
  rw [be_beBytes, be_beBytes, be_beBytes, be_beBytes, Nat.mod_eq_of_lt h1, Nat.mod_eq_of_lt h2, Nat.mod_eq_of_lt h3,
    Nat.mod_eq_of_lt h4]

theorem serialize_length (f : RawFrame) : (serialize f).length = 9 + f.payload.length := by
  simp [serialize_eq, hdr9_length]

theorem slice_hdr_at {b more : Bytes} {n : Nat} {c : RawFrame} (hd : b.drop n = serialize c ++ more) :
    slice b n 9 = hdr9 c := by
  unfold slice
  rw [hd, serialize_eq, List.append_assoc, List.take_left' (hdr9_length c)]

theorem slice_payload_at {b more : Bytes} {n : Nat} {c : RawFrame} (hd : b.drop n = serialize c ++ more) :
    slice b (n + 9) c.payload.length = c.payload := by
  unfold slice
  rw [← List.drop_drop, hd, serialize_eq, List.append_assoc, List.drop_left' (hdr9_length c), List.take_left' rfl]

theorem parseOne_frame {fsize : Nat} {b : Bytes} {h : FHdr} (hh : fhdr (slice b 0 9) = h) (hl : h.len ≤ fsize)
    (hb : 9 + h.len ≤ b.length) (hc : ¬ (h.ftype = 1 ∧ flagSet h.flags 4 = false)) :
    parseOne fsize b = .frame ⟨h.ftype, h.flags, h.sid, slice b 9 h.len⟩ 0 (9 + h.len) := by
  unfold parseOne
  rw [hh, if_neg (by omega), if_neg (by omega), if_neg (by omega), if_neg hc]

theorem parseOne_headers {fsize : Nat} {b : Bytes} {h : FHdr} (hh : fhdr (slice b 0 9) = h) (hl : h.len ≤ fsize)
    (hb : 9 + h.len ≤ b.length) (ht : h.ftype = 1) (hf : flagSet h.flags 4 = false) :
    (∀ code k, contScan fsize (h.sid % 2147483648) b contFuel (9 + h.len) [] 0 = .err code k →
      parseOne fsize b = .err code k) ∧
    (∀ n acc k, contScan fsize (h.sid % 2147483648) b contFuel (9 + h.len) [] 0 = .done n acc k →
      parseOne fsize b = mergeHeaders b h n acc k) := by
  unfold parseOne
  rw [hh, if_neg (by omega), if_neg (by omega), if_neg (by omega), if_pos ⟨ht, hf⟩]
  exact ⟨fun _ _ e => by rw [e], fun _ _ _ e => by rw [e]⟩

theorem parseOne_serialize (fsize : Nat) (hf : fsize < 16777216) (f : RawFrame) (hw : WfRaw fsize f) (rest : Bytes) :
    parseOne fsize (serialize f ++ rest) = .frame f 0 (9 + f.payload.length) := by
  have hh : fhdr (slice (serialize f ++ rest) 0 9) = ⟨f.payload.length, f.ftype, f.flags, f.sid⟩ :=
    (congrArg fhdr (slice_hdr_at (n := 0) rfl)).trans
      (fhdr_hdr9 f (by have := hw.len; omega) hw.ftype hw.flags hw.sid)
  rw [parseOne_frame hh hw.len (by rw [List.length_append, serialize_length]; exact Nat.le_add_right _ _)
    fun ⟨a, b⟩ => by rw [hw.complete a] at b; cases b]
  exact congrArg (fun p => Parse.frame ⟨f.ftype, f.flags, f.sid, p⟩ 0 (9 + f.payload.length)) (slice_payload_at (n := 0) (more := rest) rfl)

theorem contScan_step (fsize sid : Nat) {b more : Bytes} {n : Nat} (c : RawFrame) (hd : b.drop n = serialize c ++ more)
    (fuel : Nat) (acc : Bytes) (k : Nat)
    (ht : c.ftype = 9) (hfl : c.flags < 256) (hs : c.sid = sid) (hs32 : sid < 4294967296)
    (hl : c.payload.length ≤ fsize) (hf : fsize < 16777216) (h64 : n + 9 + c.payload.length < 65536) :
    contScan fsize sid b (fuel + 1) n acc k =
      if flagSet c.flags 4 then .done (n + 9 + c.payload.length) (acc ++ c.payload) (k + 1)
      else contScan fsize sid b fuel (n + 9 + c.payload.length) (acc ++ c.payload) (k + 1) := by
  have hlen := congrArg List.length hd
  rw [List.length_drop, List.length_append, serialize_length] at hlen
  have hh : fhdr (hdr9 c) = ⟨c.payload.length, c.ftype, c.flags, c.sid⟩ :=
    fhdr_hdr9 c (by omega) (by omega) hfl (by omega)
  rw [contScan, slice_hdr_at hd, hh, slice_payload_at hd, if_neg (by omega), if_neg (fun h => h ht), if_neg (fun h => h hs),
    if_neg (by simp only; omega), if_neg (by simp only; omega), if_neg (by simp only; omega)]

theorem contFrames_length_ge (sid : Nat) : ∀ ps : List Bytes,
    9 * ps.length ≤ ((contFrames sid ps).flatMap serialize).length
  | [] => by simp [contFrames]
  | [p] => by simp [contFrames, serialize_length]
  | p :: q :: ps => by
    have := contFrames_length_ge sid (q :: ps)
    simp only [contFrames, List.flatMap_cons, List.length_append, serialize_length, List.length_cons] at this ⊢
    omega

theorem contScan_frames (fsize sid : Nat) (hf : fsize < 16777216) (hs32 : sid < 4294967296) (b rest : Bytes) :
    ∀ (ps : List Bytes), ps ≠ [] → (∀ p ∈ ps, p.length ≤ fsize) →
    ∀ (n : Nat) (acc : Bytes) (k fuel : Nat), b.drop n = (contFrames sid ps).flatMap serialize ++ rest →
      n + ((contFrames sid ps).flatMap serialize).length < 65536 → ps.length ≤ fuel →
      contScan fsize sid b fuel n acc k =
        .done (n + ((contFrames sid ps).flatMap serialize).length) (acc ++ ps.flatten) (k + ps.length)
  | [], hne, _ => absurd rfl hne
  | [p], _, hl => by
    intro n acc k fuel hd h64 hfuel
    cases fuel with
    | zero => simp at hfuel
    | succ fuel =>
      simp only [contFrames, List.flatMap_cons, List.flatMap_nil, List.append_nil, serialize_length] at hd h64 ⊢
      rw [contScan_step fsize sid ⟨9, 4, sid, p⟩ hd fuel acc k rfl (by simp) rfl hs32 (hl p (by simp)) hf
        (by simp only; omega)]
      simp only [show flagSet 4 4 = true from rfl, if_true, List.flatten_cons, List.flatten_nil, List.append_nil,
        List.length_cons, List.length_nil, Nat.add_assoc]
  | p :: q :: ps, _, hl => by
    intro n acc k fuel hd h64 hfuel
    cases fuel with
    | zero => simp at hfuel
    | succ fuel =>
      simp only [contFrames, List.flatMap_cons, List.length_append, serialize_length, List.append_assoc] at hd h64 ⊢
      rw [contScan_step fsize sid ⟨9, 0, sid, p⟩ hd fuel acc k rfl (by simp) rfl hs32 (hl p (by simp)) hf
        (by simp only; omega)]
      have hd' : b.drop (n + 9 + p.length) = (contFrames sid (q :: ps)).flatMap serialize ++ rest := by
        rw [Nat.add_assoc, ← List.drop_drop, hd,
          List.drop_left' (show (serialize ⟨9, 0, sid, p⟩).length = 9 + p.length from serialize_length _)]
      rw [if_neg (show ¬ flagSet 0 4 = true by decide), contScan_frames fsize sid hf hs32 b rest (q :: ps) (by simp) (fun x hx => hl x (by simp [hx]))
        _ _ _ fuel hd' (by omega) (by simp at hfuel ⊢; omega)]
      simp only [List.flatten_cons, List.length_cons, List.append_assoc]
      congr 1
      · omega
      · omega

/-- `contFuel` = ⌈65536 / 9⌉ is enough: every CONTINUATION frame takes 9 octets at least, the block stays below 64 KiB;
    `hs`: `contScan` compares the id without the reserved bit with each CONTINUATION header's 32-bit word -/
theorem parseOne_continuation (fsize sid flags : Nat) (hf : fsize < 16777216) (hs : sid < 2147483648)
    (hfl : flags < 256) (h4 : flagSet flags 4 = false) (h8 : flagSet flags 8 = false)
    (p0 : Bytes) (ps : List Bytes) (hne : ps ≠ []) (hl : ∀ p ∈ p0 :: ps, p.length ≤ fsize) (rest : Bytes)
    (h64 : 9 + p0.length + ((contFrames sid ps).flatMap serialize).length < 65536) :
    parseOne fsize (serialize ⟨1, flags, sid, p0⟩ ++ (contFrames sid ps).flatMap serialize ++ rest) =
      .frame ⟨1, flags + 4, sid, p0 ++ ps.flatten⟩ ps.length
        (9 + p0.length + ((contFrames sid ps).flatMap serialize).length) := by
  have hge := contFrames_length_ge sid ps
  have hp0 := hl p0 (by simp)
  rw [List.append_assoc]
  generalize hb : serialize ⟨1, flags, sid, p0⟩ ++ ((contFrames sid ps).flatMap serialize ++ rest) = b
  have hd0 : b.drop 0 = serialize ⟨1, flags, sid, p0⟩ ++ ((contFrames sid ps).flatMap serialize ++ rest) := hb.symm
  have hh : fhdr (slice b 0 9) = ⟨p0.length, 1, flags, sid⟩ :=
    (congrArg fhdr (slice_hdr_at hd0)).trans
      (fhdr_hdr9 ⟨1, flags, sid, p0⟩ (by simp only; omega) (by simp) hfl (by simp only; omega))
  have hscan := contScan_frames fsize sid hf (by omega) b rest ps hne (fun p hp => hl p (by simp [hp]))
    (9 + p0.length) [] 0 contFuel
    (by rw [← hb, List.drop_left' (show (serialize ⟨1, flags, sid, p0⟩).length = 9 + p0.length from serialize_length _)])
    h64 (by simp only [contFuel]; omega)
  rw [(parseOne_headers hh hp0 (by rw [← hb]; simp only [List.length_append, serialize_length]; omega) rfl h4).2 _ _ _
    (by rw [show (FHdr.mk p0.length 1 flags sid).sid % 2147483648 = sid from Nat.mod_eq_of_lt hs]; exact hscan)]
  simp only [mergeHeaders, h8, Bool.false_eq_true, if_false, List.nil_append, Nat.zero_add]
  rw [show slice b 9 p0.length = p0 from slice_payload_at hd0]

/-! ### read segments, frame-level machine -/

theorem readerFeedSegs_cons : ∀ (xs : List Bytes) (st : RSt) (x : Bytes),
    readerFeedSegs st (x :: xs) = readerFeed st (x ++ xs.flatten) := by
  intro xs
  induction xs with
  | nil => intro st x; simp [readerFeedSegs]
  | cons y ys ih =>
    intro st x
    rw [readerFeedSegs, ih, List.flatten_cons, readerFeed_append st x (y ++ ys.flatten)]

theorem feedSeg_append (dec : Bytes → HdrKind) (s : BConn) (a b : Bytes) :
    feedSeg dec s (a ++ b) =
      ((feedSeg dec (feedSeg dec s a).1 b).1, (feedSeg dec s a).2 ++ (feedSeg dec (feedSeg dec s a).1 b).2) := by
  simp only [feedSeg, readerFeed_append, List.flatMap_append, recvBatch_append]

theorem feedSegs_cons (dec : Bytes → HdrKind) : ∀ (xs : List Bytes) (s : BConn) (x : Bytes),
    feedSegs dec s (x :: xs) = feedSeg dec s (x ++ xs.flatten) := by
  intro xs
  induction xs with
  | nil => intro s x; simp [feedSegs]
  | cons y ys ih =>
    intro s x
    rw [feedSegs, ih, List.flatten_cons, feedSeg_append dec s x (y ++ ys.flatten)]

theorem h2StepBytes_frames (dec : Bytes → HdrKind) (s : BConn) (segs : List Bytes) :
    ∃ fs, (h2StepBytes dec s segs).1.c = (h2Step s.c fs).1 ∧ (h2StepBytes dec s segs).2 = (h2Step s.c fs).2 := by
  cases segs with
  | nil => exact ⟨[], rfl, rfl⟩
  | cons x xs =>
    refine ⟨(readerFeed s.rd (x ++ xs.flatten)).2.flatMap (evFrames dec), ?_, ?_⟩ <;>
      simp only [h2StepBytes, feedSegs_cons, feedSeg, h2Step]

theorem RunInv.stepBytes {Q : H2Conn → List Out → Prop} (I : RunInv Q) (dec : Bytes → HdrKind) (s : BConn) (segs : List Bytes)
    (os : List Out) (h : Q s.c os) : Q (h2StepBytes dec s segs).1.c (os ++ (h2StepBytes dec s segs).2) := by
  obtain ⟨fs, h1, h2⟩ := h2StepBytes_frames dec s segs
  rw [h1, h2]
  exact I.step s.c fs os h

end LtVerif
