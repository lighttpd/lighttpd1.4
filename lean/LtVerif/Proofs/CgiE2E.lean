/-
  Helper lemmas for C09, used by the end-to-end statements about lighttpd's own variable list:
  the variables of a NUL-free request are NUL-free (so the SCGI / envp round trips apply to `cgiEnv`).
-/
import LtVerif.Proofs.Cgi
namespace LtVerif
open LtVerif B

theorem nulFree_sub {a b : Bytes} (h : a.Sublist b) (hb : NulFree b) : NulFree a :=
  fun hm => hb (h.subset hm)

theorem nulFree_append {a b : Bytes} (ha : NulFree a) (hb : NulFree b) : NulFree (a ++ b) :=
  fun hm => (List.mem_append.mp hm).elim ha hb

theorem nulFree_nil : NulFree [] := by simp [NulFree]

theorem nulFree_natDec (n : Nat) : NulFree (natDec n) := by
  intro hm
  have := natToDec_digits n 0 (natDec_eq n ▸ hm)
  exact absurd this (by decide)

theorem nulFree_intDec (i : Int) : NulFree (intDec i) := by
  unfold intDec
  split
  · exact List.not_mem_cons_of_ne_of_not_mem (by decide) (nulFree_natDec _)
  · exact nulFree_natDec _

theorem nulFree_pathJoin {a b : Bytes} (ha : NulFree a) (hb : NulFree b) : NulFree (pathJoin a b) := by
  unfold pathJoin
  simp only
  split
  · split
    · exact nulFree_append ha (nulFree_sub (List.drop_sublist _ _) hb)
    · exact nulFree_append ha hb
  · split
    · exact nulFree_append ha hb
    · exact nulFree_append ha (List.not_mem_cons_of_ne_of_not_mem (by decide) hb)

theorem nulFree_requestUri (strip : Option Bytes) {t : Bytes} (ht : NulFree t) :
    NulFree (requestUri strip t) := by
  unfold requestUri
  split
  · exact ht
  · split
    · exact ht
    · split
      · exact nulFree_sub (List.drop_sublist _ _) ht
      · exact ht

theorem nulFree_versionName (v : Nat) : NulFree (versionName v) := by
  match v with
  | 0 => show (0 : UInt8) ∉ versionName 0; decide
  | 1 => show (0 : UInt8) ∉ versionName 1; decide
  | 2 => show (0 : UInt8) ∉ versionName 2; decide
  | n + 3 => simp [versionName, Extracted.C09.httpVersionNames, NulFree, ofString]

theorem nulFree_encodeVarname (isHdr : Bool) (k : Bytes) : NulFree (encodeVarname isHdr k) := by
  unfold encodeVarname
  apply nulFree_append
  · cases isHdr
    · exact nulFree_nil
    · show (0 : UInt8) ∉ httpPrefix; decide
  · intro hm
    obtain ⟨c, _, hc⟩ := List.mem_map.mp hm
    rcases enc_charset c with h | h | h
    · rw [hc] at h; exact absurd h (by decide)
    · rw [hc] at h; exact absurd h (by decide)
    · rw [hc] at h; exact absurd h (by decide)

theorem nulFree_of_contains {b : Bytes} (h : b.contains (0 : UInt8) = false) : NulFree b := by
  intro hm
  simp only [List.contains_eq_mem, decide_eq_false_iff_not] at h
  exact h hm

theorem nulFree_names : ∀ n ∈ metaNamesS ++ h2ExtNamesS, NulFree (ofString n) := by
  have : ∀ n ∈ metaNamesS ++ h2ExtNamesS, ((ofString n).contains (0 : UInt8)) = false := by decide +kernel
  exact fun n hn => nulFree_of_contains (this n hn)

theorem nulFree_getD (d : Option Bytes) {b : Bytes} (hd : NulFree (d.getD [])) (hb : NulFree b) :
    NulFree (d.getD b) := by
  cases d with
  | none => exact hb
  | some x => exact hd

theorem cgiMetaS_nulFree (o : CgiOpts) (r : CgiReq) (h : ReqNulFree o r) :
    ∀ p ∈ cgiMetaS o r, NulFree p.2 := by
  intro p hp
  simp only [cgiMetaS, List.mem_filterMap, id_eq, exists_eq_right, List.mem_cons, List.not_mem_nil,
    or_false, some_eq_optE, Option.some.injEq] at hp
  have hdr : NulFree (o.docroot.getD r.basedir) := nulFree_getD _ h.docroot h.basedir
  rcases hp with ⟨_, rfl⟩ | rfl | rfl | ⟨_, rfl⟩ | ⟨_, rfl⟩ | ⟨_, rfl⟩ | ⟨_, rfl⟩ | ⟨_, rfl⟩ | rfl | rfl | rfl |
    rfl | ⟨_, rfl⟩ | ⟨_, rfl⟩ | ⟨_, rfl⟩ | rfl | rfl | rfl | ⟨_, rfl⟩ | rfl | rfl | rfl | rfl | rfl
  · exact nulFree_intDec _  -- CONTENT_LENGTH
  · exact h.query
  · exact nulFree_requestUri _ h.targetOrig
  · exact h.target
  · exact nulFree_of_contains (by decide)  -- REDIRECT_STATUS
  · exact h.path
  · exact h.pathinfo
  · exact nulFree_pathJoin hdr h.pathinfo  -- PATH_TRANSLATED
  · show NulFree (match o.docroot with
      | some d => pathJoin d r.path
      | none => if o.breakScriptFilenameForPhp then pathJoin r.physPath r.pathinfo else r.physPath)
    cases hd : o.docroot with
    | some d =>
      have : NulFree d := by have := h.docroot; rw [hd] at this; exact this
      exact nulFree_pathJoin this h.path
    | none =>
      simp only
      split
      · exact nulFree_pathJoin h.physPath h.pathinfo
      · exact h.physPath
  · exact hdr  -- DOCUMENT_ROOT
  · show NulFree (if r.h2ConnectExt then ofString "GET" else r.method)
    split
    · exact nulFree_of_contains (by decide)
    · exact h.method
  · show NulFree (if r.h2ConnectExt then ofString "HTTP/1.1" else versionName r.version)
    split
    · exact nulFree_of_contains (by decide)
    · exact nulFree_versionName _
  · exact nulFree_of_contains (by decide)  -- HTTP_SEC_WEBSOCKET_KEY
  · exact nulFree_of_contains (by decide)  -- HTTP_UPGRADE
  · exact nulFree_of_contains (by decide)  -- HTTP_CONNECTION
  · exact h.serverTag
  · exact nulFree_of_contains (by decide)  -- GATEWAY_INTERFACE
  · exact h.scheme
  · exact nulFree_of_contains (by decide)  -- HTTPS
  · show NulFree (serverPort r)
    unfold serverPort
    split
    · exact nulFree_sub (List.drop_sublist _ _) h.srvToken
    · show (0 : UInt8) ∉ [48]; decide
  · show NulFree (serverAddr r)
    unfold serverAddr
    split
    · split
      · exact h.localAddr
      · exact nulFree_sub (List.take_sublist _ _) h.srvToken
    · exact nulFree_nil
  · show NulFree (serverNameVar r)
    unfold serverNameVar
    simp only
    split
    · exact nulFree_nil
    · split
      · split
        · exact nulFree_sub (List.take_sublist _ _) h.serverName
        · exact h.serverName
      · split
        · exact nulFree_sub (List.take_sublist _ _) h.serverName
        · exact h.serverName
  · exact h.remoteAddr
  · exact nulFree_natDec _  -- REMOTE_PORT

theorem cgiEnv_nulFree (o : CgiOpts) (r : CgiReq) (h : ReqNulFree o r) : EnvNulFree (cgiEnv o r) := by
  intro p hp
  simp only [cgiEnv, List.mem_append, cgiMeta, List.mem_map, envVars] at hp
  rcases hp with (⟨s, hs, rfl⟩ | hh) | ⟨e, he, rfl⟩
  · constructor
    · exact nulFree_names _ (cgiMetaS_names_mem o r s hs)
    · exact cgiMetaS_nulFree o r h s hs
  · obtain ⟨_, _, k, hk, _, _, hname⟩ := headerVars_sound r.headers p hh
    constructor
    · rcases hname with ⟨_, e⟩ | ⟨_, e⟩
      · rw [e]; show (0 : UInt8) ∉ ofString "CONTENT_TYPE"; decide
      · rw [e]; exact nulFree_encodeVarname _ _
    · exact h.headers (k, p.2) hk
  · exact ⟨nulFree_encodeVarname _ _, h.env e he⟩

end LtVerif
