/- helper lemmas for the scratch-buffer history model (C12) -/
import LtVerif.Model.ArithTmpBuf
import LtVerif.Proofs.ArithBuf
namespace LtVerif
namespace Arith

/-- invariant of the shared scratch buffer `srv->tmp_buf` -/
def TbInv (s : TbSt) : Prop :=
  s.b.used ≤ s.b.size ∧ s.b.size ≤ 786684 ∧ (s.h2open = true → h2EncodeNeed ≤ s.b.size)
  -- 786684 = 2·(3·131071)+258, from `prepareCopy_spec`

/-- record fields are what the FastCGI record header can carry -/
def TbLegal : TbOp → Prop
  | .fcgiErr n p => n ≤ 65535 ∧ p ≤ 255
  | .fcgiOut n p => n ≤ 65535 ∧ p ≤ 255
  | _ => True

theorem h2TmpBufSize_eq : Extracted.h2TmpBufSize = 131071 := by decide

theorem tbStep_inv (s : TbSt) (op : TbOp) (hi : TbInv s) (hl : TbLegal op) :
    ∃ s', tbStep s op = some s' ∧ TbInv s' ∧ s.b.size ≤ s'.b.size := by
  obtain ⟨hwf, hsz, hopen⟩ := hi
  cases op with
  | h2init =>
    obtain ⟨b', h1, used, room, _, grow⟩ := prepareCopy_spec s.b 131071 (by omega) (by omega)
    refine ⟨⟨b', true⟩, ?_, ⟨?_, ?_, ?_⟩, ?_⟩
    · simp only [tbStep, h2TmpBufSize_eq, h1]
    · show b'.used ≤ b'.size; omega
    · show b'.size ≤ 786684; omega
    · intro _; show h2EncodeNeed ≤ b'.size; simp only [h2EncodeNeed]; omega
    · show s.b.size ≤ b'.size; omega
  | h2retire =>
    exact ⟨{ s with h2open := false }, rfl, ⟨hwf, hsz, by intro h; cases h⟩, Nat.le_refl _⟩
  | h2hdr =>
    refine ⟨s, ?_, ⟨hwf, hsz, hopen⟩, Nat.le_refl _⟩
    cases ho : s.h2open with
    | false => simp [tbStep, ho]
    | true =>
      have := hopen ho
      simp only [h2EncodeNeed] at this
      have hge : s.b.size ≥ h2DecodeNeed := by simp only [h2DecodeNeed]; omega
      simp [tbStep, ho, hge]
  | fcgiOut n p => exact ⟨s, rfl, ⟨hwf, hsz, hopen⟩, Nat.le_refl _⟩
  | fcgiErr n p =>
    obtain ⟨hn, hp⟩ := hl
    by_cases h0 : n + p = 0
    · refine ⟨s, ?_, ⟨hwf, hsz, hopen⟩, Nat.le_refl _⟩
      simp [tbStep, tbFcgiErr, h0]
    · have hcl : (clear s.b).size = s.b.size := rfl
      have hcu : (clear s.b).used = 0 := rfl
      have hlen0 : bufLen (clear s.b) = 0 := by simp [bufLen, hcu]
      obtain ⟨b', h1, hp⟩ :=
        prepareAppend_spec (clear s.b) (n + p) (by rw [hcu]; omega) (by rw [hcl]; omega) (by rw [hcu]; omega)
      have h3 := hp.room
      have h7 := hp.grow
      rw [hp.len, hlen0] at h3
      rw [hcl, hcu, hlen0] at h7
      have hu : (truncate b' (0 + (n + p) - p)).used = n + 1 := by
        simp only [truncate, wrap32_of_le (show 0 + (n + p) - p + 1 ≤ 4294967295 by omega)]; omega
      have hs : (truncate b' (0 + (n + p) - p)).size = b'.size := rfl
      refine ⟨{ s with b := truncate b' (0 + (n + p) - p) }, ?_, ⟨?_, ?_, ?_⟩, ?_⟩
      · simp only [tbStep, tbFcgiErr, if_neg h0, h1]
      · show (truncate b' _).used ≤ (truncate b' _).size; rw [hu, hs]; omega
      · show (truncate b' _).size ≤ 786684; rw [hs]; omega
      · intro ho; show h2EncodeNeed ≤ (truncate b' _).size
        have := hopen ho; simp only [h2EncodeNeed] at this ⊢; rw [hs]; omega
      · show s.b.size ≤ (truncate b' _).size; rw [hs]; omega

def TbLegalAll : List TbOp → Prop
  | [] => True
  | op :: rest => TbLegal op ∧ TbLegalAll rest

theorem tbRun_inv (ops : List TbOp) : ∀ s : TbSt, TbInv s → TbLegalAll ops →
    ∃ sf tr, tbRun s ops = some (sf, tr) ∧ TbInv sf ∧ s.b.size ≤ sf.b.size ∧
      (∀ x ∈ tr, s.b.size ≤ x ∧ x ≤ 786684) := by
  induction ops with
  | nil => intro s hi _; exact ⟨s, [], rfl, hi, Nat.le_refl _, by intro x hx; cases hx⟩
  | cons op rest ih =>
    intro s hi hl
    obtain ⟨s', h1, hi', hm⟩ := tbStep_inv s op hi hl.1
    obtain ⟨sf, tr, h2, hif, hmf, htr⟩ := ih s' hi' hl.2
    refine ⟨sf, s'.b.size :: tr, ?_, hif, by omega, ?_⟩
    · simp only [tbRun, h1, h2]
    · intro x hx
      cases hx with
      | head => exact ⟨hm, hi'.2.1⟩
      | tail _ hx' => have := htr x hx'; omega

end Arith
end LtVerif
