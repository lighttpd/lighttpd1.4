/-
  How `recvHead` cuts a byte block into lines (Model/H1Parse.lean): `splitLines_spec`, `takeHead_spec`, and the
  bytes of a head it returns (`HeadBytes`, `recvHead_head_bytes`, `strict_terminator_crlf`).
-/
import LtVerif.Model.H1Parse
namespace LtVerif
open B

theorem splitLines_spec : ∀ (b cur : Bytes), ∃ rem, cur ++ b = (splitLines b cur).flatten ++ rem ∧
    ∀ l ∈ splitLines b cur, l.getLast? = some lf := by
  intro b
  induction b with
  | nil => intro cur; exact ⟨cur, by simp [splitLines], by simp [splitLines]⟩
  | cons x rest ih =>
    intro cur
    unfold splitLines
    split
    · rename_i hx
      obtain ⟨rem, h1, h2⟩ := ih []
      refine ⟨rem, ?_, ?_⟩
      · simp only [List.flatten_cons, List.append_assoc]
        simp only [List.nil_append] at h1
        rw [← h1]; simp
      · intro l hl
        simp only [List.mem_cons] at hl
        rcases hl with rfl | hl
        · simp [hx]
        · exact h2 l hl
    · obtain ⟨rem, h1, h2⟩ := ih (cur ++ [x])
      exact ⟨rem, by rw [← h1]; simp, h2⟩

theorem takeHead_spec : ∀ (ls acc lines : List Bytes) (bl : Bytes), takeHead ls acc = some (lines, bl) →
    ∃ rest, acc.reverse ++ ls = lines ++ bl :: rest ∧ isBlankLine bl = true ∧
      ∀ l ∈ lines, l ∈ acc ∨ (l ∈ ls ∧ isBlankLine l = false) := by
  intro ls
  induction ls with
  | nil => intro acc lines bl h; simp [takeHead] at h
  | cons l rest ih =>
    intro acc lines bl h
    unfold takeHead at h
    split at h
    · rename_i hb
      simp only [Option.some.injEq, Prod.mk.injEq] at h
      obtain ⟨h1, h2⟩ := h
      subst h1 h2
      exact ⟨rest, rfl, hb, fun x hx => .inl (by simpa using hx)⟩
    · rename_i hb
      obtain ⟨rest', h1, h2, h3⟩ := ih (l :: acc) lines bl h
      refine ⟨rest', by simpa using h1, h2, fun x hx => ?_⟩
      rcases h3 x hx with h4 | ⟨h4, h5⟩
      · simp only [List.mem_cons] at h4
        rcases h4 with rfl | h4
        · exact .inr ⟨by simp, by simpa using hb⟩
        · exact .inl h4
      · exact .inr ⟨by simp [h4], h5⟩

structure HeadBytes (mf : Nat) (block : Bytes) (lines : List Bytes) (len : Nat) (bl : Bytes) : Prop where
  blank : isBlankLine bl = true
  bytes : block.take len = lines.flatten ++ bl
  length : len = (lines.flatten ++ bl).length
  size : len ≤ mf
  nonempty : lines ≠ []
  eachLine : ∀ l ∈ lines, isBlankLine l = false ∧ l.getLast? = some lf

theorem recvHead_head_bytes {mf : Nat} {block : Bytes} {lines : List Bytes} {len : Nat}
    (h : recvHead mf block = .head lines len) : ∃ bl, HeadBytes mf block lines len bl := by
  unfold recvHead at h
  simp only at h
  split at h
  · split at h <;> simp at h
  · rename_i lines' bl hth
    obtain ⟨rem, hs1, hs2⟩ := splitLines_spec block []
    obtain ⟨rest, ht1, ht2, ht3⟩ := takeHead_spec _ _ _ _ hth
    simp only [List.reverse_nil, List.nil_append] at ht1 hs1
    split at h
    · simp at h
    · rename_i hsz
      split at h
      · simp at h
      · rename_i hne
        simp only [HeadOut.head.injEq] at h
        obtain ⟨h1, h2⟩ := h
        subst h1
        have hlen : len = (lines'.flatten ++ bl).length := by
          rw [← h2]; simp [List.length_flatten]
        have hblock : block = (lines'.flatten ++ bl) ++ (rest.flatten ++ rem) := by
          rw [hs1, ht1]; simp
        refine ⟨bl, ht2, ?_, hlen, ?_, by simpa using hne, fun l hl => ?_⟩
        · rw [hblock, hlen]; exact List.take_left' rfl
        · simp only [Bool.or_eq_true, decide_eq_true_eq, not_or, Nat.not_lt] at hsz
          omega
        · rcases ht3 l hl with h4 | ⟨h4, h5⟩
          · simp at h4
          · exact ⟨h5, hs2 l h4⟩

theorem strict_terminator_crlf {mf : Nat} {block : Bytes} {lines : List Bytes} {bl : Bytes} {len : Nat}
    (h : HeadBytes mf block lines len bl) (hcr : block.getD (len - 2) 0 = cr) : bl = [cr, lf] := by
  obtain ⟨hbl, htake, hlen, _, hne, hl⟩ := h
  have hlf : ∀ l ∈ lines, l.getLast? = some lf := fun l hx => (hl l hx).2
  unfold isBlankLine at hbl
  simp only [Bool.or_eq_true, decide_eq_true_eq] at hbl
  rcases hbl with rfl | rfl
  · -- bare LF: the byte before it is the LF of the last line
    exfalso
    obtain ⟨init, last, rfl⟩ := (List.eq_nil_or_concat lines).resolve_left hne
    rw [List.concat_eq_append] at *
    obtain ⟨q, rfl⟩ := List.getLast?_eq_some_iff.mp (hlf last (by simp))
    have hlen' : len = (init.flatten ++ q).length + 2 := by
      rw [hlen]; simp; omega
    have : (block.take len).getD (len - 2) 0 = lf := by
      rw [htake, hlen']
      simp [List.getD_eq_getElem?_getD]
    have h2 : (block.take len).getD (len - 2) 0 = block.getD (len - 2) 0 := by
      simp only [List.getD_eq_getElem?_getD]
      rw [List.getElem?_take_of_lt (by omega)]
    rw [h2, hcr] at this
    exact absurd this (by decide)
  · rfl

end LtVerif
