/-
  C17, chunk queue: one `QStep` per function of chunk.c that writes no temp file (`f_step`
  concludes `QStep` about the model's `f`, `f_lstep` `LStep`, `f_spec` spells a conjunction out); `DestStep`: what a FILE turn of steal does to dest.
-/
import LtVerif.Proofs.CqBase
namespace LtVerif.Cq

/-! ## append family -/

theorem pushChunk_qv {w : World} {q : Cq} {c : Chunk} {n : Nat} (hq : QV w q) (hc : c.Valid w)
    (hn : c.rem = n) : QV w (pushChunk q c n) := by
  refine ⟨ValidAll.append hq.valid (ValidAll.single hc), ?_⟩
  have := hq.len
  simp only [pushChunk, remSum_append, remSum_cons, remSum_nil]
  omega

theorem pushChunk_abs (w : World) (q : Cq) (c : Chunk) (n : Nat) :
    absChunks w (pushChunk q c n).chunks = absChunks w q.chunks ++ c.content w := by
  simp [pushChunk]

theorem pushMem_step {w w' : World} {q : Cq} {d : Bytes} {cap : Nat} (h : Quiet w w') :
    QStep w q (w', pushChunk q (.mem d 0 cap) d.length) (q.abs w ++ d) :=
  ⟨h.same, Conserve.of_csum h.res fun k f => by rw [csum_pushChunk]; simp,
    fun hq => ⟨pushChunk_qv (hq.mono h.same.grows) (mem_chunk_valid ..) (mem_chunk_rem ..),
      by simp [Cq.abs, pushChunk, Chunk.content]⟩⟩

theorem extendLast_step {w w' : World} {q : Cq} {old d : Bytes} {off cap cap' : Nat} (h : Quiet w w')
    (hl : q.chunks.getLast? = some (.mem old off cap)) :
    QStep w q (w', { q with chunks := setLast q.chunks (.mem (old ++ d) off cap'),
                            bytesIn := q.bytesIn + d.length }) (q.abs w ++ d) :=
  QStep.mk' h.same (Conserve.of_csum h.res fun k f => by simp only; rw [csum_setLast k f _ hl]; simp) fun hq => by
    have hw : off ≤ old.length := valid_last hq.valid hl
    refine ⟨valid_setLast hq.valid (by simp only [Chunk.Valid, List.length_append]; omega),
      abs_setLast hl (by simp [Chunk.content, List.drop_append_of_le_length hw]), ?_⟩
    simp only [Cq.length, List.length_append]
    omega

theorem appendMemExtend_step {w : World} {q q' : Cq} {d : Bytes} (h : appendMemExtend q d = some q') :
    QStep w q (w, q') (q.abs w ++ d) := by
  unfold appendMemExtend at h
  split at h
  · rename_i h0
    cases h
    rw [List.eq_nil_of_length_eq_zero h0, List.append_nil]
    exact QStep.refl w q
  · split at h
    · rename_i data off cap hl
      split at h
      · cases h; exact extendLast_step (Quiet.refl w) hl
      · cases h
    · cases h

theorem extend_of_ite {c : Prop} [Decidable c] {q q' : Cq} {d : Bytes}
    (h : (if c then appendMemExtend q d else none) = some q') : appendMemExtend q d = some q' := by
  split at h
  · exact h
  · cases h

theorem appendMem_step (w : World) (q : Cq) (d : Bytes) : QStep w q (appendMem w q d) (q.abs w ++ d) := by
  unfold appendMem
  split
  · rename_i q' h; exact appendMemExtend_step (extend_of_ite h)
  · exact pushMem_step (acquire_quiet w _)

theorem appendMemMin_step (w : World) (q : Cq) (d : Bytes) :
    QStep w q (appendMemMin w q d) (q.abs w ++ d) := by
  unfold appendMemMin
  split
  · rename_i q' h; exact appendMemExtend_step (extend_of_ite h)
  · exact pushMem_step (Quiet.refl w)

theorem appendBuffer_step (w : World) (q : Cq) (d : Bytes) :
    QStep w q (appendBuffer w q d) (q.abs w ++ d) := by
  unfold appendBuffer
  split
  · rename_i q' h; exact appendMemExtend_step (extend_of_ite h)
  · exact pushMem_step (acquire_quiet w _)

theorem appendBufferOpen_step (w : World) (q : Cq) (d : Bytes) :
    QStep w q (appendBufferOpen w q d) (q.abs w ++ d) :=
  pushMem_step (acquire_quiet w w.cs)

theorem lastMemFits_some {q : Cq} {sz : Nat} {old : Bytes} {off cap : Nat}
    (h : lastMemFits q sz = some (old, off, cap)) : q.chunks.getLast? = some (.mem old off cap) := by
  unfold lastMemFits at h
  split at h
  · rename_i o2 off2 cap2 hl
    split at h
    · cases h; exact hl
    · cases h
  · cases h

theorem useExisting_step {w : World} {q : Cq} {old : Bytes} {off cap : Nat} (data : Bytes)
    (hl : q.chunks.getLast? = some (.mem old off cap)) :
    QStep w q (w, useExisting q old off cap data) (q.abs w ++ data.take (space old.length cap)) := by
  unfold useExisting
  dsimp only
  split
  · rename_i h0
    rw [List.eq_nil_of_length_eq_zero h0, List.append_nil]
    exact QStep.refl w q
  · exact extendLast_step (Quiet.refl w) hl

theorem useNew_step (w : World) (q : Cq) (cap : Nat) (data : Bytes) :
    QStep w q (useNew w q cap data) (q.abs w ++ data.take (space 0 cap)) := by
  unfold useNew
  dsimp only
  split
  · rename_i h0
    rw [List.eq_nil_of_length_eq_zero h0, List.append_nil]
    exact QStep.world (release_mem_quiet w _ _ _)
  · split
    · rename_i old off pcap hl
      split
      · exact pushMem_step (Quiet.refl w)
      · exact extendLast_step (release_mem_quiet w _ _ _) hl
    · exact pushMem_step (Quiet.refl w)

theorem getUseMemory_step (w : World) (q : Cq) (req : Nat) (data : Bytes) :
    QStep w q ((getUseMemory w q req data).1, (getUseMemory w q req data).2.1)
      (q.abs w ++ data.take (getUseMemory w q req data).2.2) := by
  unfold getUseMemory
  split
  · rename_i old off cap hfit
    exact useExisting_step data (lastMemFits_some hfit)
  · split
    rename_i w' cap ha
    split
    rename_i w'' q' hu
    have hs := acquire_quiet w (memReq w req)
    rw [ha] at hs
    have h := useNew_step w' q cap data
    rw [hu, abs_same hs.same] at h
    exact h.after hs

theorem appendFile_same (w : World) (q : Cq) (fid off len : Nat) (fd : Bool) :
    SameFiles w (appendFile w q fid off len fd).1 := by
  unfold appendFile
  split
  · split
    · exact openFd_same w fid
    · exact SameFiles.refl w
  · exact SameFiles.refl w

theorem appendFile_res (w : World) (q : Cq) (fid off len : Nat) (fd : Bool) :
    CStep w q (appendFile w q fid off len fd) := by
  refine ⟨(appendFile_same w q fid off len fd).calm, fun k f => ?_⟩
  unfold appendFile
  split
  · rw [csum_pushChunk, cres_file]
    cases fd <;> simp [wres_openFd, Fd.isOpen] <;> omega
  · rfl

theorem appendFile_step (w : World) (q : Cq) (fid off len : Nat) (fd : Bool) (h1 : fid < w.nfiles)
    (h2 : fid < w.nsrc) (h3 : off + len ≤ sz w fid) :
    QStep w q (appendFile w q fid off len fd) (q.abs w ++ ((w.files fid).content.drop off).take len) := by
  have hs := appendFile_same w q fid off len fd
  refine ⟨hs, appendFile_res w q fid off len fd, fun hq => ?_⟩
  unfold appendFile at hs ⊢
  split
  · rename_i hpos
    rw [if_pos hpos] at hs
    refine ⟨pushChunk_qv (hq.mono hs.grows) ?_ (by simp [Chunk.rem]), ?_⟩
    · exact ⟨by rw [hs.nfiles]; exact h1, by omega, by rw [hs.sz]; exact h3,
        Or.inr (Or.inr (by rw [hs.nsrc]; exact h2))⟩
    · rw [Cq.abs, pushChunk_abs]
      simp [Cq.abs, Chunk.content]
  · rename_i h0
    have : len = 0 := by omega
    subst this
    rw [List.take_zero, List.append_nil]
    exact ⟨hq, rfl⟩

theorem appendChunkqueue_step (w : World) (dest src : Cq) :
    QStep2 w dest src (w, (appendChunkqueue dest src).1, (appendChunkqueue dest src).2)
      (dest.abs w ++ src.abs w) [] := by
  unfold appendChunkqueue
  split
  · rename_i h
    exact ⟨SameFiles.refl w, Conserve.refl w _, fun hd hs => ⟨hd, hs, by simp [Cq.abs, h], by simp [Cq.abs, h]⟩⟩
  · refine ⟨SameFiles.refl w, ⟨Calm.refl w, fun k f => by simp⟩, fun hd hs => ?_⟩
    have h1 := hd.len
    have h2 := hs.len
    refine ⟨⟨ValidAll.append hd.valid hs.valid, ?_⟩, ⟨ValidAll.nil w, by simp⟩, by simp [Cq.abs], rfl⟩
    simp only [Cq.length, remSum_append]
    omega

/-! ## consume / compact -/

theorem abs_drop_ge {w : World} {c : Chunk} {rest : List Chunk} {n : Nat} (hv : c.Valid w) (h : c.rem ≤ n) :
    (absChunks w (c :: rest)).drop n = (absChunks w rest).drop (n - c.rem) := by
  rw [absChunks_cons, List.drop_append, content_length hv,
    List.drop_of_length_le (by rw [content_length hv]; exact h), List.nil_append]

theorem abs_drop_le {w : World} {c : Chunk} {rest : List Chunk} {n : Nat} (hv : c.Valid w) (h : n ≤ c.rem) :
    (absChunks w (c :: rest)).drop n = (c.adv n).content w ++ absChunks w rest := by
  rw [absChunks_cons, List.drop_append, content_length hv, Nat.sub_eq_zero_of_le h, List.drop_zero,
    content_adv h]

theorem abs_take_ge {w : World} {c : Chunk} {rest : List Chunk} {n : Nat} (hv : c.Valid w) (h : c.rem ≤ n) :
    (absChunks w (c :: rest)).take n = c.content w ++ (absChunks w rest).take (n - c.rem) := by
  rw [absChunks_cons, List.take_append, content_length hv,
    List.take_of_length_le (by rw [content_length hv]; exact h)]

theorem abs_take_le {w : World} {c : Chunk} {rest : List Chunk} {n : Nat} (hv : c.Valid w) (h : n ≤ c.rem) :
    (absChunks w (c :: rest)).take n = (c.content w).take n := by
  rw [absChunks_cons, List.take_append, content_length hv, Nat.sub_eq_zero_of_le h, List.take_zero,
    List.append_nil]

theorem cres_adv (k : Kind) (f : Nat) (c : Chunk) (n : Nat) : cres k f (c.adv n) = cres k f c := by
  cases c <;> simp [Chunk.adv, cres_file]

theorem mwLoop_lstep (w : World) (cs : List Chunk) (n : Nat) :
    LStep w cs (mwLoop w cs n) ((absChunks w cs).drop n) := by
  induction cs generalizing w n with
  | nil => exact ⟨SameFiles.refl w, Conserve.refl w [], fun _ => ⟨ValidAll.nil w, by simp [mwLoop]⟩⟩
  | cons c rest ih =>
    simp only [mwLoop]
    split
    · rename_i hge
      have h := (ih (release w c) (n - c.rem)).release
      rw [absChunks_same (release_same w c)] at h
      exact ⟨h.1, h.res, fun hv => by rw [abs_drop_ge hv.head hge]; exact h.valid hv⟩
    · rename_i hlt
      refine ⟨SameFiles.refl w, Conserve.of_csum (SameRes.refl w) fun k f => by simp [cres_adv], fun hv => ?_⟩
      rw [abs_drop_le hv.head (by omega)]
      exact ⟨ValidAll.cons (Chunk.rem_adv (n := n) (by omega) hv.head).2 hv.tail, absChunks_cons ..⟩

theorem mwLoop_same (w : World) (cs : List Chunk) (n : Nat) : SameFiles w (mwLoop w cs n).1 :=
  (mwLoop_lstep w cs n).1

theorem mwLoop_rem {w : World} {cs : List Chunk} (n : Nat) (hv : ValidAll w cs) :
    ValidAll w (mwLoop w cs n).2 ∧ remSum (mwLoop w cs n).2 = remSum cs - n := by
  obtain ⟨a, b⟩ := (mwLoop_lstep w cs n).valid hv
  exact ⟨a, by rw [← absChunks_length a, b, List.length_drop, absChunks_length hv]⟩

theorem markWritten_step (w : World) (q : Cq) (n : Nat) (hn : QV w q → n ≤ (q.abs w).length) :
    QStep w q (markWritten w q n) ((q.abs w).drop n) :=
  QStep.of_list (mwLoop_lstep w q.chunks n) rfl fun hq => by
    have := hn hq
    simp only [Cq.length, List.length_drop]
    omega

theorem markWritten_same (w : World) (q : Cq) (n : Nat) : SameFiles w (markWritten w q n).1 :=
  mwLoop_same w q.chunks n

theorem mwLoop_all {P : Chunk → Prop} (hadv : ∀ c n, P c → P (c.adv n)) (w : World) (cs : List Chunk) (n : Nat)
    (h : ∀ c ∈ cs, P c) : ∀ c ∈ (mwLoop w cs n).2, P c := by
  fun_induction mwLoop w cs n with
  | case1 w x => exact h
  | case2 w c rest n hn ih => exact ih fun x hx => h x (List.mem_cons_of_mem _ hx)
  | case3 w c rest n hn =>
    intro x hx
    cases hx with
    | head => exact hadv c n (h c (List.mem_cons_self ..))
    | tail _ hx => exact h x (List.mem_cons_of_mem _ hx)

theorem mwLoop_length (w : World) (cs : List Chunk) (n : Nat) : (mwLoop w cs n).2.length ≤ cs.length := by
  fun_induction mwLoop w cs n with
  | case1 w x => exact Nat.le_refl _
  | case2 w c rest n hn ih => exact Nat.le_succ_of_le ih
  | case3 w c rest n hn => exact Nat.le_refl _

theorem markWritten_eq (w : World) (q : Cq) (n : Nat) :
    markWritten w q n = ((mwLoop w q.chunks n).1,
      { q with chunks := (mwLoop w q.chunks n).2, bytesOut := q.bytesOut + n }) := by
  unfold markWritten
  generalize mwLoop w q.chunks n = r
  obtain ⟨a, b⟩ := r
  rfl

theorem rfLoop_lstep (w : World) (cs : List Chunk) : LStep w cs (rfLoop w cs) (absChunks w cs) := by
  induction cs generalizing w with
  | nil => exact LStep.refl w []
  | cons c rest ih =>
    simp only [rfLoop]
    split
    · rename_i h0
      have h := (ih (release w c)).release
      rw [absChunks_same (release_same w c)] at h
      exact ⟨h.1, h.res, fun hv => by
        rw [absChunks_cons, content_nil_of_rem hv.head h0, List.nil_append]; exact h.valid hv⟩
    · exact LStep.refl w _

theorem removeFinished_step (w : World) (q : Cq) : QStep w q (removeFinished w q) (q.abs w) :=
  QStep.of_list (rfLoop_lstep w q.chunks) rfl fun _ => by simp only [Cq.length]; omega

theorem reLoop_lstep (w : World) (c : Chunk) (cs : List Chunk) :
    LStep w (c :: cs) (reLoop w c cs) (absChunks w (c :: cs)) := by
  fun_induction reLoop w c cs with
  | case1 w c => exact LStep.refl w _  -- no successor
  | case2 w c n h0 =>  -- empty successor, the last chunk
    exact ⟨release_same w n, by simpa using (release_conserve w n).frame_left [c], fun hv =>
      ⟨ValidAll.single hv.head, by simp [content_nil_of_rem hv.tail.head h0]⟩⟩
  | case3 w c n h0 m rest' w' t heq ih =>  -- empty successor, the next one stepped over
    rw [heq] at ih
    have h := ih.release
    rw [absChunks_same (release_same w n)] at h
    refine ⟨h.1, h.res.frame_left [c], fun hv => ?_⟩
    obtain ⟨a, b⟩ := h.valid hv.tail
    exact ⟨ValidAll.cons hv.head a, by simp [b, content_nil_of_rem hv.tail.head h0]⟩
  | case4 w c n rest h0 w' t heq ih =>  -- non-empty successor
    rw [heq] at ih
    refine ⟨ih.1, ih.res.frame_left [c], fun hv => ?_⟩
    obtain ⟨a, b⟩ := ih.valid hv.tail
    exact ⟨ValidAll.cons hv.head a, by simp [b]⟩

theorem removeEmpty_step (w : World) (q : Cq) : QStep w q (removeEmpty w q) (q.abs w) := by
  unfold removeEmpty
  split
  rename_i w1 cs1 h1
  have hf := rfLoop_lstep w q.chunks
  rw [h1] at hf
  split
  · exact QStep.of_list hf rfl fun _ => by simp only [Cq.length, Cq.abs]; omega
  · rename_i c rest
    split
    rename_i w2 cs2 h2
    have hr := reLoop_lstep w1 c rest
    rw [h2] at hr
    refine QStep.of_list (r := (w2, cs2)) ⟨hf.1.trans hr.1, hf.res.trans hr.res, fun hv => ?_⟩ rfl
      fun _ => by simp only [Cq.length]; omega
    obtain ⟨a, b⟩ := hf.valid hv
    obtain ⟨a2, b2⟩ := hr.valid (a.mono hf.1.grows)
    exact ⟨hf.1.valid_back a2, ((absChunks_same hf.1 _).symm.trans b2).trans
      ((absChunks_same hf.1 _).trans b)⟩

theorem compactMemOffset_step (w : World) (q : Cq) : QStep w q (w, compactMemOffset q) (q.abs w) := by
  unfold compactMemOffset
  split
  · rename_i d off cap rest hc
    split
    · exact QStep.refl w q
    · refine QStep.mk' (SameFiles.refl w) (Conserve.of_csum (SameRes.refl w) fun k f => by simp [hc])
        fun hq => ?_
      have hv := hq.valid
      rw [hc] at hv
      exact ⟨ValidAll.cons (Nat.zero_le _) hv.tail, by simp [Cq.abs, hc, Chunk.content],
        by simp only [Cq.length]; omega⟩
  · exact QStep.refl w q

theorem cmLoop_spec (w : World) (data : Bytes) (off cap : Nat) (cs : List Chunk) (need : Nat) :
    SameFiles w (cmLoop w data off cap cs need).1 ∧
      Conserve w cs (cmLoop w data off cap cs need).1 (cmLoop w data off cap cs need).2 ∧
      (off ≤ data.length → ValidAll w cs → ValidAll w (cmLoop w data off cap cs need).2 ∧
        absChunks w (cmLoop w data off cap cs need).2 = data.drop off ++ absChunks w cs) := by
  fun_induction cmLoop w data off cap cs need with
  | case1 w data cap need =>  -- no chunk left
    exact ⟨SameFiles.refl w, Conserve.of_csum (SameRes.refl w) fun k f => by simp,
      fun ho _ => ⟨ValidAll.single ho, by simp [Chunk.content]⟩⟩
  | case2 w data cap c rest =>  -- enough gathered
    exact ⟨SameFiles.refl w, Conserve.of_csum (SameRes.refl w) fun k f => by simp,
      fun ho hv => ⟨ValidAll.cons ho hv, by simp [Chunk.content]⟩⟩
  | case3 w data cap rest need hn d2 off2 cap2 l2 hgt =>  -- part of the next chunk suffices
    refine ⟨SameFiles.refl w, Conserve.of_csum (SameRes.refl w) fun k f => by simp, fun ho hv => ?_⟩
    have h2 : off2 ≤ d2.length := hv.head
    refine ⟨ValidAll.cons (by simp only [Chunk.Valid, List.length_append]; omega)
      (ValidAll.cons (by simp only [Chunk.Valid]; omega) hv.tail), ?_⟩
    simp only [absChunks_cons, Chunk.content, List.drop_append_of_le_length ho, List.append_assoc]
    congr 1
    rw [← List.append_assoc, ← List.drop_drop, List.take_append_drop]
  | case4 w data cap rest need hn d2 off2 cap2 l2 hle ih =>  -- the whole next chunk, then on
    have hr := release_same w (.mem d2 off2 cap2)
    refine ⟨hr.trans ih.1, ((release_conserve w _).frame_right rest).trans ih.2.1, fun ho hv => ?_⟩
    obtain ⟨a, b⟩ := ih.2.2 (by simp only [List.length_append]; omega) (hv.tail.mono hr.grows)
    refine ⟨hr.valid_back a, ?_⟩
    rw [absChunks_same hr] at b
    rw [b, absChunks_same hr, List.drop_append_of_le_length ho]
    simp [Chunk.content]
  | case5 w data cap c rest need hn hc =>  -- not a MEM chunk
    exact ⟨SameFiles.refl w, Conserve.of_csum (SameRes.refl w) fun k f => by simp,
      fun ho hv => ⟨ValidAll.cons ho hv, by simp [Chunk.content]⟩⟩

theorem compactMem_step (w : World) (q : Cq) (clen : Nat) : QStep w q (compactMem w q clen) (q.abs w) := by
  unfold compactMem
  split
  · rename_i d off cap rest hc
    dsimp only
    -- every branch gathers into a buffer that starts with the first chunk's bytes
    have key : ∀ (w1 : World) (data : Bytes) (o c need : Nat), Quiet w w1 →
        (off ≤ d.length → o ≤ data.length ∧ data.drop o = d.drop off) →
        QStep w q ((cmLoop w1 data o c rest need).1, { q with chunks := (cmLoop w1 data o c rest need).2 })
          (q.abs w) := by
      intro w1 data o c need hw hd
      have hs := hw.same
      obtain ⟨hs1, hr1, hv1⟩ := cmLoop_spec w1 data o c rest need
      refine QStep.mk' (hs.trans hs1)
        ((Conserve.of_csum hw.res (cs := q.chunks) (cs' := rest) fun k f => by simp [hc]).trans hr1) fun hq => ?_
      have hv := hq.valid
      rw [hc] at hv
      obtain ⟨ho, hd⟩ := hd hv.head
      obtain ⟨a, b⟩ := hv1 ho (hv.tail.mono hs.grows)
      refine ⟨hs.valid_back a, ?_, by simp only [Cq.length]; omega⟩
      rw [absChunks_same hs] at b
      rw [Cq.abs, Cq.abs, b, absChunks_same hs, hd, hc]
      simp [Chunk.content]
    split
    · exact QStep.refl w q
    · split
      · split
        · exact key w _ 0 _ _ (Quiet.refl w) fun _ => ⟨Nat.zero_le _, rfl⟩  -- data to the front
        · exact key w d off _ _ (Quiet.refl w) fun ho => ⟨ho, rfl⟩  -- in place
      -- a new buffer
      · exact key _ _ 0 _ _ ((acquire_quiet w _).trans (release_mem_quiet _ d off cap)) fun _ => ⟨Nat.zero_le _, rfl⟩
  · exact QStep.refl w q

/-! ## steal (and `copyRange`, its partial step) -/

theorem copyRange_spec (w : World) (dst : Cq) (c : Chunk) (off n : Nat) :
    SameFiles w (copyRange w dst c off n).1 ∧ CStep w dst (copyRange w dst c off n) ∧
      (QV w dst → c.Valid w → off + n ≤ c.rem →
        QV (copyRange w dst c off n).1 (copyRange w dst c off n).2 ∧
        absChunks w (copyRange w dst c off n).2.chunks =
          absChunks w dst.chunks ++ ((c.content w).drop off).take n) := by
  cases c with
  | mem d coff cap =>
    simp only [copyRange]
    obtain ⟨hs, hr, h⟩ := appendMem_step w dst ((d.drop (coff + off)).take n)
    exact ⟨hs, hr, fun hd _ _ => by simpa [Cq.abs, Chunk.content, Nat.add_comm] using h hd⟩
  | file fid coff len t fd =>
    simp only [copyRange]
    have hs : SameFiles w (if (dupFd t fd).isOpen = true then w.openFd fid else w) := by
      split
      · exact openFd_same w fid
      · exact SameFiles.refl w
    refine ⟨hs, ⟨hs.calm, fun k f => ?_⟩, fun hd hv hn => ?_⟩
    · rw [csum_pushChunk, cres_file]
      cases hfd : (dupFd t fd).isOpen <;> simp [wres_openFd] <;> omega
    · simp only [Chunk.Valid, Chunk.rem] at hv hn
      refine ⟨pushChunk_qv (hd.mono hs.grows) ⟨by rw [hs.nfiles]; exact hv.1, by omega, by rw [hs.sz]; omega,
        by rw [hs.nsrc]; exact (dupFd_readable hv.2.2.2).imp id Or.inr⟩ (by simp [Chunk.rem]), ?_⟩
      rw [pushChunk_abs]
      simp only [Chunk.content, List.drop_take, List.take_take, List.drop_drop]
      congr 3
      omega

theorem stealPartial_spec (w : World) (dest : Cq) (c : Chunk) (n : Nat) :
    SameFiles w (stealPartial w dest c n).1 ∧ CStep w dest (stealPartial w dest c n) ∧
      (QV w dest → c.Valid w → n ≤ c.rem →
        QV (stealPartial w dest c n).1 (stealPartial w dest c n).2 ∧
        absChunks w (stealPartial w dest c n).2.chunks = absChunks w dest.chunks ++ (c.content w).take n) := by
  have h := copyRange_spec w dest c 0 n
  simp only [Nat.zero_add, List.drop_zero] at h
  cases c with
  | mem d off cap => exact h
  | file fid off len t fd =>
    simp only [stealPartial]
    split
    · exact h
    · rename_i h0
      have : n = 0 := by omega
      exact ⟨SameFiles.refl w, Conserve.refl w _, fun hd _ _ => ⟨hd, by simp [this]⟩⟩

theorem moveChunk_spec (w : World) (dest : Cq) (c : Chunk) :
    SameFiles w (moveChunk w dest c).1 ∧
      Conserve w (dest.chunks ++ [c]) (moveChunk w dest c).1 (moveChunk w dest c).2.chunks ∧
      (QV w dest → c.Valid w →
        QV (moveChunk w dest c).1 (moveChunk w dest c).2 ∧
        absChunks w (moveChunk w dest c).2.chunks = absChunks w dest.chunks ++ c.content w) := by
  unfold moveChunk
  split
  · exact ⟨SameFiles.refl w, Conserve.refl w _, fun hd hv => ⟨pushChunk_qv hd hv rfl, pushChunk_abs ..⟩⟩
  · rename_i h0
    have h0' : c.rem = 0 := by omega
    have hr := release_same w c
    exact ⟨hr, by simpa using (release_conserve w c).frame_left dest.chunks,
      fun hd hv => ⟨hd.mono hr.grows, by simp [content_nil_of_rem hv h0']⟩⟩

theorem stealLoop_spec {w : World} {dest : Cq} {cs : List Chunk} {len : Nat} {w' : World} {dest' : Cq}
    {cs' : List Chunk} {moved : Nat} (h : stealLoop w dest cs len = (w', dest', cs', moved)) :
    SameFiles w w' ∧ Conserve w (dest.chunks ++ cs) w' (dest'.chunks ++ cs') ∧
      (QV w dest → ValidAll w cs →
        QV w' dest' ∧ ValidAll w' cs' ∧ moved = min len (remSum cs) ∧
        absChunks w dest'.chunks = absChunks w dest.chunks ++ (absChunks w cs).take moved ∧
        absChunks w cs' = (absChunks w cs).drop moved) := by
  fun_induction stealLoop w dest cs len generalizing w' dest' cs' moved with
  | case1 w dest len =>  -- src is empty
    cases h
    exact ⟨SameFiles.refl w, Conserve.refl w _, fun hd _ => ⟨hd, ValidAll.nil w, by simp, by simp, by simp⟩⟩
  | case2 w dest c rest len hge h0 =>  -- the whole chunk `c`, and that is all
    cases h
    obtain ⟨hs, hr, hm⟩ := moveChunk_spec w dest c
    refine ⟨hs, by simpa using hr.frame_right rest, fun hd hv => ?_⟩
    obtain ⟨hq, ha⟩ := hm hd hv.head
    refine ⟨hq, hv.tail.mono hs.grows, by simp only [remSum_cons]; omega, ?_, ?_⟩
    · rw [ha, abs_take_ge hv.head (Nat.le_refl _), Nat.sub_self, List.take_zero, List.append_nil]
    · rw [abs_drop_ge hv.head (Nat.le_refl _), Nat.sub_self, List.drop_zero]
  | case3 w dest c rest len hge h0 w1 dest1 cs1 moved1 heq ih =>  -- the whole chunk `c`, then on
    cases h
    obtain ⟨hs, hr, hm⟩ := moveChunk_spec w dest c
    obtain ⟨hs2, hr2, hi⟩ := ih heq
    have h1 := hr.frame_right rest
    simp only [List.append_assoc, List.singleton_append] at h1
    refine ⟨hs.trans hs2, h1.trans hr2, fun hd hv => ?_⟩
    obtain ⟨hq, ha⟩ := hm hd hv.head
    obtain ⟨qd, vs, hmv, hta, hdr⟩ := hi hq (hv.tail.mono hs.grows)
    simp only [absChunks_same hs] at hta hdr
    refine ⟨qd, vs, by simp only [remSum_cons]; omega, ?_, ?_⟩
    · rw [hta, ha, abs_take_ge hv.head (Nat.le_add_right _ _), Nat.add_sub_cancel_left, List.append_assoc]
    · rw [hdr, abs_drop_ge hv.head (Nat.le_add_right _ _), Nat.add_sub_cancel_left]
  | case4 w dest c rest len hlt =>  -- part of `c`
    cases h
    obtain ⟨hs, hr, hp⟩ := stealPartial_spec w dest c len
    refine ⟨hs, (hr.frame_right (c :: rest)).trans
      (Conserve.of_csum (SameRes.refl _) fun k f => by simp [cres_adv]), fun hd hv => ?_⟩
    obtain ⟨hq, ha⟩ := hp hd hv.head (by omega)
    refine ⟨hq, (ValidAll.cons (Chunk.rem_adv (n := len) (by omega) hv.head).2 hv.tail).mono hs.grows,
      by simp only [remSum_cons]; omega, ?_, ?_⟩
    · rw [ha, abs_take_le hv.head (by omega)]
    · rw [abs_drop_le hv.head (by omega), absChunks_cons]

theorem steal_step (w : World) (dest src : Cq) (len : Nat) :
    QStep2 w dest src (steal w dest src len) (dest.abs w ++ (src.abs w).take len) ((src.abs w).drop len) := by
  unfold steal
  split
  rename_i w' dest' cs moved heq
  obtain ⟨hs, hr, hi⟩ := stealLoop_spec heq
  refine ⟨hs, hr, fun hd hsrc => ?_⟩
  obtain ⟨qd, vs, hmv, hta, hdr⟩ := hi hd hsrc.valid
  have hl := absChunks_length hsrc.valid
  have := hsrc.len
  have hrem : remSum cs = remSum src.chunks - moved := by
    rw [← absChunks_length (hs.valid_back vs), hdr, List.length_drop, hl]
  refine ⟨qd, ⟨vs, by simp only [hrem]; omega⟩, ?_, ?_⟩
  · simp only [Cq.abs, hta, hmv]
    rw [← hl, ← List.take_eq_take_min]
  · simp only [Cq.abs, hdr, hmv]
    rw [← hl, ← List.drop_eq_drop_min]

theorem steal_head {w : World} {dest src : Cq} {c : Chunk} {cs : List Chunk} (len : Nat)
    (heq : src.chunks = c :: cs) :
    steal w dest src (min len c.rem) =
      if c.rem ≤ len then
        ((moveChunk w dest c).1, (moveChunk w dest c).2,
          { src with chunks := cs, bytesOut := src.bytesOut + c.rem })
      else
        ((stealPartial w dest c len).1, (stealPartial w dest c len).2,
          { src with chunks := c.adv len :: cs, bytesOut := src.bytesOut + len }) := by
  unfold steal
  rw [heq]
  by_cases h : c.rem ≤ len
  · rw [if_pos h, Nat.min_eq_right h, stealLoop, if_pos (Nat.le_refl _), if_pos (Nat.sub_self _)]
  · rw [if_neg h, Nat.min_eq_left (by omega), stealLoop, if_neg (by omega)]

/-! ### what chunkqueue_steal() of (part of) a FILE_CHUNK does to dest -/

/-- nothing, or one more non-MEM chunk: `c` itself, or a copy of part of it that owns no temp file -/
def DestStep (dest dest' : Cq) (c : Chunk) : Prop :=
  dest'.tdIdx = dest.tdIdx ∧
    (dest'.chunks = dest.chunks ∨ ∃ x, dest'.chunks = dest.chunks ++ [x] ∧ x.isMem = false ∧
      (x = c ∨ ∃ fid o l fd, x = .file fid o l false fd))

theorem steal_dest {w : World} {dest src : Cq} {c : Chunk} {cs : List Chunk} (len : Nat)
    (heq : src.chunks = c :: cs) (hc : c.isMem = false) :
    DestStep dest (steal w dest src (min len c.rem)).2.1 c := by
  rw [steal_head len heq]
  split
  · dsimp only
    unfold moveChunk
    split
    · exact ⟨rfl, Or.inr ⟨c, rfl, hc, Or.inl rfl⟩⟩
    · exact ⟨rfl, Or.inl rfl⟩
  · cases c with
    | mem d off cap => cases hc
    | file fid off l t fd =>
      simp only [stealPartial]
      split
      · exact ⟨rfl, Or.inr ⟨_, rfl, rfl, Or.inr ⟨_, _, _, _, rfl⟩⟩⟩
      · exact ⟨rfl, Or.inl rfl⟩

/-! ## read -/

theorem openChunk_same (w : World) (fid len : Nat) (t : Bool) : SameFiles w (openChunk w fid len t).1 := by
  unfold openChunk
  split
  · exact SameFiles.refl w
  · dsimp only
    split <;> exact openFd_same w fid

theorem openChunk_res (w : World) (fid off len : Nat) (t : Bool) :
    Conserve w [.file fid off len t .none] (openChunk w fid len t).1
      [.file fid off len t (openChunk w fid len t).2.1] := by
  have opened : Conserve w [.file fid off len t .none] (w.openFd fid) [.file fid off len t .ro] :=
    ⟨(openFd_same w fid).calm, fun k f => by
      simp only [csum_cons, csum_nil, cres_file, wres_openFd]
      cases t <;> simp [Fd.isOpen] <;> omega⟩
  unfold openChunk
  split
  · exact Conserve.refl w _
  · dsimp only
    split <;> exact opened

theorem peekChunk_spec {w : World} {n : Nat} {acc : Bytes} {c : Chunk} {w1 : World} {c1 : Chunk}
    {acc1 : Bytes} {ok : Bool} (h : peekChunk w n acc c = (w1, c1, acc1, ok)) :
    SameFiles w w1 ∧ Conserve w [c] w1 [c1] ∧
      (c.Valid w → c1.Valid w ∧ c1.rem = c.rem ∧ c1.content w = c.content w ∧
        (ok = true → acc1 = acc ++ (c.content w).take (n - acc.length))) := by
  cases c with
  | mem d off cap =>
    simp only [peekChunk, Prod.mk.injEq] at h
    obtain ⟨rfl, rfl, rfl, rfl⟩ := h
    refine ⟨SameFiles.refl w, Conserve.refl w _, fun hv => ⟨hv, rfl, rfl, fun _ => ?_⟩⟩
    simp only [Chunk.content]
    split
    · rename_i h0
      have : d.drop off = [] := List.eq_nil_of_length_eq_zero (by simpa using h0)
      simp [this]
    · have := List.take_eq_take_min (l := d.drop off) (i := n - acc.length)
      rw [List.length_drop, Nat.min_comm] at this
      rw [this]
  | file fid off len t fd =>
    simp only [peekChunk] at h
    have hfd : ∀ {w2 : World} {fd2 : Fd} {b : Bool},
        (if fd.isOpen = true then (w, fd, true) else openChunk w fid len t) = (w2, fd2, b) →
        fd.isOpen = true → fd2.isOpen = true := by
      intro w2 fd2 b heq ho
      rw [if_pos ho] at heq
      simp only [Prod.mk.injEq] at heq
      rw [← heq.2.1]; exact ho
    -- every branch returns the chunk in place, its descriptor from the open step; only the data differ
    have hopen : SameFiles w (if fd.isOpen = true then (w, fd, true) else openChunk w fid len t).1 ∧
        Conserve w [.file fid off len t fd] (if fd.isOpen = true then (w, fd, true) else openChunk w fid len t).1
          [.file fid off len t (if fd.isOpen = true then (w, fd, true) else openChunk w fid len t).2.1] := by
      split
      · exact ⟨SameFiles.refl w, Conserve.refl w _⟩
      · rename_i hclosed
        have hn : fd = .none := by
          cases fd
          · rfl
          · exact absurd rfl hclosed
          · exact absurd rfl hclosed
        rw [hn]
        exact ⟨openChunk_same w fid len t, openChunk_res w fid off len t⟩
    split at h
    · rename_i w2 fd2 heq  -- the file cannot be opened
      rw [heq] at hopen
      simp only [Prod.mk.injEq] at h
      obtain ⟨rfl, rfl, rfl, rfl⟩ := h
      exact ⟨hopen.1, hopen.2, fun hv => ⟨hv.setFd (hfd heq), rfl, rfl, fun h => by cases h⟩⟩
    · rename_i w2 fd2 heq
      rw [heq] at hopen
      split at h
      · rename_i h0  -- the chunk is empty
        simp only [Prod.mk.injEq] at h
        obtain ⟨rfl, rfl, rfl, rfl⟩ := h
        exact ⟨hopen.1, hopen.2, fun hv => ⟨hv.setFd (hfd heq), rfl, rfl, fun _ => by simp [Chunk.content, h0]⟩⟩
      · split at h
        · simp only [Prod.mk.injEq] at h  -- pread() returns nothing
          obtain ⟨rfl, rfl, rfl, rfl⟩ := h
          exact ⟨hopen.1, hopen.2, fun hv => ⟨hv.setFd (hfd heq), rfl, rfl, fun h => by cases h⟩⟩
        · simp only [Prod.mk.injEq] at h  -- data
          obtain ⟨rfl, rfl, rfl, rfl⟩ := h
          have hopen' : SameFiles w w2 := hopen.1
          refine ⟨hopen.1, hopen.2, fun hv => ⟨hv.setFd (hfd heq), rfl, rfl, fun _ => ?_⟩⟩
          simp only [Chunk.content, hopen'.content, List.take_take]
          congr 2
          exact Nat.min_comm _ _

theorem peekLoop_spec {w : World} {n : Nat} {acc : Bytes} {cs : List Chunk} {w' : World} {cs' : List Chunk}
    {acc' : Bytes} {ok : Bool} (h : peekLoop w n acc cs = (w', cs', acc', ok)) :
    LStep w cs (w', cs') (absChunks w cs) ∧
      (ValidAll w cs → ok = true → acc.length ≤ n → acc' = acc ++ (absChunks w cs).take (n - acc.length)) := by
  fun_induction peekLoop w n acc cs generalizing w' cs' acc' ok with
  | case1 w acc =>  -- no chunk left
    cases h
    exact ⟨LStep.refl w [], fun _ _ _ => by simp⟩
  | case2 w acc c rest w1 c' acc1 heq =>  -- the chunk cannot be read
    cases h
    obtain ⟨hs, hr, hc⟩ := peekChunk_spec heq
    refine ⟨⟨hs, by simpa using hr.frame_right rest, fun hv => ?_⟩, fun _ h => by cases h⟩
    obtain ⟨c1, _, c3, _⟩ := hc hv.head
    exact ⟨ValidAll.cons c1 hv.tail, by simp [c3]⟩
  | case3 w acc c rest w1 c' acc1 heq hn =>  -- `n` bytes gathered
    cases h
    obtain ⟨hs, hr, hc⟩ := peekChunk_spec heq
    refine ⟨⟨hs, by simpa using hr.frame_right rest, fun hv => ?_⟩, fun hv _ hle => ?_⟩
    · obtain ⟨c1, _, c3, _⟩ := hc hv.head
      exact ⟨ValidAll.cons c1 hv.tail, by simp [c3]⟩
    · have e := (hc hv.head).2.2.2 rfl
      rw [e, absChunks_cons, List.take_append]
      have : n - acc.length - (c.content w).length = 0 := by
        rw [e, List.length_append, List.length_take] at hn
        omega
      simp [this]
  | case4 w acc c rest w1 c' acc1 heq hn w2 rest2 acc2 ok2 heq2 ih =>  -- on to the next chunk
    cases h
    obtain ⟨hs, hr, hc⟩ := peekChunk_spec heq
    obtain ⟨⟨hs2, hr2, hv2⟩, hi⟩ := ih heq2
    have hr1 : Conserve w ([c] ++ rest) w1 ([c'] ++ rest) := hr.frame_right rest
    refine ⟨⟨hs.trans hs2, hr1.trans (hr2.frame_left [c']), fun hv => ?_⟩, fun hv hok hle => ?_⟩
    · obtain ⟨c1, _, c3, _⟩ := hc hv.head
      obtain ⟨v2, a2⟩ := hv2 (hv.tail.mono hs.grows)
      simp only [absChunks_same hs] at a2
      exact ⟨ValidAll.cons c1 (hs.valid_back v2), by simp [c3, a2]⟩
    · have e := (hc hv.head).2.2.2 rfl
      have hlen : acc1.length ≤ n := by
        rw [e, List.length_append, List.length_take]; omega
      have i4 := hi (hv.tail.mono hs.grows) hok hlen
      simp only [absChunks_same hs] at i4
      rw [i4, e, absChunks_cons, List.take_append, List.append_assoc]
      have hlt : (c.content w).length < n - acc.length := by
        rw [e, List.length_append, List.length_take] at hn
        omega
      rw [List.take_of_length_le (l := c.content w) (by omega)]
      congr 3
      simp only [List.length_append]
      omega

theorem peekData_spec {w : World} {q : Cq} {n : Nat} {w' : World} {q' : Cq} {acc : Bytes} {ok : Bool}
    (h : peekData w q n = (w', q', acc, ok)) :
    QStep w q (w', q') (q.abs w) ∧ (QV w q → ok = true → acc = (q.abs w).take n) := by
  unfold peekData at h
  split at h
  rename_i w1 cs acc1 ok1 heq
  cases h
  obtain ⟨hl, hi⟩ := peekLoop_spec heq
  exact ⟨QStep.of_list hl rfl fun _ => by simp only [Cq.length, Cq.abs]; omega,
    fun hq hok => by simpa [Cq.abs] using hi hq.valid hok (Nat.zero_le _)⟩

theorem readData_spec {w : World} {q : Cq} {n : Nat} {w' : World} {q' : Cq} {r : Option Bytes}
    (h : readData w q n = (w', q', r)) :
    SameFiles w w' ∧ CStep w q (w', q') ∧
      (QV w q → QV w' q' ∧
        (∀ d, r = some d → d = (q.abs w).take n ∧ d.length = n ∧ q'.abs w = (q.abs w).drop n) ∧
        (r = none → q'.abs w = q.abs w)) := by
  unfold readData at h
  split at h
  rename_i w1 q1 acc ok heq
  obtain ⟨⟨hs, hr, hpq⟩, hi⟩ := peekData_spec heq
  split at h
  · simp only [Prod.mk.injEq] at h
    obtain ⟨rfl, rfl, rfl⟩ := h
    refine ⟨hs, hr, fun hq => ?_⟩
    obtain ⟨i1, i2⟩ := hpq hq
    exact ⟨i1, (fun d hd => by cases hd), fun _ => i2⟩
  · rename_i hc
    simp only [Prod.mk.injEq] at h
    obtain ⟨rfl, rfl, rfl⟩ := h
    refine ⟨hs.trans (markWritten_same w1 q1 n), Conserve.trans hr (mwLoop_lstep w1 q1.chunks n).res, fun hq => ?_⟩
    obtain ⟨i1, i2⟩ := hpq hq
    have hok : ok = true := by
      cases ok
      · simp at hc
      · rfl
    have hacc : acc.length = n := by
      by_cases hx : acc.length = n
      · exact hx
      · simp [hx] at hc
    have e := hi hq hok
    simp only at i1 i2
    have hs' : SameFiles w w1 := hs
    have h1 : q1.abs w1 = q.abs w := (absChunks_same hs' _).trans i2
    have hn : n ≤ (q1.abs w1).length := by
      have := hacc
      rw [e, List.length_take] at this
      rw [h1]; omega
    obtain ⟨m1, m2⟩ := (markWritten_step w1 q1 n fun _ => hn).qv i1
    refine ⟨m1, (fun d hd => ?_), fun hnone => by cases hnone⟩
    cases hd
    refine ⟨e, hacc, ?_⟩
    rw [← h1]
    exact (absChunks_same hs' _).symm.trans m2

theorem readSquash_step (w : World) (q : Cq) :
    QStep w q ((readSquash w q).1, (readSquash w q).2.1) (q.abs w) := by
  -- the whole length is peeked; on success one MEM chunk holds `abs`
  unfold readSquash
  split
  · exact QStep.refl w q
  · split
    rename_i w1 cap ha
    have hq1 := acquire_quiet w (q.length.toNat + 1)
    rw [ha] at hq1
    have hs1 := hq1.same
    have hr1 := hq1.res.conserve q.chunks
    split
    · rename_i w2 q2 acc heq
      obtain ⟨⟨hs2, hr2, hi⟩, _⟩ := peekData_spec heq
      have hr := release_same w2 (.mem [] 0 cap)
      refine ⟨(hs1.trans hs2).trans hr,
        (hr1.trans hr2).trans ((release_mem_quiet w2 [] 0 cap).res.conserve _), fun hq => ?_⟩
      obtain ⟨i1, i2⟩ := hi (hq.mono hs1.grows)
      refine ⟨i1.mono hr.grows, ?_⟩
      simp only [Cq.abs] at i2 ⊢
      rw [← absChunks_same hs1, i2, absChunks_same hs1]
    · rename_i w2 q2 acc heq
      obtain ⟨⟨hs2, hr2, hi⟩, hacc⟩ := peekData_spec heq
      have hr := releaseAll_same w2 q2.chunks
      refine ⟨(hs1.trans hs2).trans hr, (hr1.trans hr2).trans ((releaseAll_conserve w2 q2.chunks).trans
        (Conserve.of_csum (SameRes.refl _) fun k f => by simp)), fun hq => ?_⟩
      obtain ⟨i1, i2⟩ := hi (hq.mono hs1.grows)
      have e := hacc (hq.mono hs1.grows) rfl
      simp only at i1 i2
      have hl := absChunks_length hq.valid
      have hlen := hq.len
      have hfull : acc = q.abs w := by
        rw [e]
        simp only [Cq.abs, absChunks_same hs1]
        refine List.take_of_length_le ?_
        simp only [Cq.length]
        omega
      refine ⟨⟨ValidAll.single (mem_chunk_valid ..), ?_⟩, ?_⟩
      · have hlen2 := i1.len
        simp only [remSum_cons, remSum_nil, mem_chunk_rem, hfull, Cq.abs, hl]
        have h2 : remSum q2.chunks = remSum q.chunks := by
          have a := absChunks_length i1.valid
          simp only [Cq.abs] at i2
          rw [absChunks_same hs2, i2, absChunks_same hs1, hl] at a
          exact a.symm
        omega
      · simp [Cq.abs, Chunk.content, hfull]

/-! ## range duplication -/

theorem rangeLoop_spec (w : World) (dst : Cq) (cs : List Chunk) (off len : Nat) :
    SameFiles w (rangeLoop w dst cs off len).1 ∧ CStep w dst (rangeLoop w dst cs off len) ∧
      (QV w dst → ValidAll w cs →
        QV (rangeLoop w dst cs off len).1 (rangeLoop w dst cs off len).2 ∧
        absChunks w (rangeLoop w dst cs off len).2.chunks =
          absChunks w dst.chunks ++ ((absChunks w cs).drop off).take len) := by
  fun_induction rangeLoop w dst cs off len with
  | case1 w dst off len => exact ⟨SameFiles.refl w, Conserve.refl w _, fun hd _ => ⟨hd, by simp⟩⟩  -- no chunk left
  | case2 w dst c rest off => exact ⟨SameFiles.refl w, Conserve.refl w _, fun hd _ => ⟨hd, by simp⟩⟩  -- nothing left to copy
  | case3 w dst c rest off len h0 hge ih =>  -- the range starts behind `c`
    obtain ⟨hs, hr, hi⟩ := ih
    refine ⟨hs, hr, fun hd hv => ?_⟩
    obtain ⟨i1, i2⟩ := hi hd hv.tail
    exact ⟨i1, by rw [i2, abs_drop_ge hv.head hge]⟩
  | case4 w dst c rest off len h0 hlt ih =>  -- part of `c`, then on
    obtain ⟨hs1, hr1, hc⟩ := copyRange_spec w dst c off (min (c.rem - off) len)
    obtain ⟨hs2, hr2, hi⟩ := ih
    refine ⟨hs1.trans hs2, Conserve.trans hr1 hr2, fun hd hv => ?_⟩
    obtain ⟨c1, c2⟩ := hc hd hv.head (by omega)
    obtain ⟨i1, i2⟩ := hi c1 (hv.tail.mono hs1.grows)
    have hl := content_length hv.head
    refine ⟨i1, ?_⟩
    simp only [absChunks_same hs1] at i2
    rw [i2, c2, absChunks_cons, List.drop_zero, List.drop_append_of_le_length (by omega), List.take_append,
      List.take_eq_take_min (i := len), List.length_drop, hl, List.append_assoc, Nat.min_comm]
    congr 3
    omega

/-! ## cleanup -/

theorem releaseAll_nil_qv (w : World) (q : Cq) :
    QV w { q with chunks := [], bytesIn := 0, bytesOut := 0, tdIdx := 0 } :=
  ⟨ValidAll.nil w, by simp⟩

theorem reset_step (w : World) (q : Cq) : QStep w q (reset w q) [] :=
  ⟨releaseAll_same w q.chunks, releaseAll_conserve w q.chunks, fun _ => ⟨⟨ValidAll.nil _, by simp [reset]⟩, rfl⟩⟩

end LtVerif.Cq
