/-
  C14: `check` (`check_post`), merge (`specConf`, `LastWins`), operation sequences (`Disciplined`,
  `SlotsOk`, `run_ok`), the scenario `Ex`. Rests on CondSpec (`WF`, `spec`, `Coh`, `Deps`), CondReset
  (clear walk, `resetItem_coh`) and CondLocal (`evalLocal`, `host_eq_iff`; Proofs/Access.lean builds on it).
-/
import LtVerif.Proofs.CondLocal
import LtVerif.Proofs.CondReset
namespace LtVerif.Cond
open LtVerif B

/-! ### `check` -/

def Keeps (r r' : Col) : Prop := ∀ j, colGet r j ≠ .unset → colGet r' j = colGet r j

theorem Keeps.refl (r : Col) : Keeps r r := fun _ _ => rfl

theorem Keeps.trans {r r' r'' : Col} (h : Keeps r r') (h' : Keeps r' r'') : Keeps r r'' :=
  fun j hj => by rw [h' j (by rw [h j hj]; exact hj), h j hj]

theorem Keeps.set {r r' : Col} (h : Keeps r r') {i : Nat} (hun : colGet r i = .unset) (v : Res) :
    Keeps r (colSet r' i v) :=
  fun j hj => by rw [colGet_colSet_ne v (fun hji => hj (by rw [hji]; exact hun))]; exact h j hj

/-- what `check … i c` returning `out` guarantees -/
structure CheckPost (t : Tree) (e : Env) (valid : Comp → Bool) (i : Nat) (c : Cache)
    (out : Res × Cache) : Prop where
  coh : Coh t e out.2
  decided : out.1 ≠ .unset → out.1 = spec t e i ∧ colGet out.2.res i = out.1
  keeps : Keeps c.res out.2.res
  total : DepsValid t valid i → out.1 ≠ .unset

theorem CheckPost.undecided {t : Tree} {e : Env} {valid : Comp → Bool} {i : Nat} {c c' : Cache}
    (hc' : Coh t e c') (hk : Keeps c.res c'.res) (hnv : ¬ DepsValid t valid i) :
    CheckPost t e valid i c (.unset, c') :=
  ⟨hc', fun h => absurd rfl h, hk, fun h => absurd h hnv⟩

theorem CheckPost.record {t : Tree} (hwf : WF t) {e : Env} {valid : Comp → Bool} {i : Nat}
    {c c' : Cache} (hc' : Coh t e c') (hk : Keeps c.res c'.res) (hi : i < t.length)
    (hun : colGet c.res i = .unset)
    (hp : (t.node i).parent ≠ 0 → colGet c'.res (t.node i).parent ≠ .unset)
    {r : Res} (hr : r = spec t e i) : CheckPost t e valid i c (r, c'.setRes i r) :=
  ⟨hc'.setRes hwf hi hr hp, fun _ => ⟨hr, colGet_colSet_eq r (hc'.len_res ▸ hi)⟩, hk.set hun r,
    fun _ => hr ▸ spec_ne_unset hwf e i hi⟩

theorem localStep_post {t : Tree} (hwf : WF t) {e : Env} {valid : Comp → Bool} {i : Nat}
    {c c' : Cache} (hc' : Coh t e c') (hk : Keeps c.res c'.res) (hi : i < t.length)
    (hun : colGet c.res i = .unset)
    (hp : (t.node i).parent ≠ 0 → colGet c'.res (t.node i).parent ≠ .unset)
    (hs : spec t e i = Res.ofBool (evalLocal (t.node i) e)) :
    CheckPost t e valid i c (localStep valid (t.node i) e i c') := by
  have hloc : ∀ r, colGet c'.loc i = r → r ≠ .unset → r = spec t e i := fun r hr hne => by
    rw [hs, ← hr]; exact hc'.loc_ok i hi (hr ▸ hne)
  unfold localStep
  split
  · rename_i hv
    exact .undecided hc' hk (fun h => by simp [h _ (Deps.self i)] at hv)
  · split
    · exact .record hwf hc' hk hi hun hp (hloc _ ‹_› (by simp))
    · exact .record hwf hc' hk hi hun hp (hloc _ ‹_› (by simp))
    · exact .record hwf (hc'.setLoc rfl) hk hi hun hp hs.symm

theorem afterPrev_post {t : Tree} (hwf : WF t) {e : Env} {valid : Comp → Bool} {i : Nat}
    {c : Cache} (hi : i < t.length) (hun : colGet c.res i = .unset) (Q : Res × Cache)
    (hQ : Coh t e Q.2) (hk : Keeps c.res Q.2.res)
    (hp : (t.node i).parent ≠ 0 → colGet Q.2.res (t.node i).parent ≠ .unset)
    (hs : Q.1 ≠ .unset → spec t e i = combine .true_ Q.1 (Res.ofBool (evalLocal (t.node i) e)))
    (hv : DepsValid t valid i → Q.1 ≠ .unset) :
    CheckPost t e valid i c (afterPrev valid (t.node i) e i Q) := by
  unfold afterPrev
  cases hq : Q.1 with
  | unset => exact .undecided hQ hk (fun h => hv h hq)
  | skip | true_ =>
    exact .record (r := .skip) hwf hQ hk hi hun hp (by rw [hs (by simp [hq]), hq]; rfl)
  | false_ => exact localStep_post hwf hQ hk hi hun hp (by rw [hs (by simp [hq]), hq]; rfl)

/-- what the step on the parent (`s = parentSpec t e i`) or on the previous branch
    (`s = prevSpec t e i`) guarantees -/
structure DepPost (t : Tree) (e : Env) (valid : Comp → Bool) (i : Nat) (c : Cache) (s : Res)
    (out : Res × Cache) : Prop where
  coh : Coh t e out.2
  keeps : Keeps c.res out.2.res
  decided : out.1 ≠ .unset → out.1 = s
  total : DepsValid t valid i → out.1 ≠ .unset

theorem CheckPost.dep {t : Tree} {e : Env} {valid : Comp → Bool} {i k : Nat} {c : Cache}
    {out : Res × Cache} (h : CheckPost t e valid k c out) (hd : ∀ a, Deps t k a → Deps t i a) :
    DepPost t e valid i c (spec t e k) out :=
  ⟨h.coh, h.keeps, fun hne => (h.decided hne).1, fun hv => h.total fun a ha => hv a (hd a ha)⟩

theorem DepPost.none {t : Tree} {e : Env} {valid : Comp → Bool} {i : Nat} {c : Cache}
    (hc : Coh t e c) {s : Res} (hs : s ≠ .unset) : DepPost t e valid i c s (s, c) :=
  ⟨hc, .refl _, fun _ => rfl, fun _ => hs⟩

/-- "check parent first"; a decided parent has its entry set (for `Closed`) -/
theorem parentStep_post {t : Tree} (hwf : WF t) {e : Env} {valid : Comp → Bool} {f i : Nat}
    {c : Cache} (hi : i < t.length) (hc : Coh t e c)
    (ih : ∀ k, k < i → CheckPost t e valid k c (check t e valid f k c)) :
    ∀ P, parentStep (check t e valid f) (t.node i) c = P →
      DepPost t e valid i c (parentSpec t e i) P ∧
      (P.1 ≠ .unset → (t.node i).parent ≠ 0 → colGet P.2.res (t.node i).parent ≠ .unset) := by
  unfold parentStep parentSpec
  split
  · rename_i h0
    rintro P rfl
    have hp := ih _ (hwf.parent_lt i hi h0)
    exact ⟨hp.dep fun _ => .parent h0, fun hne _ => (hp.decided hne).2 ▸ hne⟩
  · rintro P rfl
    exact ⟨.none hc (by simp), fun _ h => absurd h ‹_›⟩

/-- "make sure prev is checked first" -/
theorem prevStep_post {t : Tree} (hwf : WF t) {e : Env} {valid : Comp → Bool} {f i : Nat}
    {c : Cache} (hi : i < t.length) (hc : Coh t e c)
    (ih : ∀ k, k < i → CheckPost t e valid k c (check t e valid f k c)) :
    DepPost t e valid i c (prevSpec t e i) (prevStep (check t e valid f) (t.node i) c) := by
  unfold prevStep prevSpec
  cases hq : (t.node i).prev with
  | some q => exact (ih q (hwf.prev_ok i hi q (Option.mem_def.mpr hq)).2.1).dep fun _ => .prev hq
  | none => exact .none hc (by simp)

theorem check_post {t : Tree} (hwf : WF t) (e : Env) (valid : Comp → Bool) :
    ∀ f i c, i < t.length → i < f → Coh t e c →
      CheckPost t e valid i c (check t e valid f i c) := by
  intro f
  induction f with
  | zero => intro i c _ h; omega
  | succ f ih =>
    intro i c hi hf hc
    rw [check]
    split
    · rename_i hcached
      exact ⟨hc, fun _ => ⟨hc.res_ok i hi hcached, rfl⟩, .refl _, fun _ => hcached⟩
    · have hun : colGet c.res i = .unset := by simpa using ‹¬ colGet c.res i ≠ .unset›
      have hspec := spec_unfold hwf e hi
      obtain ⟨hP, hPp⟩ := parentStep_post hwf hi hc (fun k hk => ih k c (by omega) (by omega) hc) _ rfl
      dsimp only
      generalize parentStep (check t e valid f) (t.node i) c = P at *
      cases hp1 : P.1 with
      | unset => exact .undecided hP.coh hP.keeps (fun h => hP.total h hp1)
      | skip | false_ =>
        have hne : P.1 ≠ .unset := by simp [hp1]
        exact .record (r := .skip) hwf hP.coh hP.keeps hi hun (hPp hne)
          (by rw [hspec, ← hP.decided hne, hp1]; rfl)
      | true_ =>
        have hne : P.1 ≠ .unset := by simp [hp1]
        have hQ := prevStep_post hwf hi hP.coh fun k hk => ih k P.2 (by omega) (by omega) hP.coh
        exact afterPrev_post hwf hi hun _ hQ.coh (hP.keeps.trans hQ.keeps)
          (fun h0 => by rw [hQ.keeps _ (hPp hne h0)]; exact hPp hne h0)
          (fun hq => by rw [hspec, ← hP.decided hne, hp1, ← hQ.decided hq]) hQ.total

theorem check_ok {t : Tree} (hwf : WF t) (e : Env) (valid : Comp → Bool) {i : Nat}
    (hi : i < t.length) {c : Cache} (hc : Coh t e c) :
    CheckPost t e valid i c (check t e valid t.length i c) :=
  check_post hwf e valid t.length i c hi hi hc

theorem check_decided {t : Tree} (hwf : WF t) (e : Env) {valid : Comp → Bool} {i : Nat}
    (hi : i < t.length) {c : Cache} (hc : Coh t e c) (hv : DepsValid t valid i) :
    (check t e valid t.length i c).1 = spec t e i :=
  have h := check_ok hwf e valid hi hc
  (h.decided (h.total hv)).1

theorem check_env_agree (t : Tree) (e e' : Env) (valid : Comp → Bool)
    (h : ∀ i, valid (t.node i).comp = true → evalLocal (t.node i) e' = evalLocal (t.node i) e) :
    ∀ f, check t e' valid f = check t e valid f := by
  intro f
  induction f with
  | zero => rfl
  | succ f ih =>
    funext i c
    have hl : localStep valid (t.node i) e' i = localStep valid (t.node i) e i := by
      funext c'
      unfold localStep
      split
      · rfl
      · rw [h i (by simpa using ‹¬ (!valid (t.node i).comp) = true›)]
    rw [check, check, ih]
    simp only [afterPrev, hl]

/-- as successive patch_config loops do -/
def checkAll (t : Tree) (e : Env) (valid : Comp → Bool) (ks : List Nat) (c : Cache) : Cache :=
  ks.foldl (fun c k => (check t e valid t.length k c).2) c

theorem checkAll_coh {t : Tree} (hwf : WF t) (e : Env) (valid : Comp → Bool) :
    ∀ (ks : List Nat), (∀ k ∈ ks, k < t.length) → ∀ c, Coh t e c → Coh t e (checkAll t e valid ks c)
  | [], _, _, hc => hc
  | k :: ks, hks, _, hc =>
    checkAll_coh hwf e valid ks (fun j hj => hks j (List.mem_cons_of_mem _ hj)) _
      (check_ok hwf e valid (hks k List.mem_cons_self) hc).coh

def AllCoh (t : Tree) (st : List Req) : Prop := ∀ rq ∈ st, Coh t rq.env rq.cache

theorem allCoh_set {t : Tree} {st : List Req} (h : AllCoh t st) (s : Nat) {rq : Req}
    (hrq : Coh t rq.env rq.cache) : AllCoh t (st.set s rq) := by
  intro x hx
  rcases List.mem_or_eq_of_mem_set hx with hx | hx
  · exact h x hx
  · subst hx; exact hrq

/-! ### directive merge -/

def lastSet : List (Nat × Nat) → Nat → Option Nat
  | [], _ => none
  | s :: ss, d =>
    match lastSet ss d with
    | some v => some v
    | none => if s.1 = d then some s.2 else none

theorem mergeSets_eq (sets : List (Nat × Nat)) :
    ∀ (conf : Nat → Nat) (d : Nat), mergeSets conf sets d = (lastSet sets d).getD (conf d) := by
  induction sets with
  | nil => intro conf d; rfl
  | cons s ss ih =>
    intro conf d
    unfold mergeSets at ih ⊢
    rw [List.foldl_cons, ih, lastSet]
    cases lastSet ss d with
    | some v => rfl
    | none =>
      by_cases hd : d = s.1
      · simp [hd]
      · simp [hd, Ne.symm hd]

def specMerge (t : Tree) (e : Env) (dirs : List Nat) (L : List Nat) (conf : Nat → Nat) : Nat → Nat :=
  L.foldl (fun conf i =>
    if spec t e i = .true_ then mergeSets conf (ownSets dirs (t.node i)) else conf) conf

/-- patch_config() with every block evaluated from scratch: defaults of context 0, then the
    contexts in order -/
def specConf (t : Tree) (e : Env) (dirs : List Nat) : Nat → Nat :=
  specMerge t e dirs ((List.range t.length).drop 1) (mergeSets (fun _ => 0) (ownSets dirs (t.node 0)))

theorem patchLoop_post {t : Tree} (hwf : WF t) (e : Env) (valid : Comp → Bool) (dirs : List Nat) :
    ∀ (L : List Nat), (∀ i ∈ L, i < t.length) → ∀ (conf : Nat → Nat) (c : Cache), Coh t e c →
      Coh t e (patchLoop t e valid dirs L (conf, c)).2 ∧
      ((∀ i ∈ L, DepsValid t valid i) →
        (patchLoop t e valid dirs L (conf, c)).1 = specMerge t e dirs L conf) := by
  intro L
  induction L with
  | nil => intro _ conf c hc; exact ⟨hc, fun _ => rfl⟩
  | cons i is ih =>
    intro hL conf c hc
    have hL' := fun j hj => hL j (List.mem_cons_of_mem _ hj)
    rw [patchLoop, specMerge, List.foldl_cons]
    split
    · -- the block assigns none of the module's directives and is not in its cvlist
      rename_i hown
      obtain ⟨h1, h2⟩ := ih hL' conf c hc
      refine ⟨h1, fun hv => ?_⟩
      rw [h2 fun j hj => hv j (List.mem_cons_of_mem _ hj), List.isEmpty_iff.mp hown]
      simp [specMerge, mergeSets]
    · have hi := hL i List.mem_cons_self
      obtain ⟨h1, h2⟩ := ih hL'
        (if (check t e valid t.length i c).1 = .true_ then mergeSets conf (ownSets dirs (t.node i))
          else conf) (check t e valid t.length i c).2 (check_ok hwf e valid hi hc).coh
      refine ⟨h1, fun hv => ?_⟩
      rw [h2 fun j hj => hv j (List.mem_cons_of_mem _ hj),
        check_decided hwf e hi hc (hv i List.mem_cons_self)]
      rfl

theorem mem_contexts {n i : Nat} : i ∈ (List.range n).drop 1 ↔ 1 ≤ i ∧ i < n := by
  rw [List.range_eq_range', List.drop_range', List.mem_range'_1]
  omega

theorem contexts_split {n i : Nat} (h1 : 1 ≤ i) (hi : i < n) :
    (List.range n).drop 1 = List.range' 1 (i - 1) ++ i :: List.range' (i + 1) (n - (i + 1)) := by
  have h : n - 1 = (i - 1) + (n - (i + 1) + 1) := by omega
  rw [List.range_eq_range', List.drop_range', h, ← List.range'_append_1, List.range'_succ]
  congr <;> omega

theorem patch_post {t : Tree} (hwf : WF t) (e : Env) (valid : Comp → Bool) (dirs : List Nat)
    (c : Cache) (hc : Coh t e c) :
    Coh t e (patch t e valid dirs c).2 ∧
    (TreeValid t valid →
      (patch t e valid dirs c).1 = specConf t e dirs) := by
  obtain ⟨h1, h2⟩ := patchLoop_post hwf e valid dirs _ (fun i hi => (mem_contexts.mp hi).2) _ c hc
  exact ⟨h1, fun hv => h2 fun i hi =>
    depsValid_of_treeValid hwf hv (mem_contexts.mp hi).1 (mem_contexts.mp hi).2⟩

def Contrib (t : Tree) (e : Env) (dirs : List Nat) (d i v : Nat) : Prop :=
  spec t e i = .true_ ∧ lastSet (ownSets dirs (t.node i)) d = some v

theorem specMerge_none (t : Tree) (e : Env) (dirs : List Nat) (d : Nat) :
    ∀ (L : List Nat) (conf : Nat → Nat), (∀ i ∈ L, ∀ v, ¬ Contrib t e dirs d i v) →
      specMerge t e dirs L conf d = conf d := by
  intro L
  induction L with
  | nil => intro conf _; rfl
  | cons i is ih =>
    intro conf h
    rw [specMerge, List.foldl_cons]
    refine (ih _ fun j hj => h j (List.mem_cons_of_mem _ hj)).trans ?_
    split
    · rw [mergeSets_eq]
      cases hl : lastSet (ownSets dirs (t.node i)) d with
      | none => rfl
      | some v => exact absurd ⟨‹_›, hl⟩ (h i List.mem_cons_self v)
    · rfl

theorem specMerge_last (t : Tree) (e : Env) (dirs : List Nat) (d : Nat)
    (L1 L2 : List Nat) (i v : Nat) (conf : Nat → Nat) (hc : Contrib t e dirs d i v)
    (hlater : ∀ j ∈ L2, ∀ v', ¬ Contrib t e dirs d j v') :
    specMerge t e dirs (L1 ++ i :: L2) conf d = v := by
  rw [specMerge, List.foldl_append, List.foldl_cons]
  refine (specMerge_none t e dirs d L2 _ hlater).trans ?_
  rw [if_pos hc.1, mergeSets_eq, hc.2]; rfl

/-- `x` is the value the language gives directive `d` (of the module owning `dirs`) for
    attributes `e`: the last assignment of the last contributing block in context order
    (context 0 = global scope always contributes), the built-in default 0 if there is none -/
def LastWins (t : Tree) (e : Env) (dirs : List Nat) (d x : Nat) : Prop :=
  (∀ i v, i < t.length → (i = 0 ∨ Applies t e i) →
    lastSet (ownSets dirs (t.node i)) d = some v →
    (∀ j, i < j → j < t.length → Applies t e j → lastSet (ownSets dirs (t.node j)) d = none) →
    x = v) ∧
  ((∀ i, i < t.length → (i = 0 ∨ Applies t e i) → lastSet (ownSets dirs (t.node i)) d = none) →
    x = 0)

theorem specMerge_lastWins {t : Tree} (hwf : WF t) (e : Env) (dirs : List Nat) (d : Nat)
    (hn : 0 < t.length) :
    LastWins t e dirs d (specConf t e dirs d) := by
  have hnoContrib : ∀ j, j < t.length →
      (Applies t e j → lastSet (ownSets dirs (t.node j)) d = none) →
      ∀ v', ¬ Contrib t e dirs d j v' := fun j hj h v' hcv =>
    nomatch (h ((spec_true_iff_applies hwf e j hj).mp hcv.1)).symm.trans hcv.2
  have hdefault : (∀ j, 0 < j → j < t.length → Applies t e j →
        lastSet (ownSets dirs (t.node j)) d = none) →
      specConf t e dirs d = (lastSet (ownSets dirs (t.node 0)) d).getD 0 := fun h => by
    rw [specConf, specMerge_none t e dirs d _ _ fun j hj =>
      hnoContrib j (mem_contexts.mp hj).2 (h j (mem_contexts.mp hj).1 (mem_contexts.mp hj).2),
      mergeSets_eq]
  constructor
  · intro i v hi hap hset hlater
    rcases Nat.eq_zero_or_pos i with rfl | hpos
    · rw [hdefault hlater, hset]; rfl
    · rw [specConf, contexts_split hpos hi]
      refine specMerge_last t e dirs d _ _ i v _
        ⟨(spec_true_iff_applies hwf e i hi).mpr (hap.resolve_left (by omega)), hset⟩ fun j hj => ?_
      obtain ⟨hij, hjn⟩ := List.mem_range'_1.mp hj
      exact hnoContrib j (by omega) (hlater j hij (by omega))
  · intro hnone
    rw [hdefault fun j _ hj ha => hnone j hj (Or.inr ha), hnone 0 hn (Or.inl rfl)]; rfl

/-! ### operation sequences -/

def ObsOk (t : Tree) (st : List Req) : Obs → Prop
  | .result s i r => i < t.length ∧ ∀ rq, st[s]? = some rq →
      (r ≠ .unset → r = spec t rq.env i) ∧ (DepsValid t rq.valid i → r = spec t rq.env i)
  | .conf s dirs conf => ∀ rq, st[s]? = some rq → TreeValid t rq.valid →
      conf = specConf t rq.env dirs
  | .none => True

/-- every request whose cache has been reset since it was created (`s ∉ pend`) has a
    coherent cache; `pend` = streams created by h2_init_stream() that still hold the copy of
    the connection request's cache (taken for other attributes than their own) -/
def SlotsOk (t : Tree) (st : List Req) (pend : List Nat) : Prop :=
  ∀ s rq, st[s]? = some rq → s ∉ pend → Coh t rq.env rq.cache

/-- the discipline of the server (h2.c + response.c): a stream gets its request and the full
    reset of http_response_config() before any condition is evaluated on it.
    `n` = number of requests so far, `pend` = streams still waiting for that reset. -/
def Disciplined : Nat → List Nat → List Op → Prop
  | _, _, [] => True
  | n, pend, .spawn :: ops => Disciplined (n + 1) (n :: pend) ops
  | n, pend, .check s _ :: ops => s ∉ pend ∧ Disciplined n pend ops
  | n, pend, .patch s _ :: ops => s ∉ pend ∧ Disciplined n pend ops
  | n, pend, .resetAll s :: ops => Disciplined n (pend.filter (· ≠ s)) ops
  | n, pend, .newReq s _ _ :: ops => Disciplined n (pend.filter (· ≠ s)) ops
  | n, pend, .setAttr _ _ _ :: ops => Disciplined n pend ops
  | n, pend, .setValid _ _ :: ops => Disciplined n pend ops

/-- `pend`: see `SlotsOk` -/
structure StateOk (t : Tree) (st : List Req) (n : Nat) (pend : List Nat) : Prop where
  len : st.length = n
  pos : 1 ≤ n
  slots : SlotsOk t st pend

def StepOk (t : Tree) (ops : List Op) (out : List Req × Obs) : Prop :=
  ∃ n' pend', StateOk t out.1 n' pend' ∧ Disciplined n' pend' ops ∧ ObsOk t out.1 out.2

theorem StepOk.none {t : Tree} {st : List Req} {n : Nat} {pend : List Nat} {ops : List Op}
    (h : StateOk t st n pend) {s : Nat} (hs : st[s]? = none) (pend' : List Nat)
    (hsub : ∀ x, x ≠ s → x ∉ pend' → x ∉ pend) (hd : Disciplined n pend' ops) :
    StepOk t ops (st, .none) :=
  ⟨n, pend', ⟨h.len, h.pos, fun s' rq hget hnp =>
    h.slots s' rq hget (hsub s' (fun e => by rw [e, hs] at hget; cases hget) hnp)⟩, hd, trivial⟩

theorem StepOk.set {t : Tree} {st : List Req} {n : Nat} {pend : List Nat} {ops : List Op}
    (h : StateOk t st n pend) (s : Nat) (rq' : Req) (pend' : List Nat)
    (hsub : ∀ x, x ≠ s → x ∉ pend' → x ∉ pend) (hrq : s ∉ pend' → Coh t rq'.env rq'.cache)
    (hd : Disciplined n pend' ops) {o : Obs} (ho : ObsOk t (st.set s rq') o) :
    StepOk t ops (st.set s rq', o) := by
  refine ⟨n, pend', ⟨by simp [h.len], h.pos, fun s' rq hget hnp => ?_⟩, hd, ho⟩
  by_cases hs : s' = s
  · subst hs
    rw [List.getElem?_set, if_pos rfl] at hget
    split at hget
    · cases hget; exact hrq hnp
    · cases hget
  · rw [List.getElem?_set_ne (fun e => hs e.symm)] at hget
    exact h.slots s' rq hget (hsub s' hs hnp)

theorem slot_lt {st : List Req} {s : Nat} {rq : Req} (hs : st[s]? = some rq) : s < st.length :=
  (List.getElem?_eq_some_iff.mp hs).1

theorem step_ok {t : Tree} (hwf : WF t) {st : List Req} {pend : List Nat} {n : Nat}
    (h : StateOk t st n pend) (op : Op) (ops : List Op) (hd : Disciplined n pend (op :: ops)) :
    StepOk t ops (step true t st op) := by
  have hsub : ∀ s x, x ≠ s → x ∉ pend.filter (· ≠ s) → x ∉ pend := fun s x hx hnp hm =>
    hnp (List.mem_filter.mpr ⟨hm, by simpa using hx⟩)
  cases op with
  | check s i =>
    cases hs : st[s]? with
    | none => simp only [step, hs]; exact .none h hs pend (fun _ _ hx => hx) hd.2
    | some rq =>
      by_cases hi : i < t.length
      · simp only [step, hs, hi, if_true]
        have hrq := h.slots s rq hs hd.1
        have hp := check_ok hwf rq.env rq.valid hi hrq
        refine .set h s _ pend (fun _ _ hx => hx) (fun _ => hp.coh) hd.2 ⟨hi, fun rq' hrq' => ?_⟩
        rw [List.getElem?_set_self (slot_lt hs)] at hrq'
        cases hrq'
        exact ⟨fun hne => (hp.decided hne).1, check_decided hwf rq.env hi hrq⟩
      · simp only [step, hs, hi, if_false]
        exact ⟨n, pend, h, hd.2, trivial⟩
  | patch s dirs =>
    cases hs : st[s]? with
    | none => simp only [step, hs]; exact .none h hs pend (fun _ _ hx => hx) hd.2
    | some rq =>
      simp only [step, hs]
      obtain ⟨p1, p2⟩ := patch_post hwf rq.env rq.valid dirs rq.cache (h.slots s rq hs hd.1)
      refine .set h s _ pend (fun _ _ hx => hx) (fun _ => p1) hd.2 fun rq' hrq' hv => ?_
      rw [List.getElem?_set_self (slot_lt hs)] at hrq'
      cases hrq'
      exact p2 hv
  | setAttr s a v =>
    cases hs : st[s]? with
    | none => simp only [step, hs]; exact .none h hs pend (fun _ _ hx => hx) hd
    | some rq =>
      simp only [step, hs]
      exact .set h s _ pend (fun _ _ hx => hx) (fun hsp => resetItem_coh hwf a (h.slots s rq hs hsp)
        fun j _ hj => evalLocal_set_other _ _ _ _ hj) hd trivial
  | setValid s v =>
    cases hs : st[s]? with
    | none => simp only [step, hs]; exact .none h hs pend (fun _ _ hx => hx) hd
    | some rq =>
      simp only [step, hs]
      exact .set h s { rq with valid := validOf v } pend (fun _ _ hx => hx) (h.slots s rq hs) hd trivial
  | resetAll s | newReq s _ _ =>
    -- the full reset: whatever the slot held, its cache is empty now
    cases hs : st[s]? with
    | none => simp only [step, hs]; exact .none h hs _ (hsub s) hd
    | some rq =>
      simp only [step, hs]
      exact .set h s _ _ (hsub s) (fun _ => coh_empty t _) hd trivial
  | spawn =>
    have h0 : 0 < st.length := by have := h.len; have := h.pos; omega
    simp only [step, List.getElem?_eq_getElem h0]
    refine ⟨n + 1, n :: pend, ⟨by simp [h.len], by omega, fun s' rq hget hnp => ?_⟩, hd, trivial⟩
    rw [List.mem_cons, not_or] at hnp
    have := slot_lt hget
    rw [List.length_append, List.length_singleton, h.len] at this
    rw [List.getElem?_append_left (by have := h.len; omega)] at hget
    exact h.slots s' rq hget hnp.2

theorem run_ok {t : Tree} (hwf : WF t) :
    ∀ (ops : List Op) (st : List Req) (pend : List Nat) (n : Nat), StateOk t st n pend →
      Disciplined n pend ops → ∀ so ∈ run true t st ops, ObsOk t so.1 so.2 := by
  intro ops
  induction ops with
  | nil => intro st _ _ _ _ so hso; simp [run] at hso
  | cons op ops ih =>
    intro st pend n h hd so hso
    obtain ⟨n', pend', h', hd', hobs⟩ := step_ok hwf h op ops hd
    simp only [run, List.mem_cons] at hso
    rcases hso with hso | hso
    · subst hso; exact hobs
    · exact ih _ pend' n' h' hd' so hso

/-! ### the scenario of the stale else-branch (used by Props/C14) -/

namespace Ex
/-- `$HTTP["host"] == "h2" { $HTTP["url"] =^ "/a" {…} else $HTTP["url"] =^ "/b" {…} }` -/
def tree : Tree := link
  [ {},
    { comp := .host, cond := .eq, str := ofString "h2" },
    { parent := 1, comp := .url, cond := .prefix_, str := ofString "/a" },
    { parent := 1, prev := some 2, comp := .url, cond := .prefix_, str := ofString "/b" } ]

def allValid : List Comp :=
  [.socket, .url, .host, .remoteIp, .query, .scheme, .method, .header]

/-- request for host h1, url /b/x; module A evaluates the else-branch (3) only; then the
    host is rewritten to h2 (+ reset_item); module A evaluates block 3 again -/
def ops : List Op :=
  [ .newReq 0 [(.host, .str (ofString "h1")), (.url, .str (ofString "/b/x"))] allValid,
    .check 0 3,
    .setAttr 0 .host (.str (ofString "h2")),
    .check 0 3 ]

def lastResult (l : List (List Req × Obs)) : Option Res :=
  match l.getLast? with
  | some (_, .result _ _ r) => some r
  | _ => none
end Ex

end LtVerif.Cond
