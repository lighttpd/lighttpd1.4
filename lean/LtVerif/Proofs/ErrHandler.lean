/- Model/ErrHandler.lean.  The stale saved method is unread: `Rel` → `hasErrorHandler_rel` → `handle_rel`.
   At most one come-back: `hasErrorHandler_comeback` + `handle_saved_last` → `handle_two_passes`. -/
import LtVerif.Model.ErrHandler
namespace LtVerif.ErrH

/-- two states that differ at most in the carried member error_handler_saved_method, and agree
    on it as soon as error_handler_saved_status > 0 makes it valid -/
def Rel (s t : EhSt) : Prop :=
  s.obs = t.obs ∧ (s.savedStatus > 0 → s.savedMethod = t.savedMethod)

/-- what the theorems assume of the work of one pass (modules, http_response_prepare,
    http_response_comeback): it neither reads nor writes error_handler_saved_method and does
    not write error_handler_saved_status (in src/ only response.c and reqpool.c name them) -/
structure PrepOk (prep : Nat → EhSt → EhSt) : Prop where
  blind : ∀ k s m, prep k { s with savedMethod := m } = { prep k s with savedMethod := m }
  keeps : ∀ k s, (prep k s).savedStatus = s.savedStatus

/-- once error_handler_saved_status is set, no error handler is installed again -/
theorem hasErrorHandler_saved (c : Cfg) (s : EhSt) (h : s.savedStatus ≠ 0) :
    (hasErrorHandler c s).2 = false := by
  simp only [hasErrorHandler, ↓apply_ite Prod.snd, ↓apply_ite EhSt.savedStatus, ite_self, h, ne_eq,
    not_false_eq_true, if_true]

/-- server.error-handler overwrites the member (`call_false`: error-handler-404 leaves it alone) -/
theorem call_true (s : EhSt) (m : Int) :
    callErrorHandler true { s with savedMethod := m } = callErrorHandler true s := by
  cases s with
  | mk st me ve ss sm hmod rbl bi ka tg rs rc up h2 pp ww ro bl rbf =>
  -- the three `if`s of `callErrorHandler`: version unset (d), no request body (a), body read in full (b)
  by_cases d : ve = -1 <;> by_cases a : rbl = 0
  · subst a; simp [callErrorHandler, errdocInit, *]
  · by_cases b : rbl = bi
    · subst b; simp [callErrorHandler, errdocInit, *]
    · simp [callErrorHandler, errdocInit, *]
  · subst a; simp [callErrorHandler, errdocInit, *]
  · by_cases b : rbl = bi
    · subst b; simp [callErrorHandler, errdocInit, *]
    · simp [callErrorHandler, errdocInit, *]

theorem call_false (s : EhSt) (m : Int) :
    callErrorHandler false { s with savedMethod := m } = { callErrorHandler false s with savedMethod := m } := by
  cases s with
  | mk st me ve ss sm hmod rbl bi ka tg rs rc up h2 pp ww ro bl rbf =>
  by_cases d : ve = -1 <;> simp [callErrorHandler, errdocInit, *]

theorem call_false_saved (s : EhSt) : (callErrorHandler false s).savedStatus = -s.status := by
  cases s with
  | mk st me ve ss sm hmod rbl bi ka tg rs rc up h2 pp ww ro bl rbf =>
  by_cases d : ve = -1 <;> simp [callErrorHandler, errdocInit, *]

theorem call_true_saved (s : EhSt) : (callErrorHandler true s).savedStatus = s.status := by
  simp only [callErrorHandler, errdocInit, ↓apply_ite EhSt.savedStatus, ↓apply_ite EhSt.status, if_true, ite_self]

theorem call_true_method (s : EhSt) : (callErrorHandler true s).savedMethod = s.method := by
  simp only [callErrorHandler, errdocInit, ↓apply_ite EhSt.savedMethod, ↓apply_ite EhSt.method, if_true, ite_self]

theorem Rel.refl (s : EhSt) : Rel s s := ⟨rfl, fun _ => rfl⟩

/-- the branch of http_response_has_error_handler() taken once error_handler_saved_status < 0 -/
def negBranch (s : EhSt) : EhSt :=
  let s1 := if s.status = 404 then { s with status := -s.savedStatus } else s
  if 200 ≤ s.status && s.status ≤ 299 then { s1 with savedStatus := 65535 } else s1

/-- `hasErrorHandler` when nothing is restored -/
theorem hEH_eq (c : Cfg) (s : EhSt) (hs : ¬ s.savedStatus > 0) :
    hasErrorHandler c s =
      if (!s.handlerModule || c.errorIntercept) = true then
        if s.savedStatus ≠ 0 then (negBranch s, false)
        else if s.status ≥ 400 then
          if c.errorHandler = true then (callErrorHandler true s, true)
          else if (s.status = 404 && c.errorHandler404) = true then (callErrorHandler false s, true)
          else (s, false)
        else (s, false)
      else (s, false) := by
  simp only [hasErrorHandler, hs, if_false, negBranch]

theorem hasErrorHandler_step (c : Cfg) (s : EhSt) (m : Int) (hs : ¬ s.savedStatus > 0) :
    (hasErrorHandler c { s with savedMethod := m }).2 = (hasErrorHandler c s).2 ∧
    (hasErrorHandler c { s with savedMethod := m }).1.obs = (hasErrorHandler c s).1.obs ∧
    ((hasErrorHandler c s).2 = true →
       Rel (hasErrorHandler c s).1 (hasErrorHandler c { s with savedMethod := m }).1) := by
  rw [hEH_eq c s hs, hEH_eq c { s with savedMethod := m } hs]
  simp only [call_true, call_false]
  by_cases c1 : (!s.handlerModule || c.errorIntercept) = true
  · by_cases c2 : s.savedStatus = 0
    · by_cases c3 : s.status ≥ 400
      · by_cases c4 : c.errorHandler = true
        · simp [c1, c2, c3, c4, Rel.refl]
        · by_cases c5 : (s.status = 404 && c.errorHandler404) = true
          · simp [c1, c2, c3, c4, c5, call_false_saved, EhSt.obs, Rel]
            intro h; omega
          · simp [c1, c2, c3, c4, c5, EhSt.obs]
      · simp [c1, c2, c3, EhSt.obs]
    · by_cases c6 : s.status = 404 <;> by_cases c7 : (200 ≤ s.status && s.status ≤ 299) = true <;>
        simp [negBranch, c1, c2, c6, c7, EhSt.obs]
  · simp [c1, EhSt.obs]

theorem PrepOk.savedMethod {prep} (h : PrepOk prep) (k s) : (prep k s).savedMethod = s.savedMethod := by
  have h1 := congrArg EhSt.savedMethod (h.blind k s s.savedMethod)
  exact h1

theorem Rel.exists_eq {s t : EhSt} (r : Rel s t) :
    ∃ m, t = { s with savedMethod := m } ∧ (s.savedStatus > 0 → s.savedMethod = m) := by
  refine ⟨t.savedMethod, ?_, r.2⟩
  have h := r.1
  cases s; cases t
  simp only [EhSt.obs, EhSt.mk.injEq] at h
  simp [h]

theorem PrepOk.rel {prep} (h : PrepOk prep) (k) {s t} (r : Rel s t) : Rel (prep k s) (prep k t) := by
  obtain ⟨m, rfl, hm⟩ := r.exists_eq
  refine ⟨?_, ?_⟩
  · rw [h.blind k s m]; simp [EhSt.obs]
  · intro hs
    rw [h.blind k s m, h.savedMethod]
    exact hm (h.keeps k s ▸ hs)

theorem norm200_rel {s t} (r : Rel s t) : Rel (norm200 s) (norm200 t) := by
  obtain ⟨m, rfl, hm⟩ := r.exists_eq
  by_cases h0 : s.status = 0 <;> simp [norm200, h0, Rel, EhSt.obs] <;> exact hm

theorem hasErrorHandler_rel (c : Cfg) {s t : EhSt} (r : Rel s t) :
    (hasErrorHandler c s).2 = (hasErrorHandler c t).2 ∧
    (hasErrorHandler c s).1.obs = (hasErrorHandler c t).1.obs ∧
    ((hasErrorHandler c s).2 = true → Rel (hasErrorHandler c s).1 (hasErrorHandler c t).1) := by
  obtain ⟨m, rfl, hm⟩ := r.exists_eq
  by_cases hs : s.savedStatus > 0
  · have h1 : s.savedMethod = m := hm hs
    subst h1
    exact ⟨rfl, rfl, fun _ => Rel.refl _⟩
  · obtain ⟨hback, hobs, hrel⟩ := hasErrorHandler_step c s m hs
    exact ⟨hback.symm, hobs.symm, hrel⟩

def obsOf (o : Option (EhSt × Nat)) : Option (EhSt × Nat) := o.map fun r => (r.1.obs, r.2)

theorem handle_succ (c prep n k s) : handle c prep (n + 1) k s =
    (if ((norm200 (prep k s)).status < 400 && (norm200 (prep k s)).savedStatus = 0) = true
     then some (norm200 (prep k s), k)
     else if (hasErrorHandler c (norm200 (prep k s))).2 = true
          then handle c prep n (k + 1) (hasErrorHandler c (norm200 (prep k s))).1
          else some ((hasErrorHandler c (norm200 (prep k s))).1, k)) := rfl

theorem handle_rel (c : Cfg) {prep} (hp : PrepOk prep) :
    ∀ fuel k s t, Rel s t → obsOf (handle c prep fuel k s) = obsOf (handle c prep fuel k t) := by
  intro fuel
  induction fuel with
  | zero => intro k s t _; rfl
  | succ n ih =>
    intro k s t r
    have r2 := norm200_rel (hp.rel k r)
    rw [handle_succ, handle_succ]
    generalize norm200 (prep k s) = s' at r2 ⊢
    generalize norm200 (prep k t) = t' at r2 ⊢
    have hst : s'.status = t'.status := (congrArg EhSt.status r2.1 :)
    have hsv : s'.savedStatus = t'.savedStatus := (congrArg EhSt.savedStatus r2.1 :)
    obtain ⟨hback, hobs, hrel⟩ := hasErrorHandler_rel c r2
    rw [← hst, ← hsv, ← hback]
    split
    · simp [obsOf, r2.1]
    · split
      · rename_i hb; exact ih _ _ _ (hrel hb)
      · simp [obsOf, hobs]

theorem hasErrorHandler_comeback (c : Cfg) (s : EhSt) (h : (hasErrorHandler c s).2 = true) :
    (hasErrorHandler c s).1.savedStatus ≠ 0 := by
  by_cases hs0 : s.savedStatus = 0
  · have hs : ¬ s.savedStatus > 0 := by omega
    rw [hEH_eq c s hs] at h ⊢
    by_cases c1 : (!s.handlerModule || c.errorIntercept) = true
    · by_cases c3 : s.status ≥ 400
      · by_cases c4 : c.errorHandler = true
        · simp [c1, hs0, c3, c4, call_true_saved]; omega
        · by_cases c5 : (s.status = 404 && c.errorHandler404) = true
          · simp [c1, hs0, c3, c4, c5, call_false_saved]; omega
          · simp [c1, hs0, c3, c4, c5] at h
      · simp [c1, hs0, c3] at h
    · simp [c1] at h
  · rw [hasErrorHandler_saved c s hs0] at h; cases h

theorem norm200_saved (s : EhSt) : (norm200 s).savedStatus = s.savedStatus := by
  simp only [norm200]; split <;> rfl

theorem handle_saved_last (c : Cfg) {prep} (hp : PrepOk prep) (n k : Nat) (x : EhSt) (hx : x.savedStatus ≠ 0) :
    handle c prep (n + 1) k x = some ((hasErrorHandler c (norm200 (prep k x))).1, k) := by
  have h1 : (norm200 (prep k x)).savedStatus ≠ 0 := by rw [norm200_saved, hp.keeps]; exact hx
  rw [handle_succ]
  simp [h1, hasErrorHandler_saved c _ h1]

theorem handle_two_passes (c : Cfg) {prep} (hp : PrepOk prep) (n : Nat) (s : EhSt) :
    handle c prep (n + 2) 0 s = handle c prep 2 0 s ∧ (handle c prep 2 0 s).isSome = true := by
  rw [handle_succ c prep (n + 1), handle_succ c prep 1]
  split
  · exact ⟨rfl, rfl⟩
  · split
    · rename_i hb
      have hx := hasErrorHandler_comeback c _ hb
      rw [handle_saved_last c hp n 1 _ hx, handle_saved_last c hp 0 1 _ hx]
      exact ⟨rfl, rfl⟩
    · exact ⟨rfl, rfl⟩

end LtVerif.ErrH
