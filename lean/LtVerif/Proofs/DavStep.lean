/-
  C18 — what a request does to the tree, stated once (`Eff`, `step_eff`): refused with the very same tree, or one
  named update with what lstat() reported; error / 207 ⇒ unchanged and the frame are read off here.
-/
import LtVerif.Proofs.Dav

namespace LtVerif.Dav
open LtVerif

/-- any 2xx, 207 Multi-Status included; the model's `isSuccess` leaves 207 out (`isSuccess_iff`) -/
def Success (s : Nat) : Prop := 200 ≤ s ∧ s < 300

instance (s : Nat) : Decidable (Success s) := by unfold Success; exact inferInstance

theorem isSuccess_iff {s : Nat} : isSuccess s = true ↔ Success s ∧ s ≠ 207 := by
  unfold isSuccess Success
  simp only [Bool.and_eq_true, decide_eq_true_eq, bne_iff_ne, ne_eq]

theorem isSuccess_max (s : Nat) : isSuccess (max s 400) = false := by
  unfold isSuccess
  have : ¬ (max s 400 < 300) := by omega
  simp [this]

theorem putContent_range {old : Option Node} {r : Req} {off : Nat} {c : Bytes}
    (hr : r.range = some (some off)) (ho : old = some (.file c)) : putContent old r = patch c off r.body := by
  simp [putContent, hr, ho]

theorem putContent_whole {old : Option Node} {r : Req} (hr : r.range = none) : putContent old r = r.body := by
  simp [putContent, hr]

theorem destOf_ok {r : Req} {d : RPath} (h : r.dst = .ok d) : destOf r = d.segs := by
  simp [destOf, h]

theorem Conforming.dest {t : Tree} {r : Req} {d : RPath} (hc : Conforming t r)
    (hm : r.m = .copy ∨ r.m = .move) (hd : r.dst = .ok d) :
    get t d.segs = some .dir → get t r.src.segs = some .dir ∧ hasChild d.segs t = false := by
  rw [← destOf_ok hd]
  exact hc hm

/-- the merge into a non-empty collection is not covered -/
theorem Conforming.no_merge {t : Tree} {r : Req} (hc : Conforming t r) (hm : r.m = .copy ∨ r.m = .move)
    (hg : get t (destOf r) = some .dir) (hch : hasChild (destOf r) t = true) : False := by
  rw [(hc hm hg).2] at hch; cases hch

/-- nor is a file copied "into" a collection -/
theorem Conforming.file_dest {t : Tree} {r : Req} {d : RPath} {c : Bytes} (hc : Conforming t r)
    (hm : r.m = .copy ∨ r.m = .move) (hd : r.dst = .ok d) (hsrc : get t r.src.segs = some (.file c)) :
    get t d.segs ≠ some .dir := fun h => by
  have := (hc.dest hm hd h).1
  rw [hsrc] at this
  cases this

theorem nested_false {src dst : RPath} (h : nested src dst = false) (hne : src.segs ≠ dst.segs) :
    under src.segs dst.segs = false := by
  unfold nested at h
  cases hu : under src.segs dst.segs with
  | false => rfl
  | true =>
    simp [hu, beq_false_of_ne (Ne.symm hne)] at h

/-- One constructor per kind of request and outcome, with what lstat() and the path walk reported on that way
    through the code. -/
inductive Eff (t : Tree) (r : Req) : Nat → Tree → Prop
  | refused {s : Nat} (err : isSuccess s = false) : Eff t r s t
  | read {s : Nat} (hm : r.m = .get) : Eff t r s t
  | put {s : Nat} {b : Bytes} (hm : r.m = .put) (ok : isSuccess s = true)
      (free : lstat t r.src = .enoent ∧ parentIsDir t r.src.segs = true ∨ ∃ c, lstat t r.src = .isfile c)
      (content : putContent (get t r.src.segs) r = b) : Eff t r s (set r.src.segs (.file b) t)
  | mkcol {s : Nat} (hm : r.m = .mkcol) (ok : isSuccess s = true) (absent : walk t [] r.src.segs = .enoent)
      (parent : parentIsDir t r.src.segs = true) : Eff t r s (set r.src.segs .dir t)
  | delete {s : Nat} (hm : r.m = .delete) (ok : isSuccess s = true) : Eff t r s (erase r.src.segs t)
  /-- `Depth: 0` COPY of a collection onto an existing collection: answered 204, nothing is done -/
  | onto {s : Nat} {d : RPath} (hm : r.m = .copy) (dst : r.dst = .ok d) (depth : r.depth = .zero)
      (ok : isSuccess s = true) (src : get t r.src.segs = some .dir) (there : get t d.segs = some .dir) : Eff t r s t
  | mkDest {s : Nat} {d : RPath} (hm : r.m = .copy) (dst : r.dst = .ok d) (depth : r.depth = .zero)
      (ok : isSuccess s = true) (src : get t r.src.segs = some .dir) (absent : lstat t ⟨d.segs, true⟩ = .enoent)
      (parent : parentIsDir t d.segs = true) : Eff t r s (set d.segs .dir t)
  /-- "/d/" onto "/d": rename() / link onto itself -/
  | self {s : Nat} {d : RPath} (hm : r.m = .copy ∨ r.m = .move) (dst : r.dst = .ok d) (depth : r.depth ≠ .zero)
      (ok : isSuccess s = true) (src : get t r.src.segs = some .dir) (same : r.src.segs = d.segs) : Eff t r s t
  | graft {s : Nat} {d : RPath} (hm : r.m = .copy ∨ r.m = .move) (dst : r.dst = .ok d) (depth : r.depth ≠ .zero)
      (ok : isSuccess s = true) (src : get t r.src.segs = some .dir) (apart : under r.src.segs d.segs = false)
      (free : walk t [] d.segs = .enoent ∧ parentIsDir t d.segs = true ∨ (∃ c, walk t [] d.segs = .isfile c) ∨
        walk t [] d.segs = .isdir ∧ hasChild d.segs t = false) :
      Eff t r s (if r.m == .move then moveTree r.src.segs d.segs t else copyTree r.src.segs d.segs t)
  /-- the documented merge into a non-empty collection, answered 200 or 207 -/
  | merge {s : Nat} {d : RPath} (hm : r.m = .copy ∨ r.m = .move) (dst : r.dst = .ok d) (ok : Success s)
      (there : get t (destOf r) = some .dir) (nonempty : hasChild (destOf r) t = true) :
      Eff t r s (mergeDir (t.length + 1) (r.m == .move) r.src.segs d.segs t).1
  | file {s : Nat} {d : RPath} {c : Bytes} (hm : r.m = .copy ∨ r.m = .move) (dst : r.dst = .ok d)
      (ok : isSuccess s = true) (src : get t r.src.segs = some (.file c))
      (free : lstat t (cmFileTarget t r.src d) = .enoent ∧
          (lstat t d = .isdir ∨ parentIsDir t (cmFileTarget t r.src d).segs = true) ∨
        ∃ c', lstat t (cmFileTarget t r.src d) = .isfile c') :
      Eff t r s (cmDone t (r.m == .move) r.src.segs (cmFileTarget t r.src d).segs c s).2

theorem doPut_eff {t : Tree} {r : Req} (hm : r.m = .put) : Eff t r (doPut t r).1 (doPut t r).2 := by
  fun_cases doPut t r
  all_goals first
    | exact .refused rfl
    | skip
  -- the five leaves that write: Content-Range; empty body, created / replaced; body, created / replaced
  · exact .put hm rfl (Or.inr ⟨_, ‹_›⟩) (putContent_range ‹_› (lstat_isfile ‹_›))
  · exact .put hm rfl (Or.inl ⟨‹_›, ‹_›⟩) ((putContent_whole ‹_›).trans (List.isEmpty_iff.1 ‹_›))
  · exact .put hm rfl (Or.inr ⟨_, ‹_›⟩) ((putContent_whole ‹_›).trans (List.isEmpty_iff.1 ‹_›))
  · exact .put hm rfl (Or.inl ⟨‹_›, by simpa using ‹¬(!parentIsDir t _) = true›⟩) (putContent_whole ‹_›)
  · exact .put hm rfl (Or.inr ⟨_, ‹_›⟩) (putContent_whole ‹_›)

theorem doMkcol_eff {t : Tree} {r : Req} (hm : r.m = .mkcol) : Eff t r (doMkcol t r).1 (doMkcol t r).2 := by
  fun_cases doMkcol t r
  all_goals first
    | exact .refused rfl
    | exact .mkcol hm rfl (mkdirRes_ok ‹_›).1 (mkdirRes_ok ‹_›).2

theorem doDelete_eff {t : Tree} {r : Req} (hm : r.m = .delete) : Eff t r (doDelete t r).1 (doDelete t r).2 := by
  fun_cases doDelete t r
  all_goals first
    | exact .refused rfl
    | exact .delete hm rfl

theorem cmFile_eff {t : Tree} {r : Req} {d : RPath} {c : Bytes} (hm : r.m = .copy ∨ r.m = .move)
    (hd : r.dst = .ok d) (hsrc : get t r.src.segs = some (.file c)) :
    Eff t r (cmFile t r (r.m == .move) r.src d c).1 (cmFile t r (r.m == .move) r.src d c).2 := by
  fun_cases cmFile t r _ r.src d c
  all_goals first
    | exact .refused rfl
    | skip
  -- into a collection; a new name below a collection; over a file
  · exact .file hm hd rfl hsrc (Or.inl ⟨‹_›, Or.inl (beq_iff_eq.1 ‹_›)⟩)
  · exact .file hm hd rfl hsrc (Or.inl ⟨‹_›, Or.inr ‹_›⟩)
  · exact .file hm hd rfl hsrc (Or.inr ⟨_, ‹_›⟩)

theorem copymoveDir_eff {t t' : Tree} {r : Req} {d : RPath} {f : Bool} (hm : r.m = .copy ∨ r.m = .move)
    (hd : r.dst = .ok d) (hz : r.depth ≠ .zero) (hn : nested r.src d = false)
    (hsrc : get t r.src.segs = some .dir)
    (h : copymoveDir (r.m == .move) r.ow.overwrite r.src.segs d.segs t = some (t', f)) :
    Eff t r (if f then 207 else 200) t' := by
  revert h
  fun_cases copymoveDir _ _ r.src.segs d.segs t <;> intro h
  all_goals first
    | exact (Option.some_ne_none _ h.symm).elim
    | skip
  all_goals
    have e := Option.some.inj h
    obtain ⟨rfl, rfl⟩ : _ = t' ∧ _ = f := ⟨congrArg Prod.fst e, congrArg Prod.snd e⟩
  -- same path; destination missing / a file / an empty collection; a non-empty collection
  · exact .self hm hd hz rfl hsrc (beq_iff_eq.1 ‹_›)
  · exact .graft hm hd hz rfl hsrc (nested_false hn (fun e => ‹¬_› (beq_iff_eq.2 e))) (Or.inl ⟨‹_›, ‹_›⟩)
  · exact .graft hm hd hz rfl hsrc (nested_false hn (fun e => ‹¬_› (beq_iff_eq.2 e))) (Or.inr (Or.inl ⟨_, ‹_›⟩))
  · exact .graft hm hd hz rfl hsrc (nested_false hn (fun e => ‹¬(_ == _) = true› (beq_iff_eq.2 e)))
      (Or.inr (Or.inr ⟨‹_›, by simpa using ‹(!hasChild d.segs t) = true›⟩))
  · rename_i hw _ hch
    exact .merge hm hd (by split <;> simp [Success]) (by simpa [destOf_ok hd] using walk_isdir hw)
      (by simpa [destOf_ok hd] using hch)

theorem cmCollection_eff {t : Tree} {r : Req} {d : RPath} (hm : r.m = .copy ∨ r.m = .move)
    (hd : r.dst = .ok d) (hn : nested r.src d = false) (hsrc : get t r.src.segs = some .dir) :
    Eff t r (cmCollection t r (r.m == .move) r.src d).1 (cmCollection t r (r.m == .move) r.src d).2 := by
  fun_cases cmCollection t r _ r.src d
  all_goals first
    | exact .refused rfl
    | skip
  -- Depth: 0 onto a collection / a missing name; Depth: infinity
  · rename_i hz hmv hl
    have hc : r.m = .copy := hm.resolve_right (fun h => hmv (by rw [h]; rfl))
    exact .onto hc hd (by simpa using hz) rfl hsrc (lstat_isdir (p := ⟨d.segs, true⟩) hl)
  · rename_i hz hmv hl hp
    have hc : r.m = .copy := hm.resolve_right (fun h => hmv (by rw [h]; rfl))
    exact .mkDest hc hd (by simpa using hz) rfl hsrc hl hp
  · rename_i hz _ _ h
    exact copymoveDir_eff hm hd (by simpa using hz) hn hsrc h

theorem doCopyMove_eff {t : Tree} {r : Req} (hm : r.m = .copy ∨ r.m = .move) :
    Eff t r (doCopyMove t r).1 (doCopyMove t r).2 := by
  fun_cases doCopyMove t r
  all_goals first
    | exact .refused rfl
    | exact .refused (isSuccess_max _)
    | skip
  · exact cmCollection_eff hm ‹_› (Bool.eq_false_iff.2 ‹_›) (lstat_isdir ‹_›)
  · exact cmFile_eff hm ‹_› (lstat_isfile ‹_›)

theorem step_eff (t : Tree) (r : Req) : Eff t r (step t r).1 (step t r).2 := by
  unfold step
  split
  · exact doPut_eff ‹_›
  · exact doMkcol_eff ‹_›
  · exact doDelete_eff ‹_›
  · exact doCopyMove_eff (Or.inl ‹_›)
  · exact doCopyMove_eff (Or.inr ‹_›)
  · exact .read ‹_›

theorem step_cases (t : Tree) (r : Req) :
    (isSuccess (step t r).1 = false ∧ (step t r).2 = t) ∨ isSuccess (step t r).1 = true ∨
    ((r.m = .copy ∨ r.m = .move) ∧ Success (step t r).1 ∧ get t (destOf r) = some .dir ∧
      hasChild (destOf r) t = true) := by
  have h := step_eff t r
  generalize (step t r).1 = s, (step t r).2 = t' at h ⊢
  cases h
  case refused h => exact Or.inl ⟨h, rfl⟩
  case read =>
    by_cases h : isSuccess s = true
    · exact Or.inr (Or.inl h)
    · exact Or.inl ⟨Bool.eq_false_iff.2 h, rfl⟩
  case merge hm _ hs hg hc => exact Or.inr (Or.inr ⟨hm, hs, hg, hc⟩)
  all_goals exact Or.inr (Or.inl ‹_›)

theorem step_error {t : Tree} {r : Req} (he : ¬ Success (step t r).1) : (step t r).2 = t := by
  rcases step_cases t r with ⟨-, h⟩ | h | ⟨-, h, -⟩
  · exact h
  · exact absurd (isSuccess_iff.1 h).1 he
  · exact absurd h he

theorem step_207_unchanged {t : Tree} {r : Req} (hc : Conforming t r) (h : (step t r).1 = 207) :
    (step t r).2 = t := by
  rcases step_cases t r with ⟨-, h'⟩ | h' | ⟨hm, -, hd, hch⟩
  · exact h'
  · exact absurd h (isSuccess_iff.1 h').2
  · exact (hc.no_merge hm hd hch).elim

theorem mergeStep_frame {recur : Path → Path → Tree → Tree × Bool} {q : Path}
    (hrec : ∀ s d t, under s q = false → under d q = false → get (recur s d t).1 q = get t q)
    (move : Bool) {src dst : Path} (acc : Tree × Bool) (e : Seg × Node)
    (hs : under src q = false) (hd : under dst q = false) :
    get (mergeStep recur move src dst acc e).1 q = get acc.1 q := by
  have hs' := under_child_false e.1 hs
  have hd' := under_child_false e.1 hd
  unfold mergeStep
  dsimp only
  repeat' split
  -- every leaf is `acc`, a set / erase / moveTree / copyTree at `src ++ [e]`, `dst ++ [e]`, or the recursion
  all_goals (first
    | rfl
    | (rw [get_set_frame _ _ hd', get_erase_frame _ hs'])
    | (rw [get_set_frame _ _ hd'])
    | (rw [get_moveTree_frame _ hs' hd'])
    | (rw [get_copyTree_frame _ hd'])
    | (exact hrec _ _ _ hs' hd'))

theorem foldl_mergeStep_frame {recur : Path → Path → Tree → Tree × Bool} {q : Path}
    (hrec : ∀ s d t, under s q = false → under d q = false → get (recur s d t).1 q = get t q)
    (move : Bool) {src dst : Path} (hs : under src q = false) (hd : under dst q = false) :
    ∀ (l : List (Seg × Node)) (acc : Tree × Bool),
      get (l.foldl (mergeStep recur move src dst) acc).1 q = get acc.1 q
  | [], _ => rfl
  | e :: l, acc => by
    rw [List.foldl_cons, foldl_mergeStep_frame hrec move hs hd l, mergeStep_frame hrec move acc e hs hd]

theorem mergeDir_frame : ∀ (fuel : Nat) (move : Bool) (src dst : Path) (t : Tree) (q : Path),
    under src q = false → under dst q = false → get (mergeDir fuel move src dst t).1 q = get t q
  | 0, _, _, _, _, _, _, _ => rfl
  | fuel + 1, move, src, dst, t, q, hs, hd => by
    unfold mergeDir
    dsimp only
    have hf := foldl_mergeStep_frame (recur := mergeDir fuel move) (q := q)
      (fun s d t h1 h2 => mergeDir_frame fuel move s d t q h1 h2) move hs hd (children src t) (t, false)
    split
    · rw [get_erase_frame _ hs]; exact hf
    · exact hf

theorem cmFileTarget_under (t : Tree) (src dst : RPath) :
    under dst.segs (cmFileTarget t src dst).segs = true := by
  unfold cmFileTarget
  split
  · exact under_append _ _
  · exact under_refl _

theorem cmFileTarget_eq {t : Tree} {src dst : RPath} (hnd : get t dst.segs ≠ some .dir) :
    cmFileTarget t src dst = dst :=
  if_neg fun hb => hnd (lstat_isdir (beq_iff_eq.1 hb))

theorem step_frame {t : Tree} {r : Req} {q : Path} (hs : under r.src.segs q = false)
    (hd : ∀ d, r.dst = .ok d → under d.segs q = false) :
    get (step t r).2 q = get t q := by
  have h := step_eff t r
  generalize (step t r).1 = s, (step t r).2 = t' at h ⊢
  cases h
  case refused | read | onto | self => rfl
  case put | mkcol => exact get_set_frame _ _ hs
  case delete => exact get_erase_frame _ hs
  case mkDest h _ _ _ _ _ => exact get_set_frame _ _ (hd _ h)
  case graft h _ _ _ _ _ =>
    rw [get_graft]
    simp [graftFS, hs, hd _ h]
  case merge h _ _ _ => exact mergeDir_frame _ _ _ _ _ _ hs (hd _ h)
  case file h _ _ _ =>
    have hd' := not_under_of_not_under_prefix (cmFileTarget_under t r.src _) (hd _ h)
    unfold cmDone
    cases r.m == .move
    · exact get_set_frame _ _ hd'
    · exact (get_set_frame _ _ hd').trans (get_erase_frame _ hs)

end LtVerif.Dav
