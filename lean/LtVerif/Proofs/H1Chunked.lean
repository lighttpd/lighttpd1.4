/-
  The chunked decoder automaton (Model/H1Chunked.lean): what feeding a size line, chunk data, a list of
  chunks and a trailer section does (`GoodLine`, `TrailerOk`); the error state; soundness of the size-line
  validator against the RFC 9112 §7.1 grammar (`SizeLine`).
-/
import LtVerif.Model.H1Chunked
import LtVerif.Proofs.Bytes
namespace LtVerif
open B

/-- a well-formed chunk-size line for a chunk of `n` bytes, as accepted by the decoder:
    any spelling (leading zeros, upper/lower hex, chunk extensions) that `ckParseLine` accepts -/
structure GoodLine (l : Bytes) (n : Nat) : Prop where
  parse : ckParseLine l = .ok n
  -- no NUL: the decoder's `nul` flag (strchr blindness of the C) stays false
  pre : ∃ p, l = p ++ [lf] ∧ lf ∉ p ∧ (0 : UInt8) ∉ p
  short : l.length < 1024

theorem ckFeed_nil (cfg : CkCfg) (s : CkSt) : ckFeed cfg s [] = s := rfl

theorem ckFeed_cons (cfg : CkCfg) (s : CkSt) (b : UInt8) (bs : Bytes) :
    ckFeed cfg s (b :: bs) = ckFeed cfg (ckStep cfg s b) bs := rfl

theorem ckFeed_append (cfg : CkCfg) (s : CkSt) (a b : Bytes) :
    ckFeed cfg s (a ++ b) = ckFeed cfg (ckFeed cfg s a) b := by
  simp [ckFeed, List.foldl_append]

theorem ckFeed_after (cfg : CkCfg) (bs : Bytes) : ∀ (s : CkSt), s.mode = .done →
    ckFeed cfg s bs = { s with after := s.after + bs.length } := by
  induction bs with
  | nil => intro s _; rfl
  | cons b rest ih =>
    intro s h
    have hstep : ckStep cfg s b = { s with after := s.after + 1 } := by
      obtain ⟨mode, out, ka, after⟩ := s
      simp only at h; subst h; rfl
    rw [ckFeed_cons, hstep, ih { s with after := s.after + 1 } h]
    simp only [List.length_cons, Nat.add_assoc, Nat.add_comm 1]

theorem ckFeed_err (cfg : CkCfg) (s : CkSt) (e : Nat) (bs : Bytes) (h : s.mode = .err e) : ckFeed cfg s bs = s := by
  induction bs with
  | nil => rfl
  | cons b rest ih =>
    have : ckStep cfg s b = s := by
      obtain ⟨mode, out, ka, after⟩ := s
      simp only at h; subst h; rfl
    rw [ckFeed_cons, this, ih]

theorem ckFeed_hdr_pre (cfg : CkCfg) (p : Bytes) (acc : Bytes) (out : Bytes) (ka : Bool) (after : Nat)
    (hlf : lf ∉ p) (hnul : (0 : UInt8) ∉ p) (hlen : acc.length + p.length < 1024) :
    ckFeed cfg { mode := .hdr acc false, out := out, ka := ka, after := after } p
      = { mode := .hdr (acc ++ p) false, out := out, ka := ka, after := after } := by
  refine foldl_closed (ckStep cfg) (fun q => { mode := .hdr (acc ++ q) false, out := out, ka := ka, after := after }) p
    (by simp) fun q b r e => ?_
  subst e
  have hb : b ≠ lf := fun e => hlf (by simp [e])
  have hb0 : b ≠ 0 := fun e => hnul (by simp [e])
  simp only [List.length_append, List.length_cons] at hlen
  simp [ckStep, hb, hb0]
  omega

-- `cfg.maxSize = 0`: no server.max-request-size configured
theorem ckFeed_goodline (cfg : CkCfg) (hcfg : cfg.maxSize = 0) {l : Bytes} {n : Nat}
    (h : GoodLine l n) (hn : n ≠ 0) (out : Bytes) (ka : Bool) (after : Nat) :
    ckFeed cfg { mode := .hdr [] false, out := out, ka := ka, after := after } l
      = { mode := .data n, out := out, ka := ka, after := after } := by
  obtain ⟨p, hl, hlf, hnul⟩ := h.pre
  have hshort := h.short
  subst hl
  simp only [List.length_append, List.length_singleton] at hshort
  rw [ckFeed_append, ckFeed_hdr_pre cfg p [] out ka after hlf hnul (by simp; omega)]
  simp only [List.nil_append, ckFeed_cons, ckFeed_nil]
  have hp := h.parse
  cases n with
  | zero => exact absurd rfl hn
  | succ k =>
    simp [ckStep, hp, hcfg]

theorem ckFeed_lastline (cfg : CkCfg) {l : Bytes} (h : GoodLine l 0) (out : Bytes) (ka : Bool) (after : Nat) :
    ckFeed cfg { mode := .hdr [] false, out := out, ka := ka, after := after } l
      = { mode := .trailer l (l.length - 2) false, out := out, ka := ka, after := after } := by
  obtain ⟨p, hl, hlf, hnul⟩ := h.pre
  have hshort := h.short
  have hp := h.parse
  subst hl
  simp only [List.length_append, List.length_singleton] at hshort
  rw [ckFeed_append, ckFeed_hdr_pre cfg p [] out ka after hlf hnul (by simp; omega)]
  simp only [List.nil_append, ckFeed_cons, ckFeed_nil]
  simp [ckStep, hp]

theorem ckFeed_data (cfg : CkCfg) (d : Bytes) : ∀ (n : Nat) (out : Bytes) (ka : Bool) (after : Nat),
    d ≠ [] → d.length = n →
    ckFeed cfg { mode := .data n, out := out, ka := ka, after := after } d
      = { mode := .crlf none, out := out ++ d, ka := ka, after := after } := by
  induction d with
  | nil => intro n out ka after h; exact absurd rfl h
  | cons b rest ih =>
    intro n out ka after _ hlen
    rw [ckFeed_cons]
    cases rest with
    | nil =>
      simp only [List.length_cons, List.length_nil] at hlen
      subst hlen
      simp [ckStep, ckFeed_nil]
    | cons c rest' =>
      simp only [List.length_cons] at hlen
      have hn : ¬ n ≤ 1 := by omega
      have hstep : ckStep cfg { mode := .data n, out := out, ka := ka, after := after } b
          = { mode := .data (n - 1), out := out ++ [b], ka := ka, after := after } := by
        simp [ckStep, hn]
      rw [hstep, ih (n - 1) (out ++ [b]) ka after (by simp) (by simp; omega)]
      simp

theorem ckFeed_crlf (cfg : CkCfg) (out : Bytes) (ka : Bool) (after : Nat) :
    ckFeed cfg { mode := .crlf none, out := out, ka := ka, after := after } [cr, lf]
      = { mode := .hdr [] false, out := out, ka := ka, after := after } := by
  simp [ckFeed_cons, ckFeed_nil, ckStep]

theorem ckFeed_chunk (cfg : CkCfg) (hcfg : cfg.maxSize = 0) {l d : Bytes}
    (h : GoodLine l d.length) (hd : d ≠ []) (out : Bytes) (ka : Bool) (after : Nat) :
    ckFeed cfg { mode := .hdr [] false, out := out, ka := ka, after := after } (l ++ d ++ [cr, lf])
      = { mode := .hdr [] false, out := out ++ d, ka := ka, after := after } := by
  have hn : d.length ≠ 0 := by
    intro e; exact hd (List.length_eq_zero_iff.mp e)
  rw [ckFeed_append, ckFeed_append, ckFeed_goodline cfg hcfg h hn, ckFeed_data cfg d d.length out ka after hd rfl,
      ckFeed_crlf]

theorem ckFeed_chunks (cfg : CkCfg) (hcfg : cfg.maxSize = 0) (ka : Bool) (after : Nat) :
    ∀ (cs : List (Bytes × Bytes)) (out : Bytes), (∀ c ∈ cs, GoodLine c.1 c.2.length ∧ c.2 ≠ []) →
    ckFeed cfg { mode := .hdr [] false, out := out, ka := ka, after := after }
        (cs.flatMap fun c => c.1 ++ c.2 ++ [cr, lf])
      = { mode := .hdr [] false, out := out ++ cs.flatMap (·.2), ka := ka, after := after } := by
  intro cs
  induction cs with
  | nil => intro out _; simp [ckFeed_nil]
  | cons c rest ih =>
    intro out hcs
    have hc := hcs c (by simp)
    rw [List.flatMap_cons, ckFeed_append, ckFeed_chunk cfg hcfg hc.1 hc.2, ih _ fun x hx => hcs x (by simp [hx])]
    simp

/-- byte allowed in a chunk extension (`!lineCharInvalidStrict`) -/
def notCtl (c : UInt8) : Bool := !((c < 32 && c ≠ ht) || c = 127)

/-- what `ckParseLine` checked of a line it accepts with size `n` (`rest'`: past the blanks behind the `k` digits) -/
structure LineChecks (l : Bytes) (n k : Nat) (rest' : Bytes) : Prop where
  hex : ckHex l 0 0 = some (n, k)
  digits : ¬ k = 0
  crlf : l.getD (l.length - 2) 0 = cr
  short : l.length < 1024
  rest : (l.drop k).dropWhile (fun b => b = sp || b = ht) = rest'
  ext : k = l.length - 2 ∨ ∃ c, rest'.head? = some c ∧ (c = cr ∨ c = 59) ∧
    ∀ x ∈ rest'.take (rest'.length - 2), notCtl x = true

theorem ckParseLine_spec (l : Bytes) :
    (∀ n, ckParseLine l = .ok n → ∃ k rest', LineChecks l n k rest') ∧
    (∀ e, ckParseLine l = .error e → e = 400) := by
  fun_cases ckParseLine l
  case case6 v k hck n hk0 hcr ok hok hlen =>  -- the accepting leaf
    refine ⟨fun _ h => ?_, nofun⟩
    cases h
    refine ⟨k, _, hck, hk0, by simpa using hcr, by omega, rfl, ?_⟩
    by_cases hkn : k = n - 2
    · exact .inl hkn
    · right
      simp only [ok, if_neg hkn] at hok
      cases hhd : ((l.drop k).dropWhile fun b => b = sp || b = ht).head? with
      | none => simp [hhd] at hok
      | some c =>
        simp only [hhd, Bool.not_eq_true', Bool.not_eq_false, Bool.and_eq_true, Bool.or_eq_true,
                   decide_eq_true_eq] at hok
        exact ⟨c, rfl, hok.1, fun x hx => by simpa [notCtl] using List.all_eq_true.mp hok.2 x hx⟩
  all_goals refine ⟨fun _ h => ?_, fun _ h => ?_⟩ <;> cases h
  all_goals rfl

theorem ends_cr_of_getD {p : Bytes} (h : (p ++ [lf]).getD ((p ++ [lf]).length - 2) 0 = cr) : ∃ q, p = q ++ [cr] := by
  have hlen : (p ++ [lf]).length - 2 = p.length - 1 := by simp
  rw [hlen] at h
  rcases List.eq_nil_or_concat p with rfl | ⟨q, c, rfl⟩
  · simp [lf, cr] at h
  · rw [List.concat_eq_append] at h ⊢
    have : (q ++ [c] ++ [lf]).getD ((q ++ [c]).length - 1) 0 = c := by
      simp [List.getD_eq_getElem?_getD]
    rw [this] at h
    subst h
    exact ⟨q, rfl⟩

theorem goodline_ends_crlf {l : Bytes} {n : Nat} (h : GoodLine l n) :
    ∃ q, l = q ++ [cr, lf] := by
  obtain ⟨p, hl, _, _⟩ := h.pre
  subst hl
  obtain ⟨_, _, hc⟩ := (ckParseLine_spec _).1 n h.parse
  obtain ⟨q, rfl⟩ := ends_cr_of_getD hc.crlf
  exact ⟨q, by simp⟩

/-- entering the error state (for `h1Step_out` and `c01_chunked_error_closes`) -/
theorem ckStep_err (cfg : CkCfg) (s : CkSt) (b : UInt8) (e : Nat) (hs : ∀ e0, s.mode ≠ .err e0)
    (h : (ckStep cfg s b).mode = .err e) : (e = 400 ∨ e = 413) ∧ (ckStep cfg s b).ka = false := by
  obtain ⟨mode, out, ka, after⟩ := s
  revert h
  cases mode with
  | err e0 => exact absurd rfl (hs e0)
  | hdr acc nul =>
    simp only [ckStep]
    split
    · split
      · rename_i e' he  -- 400: the size line is rejected
        intro h
        simp only [CkMode.err.injEq] at h
        exact ⟨.inl (h ▸ (ckParseLine_spec _).2 _ he), rfl⟩
      · nofun
      · split
        · intro h; simp only [CkMode.err.injEq] at h; exact ⟨.inr h.symm, rfl⟩  -- 413: over max-request-size
        · nofun
    · split
      · intro h; simp only [CkMode.err.injEq] at h; exact ⟨.inl h.symm, rfl⟩  -- 400: 1024 bytes without LF
      · nofun
  | data n => simp only [ckStep]; split <;> nofun
  | crlf f =>
    cases f with
    | none => nofun
    | some a =>
      simp only [ckStep]; split
      · nofun
      · intro h; simp only [CkMode.err.injEq] at h; exact ⟨.inl h.symm, rfl⟩  -- 400: no CRLF behind the data
  | trailer acc off nul => simp only [ckStep]; split <;> (try split) <;> nofun
  | done => nofun

/-- a trailer section `tr` (everything behind the last-chunk line `last`, including the final CRLF; `[cr, lf]` =
    no trailer fields): NUL-free, its first CRLFCRLF -- counted from the CRLF of the last-chunk line -- is its
    end, and it fits max-request-field-size together with the last-chunk line -/
structure TrailerOk (cfg : CkCfg) (last tr : Bytes) : Prop where
  nonempty : tr ≠ []
  nul : (0 : UInt8) ∉ tr
  ends : endsCrlfCrlf ((last ++ tr).drop (last.length - 2)) = true
  first : ∀ k, k < tr.length → 0 < k → endsCrlfCrlf ((last ++ tr.take k).drop (last.length - 2)) = false
  size : (last ++ tr).length ≤ cfg.maxField

theorem ckFeed_trailer_bytes (cfg : CkCfg) (off : Nat) (out : Bytes) (ka : Bool) (after : Nat) :
    ∀ (rest acc : Bytes), rest ≠ [] → (0 : UInt8) ∉ rest →
    endsCrlfCrlf ((acc ++ rest).drop off) = true →
    (∀ k, k < rest.length → 0 < k → endsCrlfCrlf ((acc ++ rest.take k).drop off) = false) →
    (acc ++ rest).length ≤ cfg.maxField →
    ckFeed cfg { mode := .trailer acc off false, out := out, ka := ka, after := after } rest
      = { mode := .done, out := out, ka := ka, after := after } := by
  intro rest
  induction rest with
  | nil => intro acc h; exact absurd rfl h
  | cons b rest' ih =>
    intro acc _ hnul hends hfirst hsize
    have hb0 : b ≠ 0 := fun e => hnul (by simp [e])
    rw [ckFeed_cons]
    by_cases hre : rest' = []
    · subst hre
      have : ckStep cfg { mode := .trailer acc off false, out := out, ka := ka, after := after } b
          = { mode := .done, out := out, ka := ka, after := after } := by
        simp [ckStep, hb0, hends]
      rw [this, ckFeed_nil]
    · have hlen : 0 < rest'.length := List.length_pos_iff.mpr hre
      have h1 := hfirst 1 (by simp; omega) (by omega)
      simp only [List.take_succ_cons, List.take_zero] at h1
      have hsz : ¬ ((acc ++ [b]).length ≥ cfg.maxField) := by
        simp only [List.length_append, List.length_cons] at hsize ⊢
        simp; omega
      have : ckStep cfg { mode := .trailer acc off false, out := out, ka := ka, after := after } b
          = { mode := .trailer (acc ++ [b]) off false, out := out, ka := ka, after := after } := by
        simp [ckStep, hb0, h1]
        simpa using hsz
      rw [this]
      apply ih (acc ++ [b]) hre (fun e => hnul (by simp [e]))
      · simpa using hends
      · intro k hk1 hk2
        have := hfirst (k + 1) (by simp; omega) (by omega)
        simpa using this
      · simpa using hsize

theorem ckFeed_final_trailers (cfg : CkCfg) {last tr : Bytes} (h : GoodLine last 0) (ht : TrailerOk cfg last tr)
    (out : Bytes) (ka : Bool) (after : Nat) :
    ckFeed cfg { mode := .hdr [] false, out := out, ka := ka, after := after } (last ++ tr)
      = { mode := .done, out := out, ka := ka, after := after } := by
  rw [ckFeed_append, ckFeed_lastline cfg h]
  exact ckFeed_trailer_bytes cfg _ out ka after tr last ht.nonempty ht.nul ht.ends ht.first ht.size

-- 1026: a last-chunk line (< 1024 bytes) plus the final CRLF
theorem TrailerOk.plain (cfg : CkCfg) (hmf : cfg.maxField ≥ 1026) {last : Bytes} (h : GoodLine last 0) :
    TrailerOk cfg last [cr, lf] := by
  obtain ⟨q, hq⟩ := goodline_ends_crlf h
  have hshort := h.short
  subst hq
  simp only [List.length_append, List.length_cons, List.length_nil] at hshort
  have hlen : (q ++ [cr, lf]).length - 2 = q.length := by simp
  refine ⟨by simp, by decide, ?_, ?_, ?_⟩
  · rw [hlen]; simp [endsCrlfCrlf]
  · intro k hk1 hk2
    have : k = 1 := by simp at hk1; omega
    subst this
    rw [hlen]
    simp [endsCrlfCrlf]
  · simp; omega

theorem ckFeed_final (cfg : CkCfg) (hmf : cfg.maxField ≥ 1026) {l : Bytes} (h : GoodLine l 0)
    (out : Bytes) (ka : Bool) (after : Nat) :
    ckFeed cfg { mode := .hdr [] false, out := out, ka := ka, after := after } (l ++ [cr, lf])
      = { mode := .done, out := out, ka := ka, after := after } :=
  ckFeed_final_trailers cfg h (TrailerOk.plain cfg hmf h) out ka after

/-- RFC 9112 §7.1 chunk-size line `chunk-size [chunk-ext] CRLF` with `n` the value of chunk-size, chunk-ext
    relaxed to `BWS ";" *( HTAB / SP / VCHAR / obs-text )` (no structure inside the extension, but no control
    character, in particular no bare CR or LF), BWS also allowed directly before the CRLF, at most 1023 bytes.
    Stated without reference to the decoder. -/
structure SizeLine (l : Bytes) (n : Nat) : Prop where
  dec : ∃ hx bws ext, l = hx ++ bws ++ ext ++ [cr, lf] ∧ hx ≠ [] ∧ (∀ b ∈ hx, (hexVal b).isSome = true) ∧
        hexFold 0 hx = n ∧ (∀ b ∈ bws, b = sp ∨ b = ht) ∧
        (ext = [] ∨ (ext.head? = some 59 ∧ ext.all notCtl = true))
  short : l.length < 1024

theorem ckHex_spec : ∀ (line : Bytes) (v k v' k' : Nat), ckHex line v k = some (v', k') →
    ∃ hx rest, line = hx ++ rest ∧ k' = k + hx.length ∧ (∀ b ∈ hx, (hexVal b).isSome = true) ∧
      (rest.head?.bind hexVal) = none ∧ v' = hexFold v hx := by
  intro line
  induction line with
  | nil =>
    intro v k v' k' h
    simp only [ckHex, Option.some.injEq, Prod.mk.injEq] at h
    exact ⟨[], [], rfl, by simp [h.2], by simp, rfl, by simp [hexFold, h.1]⟩
  | cons b rest ih =>
    intro v k v' k' h
    unfold ckHex at h
    split at h
    · rename_i hb
      simp only [Option.some.injEq, Prod.mk.injEq] at h
      exact ⟨[], b :: rest, rfl, by simp [h.2], by simp, by simp [hb], by simp [hexFold, h.1]⟩
    · rename_i d hd
      split at h
      · simp at h
      · obtain ⟨hx, rest', h1, h2, h3, h4, h5⟩ := ih _ _ _ _ h
        refine ⟨b :: hx, rest', by simp [h1], by simp [h2]; omega, ?_, h4, ?_⟩
        · intro x hx'
          simp only [List.mem_cons] at hx'
          rcases hx' with rfl | hx'
          · simp [hd]
          · exact h3 x hx'
        · simp [hexFold, hd] at h5 ⊢; exact h5

theorem lf_not_hex : hexVal lf = none := by decide
theorem cr_not_hex : hexVal cr = none := by decide

theorem sizeLine_of_facts (p line : Bytes) (v k : Nat) (rest' : Bytes) (hl : p ++ [lf] = line)
    (h : LineChecks line v k rest') : SizeLine line v := by
  obtain ⟨hck, hk0, hcr', hshort, hr', hcond⟩ := h
  obtain ⟨hx, rest, h1, h2, h3, h4, h5⟩ := ckHex_spec _ _ _ _ _ hck
  simp only [Nat.zero_add] at h2
  have hxne : hx ≠ [] := by
    intro e; subst e; simp at h2; exact hk0 h2
  obtain ⟨q, hq⟩ : ∃ q, p = q ++ [cr] := by
    subst hl; exact ends_cr_of_getD hcr'
  subst hq
  have hline : line = q ++ [cr, lf] := by rw [← hl]; simp
  refine ⟨?_, hshort⟩
  rcases hcond with hkn | ⟨c, hhd, hc, hall⟩
  · -- nothing between the size and CRLF
    have hlen : hx.length = q.length := by rw [← h2, hkn, hline]; simp
    have hsplit : hx ++ rest = q ++ [cr, lf] := by rw [← h1, hline]
    have hq : hx = q := List.append_inj_left hsplit hlen
    exact ⟨hx, [], [], by rw [hline, hq]; simp, hxne, h3, h5.symm, by simp, .inl rfl⟩
  · have hdrop : line.drop k = rest := by
      rw [h1, h2]; simp
    rw [hdrop] at hr'
    have hrsplit : rest = rest.takeWhile (fun b => b = sp || b = ht) ++ rest' := by
      rw [← hr']; exact (List.takeWhile_append_dropWhile).symm
    generalize hbw : rest.takeWhile (fun b => b = sp || b = ht) = bws at hrsplit
    have hbws : ∀ b ∈ bws, b = sp ∨ b = ht := by
      intro b hb
      have := (takeWhile_cut _ rest).1 b (hbw ▸ hb)
      simpa using this
    have hfull : hx ++ bws ++ rest' = q ++ [cr, lf] := by
      rw [← hline, h1, hrsplit]; simp
    -- `rest'` is not empty and does not begin with LF, so it holds the final CRLF
    obtain ⟨ext, hq, hrest'⟩ : ∃ ext, q = hx ++ bws ++ ext ∧ rest' = ext ++ [cr, lf] := by
      rcases List.append_eq_append_iff.mp hfull with ⟨m, hq, hr⟩ | ⟨m, hl, hr⟩
      · exact ⟨m, hq, hr⟩
      · rcases m with _ | ⟨a, _ | ⟨b, m'⟩⟩
        · exact ⟨[], by simpa using hl.symm, by simpa using hr.symm⟩
        · simp only [List.cons_append, List.nil_append, List.cons.injEq] at hr
          rw [← hr.2] at hhd
          simp only [List.head?_cons, Option.some.injEq] at hhd
          subst hhd
          rcases hc with hc | hc <;> simp [lf, cr] at hc
        · simp only [List.cons_append, List.cons.injEq] at hr
          have : rest' = [] := by simpa using (List.nil_eq_append_iff.mp hr.2.2).2
          simp [this] at hhd
    have htake : rest'.take (rest'.length - 2) = ext := by
      rw [hrest']; simp
    rw [htake] at hall
    refine ⟨hx, bws, ext, by rw [hline, hq], hxne, h3, h5.symm, hbws, ?_⟩
    cases hex : ext with
    | nil => exact .inl rfl
    | cons e ext' =>
      right
      subst hex
      have hce : c = e := by
        rw [hrest'] at hhd; simpa using hhd.symm
      subst hce
      rcases hc with hc | hc
      · subst hc
        have := hall cr (by simp)
        simp [notCtl, cr, ht] at this
      · subst hc
        exact ⟨by simp, by rw [List.all_eq_true]; exact hall⟩

theorem ckParseLine_sound (p : Bytes) (n : Nat) (h : ckParseLine (p ++ [lf]) = .ok n) : SizeLine (p ++ [lf]) n := by
  obtain ⟨k, rest', hc⟩ := (ckParseLine_spec _).1 n h
  exact sizeLine_of_facts p _ n k rest' rfl hc

theorem stage_chunked_bad_size_line_rejected (cfg : CkCfg) (p : Bytes) (e : Nat) (out : Bytes) (ka : Bool)
    (hlf : lf ∉ p) (hnul : (0 : UInt8) ∉ p) (hlen : p.length + 1 < 1024)
    (hbad : ckParseLine (p ++ [lf]) = .error e) :
    (ckFeed cfg { mode := .hdr [] false, out := out, ka := ka, after := 0 } (p ++ [lf])).mode = .err e ∧
    (ckFeed cfg { mode := .hdr [] false, out := out, ka := ka, after := 0 } (p ++ [lf])).ka = false := by
  rw [ckFeed_append, ckFeed_hdr_pre cfg p [] out ka 0 hlf hnul (by simp; omega)]
  simp [ckFeed_cons, ckFeed_nil, ckStep, hbad]

end LtVerif
