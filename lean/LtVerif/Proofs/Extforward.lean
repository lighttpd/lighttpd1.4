/-
  For Props/C03.lean: X-Forwarded-For gives the right-most element that is no trusted proxy; the
  Forwarded tokenizer is the unbounded one below 253 slots; the walk skips no untrusted hop; only
  addresses that parse are set.
-/
import LtVerif.Model.Extforward
namespace LtVerif.Extforward
open LtVerif B

/-! ### X-Forwarded-For: last_not_in_array(), extract_forward_array() -/

theorem lastNotIn_eq_some_iff (f : Forwarder) (chain : List Bytes) (a : Bytes) :
    lastNotIn f chain = some a ↔ isProxyTrusted f a = false ∧
      ∃ pre post, chain = pre ++ a :: post ∧ ∀ x ∈ post, isProxyTrusted f x = true := by
  unfold lastNotIn
  rw [List.find?_eq_some_iff_append]
  constructor
  · rintro ⟨ha, as, bs, hrev, has⟩
    exact ⟨by simpa using ha, bs.reverse, as.reverse, by simpa using congrArg List.reverse hrev,
      fun x hx => by simpa using has x (by simpa using hx)⟩
  · rintro ⟨ha, pre, post, rfl, hpost⟩
    exact ⟨by simpa using ha, post.reverse, pre.reverse, by simp,
      fun x hx => by simpa using hpost x (by simpa using hx)⟩

theorem lastNotIn_none (f : Forwarder) (chain : List Bytes) :
    lastNotIn f chain = none ↔ ∀ x ∈ chain, isProxyTrusted f x = true := by
  simp [lastNotIn]

theorem extractGo_token (a : Bytes) (h : ∀ c ∈ a, (isHexColon c || c = dot) = true) (cur : Bytes)
    (acc : List Bytes) : extractGo a (some cur) acc = acc.reverse ++ [cur.reverse ++ a] := by
  induction a generalizing cur with
  | nil => simp [extractGo]
  | cons c rest ih =>
    simp only [extractGo, h c (by simp), ↓reduceIte]
    rw [ih (fun x hx => h x (by simp [hx]))]
    simp

theorem extractGo_append (P a : Bytes) (ht : tokenLike a) (cur : Option Bytes) (acc : List Bytes) :
    extractGo (P ++ [44, 32] ++ a) cur acc = extractGo P cur acc ++ [a] := by
  obtain ⟨⟨c, rest, rfl, hc⟩, hall⟩ := ht
  induction P generalizing cur acc with
  | nil =>
    -- ',' and ' ' end the token being collected, if any; then `c :: rest` is collected
    have h44 : isHexColon 44 = false := by decide
    have h32 : isHexColon 32 = false := by decide
    have hd : (44 : UInt8) ≠ dot := by decide
    have hrest := extractGo_token rest (fun x hx => hall x (by simp [hx]))
    cases cur <;> simp [extractGo, h44, h32, hd, hc, hrest]
  | cons x P ih =>
    cases cur <;> simp only [List.cons_append, extractGo] <;> split <;> exact ih _ _

theorem extract_append (P a : Bytes) (ht : tokenLike a) :
    extractForwardArray (P ++ [44, 32] ++ a) = extractForwardArray P ++ [a] :=
  extractGo_append P a ht none []

/-! ### Forwarded: the tokenizer and the capacity of offsets[] -/

theorem slots_append (a b : List Item) : slots (a ++ b) = slots a + slots b := by
  simp [slots, List.sum_append]

/-- the two tokenizers differ in the capacity tests only, and a test that fires leaves
    `slots r ≥ 253` (offsets[256]: a separator takes 1 entry, a param 4) -/
theorem fwdTokGo_spec (s : Bytes) (fuel i : Nat) (items r : List Item)
    (h : fwdTokGo s fuel i items = .ok r) :
    slots items ≤ slots r ∧ (slots r < 253 → fwdTokGoU s fuel i items = .ok r) := by
  have stop : ∀ {items r}, TokRes.ok items = .ok r →
      slots items ≤ slots r ∧ (slots r < 253 → TokRes.ok items = .ok r) :=
    fun h => ⟨by cases h; exact Nat.le_refl _, fun _ => h⟩
  induction fuel generalizing i items with
  | zero => exact stop h
  | succ fuel ih =>
    have push : ∀ {j it}, fwdTokGo s fuel j (items ++ [it]) = .ok r →
        slots items ≤ slots r ∧ (slots r < 253 → fwdTokGoU s fuel j (items ++ [it]) = .ok r) :=
      fun h => ⟨by have := (ih _ _ h).1; rw [slots_append] at this; omega, (ih _ _ h).2⟩
    simp only [fwdTokGo] at h
    simp only [fwdTokGoU]
    by_cases h1 : i ≥ s.length
    · simp only [h1, ↓reduceIte] at h ⊢; exact stop h
    · simp only [h1, ↓reduceIte] at h ⊢
      generalize i + ((s.drop i).takeWhile (fun c => c = sp || c = ht)).length = i' at h ⊢
      cases hc : s[i']? with
      | none => simp only [hc] at h ⊢; exact stop h
      | some c =>
        simp only [hc] at h ⊢
        by_cases h3 : c = 59  -- ';' is skipped
        · simp only [h3, ↓reduceIte] at h ⊢; exact ih _ _ h
        · simp only [h3, ↓reduceIte] at h ⊢
          by_cases h4 : c = 44  -- ',' separator, capacity 256
          · simp only [h4, ↓reduceIte] at h ⊢
            by_cases h5 : slots items ≥ 256
            · simp only [h5, ↓reduceIte, TokRes.ok.injEq] at h; subst h
              exact ⟨Nat.le_refl _, fun hr => by omega⟩
            · simp only [h5, ↓reduceIte] at h; exact push h
          · simp only [h4, ↓reduceIte] at h ⊢
            cases hf : findNext true s i' (s.length + 1) with
            | none => simp [hf] at h
            | some i1 =>
              simp only [hf] at h ⊢
              by_cases h6 : s[i1]? ≠ some 61  -- no '=': not a param
              · rw [if_pos h6] at h ⊢; exact ih _ _ h
              · rw [if_neg h6] at h ⊢
                cases hg : findNext false s (i1 + 1) (s.length + 1) with
                | none => simp [hg] at h
                | some i2 =>
                  simp only [hg] at h ⊢
                  by_cases h8 : i1 - i' = 0  -- empty key
                  · simp only [h8, ↓reduceIte] at h ⊢; exact ih _ _ h
                  · simp only [h8, ↓reduceIte] at h ⊢
                    by_cases h9 : slots items ≥ 253  -- `k=v`, capacity 253
                    · simp only [h9, ↓reduceIte, TokRes.ok.injEq] at h; subst h
                      exact ⟨Nat.le_refl _, fun hr => by omega⟩
                    · simp only [h9, ↓reduceIte] at h; exact push h

theorem fwdTokGo_mono (s : Bytes) (fuel i : Nat) (items r : List Item)
    (h : fwdTokGo s fuel i items = .ok r) : slots items ≤ slots r :=
  (fwdTokGo_spec s fuel i items r h).1

/-! ### Forwarded: the walk over the for= params (`while (j >= 3)`) -/

/-- the walk goes past every group before `g` and `g` reports the usable identifier `a`
    (the conclusion of c03_forwarded_walk_safe, for any group list) -/
def Reaches (f : Forwarder) (s : Bytes) (a : Bytes) (gs : List (List Item)) : Prop :=
  ∃ pre g post, gs = pre ++ g :: post ∧ (∀ g' ∈ pre, Passes f s g') ∧
    groupVal s g = some (.val a) ∧ a ≠ [] ∧ usable a = true

theorem Reaches.cons {f : Forwarder} {s a : Bytes} {g : List Item} {gs : List (List Item)}
    (hp : Passes f s g) : Reaches f s a gs → Reaches f s a (g :: gs)
  | ⟨pre, g0, post, hsplit, hpass, hg0⟩ =>
    ⟨g :: pre, g0, post, by rw [hsplit]; rfl,
      fun g' hg' => (List.mem_cons.1 hg').elim (· ▸ hp) (hpass g'), hg0⟩

theorem fwdWalk_safe (f : Forwarder) (s : Bytes) (gs : List (List Item)) (ofor : Option Bytes) (a : Bytes)
    (h : fwdWalkGroups f s gs ofor = .addr (some a)) : ofor = some a ∨ Reaches f s a gs := by
  induction gs generalizing ofor with
  | nil => exact Or.inl (WalkRes.addr.inj h)
  | cons g gs ih =>
    simp only [fwdWalkGroups] at h
    cases hv : groupVal s g with
    | none =>
      simp only [hv] at h
      exact (ih ofor h).imp_right (Reaches.cons (Or.inl hv))
    | some v =>
      cases v with
      | bad => simp [hv] at h
      | junk => simp [hv] at h
      | val x =>
        simp only [hv] at h
        by_cases hx : x.isEmpty = true
        · simp only [hx, ↓reduceIte] at h
          exact (ih ofor h).imp_right (Reaches.cons (Or.inr ⟨x, hv, Or.inl (by simpa using hx)⟩))
        · simp only [hx, Bool.false_eq_true, ↓reduceIte] at h
          -- the identifier of `g` becomes the candidate if it is usable
          have cand : (if usable x = true then some x else ofor) = some a →
              ofor = some a ∨ Reaches f s a (g :: gs) := by
            intro ho
            by_cases hu : usable x = true
            · rw [if_pos hu] at ho
              cases ho
              exact Or.inr ⟨[], g, gs, rfl, by simp, hv, by simpa using hx, hu⟩
            · rw [if_neg hu] at ho
              exact Or.inl ho
          by_cases ht : isProxyTrusted f x = true
          · simp only [ht, ↓reduceIte] at h
            exact (ih _ h).elim cand (fun hr => Or.inr (hr.cons (Or.inr ⟨x, hv, Or.inr ht⟩)))
          · simp only [ht, Bool.false_eq_true, ↓reduceIte] at h
            exact cand (WalkRes.addr.inj h)

theorem fwdWalk_exact (f : Forwarder) (s : Bytes) (pre : List (List Item)) (g : List Item)
    (post : List (List Item)) (ofor : Option Bytes) (a : Bytes)
    (hpre : ∀ g' ∈ pre, Passes f s g') (hg : groupVal s g = some (.val a)) (hne : a ≠ [])
    (hu : usable a = true) (hnt : isProxyTrusted f a = false) :
    fwdWalkGroups f s (pre ++ g :: post) ofor = .addr (some a) := by
  induction pre generalizing ofor with
  | nil =>
    have he : a.isEmpty = false := by simpa using hne
    simp [fwdWalkGroups, hg, he, hu, hnt]
  | cons p ps ih =>
    have hp := hpre p (by simp)
    have hps : ∀ g' ∈ ps, Passes f s g' := fun g' hg' => hpre g' (by simp [hg'])
    simp only [List.cons_append, fwdWalkGroups]
    rcases hp with hp | ⟨x, hx, hx'⟩
    · simp only [hp]
      exact ih ofor hps
    · simp only [hx]
      rcases hx' with rfl | ht
      · simp only [List.isEmpty_nil, ↓reduceIte]
        exact ih ofor hps
      · by_cases he : x.isEmpty = true
        · simp only [he, ↓reduceIte]
          exact ih ofor hps
        · simp only [he, Bool.false_eq_true, ↓reduceIte, ht]
          exact ih _ hps

/-! ### only addresses that parse are used; trust of the TCP peer -/

theorem setAddr_eq (parse : Bytes → Option SockAddr) (a : Bytes) :
    setAddr parse a = (parse a).map (fun sa => (a, sa)) := by
  unfold setAddr; cases parse a <;> rfl

theorem setAddr_some (parse : Bytes → Option SockAddr) (a b : Bytes) (sb : SockAddr)
    (h : setAddr parse a = some (b, sb)) : b = a ∧ parse a = some sb := by
  rw [setAddr_eq] at h
  cases hp : parse a <;> simp_all

theorem xffAddr_some (parse : Bytes → Option SockAddr) (f : Forwarder) (hdr a : Bytes) (sa : SockAddr)
    (h : xffAddr parse f hdr = some (a, sa)) :
    parse a = some sa ∧ isProxyTrusted f a = false ∧
      ∃ pre post, extractForwardArray hdr = pre ++ a :: post ∧ ∀ x ∈ post, isProxyTrusted f x = true := by
  unfold xffAddr at h
  cases hl : lastNotIn f (extractForwardArray hdr) with
  | none => simp [hl] at h
  | some a0 =>
    obtain ⟨rfl, hp⟩ := setAddr_some parse a0 a sa (by simpa [hl] using h)
    exact ⟨hp, (lastNotIn_eq_some_iff f _ _).1 hl⟩

theorem xffAddr_exact (parse : Bytes → Option SockAddr) (f : Forwarder) (hdr : Bytes) (pre post : List Bytes)
    (a : Bytes) (hc : extractForwardArray hdr = pre ++ a :: post) (ha : isProxyTrusted f a = false)
    (hpost : ∀ x ∈ post, isProxyTrusted f x = true) :
    xffAddr parse f hdr = (parse a).map (fun sa => (a, sa)) := by
  simp only [xffAddr, hc, (lastNotIn_eq_some_iff f _ a).2 ⟨ha, pre, post, rfl, hpost⟩, setAddr_eq]

theorem forwardedAddr_set (bf : Bool) (parse : Bytes → Option SockAddr) (f : Forwarder) (hdr a : Bytes)
    (sa : SockAddr) (h : forwardedAddr bf parse f hdr = .set a sa) : parse a = some sa := by
  unfold forwardedAddr at h
  cases htok : fwdTokens hdr with
  | bad => simp [htok] at h
  | ok items =>
    simp only [htok] at h
    by_cases hcap : slots items ≥ 253
    · simp [hcap] at h
    by_cases hempty : items.isEmpty = true
    · simp [hcap, hempty] at h
    simp only [hcap, hempty, ↓reduceIte, Bool.false_eq_true] at h
    -- only an identifier found by the walk and accepted by `setAddr` is answered with `.set`
    cases hwalk : (if bf = true then fwdWalkBeforeFix f hdr items else fwdWalk f hdr items) with
    | addr o =>
      cases o with
      | none => simp [hwalk] at h
      | some a0 =>
        simp only [hwalk] at h
        cases hset : setAddr parse a0 with
        | none => simp [hset] at h
        | some p =>
          obtain ⟨b, sb⟩ := p
          simp only [hset, FwdRes.set.injEq] at h
          obtain ⟨rfl, rfl⟩ := h
          obtain ⟨rfl, hp⟩ := setAddr_some parse a0 b sb hset
          exact hp
    | _ => simp [hwalk] at h

theorem remoteAddr_untrusted (bf : Bool) (parse : Bytes → Option SockAddr) (c : ExtConf) (peer : Bytes)
    (hdrs : List (Bytes × Bytes))
    (h : ∀ f, c.forwarder = some f → isConnectionTrusted f peer = false) :
    remoteAddr bf parse c peer hdrs = .unchanged := by
  unfold remoteAddr
  cases hf : c.forwarder with
  | none => rfl
  | some f =>
    simp only
    cases pickHeader c.headers hdrs with
    | none => rfl
    | some nv => simp [h f hf]

theorem remoteAddr_set (bf : Bool) (parse : Bytes → Option SockAddr) (c : ExtConf) (peer : Bytes)
    (hdrs : List (Bytes × Bytes)) (a : Bytes) (sa : SockAddr)
    (h : remoteAddr bf parse c peer hdrs = .set a sa) :
    ∃ f, c.forwarder = some f ∧ isConnectionTrusted f peer = true ∧ parse a = some sa := by
  -- arms of `remoteAddr`: module inactive / no header / peer untrusted / Forwarded / X-Forwarded-For
  unfold remoteAddr at h
  split at h
  · cases h
  next f hf =>
    split at h
    · cases h
    · split at h
      · cases h
      next htr =>
        refine ⟨f, hf, by simpa using htr, ?_⟩
        split at h
        · exact forwardedAddr_set bf parse f _ a sa h
        · split at h
          next hx => cases h; exact (xffAddr_some parse f _ _ _ hx).1
          · cases h

end LtVerif.Extforward
