/-
  C18 — the PUT protocol (Model/DavPut.lean): prefix and `Cfg.new` facts, `Inv` / `InvS` kept by every
  accepted call (`inv_step`), every issued call accepted and lowering `rank` (`gen_step`).
-/
import LtVerif.Model.DavPut

namespace LtVerif.DavPut
open LtVerif

def IsPrefix (a src : Bytes) : Prop := a = src.take a.length

theorem isPrefix_iff {a src : Bytes} : IsPrefix a src ↔ a <+: src :=
  List.prefix_iff_eq_take.symm

theorem isPrefix_nil (src : Bytes) : IsPrefix [] src := isPrefix_iff.2 List.nil_prefix

theorem isPrefix_length_le {a src : Bytes} (h : IsPrefix a src) : a.length ≤ src.length :=
  (isPrefix_iff.1 h).length_le

theorem prefix_full {src a : Bytes} (h : IsPrefix a src) (hl : a.length = src.length) : a = src :=
  (isPrefix_iff.1 h).eq_of_length hl

theorem extend_length (src cur : Bytes) (n : Nat) :
    (extend src cur n).length = cur.length + min n (src.length - cur.length) := by
  simp [extend]

theorem extend_isPrefix {src a : Bytes} {n : Nat} (h : IsPrefix a src) (hn : a.length + n ≤ src.length) :
    IsPrefix (extend src a n) src := by
  unfold IsPrefix at h ⊢
  rw [extend_length, Nat.min_eq_left (by omega), List.take_add]
  unfold extend
  congr 1

theorem patch_nil (o : Bytes) (off : Nat) : Dav.patch o off [] = o := by
  simp [Dav.patch]

theorem new_full {c : Cfg} (h : c.kind = .full) : c.new = c.body := by simp [Cfg.new, h]
theorem new_zero {c : Cfg} (h : c.kind = .zero) : c.new = [] := by simp [Cfg.new, h]
theorem new_part {c : Cfg} {off : Nat} {o : Bytes} (h : c.kind = .part off) (ho : c.old = some o) :
    c.new = Dav.patch o off c.body := by simp [Cfg.new, h, ho]

theorem new_zero_beq {c : Cfg} (h : (c.kind == .zero) = true) : c.new = [] :=
  new_zero (by simpa using h)

/-- per-state invariant on the staged name and the anonymous staging file -/
def InvPc (c : Cfg) (target tmp anon : Option Bytes) : Pc → Prop
  | .start => target = c.old ∧ tmp = none ∧ anon = none
  | .start2 => tmp = none ∧ anon = none ∧ c.kind = .full
  | .start3 => tmp = some [] ∧ anon = some [] ∧ c.kind = .full
  | .recv => tmp = none ∧ c.kind = .full ∧ ∃ a, anon = some a ∧ IsPrefix a c.body
  | .linked => tmp = some c.new
  | .needRename => tmp = some c.new
  | .cleanup => True
  | .closing => tmp = none
  | .byName => tmp = none ∧ c.kind = .full
  | .byNameW => c.kind = .full ∧ ∃ a, tmp = some a ∧ IsPrefix a c.body
  | .byNameC => tmp = some c.new
  | .byNameF => True
  | .zTrunc => tmp = none ∧ anon = none ∧ c.kind = .zero
  | .zStaged => tmp = some [] ∧ anon = none ∧ c.kind = .zero
  | .zRen => tmp = some [] ∧ anon = none ∧ c.kind = .zero
  | .pExcl => tmp = none ∧ anon = none ∧ ∃ off o, c.kind = .part off ∧ c.old = some o
  | .pCopy => anon = none ∧ ∃ off o a, c.kind = .part off ∧ c.old = some o ∧ tmp = some a ∧ IsPrefix a o
  | .pPatch j => anon = none ∧ j ≤ c.body.length ∧ ∃ off o, c.kind = .part off ∧ c.old = some o ∧
      tmp = some (Dav.patch o off (c.body.take j))
  | .pRen => anon = none ∧ tmp = some c.new
  | .pFail cl u => anon = none ∧ (u = false → tmp = none) ∧ (cl = true ∨ u = true)
  | .done => tmp = none ∧ anon = none

def Inv (c : Cfg) (s : PSt) : Prop :=
  (s.target = c.old ∨ s.target = some c.new) ∧ InvPc c s.target s.tmp s.anon s.pc

/-- status bookkeeping: success is decided exactly when the new content has been published -/
def InvS (c : Cfg) (s : PSt) : Prop :=
  (s.status = 2 → s.target = some c.new ∧ (s.pc = .closing ∨ s.pc = .done)) ∧
  (s.status ≠ 2 → s.target = c.old)

theorem inv_init (c : Cfg) : Inv c (init c) := by
  simp [Inv, InvPc, init]

theorem invS_init (c : Cfg) : InvS c (init c) := by
  simp [InvS, init]

/-- One leaf per transition of `stepEv`; each pass says which transitions it closes. -/
theorem inv_step {c : Cfg} {s s' : PSt} {ev : Ev} (hi : Inv c s) (h2 : InvS c s)
    (hs : stepEv c s ev = some s') : Inv c s' ∧ InvS c s' := by
  obtain ⟨pc, target, tmp, anon, status⟩ := s
  obtain ⟨sys, ok, n⟩ := ev
  obtain ⟨ht, hp⟩ := hi
  obtain ⟨ha, hb⟩ := h2
  simp only at ht hp ha hb
  have h3 : pc ≠ .closing → pc ≠ .done → status ≠ 2 := fun h1 h2 h => (ha h).2.elim h1 h2
  have h4 : status = 2 → target = some c.new := fun h => (ha h).1
  clear ha
  unfold stepEv at hs
  simp only at hs
  split at hs                                   -- once for all states: state by state costs more to check
  all_goals (repeat' split at hs)
  all_goals (try contradiction)                 -- the call is not accepted here
  all_goals (cases hs; simp only [Inv, InvS, InvPc] at hp ⊢)
  -- `InvS`: untouched, or status 2 together with `target := tmp`, which is `c.new`
  all_goals
    refine ⟨?_, by first | exact ⟨fun h => ⟨h4 h, Or.inr trivial⟩, hb⟩ | simp [*, fin, new_zero_beq, Decidable.not_or_self]⟩
    clear h3 h4 hb
  -- `InvPc`: `tmp` / `anon` left alone or set to constants
  all_goals (try (simp [*, isPrefix_nil, patch_nil]; done))
  -- the successor is `fin s`: by whether the O_TMPFILE descriptor is still open
  all_goals (first | (unfold fin; cases anon <;> simp_all <;> done) | skip)
  -- a prefix extended by a write or a copy
  all_goals (first | (simp_all [isPrefix_nil, new_zero, patch_nil, extend_isPrefix]; done) | skip)
  -- link / closeTmp once every byte is written: the prefix is the body
  all_goals (first
    | (obtain ⟨-, h2, a, ha, hpre⟩ := hp; cases ha
       exact ⟨ht, congrArg some ((prefix_full hpre (by simp_all)).trans (new_full h2).symm)⟩)
    | (obtain ⟨h2, a, ha, hpre⟩ := hp; cases ha
       exact ⟨ht, congrArg some ((prefix_full hpre (by simp_all)).trans (new_full h2).symm)⟩)
    | skip)
  -- start → pExcl
  · rename_i off hk _ hsome
    obtain ⟨h1, h2, h3⟩ := hp
    subst h1
    cases ho : c.old with
    | none => simp [ho] at hsome
    | some o => exact ⟨Or.inl rfl, h2, h3, off, o, hk, rfl⟩
  -- pExcl → pPatch 0
  · rename_i hemp
    obtain ⟨_, h2, off, o, hk, ho⟩ := hp
    refine ⟨ht, h2, Nat.zero_le _, off, o, hk, ho, ?_⟩
    have : o = [] := by simpa [ho] using hemp
    simp [patch_nil, this]
  -- pCopy → pPatch 0
  · rename_i a0 o0 heq _ hle hlen
    obtain ⟨h1, off, o, a, hk, ho, ha, hpre⟩ := hp
    cases ha
    have e : o = o0 := Option.some.inj (ho.symm.trans heq)
    subst e
    refine ⟨ht, h1, Nat.zero_le _, off, o, hk, ho, ?_⟩
    have hl : (extend o a0 n).length = o.length := by simpa using hlen
    rw [List.take_zero, patch_nil, prefix_full (extend_isPrefix hpre hle) hl]
  -- pPatch → pRen
  · rename_i j hjb _
    obtain ⟨h1, _, off, o, hk, ho, htmp⟩ := hp
    have hj : j = c.body.length := by simpa using hjb
    refine ⟨ht, h1, ?_⟩
    rw [htmp, new_part hk ho, hj, List.take_length]

theorem inv_run {c : Cfg} : ∀ {evs : List Ev} {s s' : PSt}, Inv c s → InvS c s → runEvs c s evs = some s' →
    Inv c s' ∧ InvS c s'
  | [], s, s', hi, h2, h => by
    simp [runEvs] at h; subst h; exact ⟨hi, h2⟩
  | e :: es, s, s', hi, h2, h => by
    simp only [runEvs] at h
    split at h
    · simp at h
    · rename_i s1 hs1
      obtain ⟨hi1, h21⟩ := inv_step hi h2 hs1
      exact inv_run hi1 h21 h

theorem runEvs_take {c : Cfg} : ∀ {evs : List Ev} {s s' : PSt} (k : Nat), runEvs c s evs = some s' →
    ∃ s'', runEvs c s (evs.take k) = some s''
  | [], s, _, k, _ => ⟨s, by simp [runEvs]⟩
  | e :: es, s, s', 0, _ => ⟨s, by simp [runEvs]⟩
  | e :: es, s, s', k + 1, h => by
    simp only [runEvs] at h
    split at h
    · simp at h
    · rename_i s1 hs1
      obtain ⟨s2, h2⟩ := runEvs_take (evs := es) k h
      exact ⟨s2, by simp [runEvs, hs1, h2]⟩

theorem remaining_lt_span (c : Cfg) (s : PSt) : remaining c s < span c := by
  unfold remaining span
  split <;> omega

theorem rank_lt_of_stage {c : Cfg} {s s' : PSt} (h : stage s'.pc < stage s.pc) : rank c s' < rank c s := by
  unfold rank
  have h1 := remaining_lt_span c s'
  have h2 : (stage s'.pc + 1) * span c ≤ stage s.pc * span c := Nat.mul_le_mul_right _ h
  rw [Nat.add_mul, Nat.one_mul] at h2
  omega

theorem rank_lt_of_remaining {c : Cfg} {s s' : PSt} (hs : stage s'.pc = stage s.pc)
    (hr : remaining c s' < remaining c s) : rank c s' < rank c s := by
  unfold rank
  rw [hs]
  omega

/-- 21 = `stage .start` + 1, the highest stage being 20 -/
theorem rank_init (c : Cfg) : rank c (init c) < 21 * span c := by
  simp [rank, init, stage, remaining, span]

/-- the size `genEv` gives a write at `k < tot` -/
theorem write_step {k tot : Nat} (rn : Nat) (h : k < tot) :
    k + min (max rn 1) (tot - k) ≤ tot ∧ tot - (k + min (max rn 1) (tot - k)) < tot - k := by
  omega

theorem next_none {c : Cfg} {s : PSt} (h : next c s = none) : s.pc = .done ∨ s.pc = .pFail false false := by
  obtain ⟨pc, target, tmp, anon, status⟩ := s
  cases pc with
  | pFail cl u => cases cl <;> cases u <;> simp [next] at h ⊢
  | recv => simp only [next] at h; split at h <;> simp at h
  | byNameW => simp only [next] at h; split at h <;> simp at h
  | pPatch j => simp only [next] at h; split at h <;> simp at h
  | done => simp
  | _ => simp [next] at h

theorem gen_none {c : Cfg} {s : PSt} {r : Res} (hi : Inv c s) (hg : genEv c s r = none) : s.pc = .done := by
  have hn : next c s = none := by
    unfold genEv at hg
    split at hg
    · assumption
    · split at hg <;> simp at hg
  rcases next_none hn with h | h
  · exact h
  · have := hi.2
    rw [h] at this
    simp [InvPc] at this

/-- State by state: event and successor by evaluation; the stage drops, or in a transfer state a
    write of `1 ≤ n ≤ remaining` bytes lowers `remaining`. -/
theorem gen_step {c : Cfg} {s : PSt} {r : Res} {ev : Ev} (hi : Inv c s) (hg : genEv c s r = some ev) :
    ∃ s', stepEv c s ev = some s' ∧ rank c s' < rank c s := by
  obtain ⟨pc, target, tmp, anon, status⟩ := s
  obtain ⟨rok, rn, rab⟩ := r
  obtain ⟨kind, old, body⟩ := c
  have hp := hi.2
  cases pc <;> simp only [InvPc] at hp
  case' recv =>
    obtain ⟨-, -, a, rfl, hpre⟩ := hp
    cases rab
    case true =>           -- abort
      have : ev = { sys := .close, ok := true, n := 0 } := by
        simp only [genEv, next] at hg
        split at hg <;> simp_all
      subst this
      exact ⟨_, rfl, rank_lt_of_stage (by simp [stage])⟩
  case' byNameW => obtain ⟨-, a, rfl, hpre⟩ := hp
  case recv | byNameW =>
    have hle := isPrefix_length_le hpre
    by_cases hlt : a.length < body.length <;> simp [genEv, next, hlt, remaining] at hg <;> subst hg
    · cases rok
      · exact ⟨_, rfl, rank_lt_of_stage (by simp [stage])⟩
      · have ⟨hn, hr⟩ := write_step rn hlt
        refine ⟨_, by simp [stepEv, hn]; rfl, ?_⟩
        exact rank_lt_of_remaining rfl (by simpa [remaining, extend_length, Nat.min_eq_left hn] using hr)
    · have he : a.length = body.length := by omega
      cases rok <;> exact ⟨_, by simp [stepEv, he]; rfl, rank_lt_of_stage (by simp [stage])⟩
  case pCopy =>
    obtain ⟨-, off, o, a, -, ho, rfl, hpre⟩ := hp
    cases ho
    have hle := isPrefix_length_le hpre
    simp [genEv, next, remaining] at hg
    subst hg
    cases rok
    · exact ⟨_, rfl, rank_lt_of_stage (by simp [stage])⟩
    · have hn : a.length + min (max rn 1) (o.length - a.length) ≤ o.length := by omega
      by_cases hfull : (extend o a (min (max rn 1) (o.length - a.length))).length = o.length
      · exact ⟨_, by simp [stepEv, hn, hfull]; rfl, rank_lt_of_stage (by simp [stage])⟩
      · refine ⟨_, by simp [stepEv, hn, hfull]; rfl, ?_⟩
        rw [extend_length] at hfull
        exact rank_lt_of_remaining rfl (by simp [remaining, extend_length]; omega)
  case pPatch j =>
    obtain ⟨-, hjle, off, o, hk, ho, -⟩ := hp
    cases hk; cases ho
    by_cases hlt : j < body.length <;> simp [genEv, next, hlt, remaining] at hg <;> subst hg
    · cases rok
      · exact ⟨_, rfl, rank_lt_of_stage (by simp [stage])⟩
      · have ⟨hn, hr⟩ := write_step rn hlt
        refine ⟨_, by simp [stepEv, hn]; rfl, ?_⟩
        exact rank_lt_of_remaining rfl (by simpa [remaining] using hr)
    · have he : j = body.length := by omega
      cases rok <;> exact ⟨_, by simp [stepEv, he]; rfl, rank_lt_of_stage (by simp [stage])⟩
  case start =>
    cases kind <;> cases hg <;> cases rok <;> cases target <;>
      exact ⟨_, rfl, rank_lt_of_stage (by simp [stage])⟩
  case start3 | closing | byNameF | zStaged =>
    cases hg; exact ⟨_, rfl, rank_lt_of_stage (by simp [stage])⟩
  case needRename | zRen | pRen =>
    cases hg
    cases rok <;> exact ⟨_, rfl, rank_lt_of_stage (by simp [stage])⟩
  case start2 | zTrunc =>
    obtain ⟨rfl, -, -⟩ := hp
    cases hg
    cases rok <;> exact ⟨_, rfl, rank_lt_of_stage (by simp [stage])⟩
  case linked =>
    cases hg
    cases rok <;> cases target <;> exact ⟨_, rfl, rank_lt_of_stage (by simp [stage])⟩
  case cleanup =>
    cases hg
    cases anon <;> exact ⟨_, rfl, rank_lt_of_stage (by simp [stage, fin])⟩
  case byName =>
    obtain ⟨rfl, -⟩ := hp
    cases hg
    cases rok <;> cases anon <;> exact ⟨_, rfl, rank_lt_of_stage (by simp [stage, fin])⟩
  case byNameC =>
    cases hg
    cases rok <;> cases anon <;> exact ⟨_, rfl, rank_lt_of_stage (by simp [stage, fin])⟩
  case pExcl =>
    obtain ⟨rfl, -, off, o, -, ho⟩ := hp
    cases ho
    cases hg
    cases rok <;> cases o <;> exact ⟨_, rfl, rank_lt_of_stage (by simp [stage])⟩
  case pFail cl u =>
    cases cl <;> cases u <;> cases hg <;> exact ⟨_, rfl, rank_lt_of_stage (by simp [stage])⟩
  case done => cases hg

theorem runGen_done {c : Cfg} (res : Nat → Res) : ∀ (fuel k : Nat) (s : PSt), Inv c s → InvS c s →
    rank c s < fuel → ∃ s', runGen c res fuel k s = some s' ∧ s'.pc = .done ∧ Inv c s' ∧ InvS c s'
  | 0, _, _, _, _, h => absurd h (Nat.not_lt_zero _)
  | fuel + 1, k, s, hi, h2, hr => by
    simp only [runGen]
    cases hg : genEv c s (res k) with
    | none => exact ⟨s, rfl, gen_none hi hg, hi, h2⟩
    | some ev =>
      obtain ⟨s1, hs1, hlt⟩ := gen_step hi hg
      obtain ⟨hi1, h21⟩ := inv_step hi h2 hs1
      simp only [hs1]
      exact runGen_done res fuel (k + 1) s1 hi1 h21 (by omega)

end LtVerif.DavPut
