/-
  C20: the DOCUMENTED semantics of substitution templates, written independently of the code
  structure of the model (no flags, no skip counters): percent-escapes are
  recognised by a tokeniser, every recoding is a per-token map, modifiers are looked up by name.
  It uses the model's `isUnreserved`, `pctEnc`, `hexVal`, `b64uEnc`/`b64uDec` (`Spec.encode`), `cstr` (`Spec.qsa`)
  as they are, and from Proofs/KeyValue.lean `capOf` (`Spec.capture`) and the token grammar (`Modifier`, `Item`, `Tok`).
  The lemmas of this file prove the model (Model/BurlAppend.lean, Model/KeyValue.lean) equal to it.
-/
import LtVerif.Proofs.KeyValue
namespace LtVerif
open B

namespace Spec

/-! ### percent-escapes -/

inductive PctTok
  | byte (b : UInt8)
  | esc (h l : UInt8)          -- "%hl", h and l hex digits
deriving Repr, DecidableEq

def tokens : Bytes → List PctTok
  | a :: h :: l :: rest =>
    if a = pct && isXDigit h && isXDigit l then .esc h l :: tokens rest
    else .byte a :: tokens (h :: l :: rest)
  | [a, b] => [.byte a, .byte b]
  | [a] => [.byte a]
  | [] => []

def hexNib (b : UInt8) : UInt8 := (hexVal b).getD 0

def PctTok.value : PctTok → UInt8
  | .byte b => b
  | .esc h l => (hexNib h <<< 4) ||| hexNib l

/-- plain percent-decoding: what a recoded value means -/
def decode (s : Bytes) : Bytes := (tokens s).map PctTok.value

/-- esc / escape; '%' too is encoded -/
def escByte (b : UInt8) : Bytes := if isUnreserved b then [b] else pctEnc b
def escAll (s : Bytes) : Bytes := s.flatMap escByte

/-- escnde (`keepSlash = false`) / escpsnde (`true`) -/
def ndeTok (keepSlash : Bool) : PctTok → Bytes
  | .esc h l =>
    if isUnreserved (PctTok.value (.esc h l)) then [PctTok.value (.esc h l)] else [pct, h, l]
  | .byte b => if isUnreserved b || (keepSlash && b = slash) then [b] else pctEnc b
def escNde (keepSlash : Bool) (s : Bytes) : Bytes := (tokens s).flatMap (ndeTok keepSlash)

/-- tolower / toupper: ASCII letters outside percent-escapes -/
def caseTok (f : UInt8 → UInt8) : PctTok → Bytes
  | .esc h l => [pct, h, l]
  | .byte b => [f b]
def lower (s : Bytes) : Bytes := (tokens s).flatMap (caseTok toLower)
def upper (s : Bytes) : Bytes := (tokens s).flatMap (caseTok toUpper)

/-! ### modifiers by name -/

def has (mods : List Modifier) (a : Modifier) : Bool := mods.any fun m => m == a

def encode (dflt : Bytes → Bytes) (mods : List Modifier) (s : Bytes) : Bytes :=
  if has mods .noesc || has mods .noescape then s
  else if has mods .esc || has mods .escape then escAll s
  else if has mods .escnde then escNde false s
  else if has mods .escpsnde then escNde true s
  else if has mods .encb64u then b64uEnc s
  else if has mods .decb64u then b64uDec s
  else dflt s

def caseMap (mods : List Modifier) (x : Bytes) : Bytes :=
  if has mods .tolower then lower x else if has mods .toupper then upper x else x

def recode (dflt : Bytes → Bytes) (mods : List Modifier) (s : Bytes) : Bytes := caseMap mods (encode dflt mods s)

/-- side condition of the case modifiers: the C code maps C strings, i.e. up to the first NUL -/
def caseOk (mods : List Modifier) (v : Bytes) : Prop :=
  (has mods .tolower || has mods .toupper) = true → (0 : UInt8) ∉ v

def hasEnc (mods : List Modifier) : Bool :=
  has mods .noesc || has mods .noescape || (has mods .esc || has mods .escape) ||
    has mods .escnde || has mods .escpsnde || has mods .encb64u || has mods .decb64u

/-! ### the reference interpreter -/

/-- capture N: the bytes of the subject between the offsets PCRE2 reported for group N — of the
    matching rule for `$`, of the enclosing condition for `%`; empty if the group is unset or absent -/
def capture (env : Env) (c : UInt8) (n : Nat) : Bytes := (capOf env c n).1

/-- `${qsa}` (38 = '&') -/
def qsa (mods : List Modifier) (q : Option Bytes) (out : Bytes) : Bytes :=
  match q with
  | none => out
  | some q =>
    (if (cstr out).contains qmark then (if q.isEmpty then out else out ++ [38]) else out ++ [qmark])
      ++ recode id mods q

/-- captures default to escpsnde, URL parts to no encoding -/
def itemSem (env : Env) (c : UInt8) (mods : List Modifier) : Item → Bytes → Bytes
  | .cap d, out => out ++ recode (escNde true) mods (capture env c (d.toNat - 48))
  | .cap2 d1 d2, out => out ++ recode (escNde true) mods (capture env c ((d1.toNat - 48) * 10 + (d2.toNat - 48)))
  | .scheme, out => out ++ recode id mods (env.url.scheme.getD [])
  | .authority, out => out ++ recode id mods (env.url.authority.getD [])
  | .port, out => out ++ natToDec env.url.port
  | .path, out => out ++ recode id mods (env.url.path.takeWhile (· ≠ qmark))
  | .query, out => out ++ recode id mods (env.url.query.getD [])
  | .qsa, out => qsa mods env.url.query out

def tokSem (env : Env) : Tok → Bytes → Bytes
  | .lit s, out => out ++ s
  | .sigil c, out => out ++ [c]
  | .raw c d, out => out ++ capture env c (d.toNat - 48)
  | .ext c mods item, out => itemSem env c mods item out

def interpret (env : Env) (toks : List Tok) (out : Bytes) : Bytes :=
  toks.foldl (fun o tk => tokSem env tk o) out

def itemOk (env : Env) (c : UInt8) (mods : List Modifier) : Item → Prop
  | .cap d => caseOk mods (encode (escNde true) mods (capture env c (d.toNat - 48)))
  | .cap2 d1 d2 => caseOk mods (encode (escNde true) mods (capture env c ((d1.toNat - 48) * 10 + (d2.toNat - 48))))
  | .scheme => caseOk mods (encode id mods (env.url.scheme.getD []))
  | .authority => caseOk mods (encode id mods (env.url.authority.getD []))
  | .port => True
  | .path => caseOk mods (encode id mods (env.url.path.takeWhile (· ≠ qmark)))
  | .query => caseOk mods (encode id mods (env.url.query.getD []))
  | .qsa => caseOk mods (encode id mods (env.url.query.getD []))

def tokOk (env : Env) : Tok → Prop
  | .ext c mods item => itemOk env c mods item
  | _ => True

end Spec

/-! ### the tokeniser -/

theorem xdigit2_cons (x y : UInt8) (rest : Bytes) : xdigit2 (x :: y :: rest) = (isXDigit x && isXDigit y) := rfl

theorem tokens_esc (h l : UInt8) (Y : Bytes) (hh : isXDigit h = true) (hl : isXDigit l = true) :
    Spec.tokens (pct :: h :: l :: Y) = .esc h l :: Spec.tokens Y := by
  simp [Spec.tokens, hh, hl]

theorem tokens_byte (a : UInt8) (Y : Bytes) (h : (a = pct && xdigit2 Y) = false) :
    Spec.tokens (a :: Y) = .byte a :: Spec.tokens Y := by
  match Y with
  | [] => rfl
  | [_] => rfl
  | x :: y :: rest =>
    rw [xdigit2_cons, ← Bool.and_assoc] at h
    simp only [Spec.tokens, h, Bool.false_eq_true, if_false]

theorem tokens_induct {P : Bytes → Prop} (nil : P [])
    (esc : ∀ h l Y, isXDigit h = true → isXDigit l = true → P Y → P (pct :: h :: l :: Y))
    (byte : ∀ a Y, (a = pct && xdigit2 Y) = false → P Y → P (a :: Y)) (s : Bytes) : P s := by
  induction s using Spec.tokens.induct with
  | case1 a h l rest hc ih =>
    simp only [Bool.and_eq_true, decide_eq_true_eq] at hc
    obtain ⟨⟨rfl, hh⟩, hl⟩ := hc
    exact esc h l rest hh hl ih
  | case2 a h l rest hc ih =>
    exact byte a _ (by rw [xdigit2_cons, ← Bool.and_assoc]; simpa using hc) ih
  | case3 a b => exact byte a [b] (Bool.and_false _) (byte b [] (Bool.and_false _) nil)
  | case4 a => exact byte a [] (Bool.and_false _) nil
  | case5 => exact nil

/-! ### the model's recoders are the specified ones -/

theorem hexVal_isSome (b : UInt8) : (hexVal b).isSome = isXDigit b := by
  unfold hexVal isXDigit
  split
  · simp [*]
  · split
    · simp [*]
    · split <;> simp [*]

theorem hex2_cons (h l : UInt8) (rest : Bytes) :
    hex2 (h :: l :: rest) = if isXDigit h && isXDigit l then some (Spec.hexNib h, Spec.hexNib l) else none := by
  have h1 := hexVal_isSome h
  have h2 := hexVal_isSome l
  unfold hex2 Spec.hexNib
  cases hh : hexVal h <;> cases hl : hexVal l <;> simp_all

theorem hex2_none : ∀ {Y : Bytes}, xdigit2 Y = false → hex2 Y = none
  | [], _ => rfl
  | [_], _ => rfl
  | h :: l :: rest, hx => by rw [hex2_cons, ← xdigit2_cons h l rest, hx]; rfl

theorem encNde_go_skip (k : Bool) : ∀ (s : Bytes) (n : Nat),
    encNde.go k s n = encNde.go k (s.drop n) 0 := by
  intro s
  induction s with
  | nil => intro n; simp [encNde.go]
  | cons b rest ih =>
    intro n
    cases n with
    | zero => simp
    | succ n => simp [encNde.go, ih]

/-- burl_append_encode_nde / _psnde = escnde / escpsnde of the specification; the bytes behind the
    string play no role -/
theorem encNde_spec (k : Bool) (look : Bytes) : ∀ s : Bytes, encNde k s look = Spec.escNde k s := by
  intro s
  unfold encNde Spec.escNde
  induction s using tokens_induct with
  | nil => rfl
  | esc h l Y hh hl ih =>
    rw [tokens_esc h l Y hh hl, List.flatMap_cons, ← ih, encNde.go]
    simp only [if_true, hex2_cons, hh, hl, Bool.and_self, encNde_go_skip k (h :: l :: Y) 2]
    rfl
  | byte a Y hna ih =>
    rw [tokens_byte a Y hna, List.flatMap_cons, ← ih, encNde.go]
    by_cases ha : a = pct
    · subst ha
      rw [if_pos rfl, hex2_none (by simpa using hna)]
      cases k <;> rfl
    · simp only [ha, if_false, Spec.ndeTok]
      split <;> rfl

theorem encAll_spec (s : Bytes) : encAll s = Spec.escAll s := rfl

-- burl_offset_tolower / _toupper are two C functions, modelled one by one: their lemmas come in pairs
theorem lowerSkipPct_skip : ∀ (s : Bytes) (n : Nat), lowerSkipPct s n = s.take n ++ lowerSkipPct (s.drop n) 0 := by
  intro s
  induction s with
  | nil => intro n; simp [lowerSkipPct]
  | cons b rest ih =>
    intro n
    cases n with
    | zero => simp
    | succ n => simp [lowerSkipPct, ih]

theorem upperSkipPct_skip : ∀ (s : Bytes) (n : Nat), upperSkipPct s n = s.take n ++ upperSkipPct (s.drop n) 0 := by
  intro s
  induction s with
  | nil => intro n; simp [upperSkipPct]
  | cons b rest ih =>
    intro n
    cases n with
    | zero => simp
    | succ n => simp [upperSkipPct, ih]

theorem lowerSkipPct_spec : ∀ s : Bytes, (0 : UInt8) ∉ s → lowerSkipPct s 0 = Spec.lower s := by
  intro s
  unfold Spec.lower
  induction s using tokens_induct with
  | nil => intro _; rfl
  | esc h l Y hh hl ih =>
    intro h0
    rw [tokens_esc h l Y hh hl, List.flatMap_cons, ← ih (fun e => h0 (by simp [e])), lowerSkipPct]
    simp only [show pct ≠ (0 : UInt8) by decide, show isUpper pct = false by decide, xdigit2_cons, hh, hl,
      if_false, Bool.false_eq_true, decide_true, Bool.and_self, if_true]
    rw [lowerSkipPct_skip]
    rfl
  | byte a Y hna ih =>
    intro h0
    have ha : a ≠ 0 := fun e => h0 (by simp [e])
    rw [tokens_byte a Y hna, List.flatMap_cons, ← ih (fun e => h0 (List.mem_cons_of_mem _ e)), lowerSkipPct]
    simp only [ha, if_false, hna, Bool.false_eq_true, Spec.caseTok, toLower]
    split <;> rfl

theorem upperSkipPct_spec : ∀ s : Bytes, (0 : UInt8) ∉ s → upperSkipPct s 0 = Spec.upper s := by
  intro s
  unfold Spec.upper
  induction s using tokens_induct with
  | nil => intro _; rfl
  | esc h l Y hh hl ih =>
    intro h0
    rw [tokens_esc h l Y hh hl, List.flatMap_cons, ← ih (fun e => h0 (by simp [e])), upperSkipPct]
    simp only [show pct ≠ (0 : UInt8) by decide, show isLower pct = false by decide, xdigit2_cons, hh, hl,
      if_false, Bool.false_eq_true, decide_true, Bool.and_self, if_true]
    rw [upperSkipPct_skip]
    rfl
  | byte a Y hna ih =>
    intro h0
    have ha : a ≠ 0 := fun e => h0 (by simp [e])
    rw [tokens_byte a Y hna, List.flatMap_cons, ← ih (fun e => h0 (List.mem_cons_of_mem _ e)), upperSkipPct]
    simp only [ha, if_false, hna, Bool.false_eq_true, Spec.caseTok, toUpper]
    split <;> rfl

/-! ### what the recodings preserve -/

theorem lower_noUpper (s : Bytes) : NoUpperOutsidePct (Spec.lower s) := by
  unfold Spec.lower
  induction s using tokens_induct with
  | nil => exact .nil
  | esc h l Y hh hl ih => rw [tokens_esc h l Y hh hl]; exact .triplet hh hl ih
  | byte a Y hna ih => rw [tokens_byte a Y hna]; exact .byte (case_table a).1 ih

theorem upper_noLower (s : Bytes) : NoLowerOutsidePct (Spec.upper s) := by
  unfold Spec.upper
  induction s using tokens_induct with
  | nil => exact .nil
  | esc h l Y hh hl ih => rw [tokens_esc h l Y hh hl]; exact .triplet hh hl ih
  | byte a Y hna ih => rw [tokens_byte a Y hna]; exact .byte (case_table a).2.1 ih

theorem caseTok_caseOnly (f : UInt8 → UInt8) (hf : ∀ b, toLower (f b) = toLower b) (s : Bytes) :
    ((Spec.tokens s).flatMap (Spec.caseTok f)).map toLower = s.map toLower := by
  induction s using tokens_induct with
  | nil => rfl
  | esc h l Y hh hl ih =>
    rw [tokens_esc h l Y hh hl, List.flatMap_cons, List.map_append, ih]; rfl
  | byte a Y hna ih =>
    rw [tokens_byte a Y hna, List.flatMap_cons, List.map_append, ih]
    exact congrArg (· :: Y.map toLower) (hf a)

theorem decode_esc (h l : UInt8) (Y : Bytes) (hh : isXDigit h = true) (hl : isXDigit l = true) :
    Spec.decode (pct :: h :: l :: Y) = Spec.PctTok.value (.esc h l) :: Spec.decode Y := by
  simp [Spec.decode, tokens_esc h l Y hh hl]

theorem decode_byte (a : UInt8) (Y : Bytes) (h : (a = pct && xdigit2 Y) = false) :
    Spec.decode (a :: Y) = a :: Spec.decode Y := by
  simp [Spec.decode, tokens_byte a Y h, Spec.PctTok.value]

theorem isUCHex_isXDigit {b : UInt8} (h : isUCHex b = true) : isXDigit b = true := by
  unfold isUCHex at h
  unfold isXDigit
  rw [h]; rfl

theorem decode_pctEnc (b : UInt8) (Y : Bytes) : Spec.decode (pctEnc b ++ Y) = b :: Spec.decode Y := by
  obtain ⟨h1, h2, h3⟩ := pctEnc_table b
  exact (decode_esc _ _ Y (isUCHex_isXDigit h1) (isUCHex_isXDigit h2)).trans (congrArg (· :: Spec.decode Y) h3)

theorem unreserved_ne {b : UInt8} (h : isUnreserved b = true) : b ≠ pct ∧ b ≠ 0 :=
  ⟨fun e => absurd (e ▸ h) (by decide), fun e => absurd (e ▸ h) (by decide)⟩

theorem decode_plain (b : UInt8) (Y : Bytes) (hb : b ≠ pct) : Spec.decode (b :: Y) = b :: Spec.decode Y :=
  decode_byte b Y (by simp [hb])

theorem decode_escAll (s : Bytes) : Spec.decode (Spec.escAll s) = s := by
  induction s with
  | nil => rfl
  | cons b s ih =>
    have e : Spec.escAll (b :: s) = Spec.escByte b ++ Spec.escAll s := by simp [Spec.escAll]
    rw [e, Spec.escByte]
    by_cases hb : isUnreserved b = true
    · simp only [hb, if_true, List.singleton_append]
      rw [decode_plain _ _ (unreserved_ne hb).1, ih]
    · simp only [hb, Bool.false_eq_true, if_false]
      rw [decode_pctEnc, ih]

theorem ndeTok_byte_cases (k : Bool) (b : UInt8) :
    (Spec.ndeTok k (.byte b) = [b] ∧ b ≠ pct ∧ b ≠ 0) ∨ Spec.ndeTok k (.byte b) = pctEnc b := by
  simp only [Spec.ndeTok]
  split
  · rename_i hb
    refine .inl ⟨rfl, ?_⟩
    simp only [Bool.or_eq_true, Bool.and_eq_true, decide_eq_true_eq] at hb
    rcases hb with h | ⟨_, h⟩
    · exact unreserved_ne h
    · subst h; decide
  · exact .inr rfl

theorem ndeTok_esc_cases (k : Bool) (h l : UInt8) :
    (Spec.ndeTok k (.esc h l) = [Spec.PctTok.value (.esc h l)] ∧
      Spec.PctTok.value (.esc h l) ≠ pct ∧ Spec.PctTok.value (.esc h l) ≠ 0) ∨
    Spec.ndeTok k (.esc h l) = [pct, h, l] := by
  simp only [Spec.ndeTok]
  split
  · rename_i hu; exact .inl ⟨rfl, unreserved_ne hu⟩
  · exact .inr rfl

/-- escnde / escpsnde do not encode twice -/
theorem decode_escNde (k : Bool) : ∀ s : Bytes, Spec.decode (Spec.escNde k s) = Spec.decode s := by
  intro s
  unfold Spec.escNde
  induction s using tokens_induct with
  | nil => rfl
  | esc h l Y hh hl ih =>
    rw [tokens_esc h l Y hh hl, List.flatMap_cons, decode_esc h l Y hh hl, ← ih]
    rcases ndeTok_esc_cases k h l with ⟨e, hne, _⟩ | e <;> rw [e]
    · exact decode_plain _ _ hne
    · exact decode_esc h l _ hh hl
  | byte a Y hna ih =>
    rw [tokens_byte a Y hna, List.flatMap_cons, decode_byte a Y hna, ← ih]
    rcases ndeTok_byte_cases k a with ⟨e, hne, _⟩ | e <;> rw [e]
    · exact decode_plain _ _ hne
    · exact decode_pctEnc a _

theorem xdigit_ne_zero {b : UInt8} (h : isXDigit b = true) : b ≠ 0 :=
  fun e => absurd (e ▸ h) (by decide)

theorem pctEnc_nul_free (b : UInt8) : (0 : UInt8) ∉ pctEnc b := by
  obtain ⟨h1, h2, _⟩ := pctEnc_table b
  simp only [pctEnc, List.mem_cons, List.not_mem_nil, or_false, not_or]
  exact ⟨by decide, fun e => xdigit_ne_zero (isUCHex_isXDigit h1) e.symm,
    fun e => xdigit_ne_zero (isUCHex_isXDigit h2) e.symm⟩

theorem escNde_nul_free (k : Bool) : ∀ s : Bytes, (0 : UInt8) ∉ Spec.escNde k s := by
  intro s
  unfold Spec.escNde
  induction s using tokens_induct with
  | nil => exact List.not_mem_nil
  | esc h l Y hh hl ih =>
    rw [tokens_esc h l Y hh hl, List.flatMap_cons, List.mem_append, not_or]
    refine ⟨?_, ih⟩
    rcases ndeTok_esc_cases k h l with ⟨e, _, hne⟩ | e <;> rw [e]
    · exact fun hm => hne (List.mem_singleton.mp hm).symm
    · simp only [List.mem_cons, List.not_mem_nil, or_false, not_or]
      exact ⟨by decide, fun e => xdigit_ne_zero hh e.symm, fun e => xdigit_ne_zero hl e.symm⟩
  | byte a Y hna ih =>
    rw [tokens_byte a Y hna, List.flatMap_cons, List.mem_append, not_or]
    refine ⟨?_, ih⟩
    rcases ndeTok_byte_cases k a with ⟨e, _, hne⟩ | e <;> rw [e]
    · exact fun hm => hne (List.mem_singleton.mp hm).symm
    · exact pctEnc_nul_free a

/-! ### the flags of a modifier list -/

theorem foldl_flags (mods : List Modifier) : ∀ a : Nat,
    mods.foldl (fun f m => f ||| m.flag) a = a ||| flagsOf mods := by
  induction mods with
  | nil => intro a; simp [flagsOf]
  | cons m ms ih =>
    intro a
    simp only [List.foldl_cons, flagsOf]
    rw [ih, ih (0 ||| m.flag), Nat.zero_or, Nat.or_assoc]

theorem flagsOf_cons (m : Modifier) (ms : List Modifier) : flagsOf (m :: ms) = m.flag ||| flagsOf ms := by
  simp only [flagsOf, List.foldl_cons]
  rw [foldl_flags, Nat.zero_or]
  rfl

theorem flagSet_or (a b c : Nat) : flagSet (a ||| b) c = (flagSet a c || flagSet b c) := by
  simp only [flagSet, Nat.and_or_distrib_right]
  by_cases h1 : a &&& c = 0
  · simp [h1]
  · have : (a &&& c ||| b &&& c) ≠ 0 := fun h => h1 (Nat.or_eq_zero_iff.mp h).1
    have e1 : (a &&& c != 0) = true := by simpa using h1
    have e2 : ((a &&& c ||| b &&& c) != 0) = true := by simpa using this
    rw [e1, e2]; simp

theorem flagSet_flagsOf (mods : List Modifier) (bit : Nat) :
    flagSet (flagsOf mods) bit = mods.any fun m => flagSet m.flag bit := by
  induction mods with
  | nil => simp [flagsOf, flagSet]
  | cons m ms ih => rw [flagsOf_cons, flagSet_or, ih]; simp

theorem any_or {α : Type} (l : List α) (p q : α → Bool) :
    (l.any fun m => p m || q m) = (l.any p || l.any q) := by
  induction l with
  | nil => simp
  | cons a l ih => simp only [List.any_cons, ih]; cases p a <;> cases q a <;> simp

/-- esc/escape and noesc/noescape share a flag -/
structure FlagsHas (mods : List Modifier) : Prop where
  none : flagSet (flagsOf mods) Extracted.burlEncodeNone = (Spec.has mods .noesc || Spec.has mods .noescape)
  all : flagSet (flagsOf mods) Extracted.burlEncodeAll = (Spec.has mods .esc || Spec.has mods .escape)
  nde : flagSet (flagsOf mods) Extracted.burlEncodeNde = Spec.has mods .escnde
  psnde : flagSet (flagsOf mods) Extracted.burlEncodePsnde = Spec.has mods .escpsnde
  enc64 : flagSet (flagsOf mods) Extracted.burlEncodeB64u = Spec.has mods .encb64u
  dec64 : flagSet (flagsOf mods) Extracted.burlDecodeB64u = Spec.has mods .decb64u
  lower : flagSet (flagsOf mods) Extracted.burlToLower = Spec.has mods .tolower
  upper : flagSet (flagsOf mods) Extracted.burlToUpper = Spec.has mods .toupper

theorem flags_has (mods : List Modifier) : FlagsHas mods := by
  have one : ∀ (bit : Nat) (a : Modifier), (∀ m : Modifier, flagSet m.flag bit = (m == a)) →
      flagSet (flagsOf mods) bit = Spec.has mods a := fun bit a h => by
    rw [flagSet_flagsOf, Spec.has, funext h]
  have two : ∀ (bit : Nat) (a a' : Modifier), (∀ m : Modifier, flagSet m.flag bit = (m == a || m == a')) →
      flagSet (flagsOf mods) bit = (Spec.has mods a || Spec.has mods a') := fun bit a a' h => by
    rw [flagSet_flagsOf, Spec.has, Spec.has, ← any_or, funext h]
  exact {
    none := two _ _ _ fun m => by cases m <;> decide
    all := two _ _ _ fun m => by cases m <;> decide
    nde := one _ _ fun m => by cases m <;> decide
    psnde := one _ _ fun m => by cases m <;> decide
    enc64 := one _ _ fun m => by cases m <;> decide
    dec64 := one _ _ fun m => by cases m <;> decide
    lower := one _ _ fun m => by cases m <;> decide
    upper := one _ _ fun m => by cases m <;> decide }

theorem flagsOf_lt (mods : List Modifier) : flagsOf mods < 2 ^ 8 := by
  induction mods with
  | nil => simp [flagsOf]
  | cons m ms ih =>
    rw [flagsOf_cons]
    exact Nat.or_lt_two_pow (by cases m <;> decide) ih

/-- for 8-bit flag sets: "only case flags" (`0 == (flags & ~(BURL_TOLOWER|BURL_TOUPPER))`) = no encoding flag -/
theorem only_case_bits : ∀ n : Fin 256,
    (n.val ||| (Extracted.burlToLower ||| Extracted.burlToUpper) = Extracted.burlToLower ||| Extracted.burlToUpper) =
    ((flagSet n.val Extracted.burlEncodeNone || flagSet n.val Extracted.burlEncodeAll ||
      flagSet n.val Extracted.burlEncodeNde || flagSet n.val Extracted.burlEncodePsnde ||
      flagSet n.val Extracted.burlEncodeB64u || flagSet n.val Extracted.burlDecodeB64u) = false) := by
  decide +kernel

/-! ### burl_append = the specified recoding -/

theorem burlEncode_spec (mods : List Modifier) (s look : Bytes) :
    burlEncode (flagsOf mods) s look = Spec.encode id mods s := by
  have f := flags_has mods
  unfold burlEncode Spec.encode
  rw [f.none, f.all, f.nde, f.psnde, f.enc64, f.dec64]
  simp only [encAll_spec, encNde_spec _ look s, id]

/-- the two early returns of burl_append() (empty string, no flag) are shortcuts: the general path
    gives the same -/
theorem burlAppend_tail (fl : Nat) (s look : Bytes) :
    burlAppend fl s look =
      if flagSet fl Extracted.burlToLower then lowerSkipPct (burlEncode fl s look) 0
      else if flagSet fl Extracted.burlToUpper then upperSkipPct (burlEncode fl s look) 0
      else burlEncode fl s look := by
  unfold burlAppend
  split
  · subst ‹s = []›
    -- every recoder and both case mappings give [] on []
    have e : burlEncode fl [] look = [] := by
      unfold burlEncode
      repeat (refine ite_ind (P := (· = [])) (fun _ => rfl) fun _ => ?_)
      rfl
    rw [e]
    exact (ite_ind (P := (· = [])) (fun _ => rfl) fun _ =>
      ite_ind (P := (· = [])) (fun _ => rfl) fun _ => rfl).symm
  · split
    · subst ‹fl = 0›; rfl
    · rfl

theorem caseTail_spec (mods : List Modifier) (e : Bytes) (hok : Spec.caseOk mods e) :
    (if Spec.has mods .tolower then lowerSkipPct e 0
     else if Spec.has mods .toupper then upperSkipPct e 0 else e) = Spec.caseMap mods e := by
  unfold Spec.caseMap
  refine ite_congr rfl (fun h => lowerSkipPct_spec e (hok (by simp [h]))) fun _ => ?_
  exact ite_congr rfl (fun h => upperSkipPct_spec e (hok (by simp [h]))) fun _ => rfl

theorem burlAppend_spec_url (mods : List Modifier) (s look : Bytes)
    (hok : Spec.caseOk mods (Spec.encode id mods s)) :
    burlAppend (flagsOf mods) s look = Spec.recode id mods s := by
  rw [burlAppend_tail, burlEncode_spec mods s look, (flags_has mods).lower, (flags_has mods).upper]
  exact caseTail_spec mods _ hok

theorem burlAppend_spec_one (m : Modifier) (s look : Bytes) (hok : Spec.caseOk [m] (Spec.encode id [m] s)) :
    burlAppend m.flag s look = Spec.recode id [m] s := by
  rw [← burlAppend_spec_url [m] s look hok, flagsOf, List.foldl_cons, List.foldl_nil, Nat.zero_or]

theorem encode_noEnc (d : Bytes → Bytes) (mods : List Modifier) (s : Bytes) (h : Spec.hasEnc mods = false) :
    Spec.encode d mods s = d s := by
  simp only [Spec.hasEnc, Bool.or_eq_false_iff] at h
  simp [Spec.encode, h]

theorem encode_hasEnc (d1 d2 : Bytes → Bytes) (mods : List Modifier) (s : Bytes) (h : Spec.hasEnc mods = true) :
    Spec.encode d1 mods s = Spec.encode d2 mods s := by
  unfold Spec.encode
  -- the two chains agree branch by branch; `h` excludes the last branch
  repeat (refine ite_congr rfl (fun _ => rfl) fun _ => ?_)
  simp_all [Spec.hasEnc]

theorem has_append (mods : List Modifier) (m a : Modifier) :
    Spec.has (mods ++ [m]) a = (Spec.has mods a || m == a) := by
  simp [Spec.has]

/-- the default encoding of a capture (`capFlags`) as a trailing escpsnde -/
theorem cap_as_url (hdef : Extracted.kvMod_default = Extracted.burlEncodePsnde) (mods : List Modifier) (s : Bytes) :
    ∃ mods', capFlags (flagsOf mods) = flagsOf mods' ∧
      Spec.encode id mods' s = Spec.encode (Spec.escNde true) mods s ∧
      Spec.has mods' .tolower = Spec.has mods .tolower ∧ Spec.has mods' .toupper = Spec.has mods .toupper := by
  have f := flags_has mods
  have hbits := only_case_bits ⟨flagsOf mods, flagsOf_lt mods⟩
  simp only [f.none, f.all, f.nde, f.psnde, f.enc64, f.dec64] at hbits
  by_cases h : Spec.hasEnc mods = true
  · refine ⟨mods, ?_, encode_hasEnc _ _ mods s h, rfl, rfl⟩
    rw [capFlags, if_neg (by rw [hbits]; exact ne_false_of_eq_true h)]
  · have h' : Spec.hasEnc mods = false := eq_false_of_ne_true h
    refine ⟨mods ++ [.escpsnde], ?_, ?_, by rw [has_append]; simp, by rw [has_append]; simp⟩
    · rw [capFlags, if_pos (by rw [hbits]; exact h'), hdef, flagsOf, flagsOf, List.foldl_append]
      rfl
    · rw [encode_noEnc _ mods s h']
      simp only [Spec.hasEnc, Bool.or_eq_false_iff] at h'
      simp [Spec.encode, has_append, h']

/-- the flags pcre_keyvalue_buffer_subst_ext uses for a capture (`capFlags`) -/
theorem burlAppend_spec_cap (hdef : Extracted.kvMod_default = Extracted.burlEncodePsnde)
    (mods : List Modifier) (s look : Bytes)
    (hok : Spec.caseOk mods (Spec.encode (Spec.escNde true) mods s)) :
    burlAppend (capFlags (flagsOf mods)) s look = Spec.recode (Spec.escNde true) mods s := by
  obtain ⟨mods', hf, he, hl, hu⟩ := cap_as_url hdef mods s
  rw [hf, burlAppend_spec_url mods' s look (by rw [Spec.caseOk, he, hl, hu]; exact hok)]
  simp only [Spec.recode, Spec.caseMap, he, hl, hu]

theorem flagsOf_def (mods : List Modifier) : mods.foldl (fun f m => f ||| m.flag) 0 = flagsOf mods := rfl

theorem item_spec (hdef : Extracted.kvMod_default = Extracted.burlEncodePsnde) (env : Env) (c : UInt8)
    (mods : List Modifier) (item : Item) (out : Bytes) (hok : Spec.itemOk env c mods item) :
    item.apply env c (flagsOf mods) out = Spec.itemSem env c mods item out := by
  cases item with
  | cap d | cap2 d1 d2 => exact congrArg (out ++ ·) (burlAppend_spec_cap hdef mods _ _ hok)
  | scheme | authority | path | query => exact congrArg (out ++ ·) (burlAppend_spec_url mods _ _ hok)
  | port => rfl
  | qsa =>
    simp only [Item.apply, Spec.itemSem, qsaAppend, Spec.qsa]
    cases hq : env.url.query with
    | none => rfl
    | some q =>
      simp only [Spec.itemOk, hq, Option.getD_some] at hok
      simp only
      rw [burlAppend_spec_url mods q [] hok]

theorem tok_spec (hdef : Extracted.kvMod_default = Extracted.burlEncodePsnde) (env : Env) (tk : Tok) (out : Bytes)
    (hok : Spec.tokOk env tk) : tk.interp env out = Spec.tokSem env tk out := by
  cases tk with
  | lit s => rfl
  | sigil c => rfl
  | raw c d => rfl
  | ext c mods item =>
    simp only [Tok.interp, Spec.tokSem]
    exact item_spec hdef env c mods item out hok

theorem interpret_spec (hdef : Extracted.kvMod_default = Extracted.burlEncodePsnde) (env : Env) :
    ∀ (toks : List Tok) (out : Bytes), (∀ tk ∈ toks, Spec.tokOk env tk) →
      interpret env toks out = Spec.interpret env toks out :=
  fun _ _ hok => List.foldl_rel (r := (· = ·)) rfl fun tk htk o _ e => e ▸ tok_spec hdef env tk o (hok tk htk)

end LtVerif
