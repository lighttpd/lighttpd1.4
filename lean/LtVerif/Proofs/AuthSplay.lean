/-
  The auth.cache container (Model/AuthSplay.lean): the top-down splay keeps the in-order contents and, on
  a search tree, brings a neighbour of the key to the root; from these the finite-map readings of
  `cacheQuery`, `cacheInsert` (`put_spec`) and the delete step.  Property theorems: LtVerif/Props/C16.lean.
-/
import LtVerif.Model.AuthSplay
namespace LtVerif.AuthSplay

variable {α : Type}

/-- in-order contents of the left / right assembly tree, given as its frames, most recent first -/
def flatL : List (Tree α × Int × α) → List (Int × α)
  | [] => []
  | (lt, k, v) :: L => flatL L ++ lt.inorder ++ [(k, v)]

def flatR : List (Int × α × Tree α) → List (Int × α)
  | [] => []
  | (k, v, rt) :: R => (k, v) :: rt.inorder ++ flatR R

theorem inorder_buildL (acc : Tree α) (L : List (Tree α × Int × α)) :
    (buildL acc L).inorder = flatL L ++ acc.inorder := by
  induction L generalizing acc with
  | nil => simp [buildL, flatL]
  | cons f L ih =>
    obtain ⟨lt, k, v⟩ := f
    simp [buildL, flatL, ih, Tree.inorder]

theorem inorder_buildR (acc : Tree α) (R : List (Int × α × Tree α)) :
    (buildR acc R).inorder = acc.inorder ++ flatR R := by
  induction R generalizing acc with
  | nil => simp [buildR, flatR]
  | cons f R ih =>
    obtain ⟨k, v, rt⟩ := f
    simp [buildR, flatR, ih, Tree.inorder]

theorem inorder_assemble (l : Tree α) (k : Int) (v : α) (r : Tree α) L R :
    (assemble l k v r L R).inorder = flatL L ++ (l.inorder ++ (k, v) :: r.inorder) ++ flatR R := by
  simp [assemble, Tree.inorder, inorder_buildL, inorder_buildR]

/-- the loop invariant of the top-down splay -/
theorem inorder_splayGo (i : Int) (fuel : Nat) (l : Tree α) (k : Int) (v : α) (r : Tree α) L R :
    (splayGo i fuel l k v r L R).inorder
      = flatL L ++ (l.inorder ++ (k, v) :: r.inorder) ++ flatR R := by
  induction fuel generalizing l k v r L R with
  | zero => simp [splayGo, inorder_assemble]
  | succ n ih =>
    -- branches in `splayGo`'s order: i < k (break; rotate right + break / + link right; link right), k < i, found
    unfold splayGo
    split
    · split
      · simp [inorder_assemble]
      · split
        · split
          · simp [inorder_assemble, Tree.inorder]
          · rw [ih]; simp [flatR, Tree.inorder]
        · rw [ih]; simp [flatR, Tree.inorder]
    · split
      · split
        · simp [inorder_assemble]
        · split
          · split
            · simp [inorder_assemble, Tree.inorder]
            · rw [ih]; simp [flatL, Tree.inorder]
          · rw [ih]; simp [flatL, Tree.inorder]
      · simp [inorder_assemble]

theorem inorder_splayNonnull (t : Tree α) (i : Int) : (splayNonnull t i).inorder = t.inorder := by
  cases t with
  | nil => rfl
  | node l k v r => simp [splayNonnull, inorder_splayGo, flatL, flatR, Tree.inorder]

theorem inorder_splay (t : Tree α) (i : Int) : (splay t i).inorder = t.inorder := by
  cases t with
  | nil => rfl
  | node l k v r =>
    simp only [splay]
    split
    · rfl
    · exact inorder_splayNonnull _ _

theorem size_eq_length (t : Tree α) : t.size = t.inorder.length := by
  induction t with
  | nil => rfl
  | node l k v r ihl ihr => simp [Tree.size, Tree.inorder, ihl, ihr]; omega

/-! ### search trees -/

theorem sorted_node {l : Tree α} {k : Int} {v : α} {r : Tree α} :
    Sorted (.node l k v r) ↔ Sorted l ∧ Sorted r ∧ (∀ p ∈ l.inorder, p.1 < k) ∧ (∀ p ∈ r.inorder, k < p.1) := by
  simp only [Sorted, Tree.inorder, List.pairwise_append, List.pairwise_cons, List.forall_mem_cons]
  exact ⟨fun ⟨h1, ⟨h2, h3⟩, h4⟩ => ⟨h1, h3, fun p hp => (h4 p hp).1, h2⟩,
         fun ⟨h1, h2, h3, h4⟩ =>
           ⟨h1, ⟨h4, h2⟩, fun p hp => ⟨h3 p hp, fun q hq => Int.lt_trans (h3 p hp) (h4 q hq)⟩⟩⟩

theorem sorted_of_inorder_eq {t t' : Tree α} (h : t'.inorder = t.inorder) (hs : Sorted t) :
    Sorted t' := by
  unfold Sorted at *; rw [h]; exact hs

/-- a rotation re-brackets the in-order sequence -/
theorem sorted_rot {a b c : Tree α} {x y : Int} {u w : α} :
    Sorted (.node (.node a x u b) y w c) ↔ Sorted (.node a x u (.node b y w c)) := by
  simp [Sorted, Tree.inorder]

/-- the root is a neighbour of `i`: nothing between `i` and the root key on the side of `i` -/
def Near (i : Int) : Tree α → Prop
  | .nil => True
  | .node l k _ r => (i < k → ∀ p ∈ l.inorder, p.1 < i) ∧ (k < i → ∀ p ∈ r.inorder, i < p.1)

theorem near_assemble (i : Int) (l : Tree α) (k : Int) (v : α) (r : Tree α) L R
    (hL : ∀ p ∈ flatL L, p.1 < i) (hR : ∀ p ∈ flatR R, i < p.1)
    (hl : i < k → ∀ p ∈ l.inorder, p.1 < i) (hr : k < i → ∀ p ∈ r.inorder, i < p.1) :
    Near i (assemble l k v r L R) := by
  simp only [assemble, Near, inorder_buildL, inorder_buildR, List.mem_append]
  constructor
  · intro h p hp
    rcases hp with hp | hp
    · exact hL p hp
    · exact hl h p hp
  · intro h p hp
    rcases hp with hp | hp
    · exact hr h p hp
    · exact hR p hp

/-- the "link right" step -/
theorem flatR_above {i k : Int} {v : α} {rt : Tree α} {R : List (Int × α × Tree α)} (hk : i < k)
    (hrt : ∀ p ∈ rt.inorder, k < p.1) (hR : ∀ p ∈ flatR R, i < p.1) :
    ∀ p ∈ flatR ((k, v, rt) :: R), i < p.1 := by
  simp only [flatR, List.cons_append, List.forall_mem_cons, List.forall_mem_append]
  exact ⟨hk, fun p hp => Int.lt_trans hk (hrt p hp), hR⟩

/-- the "link left" step -/
theorem flatL_below {i k : Int} {v : α} {lt : Tree α} {L : List (Tree α × Int × α)} (hk : k < i)
    (hlt : ∀ p ∈ lt.inorder, p.1 < k) (hL : ∀ p ∈ flatL L, p.1 < i) :
    ∀ p ∈ flatL ((lt, k, v) :: L), p.1 < i := by
  simp only [flatL, List.forall_mem_append, List.forall_mem_singleton]
  exact ⟨⟨hL, fun p hp => Int.lt_trans (hlt p hp) hk⟩, hk⟩

theorem near_splayGo (i : Int) (fuel : Nat) (l : Tree α) (k : Int) (v : α) (r : Tree α) L R
    (hf : (Tree.node l k v r).size ≤ fuel) (hs : Sorted (.node l k v r))
    (hL : ∀ p ∈ flatL L, p.1 < i) (hR : ∀ p ∈ flatR R, i < p.1) :
    Near i (splayGo i fuel l k v r L R) := by
  -- all linked left < i < all linked right; what a step links is a node on the far side of `i` with its far
  -- subtree (after a rotation: of the rotated tree), which the order of the tree puts on that side
  induction fuel generalizing l k v r L R with
  | zero => simp [Tree.size] at hf
  | succ n ih =>
    unfold splayGo
    split
    · rename_i hik  -- i < k
      split
      · exact near_assemble _ _ _ _ _ _ _ hL hR (fun _ _ hp => nomatch hp) (fun h => by omega)
      · split
        · rename_i hilk  -- rotate right, then break or link right
          obtain ⟨hsll, _, _, hab⟩ := sorted_node.1 (sorted_rot.1 hs)
          split
          · exact near_assemble _ _ _ _ _ _ _ hL hR (fun _ _ hp => nomatch hp) (fun h => by omega)
          · exact ih _ _ _ _ _ _ (by simp [Tree.size] at hf ⊢; omega) hsll hL (flatR_above hilk hab hR)
        · obtain ⟨hsl, _, _, hab⟩ := sorted_node.1 hs  -- link right
          exact ih _ _ _ _ _ _ (by simp [Tree.size] at hf ⊢; omega) hsl hL (flatR_above hik hab hR)
    · split
      · rename_i hki  -- k < i
        split
        · exact near_assemble _ _ _ _ _ _ _ hL hR (fun h => by omega) (fun _ _ hp => nomatch hp)
        · split
          · rename_i hirk  -- rotate left, then break or link left
            obtain ⟨_, hsrr, hbe, _⟩ := sorted_node.1 (sorted_rot.2 hs)
            split
            · exact near_assemble _ _ _ _ _ _ _ hL hR (fun h => by omega) (fun _ _ hp => nomatch hp)
            · exact ih _ _ _ _ _ _ (by simp [Tree.size] at hf ⊢; omega) hsrr (flatL_below hirk hbe hL) hR
          · obtain ⟨_, hsr, hbe, _⟩ := sorted_node.1 hs  -- link left
            exact ih _ _ _ _ _ _ (by simp [Tree.size] at hf ⊢; omega) hsr (flatL_below hki hbe hL) hR
      · exact near_assemble _ _ _ _ _ _ _ hL hR (fun h => by omega) (fun h => by omega)  -- found

theorem near_splayNonnull (t : Tree α) (i : Int) (hs : Sorted t) : Near i (splayNonnull t i) := by
  cases t with
  | nil => trivial
  | node l k v r =>
    exact near_splayGo i _ l k v r [] [] (Nat.le_refl _) hs (by simp [flatL]) (by simp [flatR])

theorem near_splay (t : Tree α) (i : Int) (hs : Sorted t) : Near i (splay t i) := by
  cases t with
  | nil => trivial
  | node l k v r =>
    simp only [splay]
    split
    · rename_i h; subst h; exact ⟨fun h => by omega, fun h => by omega⟩
    · exact near_splayNonnull _ _ hs

theorem root_of_mem {i : Int} {l : Tree α} {k : Int} {v : α} {r : Tree α} {w : α}
    (hs : Sorted (.node l k v r)) (hn : Near i (.node l k v r))
    (hm : (i, w) ∈ (Tree.node l k v r).inorder) : k = i ∧ v = w := by
  obtain ⟨_, _, hlk, hrk⟩ := sorted_node.1 hs
  simp only [Tree.inorder, List.mem_append, List.mem_cons] at hm
  rcases hm with hm | hm | hm
  · have h1 := hlk _ hm
    have h2 := hn.1 h1 _ hm
    simp at h2
  · simp only [Prod.mk.injEq] at hm; exact ⟨hm.1.symm, hm.2.symm⟩
  · have h1 := hrk _ hm
    have h2 := hn.2 h1 _ hm
    simp at h2

theorem cacheQuery_inorder (t : Tree α) (i : Int) : (cacheQuery t i).1.inorder = t.inorder := by
  have h := inorder_splay t i
  unfold cacheQuery
  split <;> (rename_i e; rw [e] at h; exact h)

theorem cacheQuery_near (t : Tree α) (i : Int) (hs : Sorted t) : Near i (cacheQuery t i).1 := by
  have h := near_splay t i hs
  unfold cacheQuery
  split
  · trivial
  · rename_i e; rw [e] at h; exact h

theorem cacheQuery_found (t : Tree α) (i : Int) (v : α) (hs : Sorted t) :
    (cacheQuery t i).2 = some v ↔ (i, v) ∈ t.inorder := by
  have hi := inorder_splay t i
  have hn := near_splay t i hs
  have hs' := sorted_of_inorder_eq hi hs
  unfold cacheQuery
  split
  · rename_i e; rw [e] at hi; simp [← hi, Tree.inorder]
  · rename_i l k w r e
    rw [e] at hi hn hs'
    rw [← hi]
    constructor
    · intro h
      simp only at h
      split at h
      · rename_i hk; subst hk; simp only [Option.some.injEq] at h; subst h
        simp [Tree.inorder]
      · simp at h
    · intro h
      obtain ⟨h1, h2⟩ := root_of_mem hs' hn h
      simp [h1, h2]

/-- `(i, d)` put in place of what `old` held under key `i` (`zs`): sorted again, and the finite-map insert -/
theorem put_spec {old new xs zs ys : List (Int × α)} {i : Int} {d : α}
    (hold : old = xs ++ (zs ++ ys)) (hnew : new = xs ++ (i, d) :: ys)
    (hs : old.Pairwise (fun a b => a.1 < b.1))
    (hx : ∀ p ∈ xs, p.1 < i) (hz : ∀ p ∈ zs, p.1 = i) (hy : ∀ p ∈ ys, i < p.1) :
    new.Pairwise (fun a b => a.1 < b.1) ∧ ∀ p, p ∈ new ↔ (p = (i, d) ∨ (p ∈ old ∧ p.1 ≠ i)) := by
  subst hold hnew
  simp only [List.pairwise_append, List.pairwise_cons, List.mem_append, List.mem_cons] at hs ⊢
  obtain ⟨hxs, ⟨_, hys, _⟩, _⟩ := hs
  refine ⟨⟨hxs, ⟨hy, hys⟩, fun p hp q hq => ?_⟩, fun p => ⟨?_, ?_⟩⟩
  · rcases hq with rfl | hq
    · exact hx p hp
    · exact Int.lt_trans (hx p hp) (hy q hq)
  · rintro (hp | rfl | hp)
    · exact Or.inr ⟨Or.inl hp, Int.ne_of_lt (hx p hp)⟩
    · exact Or.inl rfl
    · exact Or.inr ⟨Or.inr (Or.inr hp), Int.ne_of_gt (hy p hp)⟩
  · rintro (rfl | ⟨hp | hp | hp, hne⟩)
    · exact Or.inr (Or.inl rfl)
    · exact Or.inl hp
    · exact absurd (hz p hp) hne
    · exact Or.inr (Or.inr hp)

/-- http_auth_cache_insert() as http_auth_cache_query() leaves the tree (root a neighbour of the key) -/
theorem cacheInsert_spec (t : Tree α) (i : Int) (d : α) (hs : Sorted t) (hn : Near i t) :
    Sorted (cacheInsert t i d) ∧
    ∀ p, p ∈ (cacheInsert t i d).inorder ↔ (p = (i, d) ∨ (p ∈ t.inorder ∧ p.1 ≠ i)) := by
  cases t with
  | nil => exact put_spec (xs := []) (zs := []) (ys := []) rfl rfl hs nofun nofun nofun
  | node l k v r =>
    obtain ⟨_, _, hlk, hrk⟩ := sorted_node.1 hs
    simp only [cacheInsert, insertSplayed]
    split
    · split
      · rename_i hik  -- new key left of the root: the root goes right with its right subtree
        exact put_spec (xs := l.inorder) (zs := []) (ys := (k, v) :: r.inorder) rfl rfl hs (hn.1 hik) nofun
          (List.forall_mem_cons.2 ⟨hik, fun p hp => Int.lt_trans hik (hrk p hp)⟩)
      · have hki : k < i := by omega  -- right of the root: the root goes left with its left subtree
        exact put_spec (xs := l.inorder ++ [(k, v)]) (zs := []) (ys := r.inorder) (List.append_assoc l.inorder [(k, v)] r.inorder).symm rfl hs
          (List.forall_mem_append.2 ⟨fun p hp => Int.lt_trans (hlk p hp) hki, List.forall_mem_singleton.2 hki⟩)
          nofun (hn.2 hki)
    · rename_i hke  -- equal key: the data of the root is replaced
      obtain rfl : k = i := by simpa using hke
      exact put_spec (xs := l.inorder) (zs := [(k, v)]) (ys := r.inorder) rfl rfl hs hlk
        (List.forall_mem_singleton.2 rfl) hrk

/-- splaytree_delete_splayed_node() on a search tree removes exactly the root: the overwritten
    `x->right` is NULL because `x` is the maximum of the left part -/
theorem deleteSplayedNode_inorder (l : Tree α) (k : Int) (v : α) (r : Tree α)
    (hs : Sorted (.node l k v r)) :
    (deleteSplayedNode (.node l k v r)).inorder = l.inorder ++ r.inorder := by
  obtain ⟨hsl, _, hlk, _⟩ := sorted_node.1 hs
  cases l with
  | nil => simp [deleteSplayedNode, Tree.inorder]
  | node a b c d =>
    simp only [deleteSplayedNode]
    have hi := inorder_splayNonnull (Tree.node a b c d) k
    have hn := near_splayNonnull (Tree.node a b c d) k hsl
    split
    · rename_i e; rw [e] at hi; simp [Tree.inorder] at hi
    · rename_i xl xk xv xr e
      rw [e] at hi hn
      have hxk : xk < k := hlk (xk, xv) (by rw [← hi]; simp [Tree.inorder])
      have hxr : xr.inorder = [] := by
        apply List.eq_nil_iff_forall_not_mem.2
        intro p hp
        have h1 := hn.2 hxk p hp
        have h2 := hlk p (by rw [← hi]; simp [Tree.inorder, hp])
        omega
      rw [← hi]
      simp [Tree.inorder, hxr]

/-- one iteration of the delete loop of mod_auth_periodic_cleanup() -/
theorem deleteKey_inorder (t : Tree α) (i : Int) (w : α) (hs : Sorted t) (hm : (i, w) ∈ t.inorder) :
    (deleteSplayedNode (splayNonnull t i)).inorder = t.inorder.filter (fun p => p.1 ≠ i) := by
  have hi := inorder_splayNonnull t i
  have hn := near_splayNonnull t i hs
  have hs' := sorted_of_inorder_eq hi hs
  cases e : splayNonnull t i with
  | nil => rw [e] at hi; rw [← hi] at hm; simp [Tree.inorder] at hm
  | node l k v r =>
    rw [e] at hi hn hs'
    rw [← hi] at hm
    obtain ⟨hk, _⟩ := root_of_mem hs' hn hm
    subst hk
    rw [deleteSplayedNode_inorder l k v r hs', ← hi]
    obtain ⟨_, _, hlk, hrk⟩ := sorted_node.1 hs'
    simp only [Tree.inorder, List.filter_append, List.filter_cons, ne_eq, not_true_eq_false,
      decide_false, Bool.false_eq_true, if_false]
    congr 1
    · symm; apply List.filter_eq_self.2
      intro p hp; have := hlk p hp; simp; omega
    · symm; apply List.filter_eq_self.2
      intro p hp; have := hrk p hp; simp; omega

theorem deleteKey_sorted (t : Tree α) (i : Int) (w : α) (hs : Sorted t) (hm : (i, w) ∈ t.inorder) :
    Sorted (deleteSplayedNode (splayNonnull t i)) := by
  unfold Sorted at *
  rw [deleteKey_inorder t i w hs hm]
  exact hs.filter _

end LtVerif.AuthSplay
