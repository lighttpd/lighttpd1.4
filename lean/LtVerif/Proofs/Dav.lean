/-
  C18 — the tree model (Model/Dav.lean) through its lookup `get`: `WF`, prefixes (`under`), lookup after
  set / erase / copyTree / moveTree, the walk, lstat() and parentIsDir by `get` (`walk_spec`, `lstat_spec`),
  `wfb` and the decision procedures the examples use.
-/
import LtVerif.Model.Dav

namespace LtVerif.Dav
open LtVerif

def WF (t : Tree) : Prop := ∀ p s n, get t (p ++ [s]) = some n → get t p = some .dir

def St.ofNode : Node → St
  | .dir => .isdir
  | .file c => .isfile c

theorem under_iff {p q : Path} : under p q = true ↔ p <+: q := by
  unfold under
  exact List.isPrefixOf_iff_prefix

theorem under_refl (p : Path) : under p p = true := under_iff.2 (List.prefix_refl p)

theorem under_trans {p q r : Path} (h1 : under p q = true) (h2 : under q r = true) : under p r = true :=
  under_iff.2 (List.IsPrefix.trans (under_iff.1 h1) (under_iff.1 h2))

theorem under_append (p r : Path) : under p (p ++ r) = true := under_iff.2 (List.prefix_append p r)

theorem under_split {p q : Path} (h : under p q = true) : q = p ++ q.drop p.length :=
  (List.prefix_iff_eq_append.1 (under_iff.1 h)).symm

theorem not_under_of_not_under_prefix {p p' q : Path} (hp : under p p' = true) (h : under p q = false) :
    under p' q = false :=
  Bool.eq_false_iff.2 fun h' => Bool.eq_false_iff.1 h (under_trans hp h')

theorem under_snoc_of_under {p q : Path} (s : Seg) (h : under p q = true) : under p (q ++ [s]) = true :=
  under_trans h (under_append q [s])

theorem under_parent {p q : Path} {s : Seg} (h : under p (q ++ [s]) = true) (hne : q ++ [s] ≠ p) :
    under p q = true := by
  exact under_iff.2 ((List.prefix_concat_iff.1 (under_iff.1 h)).resolve_left (Ne.symm hne))

theorem drop_snoc {p q : Path} {s : Seg} (h : under p q = true) :
    (q ++ [s]).drop p.length = q.drop p.length ++ [s] := by
  have hl : p.length ≤ q.length := (under_iff.1 h).length_le
  rw [List.drop_append_of_le_length hl]

theorem under_child_false {p q : Path} (s : Seg) (h : under p q = false) : under (p ++ [s]) q = false :=
  not_under_of_not_under_prefix (under_append p [s]) h

theorem get_set (p : Path) (n : Node) (t : Tree) (q : Path) :
    get (set p n t) q = if p = q then some n else get t q := by
  simp [set, get]

theorem get_erase (p : Path) (t : Tree) (q : Path) :
    get (erase p t) q = if under p q then none else get t q := by
  induction t with
  | nil => simp [erase, get]
  | cons e t ih =>
    obtain ⟨k, n⟩ := e
    unfold erase at ih ⊢
    rw [List.filter_cons]
    by_cases hk : under p k = true
    · simp only [hk, Bool.not_true, Bool.false_eq_true, ↓reduceIte]
      rw [ih]
      by_cases hq : under p q = true
      · simp [hq]
      · simp only [hq, Bool.false_eq_true, ↓reduceIte, get]
        have : k ≠ q := by
          intro e; subst e; exact hq hk
        simp [this]
    · simp only [hk, Bool.not_false, ↓reduceIte, get]
      by_cases hkq : k = q
      · subst hkq
        simp [hk]
      · simp only [hkq, ↓reduceIte]
        exact ih

theorem get_append (a b : Tree) (q : Path) :
    get (a ++ b) q = match get a q with
      | some n => some n
      | none => get b q := by
  induction a with
  | nil => simp [get]
  | cons e a ih =>
    obtain ⟨k, n⟩ := e
    simp only [List.cons_append, get]
    by_cases hkq : k = q
    · simp [hkq]
    · simp only [hkq, ↓reduceIte]
      exact ih

theorem get_image (src dst : Path) (t : Tree) (q : Path) :
    get (image src dst t) q = if under dst q then get t (src ++ q.drop dst.length) else none := by
  induction t with
  | nil => simp [image, get]
  | cons e t ih =>
    obtain ⟨k, n⟩ := e
    unfold image at ih ⊢
    rw [List.filter_cons]
    by_cases hk : under src k = true
    · simp only [hk, ↓reduceIte, List.map_cons, rebase, get]
      by_cases hq : under dst q = true
      · simp only [hq, ↓reduceIte]
        by_cases he : dst ++ k.drop src.length = q
        · have hk' : k = src ++ q.drop dst.length := by
            rw [← he]
            simp only [List.drop_left]
            exact under_split hk
          rw [if_pos he, if_pos hk']
        · have hk' : k ≠ src ++ q.drop dst.length := by
            intro e2
            apply he
            rw [e2]
            simp only [List.drop_left]
            exact (under_split hq).symm
          rw [if_neg he, if_neg hk', ih]
          simp [hq]
      · have he : dst ++ k.drop src.length ≠ q := by
          intro e2
          apply hq
          rw [← e2]
          exact under_append _ _
        rw [if_neg he, ih]
        simp [hq]
    · simp only [hk, Bool.false_eq_true, ↓reduceIte]
      rw [ih]
      by_cases hq : under dst q = true
      · simp only [hq, ↓reduceIte, get]
        have : k ≠ src ++ q.drop dst.length := by
          intro e2
          apply hk
          rw [e2]
          exact under_append _ _
        simp [this]
      · simp [hq]

theorem get_copyTree (src dst : Path) (t : Tree) (q : Path) :
    get (copyTree src dst t) q = if under dst q then get t (src ++ q.drop dst.length) else get t q := by
  unfold copyTree
  rw [get_append, get_image, get_erase]
  by_cases hq : under dst q = true
  · simp only [hq, ↓reduceIte]
    split <;> simp_all
  · simp [hq]

theorem get_moveTree (src dst : Path) (t : Tree) (q : Path) :
    get (moveTree src dst t) q =
      if under dst q then get t (src ++ q.drop dst.length)
      else if under src q then none else get t q := by
  unfold moveTree
  rw [get_append, get_image, get_erase, get_erase]
  by_cases hq : under dst q = true
  · simp only [hq, ↓reduceIte]
    split <;> simp_all
  · simp [hq]

/-- lookup after the subtree at `src` is copied (moved) to `dst`: RFC 4918's COPY / MOVE (`rfcEffect`) -/
def graftFS (move : Bool) (src dst : Path) (f : FS) : FS := fun q =>
  if under dst q then f (src ++ q.drop dst.length) else if move && under src q then none else f q

theorem get_graft (move : Bool) (src dst : Path) (t : Tree) (q : Path) :
    get (if move then moveTree src dst t else copyTree src dst t) q = graftFS move src dst (get t) q := by
  unfold graftFS
  cases move
  · simpa using get_copyTree src dst t q
  · simpa using get_moveTree src dst t q

theorem get_set_frame {p q : Path} (n : Node) (t : Tree) (h : under p q = false) :
    get (set p n t) q = get t q := by
  rw [get_set, if_neg]
  intro e
  rw [e, under_refl] at h
  cases h

theorem get_erase_frame {p q : Path} (t : Tree) (h : under p q = false) :
    get (erase p t) q = get t q := by
  rw [get_erase]; simp [h]

theorem get_copyTree_frame {src dst q : Path} (t : Tree) (h : under dst q = false) :
    get (copyTree src dst t) q = get t q := by
  rw [get_copyTree]; simp [h]

theorem get_moveTree_frame {src dst q : Path} (t : Tree) (hs : under src q = false) (h : under dst q = false) :
    get (moveTree src dst t) q = get t q := by
  rw [get_moveTree]; simp [h, hs]

theorem walk_ofNode {t : Tree} {n : Node} : ∀ {rest cur : Path},
    walk t cur rest = St.ofNode n → get t (cur ++ rest) = some n
  | [], cur, h => by
    simp only [walk] at h
    split at h <;> cases n <;> simp_all [St.ofNode]
  | s :: rest, cur, h => by
    simp only [walk] at h
    split at h
    · simpa using walk_ofNode (rest := rest) h
    · cases n <;> cases h
    · cases n <;> cases h

theorem walk_isfile {t : Tree} {c : Bytes} {rest cur : Path} (h : walk t cur rest = .isfile c) :
    get t (cur ++ rest) = some (.file c) :=
  walk_ofNode (n := .file c) h

theorem walk_isdir {t : Tree} {rest cur : Path} (h : walk t cur rest = .isdir) :
    get t (cur ++ rest) = some .dir :=
  walk_ofNode (n := .dir) h

theorem WF.ancestor {t : Tree} (h : WF t) : ∀ (r : Path) {p : Path} {n : Node}, r ≠ [] →
    get t (p ++ r) = some n → get t p = some .dir
  | [], _, _, hne, _ => absurd rfl hne
  | s :: r', p, n, _, hg => by
    by_cases hr : r' = []
    · subst hr; exact h _ _ _ hg
    · have hg' : get t ((p ++ [s]) ++ r') = some n := by simpa using hg
      have hd := WF.ancestor h r' hr hg'
      exact h _ _ _ hd

theorem WF.no_child_of_nondir {t : Tree} (h : WF t) {p r : Path} (hr : r ≠ []) (hp : get t p ≠ some .dir) :
    get t (p ++ r) = none := by
  cases hg : get t (p ++ r) with
  | none => rfl
  | some n => exact absurd (h.ancestor r hr hg) hp

theorem below_nondir {t : Tree} (hwf : WF t) {p q : Path} (hp : get t p ≠ some .dir) (hu : under p q = true)
    (hne : q ≠ p) : get t q = none := by
  have hq := under_split hu
  rw [hq]
  apply hwf.no_child_of_nondir _ hp
  intro e
  apply hne
  rw [hq, e]
  simp

theorem parent_of_exists {t : Tree} (hwf : WF t) {p : Path} {n : Node} (hg : get t p = some n) (hne : p ≠ []) :
    get t p.dropLast = some .dir := by
  have := List.dropLast_concat_getLast hne
  rw [← this] at hg
  exact hwf _ _ _ hg

theorem not_under_file {t : Tree} (hwf : WF t) {src x : Path} {c : Bytes} (hs : get t src = some (.file c))
    (hx : get t x = some .dir) : under src x = false := by
  cases hu : under src x with
  | false => rfl
  | true =>
    have := below_nondir hwf (p := src) (by simp [hs]) hu (fun e => by rw [e, hs] at hx; cases hx)
    rw [hx] at this; cases this

theorem hasChild_false {t : Tree} {p q : Path} (h : hasChild p t = false) (hu : under p q = true) (hne : q ≠ p) :
    get t q = none := by
  induction t with
  | nil => rfl
  | cons e t ih =>
    obtain ⟨k, n⟩ := e
    simp only [hasChild, List.any_cons, Bool.or_eq_false_iff, Bool.and_eq_false_iff] at h
    simp only [get]
    by_cases hk : k = q
    · subst hk
      rcases h.1 with h1 | h1
      · rw [hu] at h1; simp at h1
      · exact absurd ((under_iff.1 hu).eq_of_length (bne_eq_false_iff_eq.1 h1).symm).symm hne
    · simp only [hk, ↓reduceIte]
      exact ih h.2

theorem walk_missing {t : Tree} (h : WF t) : ∀ {rest cur : Path},
    walk t cur rest = .enoent ∨ walk t cur rest = .enotdir → get t (cur ++ rest) = none
  | [], cur, hw => by
    simp only [walk] at hw
    split at hw <;> simp_all
  | s :: rest, cur, hw => by
    simp only [walk] at hw
    split at hw
    · simpa using walk_missing h (rest := rest) hw
    · exact h.no_child_of_nondir (by simp) (by simp [*])
    · exact h.no_child_of_nondir (by simp) (by simp [*])

theorem walk_enotdir {t : Tree} (h : WF t) : ∀ {rest cur : Path},
    walk t cur rest = .enotdir → get t (cur ++ rest) = none :=
  fun hw => walk_missing h (Or.inr hw)

theorem walk_of_get {t : Tree} (h : WF t) : ∀ {rest cur : Path} {n : Node},
    get t (cur ++ rest) = some n → walk t cur rest = St.ofNode n
  | [], cur, n, hg => by
    simp only [List.append_nil] at hg
    simp only [walk, hg]
    cases n <;> rfl
  | s :: rest, cur, n, hg => by
    have hd : get t cur = some .dir := h.ancestor (s :: rest) (by simp) hg
    simp only [walk, hd]
    apply walk_of_get h
    simpa using hg

theorem parentIsDir_get {t : Tree} {p : Path} (h : parentIsDir t p = true) :
    p ≠ [] ∧ get t p.dropLast = some .dir := by
  unfold parentIsDir at h
  simp only [Bool.and_eq_true, bne_iff_ne, ne_eq, beq_iff_eq] at h
  exact ⟨h.1, by simpa using walk_isdir h.2⟩

theorem lstat_isfile {t : Tree} {p : RPath} {c : Bytes} (h : lstat t p = .isfile c) :
    get t p.segs = some (.file c) := by
  unfold lstat at h
  split at h
  · rename_i c' hw
    split at h
    · simp at h
    · simp only [St.isfile.injEq] at h
      subst h
      simpa using walk_isfile hw
  · simpa using walk_isfile h

theorem lstat_isdir {t : Tree} {p : RPath} (h : lstat t p = .isdir) : get t p.segs = some .dir := by
  unfold lstat at h
  split at h
  · split at h <;> simp at h
  · simpa using walk_isdir h

theorem lstat_enoent {t : Tree} (hwf : WF t) {p : RPath} (h : lstat t p = .enoent) : get t p.segs = none := by
  unfold lstat at h
  split at h
  · split at h <;> simp at h
  · simpa using walk_missing hwf (Or.inl h)

theorem mkdirRes_ok {t : Tree} {p : Path} (h : mkdirRes t p = .ok) :
    walk t [] p = .enoent ∧ parentIsDir t p = true := by
  unfold mkdirRes at h
  repeat' split at h
  -- `.ok` only at the leaf ENOENT below a directory
  all_goals first | exact ⟨‹_›, ‹_›⟩ | cases h

theorem walk_append_isdir {t : Tree} {b : Path} : ∀ {a cur : Path}, walk t cur a = .isdir →
    walk t cur (a ++ b) = walk t (cur ++ a) b
  | [], cur, _ => by simp
  | s :: a, cur, h => by
    simp only [walk] at h
    split at h
    · rename_i hc
      simp only [List.cons_append, walk, hc]
      rw [walk_append_isdir h]
      simp
    · simp at h
    · simp at h

/-- The last conjunct is the kernel's rule for ENOENT against ENOTDIR: below a collection a missing name is ENOENT. -/
theorem walk_spec {t : Tree} (hwf : WF t) (p : Path) :
    (get t p = some .dir ∧ walk t [] p = .isdir) ∨
    (∃ c, get t p = some (.file c) ∧ walk t [] p = .isfile c) ∨
    (get t p = none ∧ (walk t [] p = .enoent ∨ walk t [] p = .enotdir) ∧
      (parentColl (get t) p = true → walk t [] p = .enoent)) := by
  cases hg : get t p with
  | some n =>
    have := walk_of_get hwf (cur := []) (rest := p) (by simpa using hg)
    cases n with
    | dir => left; exact ⟨rfl, this⟩
    | file c => right; left; exact ⟨c, rfl, this⟩
  | none =>
    right; right
    refine ⟨rfl, ?_, ?_⟩
    · cases hw : walk t [] p with
      | enoent => left; rfl
      | enotdir => right; rfl
      | isdir => have := walk_isdir hw; simp [hg] at this
      | isfile c => have := walk_isfile hw; simp [hg] at this
    · intro hpc
      simp only [parentColl, Bool.and_eq_true, bne_iff_ne, ne_eq, beq_iff_eq] at hpc
      obtain ⟨hne, hd⟩ := hpc
      have hsplit := List.dropLast_concat_getLast hne
      have hwq : walk t [] p.dropLast = .isdir := walk_of_get hwf (cur := []) (by simpa using hd)
      rw [← hsplit, walk_append_isdir hwq]
      simp only [List.nil_append, walk, hd]
      rw [hsplit, hg]

theorem parentIsDir_eq {t : Tree} (hwf : WF t) (p : Path) : parentIsDir t p = parentColl (get t) p := by
  unfold parentIsDir parentColl
  cases hne : (p != []) with
  | false => simp
  | true =>
    simp only [Bool.true_and]
    rcases walk_spec hwf p.dropLast with ⟨hg, hw⟩ | ⟨c, hg, hw⟩ | ⟨hg, hw, _⟩
    · simp [hg, hw]
    · have h1 : (St.isfile c == St.isdir) = false := beq_false_of_ne (by intro h; cases h)
      have h2 : (Node.file c == Node.dir) = false := beq_false_of_ne (by intro h; cases h)
      simp [hg, hw, h1, h2]
    · rcases hw with hw | hw <;> simp [hg, hw]

theorem lstat_spec {t : Tree} (hwf : WF t) (p : RPath) :
    (get t p.segs = some .dir ∧ lstat t p = .isdir) ∨
    (∃ c, get t p.segs = some (.file c) ∧ p.slash = false ∧ lstat t p = .isfile c) ∨
    (∃ c, get t p.segs = some (.file c) ∧ p.slash = true ∧ lstat t p = .enotdir) ∨
    (get t p.segs = none ∧ (lstat t p = .enoent ∨ lstat t p = .enotdir) ∧
      (parentColl (get t) p.segs = true → lstat t p = .enoent)) := by
  unfold lstat
  rcases walk_spec hwf p.segs with ⟨hg, hw⟩ | ⟨c, hg, hw⟩ | ⟨hg, hw, hp⟩
  · left; simp [hg, hw]
  · cases hs : p.slash with
    | false => right; left; exact ⟨c, hg, rfl, by simp [hw]⟩
    | true => right; right; left; exact ⟨c, hg, rfl, by simp [hw]⟩
  · right; right; right
    refine ⟨hg, ?_, ?_⟩
    · rcases hw with hw | hw <;> simp [hw]
    · intro h; simp [hp h]

def wfb (t : Tree) : Bool := t.all fun e => e.1.isEmpty || get t e.1.dropLast == some .dir

theorem get_some_mem {t : Tree} {k : Path} {n : Node} (h : get t k = some n) : (k, n) ∈ t := by
  induction t with
  | nil => simp [get] at h
  | cons e t ih =>
    obtain ⟨q, m⟩ := e
    simp only [get] at h
    split at h
    · rename_i hq
      simp only [Option.some.injEq] at h
      subst hq; subst h
      exact List.mem_cons_self ..
    · exact List.mem_cons_of_mem _ (ih h)

theorem wfb_sound {t : Tree} (h : wfb t = true) : WF t := by
  intro p s n hg
  have hm := get_some_mem hg
  have := (List.all_eq_true.1 h) _ hm
  simpa using this

instance (t : Tree) (r : Req) : Decidable (Conforming t r) := by
  unfold Conforming; exact inferInstance

instance decCoveredRun : (t : Tree) → (rs : List Req) → Decidable (CoveredRun t rs)
  | _, [] => isTrue trivial
  | t, r :: rs =>
    have := decCoveredRun (step t r).2 rs
    by unfold CoveredRun; exact inferInstance

end LtVerif.Dav
