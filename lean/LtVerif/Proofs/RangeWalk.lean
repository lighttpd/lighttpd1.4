/-
  The pointer walk of http_range_parse() (Model/RangeWalk.lean) computes the same
  list of ranges as the ','-split model (Model/Range.lean `parse`), for every
  header text and every length.
-/
import LtVerif.Model.RangeWalk
import LtVerif.Proofs.Range
namespace LtVerif
namespace Range
open B Date

/-! ### scanning loops stop at a byte they do not accept -/

theorem takeSign_append (q rest : Bytes) :
    takeSign (q ++ 44 :: rest) = ((takeSign q).1, (takeSign q).2 ++ 44 :: rest) := by
  cases q with
  | nil => simp [takeSign]
  | cons x t =>
    by_cases h1 : x = 45
    · subst h1; simp [takeSign]
    · by_cases h2 : x = 43
      · subst h2; simp [takeSign]
      · simp [takeSign, h1, h2]

theorem skipWs_append (p rest : Bytes) : skipWs (p ++ 44 :: rest) = skipWs p ++ 44 :: rest :=
  dropWhile_append_stop isBlank 44 (by decide) p rest

theorem strtoll_append (p rest : Bytes) :
    strtoll (p ++ 44 :: rest)
      = (strtoll p).map (fun x => (x.1, x.2 ++ 44 :: rest)) := by
  unfold strtoll
  rw [dropWhile_append_stop isSpace 44 (by decide), takeSign_append]
  simp only
  rw [takeWhile_append_stop isDigit 44 (by decide), dropWhile_append_stop isDigit 44 (by decide)]
  split <;> simp

theorem parseNext_append (p rest : Bytes) (len : Int) :
    parseNext (p ++ 44 :: rest) len
      = ((parseNext p len).1, (parseNext p len).2 ++ 44 :: rest) := by
  unfold parseNext
  rw [strtoll_append]
  cases h1 : strtoll p with
  | none => simp [skipWs_append]
  | some x =>
    obtain ⟨n, e⟩ := x
    simp only [Option.map_some]
    by_cases hn : n ≥ 0
    · simp only [hn, if_true]
      by_cases hc : n ≠ LLONG_MAX ∧ n < len
      · simp only [hc, and_self, if_true, ne_eq, not_false_eq_true]
        rw [skipWs_append]
        cases h2 : skipWs e with
        | nil => simp [skipWs, isBlank]
        | cons y s2 =>
          by_cases hy : y = 45
          · subst hy
            simp only [List.cons_append]
            rw [strtoll_append]
            cases h3 : strtoll s2 with
            | none => simp [skipWs_append]
            | some z =>
              obtain ⟨m, e2⟩ := z
              simp only [Option.map_some]
              by_cases hm : n ≤ m <;> simp [hm, skipWs_append]
          · have h4 := skipWs_append (y :: s2) rest
            simp only [List.cons_append] at h4
            simp only [List.cons_append]
            simp [hy, h4]
      · simp only [hc, if_false, skipWs_append]
    · simp only [hn, if_false, skipWs_append]

/-! ### the returned pointer stays inside the piece -/

theorem strtoll_suffix {s : Bytes} {n : Int} {e : Bytes} (h : strtoll s = some (n, e)) :
    e <:+ s := by
  have hsign : ∀ q : Bytes, (takeSign q).2 <:+ q := fun q => by
    unfold takeSign
    split
    · exact List.suffix_cons _ _
    · exact List.suffix_cons _ _
    · exact List.suffix_refl _
  unfold strtoll at h
  simp only at h
  split at h
  · cases h
  · cases h
    exact (List.dropWhile_suffix _).trans ((hsign _).trans (List.dropWhile_suffix _))

theorem skipWs_suffix (s : Bytes) : skipWs s <:+ s := List.dropWhile_suffix _

theorem parseNext_suffix (s : Bytes) (len : Int) : (parseNext s len).2 <:+ s := by
  unfold parseNext
  split
  · exact skipWs_suffix _
  · rename_i n e h1
    have he := strtoll_suffix h1
    split
    · split
      · split
        · rename_i s2 h2
          have hs2 : s2 <:+ s := by
            have : (45 :: s2) <:+ s := by rw [← h2]; exact (skipWs_suffix _).trans he
            exact (List.suffix_cons _ _).trans this
          split
          · exact (skipWs_suffix _).trans hs2
          · rename_i m e2 h3
            have := (strtoll_suffix h3).trans hs2
            split <;> exact (skipWs_suffix _).trans this
        · exact (skipWs_suffix _).trans ((skipWs_suffix _).trans he)
      · exact (skipWs_suffix _).trans he
    · exact (skipWs_suffix _).trans he

/-! ### one iteration of the walk = one piece -/

theorem skipToComma_nocomma {e : Bytes} (h : (44 : UInt8) ∉ e) : skipToComma e = [] :=
  dropWhile_all fun _ hx => bne_iff_ne.mpr fun hx44 => h (hx44 ▸ hx)

theorem skipToComma_append {e : Bytes} (rest : Bytes) (h : (44 : UInt8) ∉ e) :
    skipToComma (e ++ 44 :: rest) = 44 :: rest := by
  unfold skipToComma
  rw [dropWhile_append_stop _ 44 (by decide)]
  have := skipToComma_nocomma h
  unfold skipToComma at this
  rw [this]; rfl

def pieceStep (len : Int) (st : PSt) (p : Bytes) : PSt × Bool :=
  match parseSpec p len with
  | none => (st, false)
  | some rg => parseStep st rg

/-- an iteration started at a piece boundary ends at the piece's end `tail` (the NUL or the
    next ',') with the state `pieceStep` gives; `hpn` is a hypothesis so that one proof serves
    both tails -/
theorem walkItem_piece (len : Int) (st : PSt) {p : Bytes} (tail : Bytes) (h : (44 : UInt8) ∉ p)
    (ht : tail = [] ∨ ∃ rest, tail = 44 :: rest)
    (hpn : parseNext (p ++ tail) len = ((parseNext p len).1, (parseNext p len).2 ++ tail)) :
    walkItem len st (p ++ tail) = ((pieceStep len st p).1, (pieceStep len st p).2, tail) := by
  have hnc : (44 : UInt8) ∉ (parseNext p len).2 := fun hm => h ((parseNext_suffix p len).subset hm)
  have hskip : skipToComma ((parseNext p len).2 ++ tail) = tail := by
    rcases ht with rfl | ⟨rest, rfl⟩
    · rw [List.append_nil]; exact skipToComma_nocomma hnc
    · exact skipToComma_append rest hnc
  unfold walkItem pieceStep parseSpec
  rw [hpn]
  cases hp : parseNext p len with
  | mk r e =>
    rw [hp] at hnc hskip
    cases r with
    | none => simp [hskip]
    | some rg =>
      cases e with
      | nil => rcases ht with rfl | ⟨rest, rfl⟩ <;> simp
      | cons x t =>
        have hx : x ≠ 44 := fun e => hnc (by simp [e])
        simp only [List.cons_append] at hskip
        simp [hx, hskip]

theorem walkItem_last (len : Int) (st : PSt) {p : Bytes} (h : (44 : UInt8) ∉ p) :
    walkItem len st p = ((pieceStep len st p).1, (pieceStep len st p).2, []) := by
  simpa using walkItem_piece len st [] h (.inl rfl) (by simp)

theorem walkItem_inner (len : Int) (st : PSt) {p : Bytes} (rest : Bytes) (h : (44 : UInt8) ∉ p) :
    walkItem len st (p ++ 44 :: rest)
      = ((pieceStep len st p).1, (pieceStep len st p).2, 44 :: rest) :=
  walkItem_piece len st (44 :: rest) h (.inr ⟨rest, rfl⟩) (parseNext_append p rest len)

/-! ### the whole loop -/

theorem split_first (s : Bytes) :
    (44 : UInt8) ∉ s ∨ ∃ p rest, s = p ++ 44 :: rest ∧ (44 : UInt8) ∉ p := by
  obtain ⟨H, hH, rfl | ⟨r, rfl⟩⟩ := first_seg 44 s
  · exact .inl hH
  · exact .inr ⟨H, r, rfl, hH⟩

theorem parseLoop_cons_piece (len : Int) (st : PSt) (p : Bytes) (ps : List Bytes) :
    parseLoop len st (p :: ps)
      = (if (pieceStep len st p).2 = true ∨
            (parseSpec p len ≠ none ∧ (pieceStep len st p).1.lim ≤ (pieceStep len st p).1.rs.length)
          then (pieceStep len st p).1 else parseLoop len (pieceStep len st p).1 ps) := by
  rw [parseLoop_cons, pieceStep]
  cases parseSpec p len <;> simp

/-- the C loop re-tests `n < lim` after an invalid piece too; the split model does not: equal
    because `n < lim` holds at the head of every iteration -/
theorem walk_eq_parseLoop (len : Int) :
    ∀ (fuel : Nat) (st : PSt) (s : Bytes), s.length < fuel → st.rs.length < st.lim →
      walk len fuel st s = parseLoop len st (splitOn 44 s) := by
  intro fuel
  induction fuel with
  | zero => intro st s h; omega
  | succ fuel ih =>
    intro st s hf hinv
    rcases split_first s with h | ⟨p, rest, rfl, hp⟩
    · rw [splitOn_of_not_mem h, walk, walkItem_last len st h, parseLoop_cons_piece]
      cases (pieceStep len st s).2 <;> simp [parseLoop]
    · rw [splitOn_append_sep rest hp, walk, walkItem_inner len st rest hp, parseLoop_cons_piece]
      cases hb : (pieceStep len st p).2
      · by_cases hlim : (pieceStep len st p).1.rs.length < (pieceStep len st p).1.lim
        · simp only [hlim, if_true, Bool.false_eq_true, false_or]
          rw [if_neg (by omega)]
          exact ih _ rest (by simp at hf; omega) hlim
        · have hsome : parseSpec p len ≠ none := fun hn => hlim (by simpa [pieceStep, hn] using hinv)
          simp [hlim, hsome, Nat.le_of_not_lt hlim]
      · simp

theorem parsePtr_eq_parse (s : Bytes) (len : Int) : parsePtr s len = parse s len := by
  unfold parsePtr parse
  rw [walk_eq_parseLoop len (s.length + 1) { rs := [], lim := RMAX } s (by omega)
        (by simp [rmax_eq])]

theorem processPtr_eq_process (rs : Resp) (hdr : Bytes) : processPtr rs hdr = process rs hdr := by
  unfold processPtr process
  simp only [parsePtr_eq_parse]
  rfl

end Range
end LtVerif
