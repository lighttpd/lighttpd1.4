/-
  The relay composite of C10, on top of Proofs/BackendHead (reading a head): write-prepare, backend
  events, the frame `ClientFrame` = what backend events leave alone of the client side, the invariant
  `Inv`, own error response and abort.  The two automata stand beside it (Proofs/HttpChunkDecode,
  Proofs/FcgiRecv); Props/C10 imports all of them.
-/
import LtVerif.Proofs.BackendHead
namespace LtVerif.BeResp
open LtVerif B

/-! ## write-prepare and response start -/

/-- write-prepare on a complete response, exactly (lighttpd's own error response) -/
structure WpStep (st r : St) (wq : Bytes) (dc : Option DcSt) : Prop where
  status : r.status = st.status
  keepAlive : r.keepAlive = st.keepAlive
  evs : r.evs = st.evs
  cstate : r.cstate = st.cstate
  open_ : r.open_ = st.open_
  finished : r.finished = true
  wq : r.wq = wq
  dc : r.dc = dc

theorem wpStep_staticErrdoc (st : St) (hh : st.handler = false) :
    WpStep st (staticErrdoc st) (errorPage st.status) none := by
  unfold staticErrdoc
  simp only [hh, Bool.false_eq_true, if_false]
  split <;> exact ⟨rfl, rfl, rfl, rfl, rfl, rfl, rfl, rfl⟩

theorem wpStep_wpSetLength (cfg : Cfg) (st : St) (hf : st.finished = true) :
    WpStep st (wpSetLength cfg st) st.wq st.dc := by
  unfold wpSetLength
  (repeat' split) <;> exact ⟨rfl, rfl, rfl, rfl, rfl, hf, rfl, rfl⟩

theorem wpStep_wpHead (cfg : Cfg) (st : St) (hf : st.finished = true) :
    WpStep st (wpHead cfg st) (if cfg.head then [] else st.wq) st.dc := by
  unfold wpHead
  split
  · exact ⟨rfl, rfl, rfl, rfl, rfl, rfl, rfl, rfl⟩
  · exact ⟨rfl, rfl, rfl, rfl, rfl, hf, rfl, rfl⟩

theorem wpStatus_errdoc (st : St) (h4 : 400 ≤ st.status) (h6 : st.status < 600) :
    wpStatus st = staticErrdoc st := by
  have n1 : ¬ (st.status = 204 ∨ st.status = 205) := by omega
  have n2 : ¬ (st.status = 304) := by omega
  have n3 : ¬ (st.status = 200) := by omega
  simp [wpStatus, n1, n2, n3, h4, h6]

theorem mergeTrailers_dc_none (cfg : Cfg) (st : St) (h : st.dc = none) : mergeTrailers cfg st = st := by
  simp [mergeTrailers, h]

theorem writePrepare_errdoc_eq (cfg : Cfg) (st : St) (hh : st.handler = false)
    (h4 : 400 ≤ st.status) (h6 : st.status < 600) :
    writePrepare cfg st = wpHead cfg (wpSetLength cfg (staticErrdoc st)) := by
  have e := wpStep_staticErrdoc st hh
  unfold writePrepare
  rw [wpStatus_errdoc st h4 h6, mergeTrailers_dc_none cfg _ e.dc]
  simp [wpLength, e.finished]

/-- http_response_write_prepare() for a response lighttpd answers itself -/
theorem writePrepare_errdoc (cfg : Cfg) (st : St) (hh : st.handler = false)
    (h4 : 400 ≤ st.status) (h6 : st.status < 600) :
    WpStep st (writePrepare cfg st) (if cfg.head then [] else errorPage st.status) none := by
  have e := wpStep_staticErrdoc st hh
  have a := wpStep_wpSetLength cfg (staticErrdoc st) e.finished
  have b := wpStep_wpHead cfg (wpSetLength cfg (staticErrdoc st)) a.finished
  rw [writePrepare_errdoc_eq cfg st hh h4 h6]
  exact ⟨b.status.trans (a.status.trans e.status), b.keepAlive.trans (a.keepAlive.trans e.keepAlive),
    b.evs.trans (a.evs.trans e.evs), b.cstate.trans (a.cstate.trans e.cstate), b.open_.trans (a.open_.trans e.open_),
    b.finished, by rw [b.wq, a.wq, e.wq], by rw [b.dc, a.dc, e.dc]⟩

def ctHtml : List (Bytes × Bytes) := [(ofString "Content-Type", ofString "text/html")]

theorem ctHtml_noLen : hasHdr ctHtml nContentLength = false ∧ hasHdr ctHtml nTransferEncoding = false := by decide +kernel

theorem ctHtml_setCl (v : Bytes) :
    hdrSet ctHtml (ofString "Content-Length") v = ctHtml ++ [(ofString "Content-Length", v)] := by
  have h : hdrFind ctHtml (lower (ofString "Content-Length")) = none := by decide +kernel
  simp [hdrSet, h]

theorem writePrepare_errdoc_headers (cfg : Cfg) (st : St) (hh : st.handler = false)
    (h4 : 400 ≤ st.status) (h6 : st.status < 600) (h401 : st.status ≠ 401) (hhead : cfg.head = false) :
    (writePrepare cfg st).headers = ctHtml ++ [(ofString "Content-Length", decBytes (errorPage st.status).length)] := by
  have hw : wpHead cfg (wpSetLength cfg (staticErrdoc st)) = wpSetLength cfg (staticErrdoc st) := by
    simp [wpHead, hhead]
  rw [writePrepare_errdoc_eq cfg st hh h4 h6, hw]
  have hs : (staticErrdoc st).headers = ctHtml ∧ (staticErrdoc st).wq = errorPage st.status := by
    unfold staticErrdoc
    simp only [hh, Bool.false_eq_true, if_false, h401]
    simp [bodyClear, hdrUnset_nil, hdrSet_nil, ctHtml]
  have hpos : (errorPage st.status).length > 0 := by
    have : 0 < (ofString "</h1>\n </body>\n</html>\n").length := by decide +kernel
    unfold errorPage
    simp only [List.length_append]
    omega
  unfold wpSetLength
  simp [noLen, hs.1, hs.2, ctHtml_noLen.1, ctHtml_noLen.2, hpos, ctHtml_setCl]

theorem hasLen_of_not_noLen {s : St} (h : noLen s = false) :
    hasHdr s.headers nContentLength = true ∨ hasHdr s.headers nTransferEncoding = true := by
  unfold noLen at h
  cases h1 : hasHdr s.headers nContentLength
  · exact Or.inr (by simpa [h1] using h)
  · exact Or.inl rfl

theorem wpSetLength_framed (cfg : Cfg) (s : St) (hh : cfg.head = false) :
    s.status = 204 ∨ s.status = 304 ∨ hasHdr (wpSetLength cfg s).headers nContentLength = true ∨
    hasHdr (wpSetLength cfg s).headers nTransferEncoding = true := by
  unfold wpSetLength
  by_cases hn : noLen s = true
  · rw [if_pos hn]
    by_cases hq : s.wq.length > 0
    · rw [if_pos hq]
      exact .inr (.inr (.inl (hasHdr_setCl _ _ (decBytes_ne_nil _))))
    · rw [if_neg hq]
      by_cases h2 : s.status = 204
      · exact .inl h2
      · by_cases h3 : s.status = 304
        · exact .inr (.inl h3)
        · rw [if_pos (by simp [hh, h2, h3])]
          exact .inr (.inr (.inl (hasHdr_setCl _ _ (by decide +kernel))))
  · rw [if_neg hn]
    exact .inr (.inr (hasLen_of_not_noLen (by simpa using hn)))

theorem wpStartStreaming_framed (cfg : Cfg) (s : St) (hk : (wpStartStreaming cfg s).keepAlive = true) :
    hasHdr (wpStartStreaming cfg s).headers nContentLength = true ∨
    hasHdr (wpStartStreaming cfg s).headers nTransferEncoding = true ∨
    hasHdr (wpStartStreaming cfg s).headers nUpgrade = true := by
  unfold wpStartStreaming at hk ⊢
  by_cases hc : (noLen s && !hasHdr s.headers nUpgrade) = true
  · rw [if_pos hc] at hk ⊢
    by_cases h1 : cfg.ver = 1
    · rw [if_pos h1]
      have hte := hasHdr_hdrAppend s.headers (ofString "Transfer-Encoding") (ofString "chunked") (by decide +kernel)
      rw [lower_te] at hte
      exact .inr (.inl hte)
    · rw [if_neg h1] at hk
      cases hk
  · rw [if_neg hc]
    cases hu : hasHdr s.headers nUpgrade
    · exact (hasLen_of_not_noLen (by simpa [hu] using hc)).elim .inl fun h => .inr (.inl h)
    · exact .inr (.inr rfl)

theorem hasHdr_cl_appended (fs : List (Bytes × Bytes)) (clv : Bytes) (hne : clv ≠ [])
    (hfs : ∀ f ∈ fs, PlainField f.1 f.2) :
    hasHdr (fs ++ [(ofString "Content-Length", clv)]) nContentLength = true := by
  have hl := lower_cl
  have hv : clv.isEmpty = false := by cases clv <;> simp_all
  simp [hasHdr, hdrFind_append_none fs nContentLength _ clv (hdrFind_plain_cl fs hfs), hl, hv]

theorem writePrepare_cl_id (cfg : Cfg) (st : St) (hh : cfg.head = false) (hhd : st.handler = true)
    (hf : st.finished = true) (hdc : st.dc = none)
    (hcode : st.status ≠ 204 ∧ st.status ≠ 205 ∧ st.status ≠ 304)
    (hcl : hasHdr st.headers nContentLength = true) : writePrepare cfg st = st := by
  have hs : wpStatus st = st := by
    unfold wpStatus
    simp only [hcode.1, hcode.2.1, hcode.2.2, decide_false, Bool.or_self, Bool.false_eq_true, if_false]
    split
    · rfl
    · split
      · simp [staticErrdoc, hhd]
      · rfl
  unfold writePrepare
  rw [hs, mergeTrailers_dc_none cfg st hdc]
  have hl : wpLength cfg st = st := by
    simp [wpLength, hf, wpSetLength, noLen, hcl]
  rw [hl]
  simp [wpHead, hh]

/-- what `Inv` needs of write-prepare; `started` is cleared only where `finished` is set (`bodyClear`) -/
structure WpRel (a b : St) : Prop where
  open_ : b.open_ = a.open_
  cstate : b.cstate = a.cstate
  hdrSent : b.hdrSent = a.hdrSent
  cerr : b.cerr = a.cerr
  unfinished : b.finished = false → b.started = a.started ∧ a.finished = false

theorem WpRel.refl (a : St) : WpRel a a := ⟨rfl, rfl, rfl, rfl, fun h => ⟨rfl, h⟩⟩

theorem WpRel.trans {a b c : St} (h1 : WpRel a b) (h2 : WpRel b c) : WpRel a c :=
  ⟨h2.open_.trans h1.open_, h2.cstate.trans h1.cstate, h2.hdrSent.trans h1.hdrSent, h2.cerr.trans h1.cerr,
   fun hf => ⟨(h2.unfinished hf).1.trans (h1.unfinished (h2.unfinished hf).2).1, (h1.unfinished (h2.unfinished hf).2).2⟩⟩

theorem WpRel.of_finished {a b : St} (h1 : b.open_ = a.open_) (h2 : b.cstate = a.cstate) (h3 : b.hdrSent = a.hdrSent)
    (h4 : b.cerr = a.cerr) (h5 : b.finished = true) : WpRel a b :=
  ⟨h1, h2, h3, h4, fun h => by rw [h5] at h; cases h⟩

theorem wprel_wpStatus (st : St) : WpRel st (wpStatus st) := by
  unfold wpStatus
  repeat' split
  · exact .of_finished rfl rfl rfl rfl rfl
  · exact .of_finished rfl rfl rfl rfl rfl
  · exact WpRel.refl st
  · unfold staticErrdoc
    split
    · exact WpRel.refl st
    · dsimp only
      split <;> exact .of_finished rfl rfl rfl rfl rfl
  · exact WpRel.refl st

theorem wprel_mergeTrailers (cfg : Cfg) (st : St) : WpRel st (mergeTrailers cfg st) := by
  unfold mergeTrailers
  repeat' split
  all_goals exact ⟨rfl, rfl, rfl, rfl, fun h => ⟨rfl, h⟩⟩

theorem wprel_wpLength (cfg : Cfg) (st : St) : WpRel st (wpLength cfg st) := by
  unfold wpLength
  split
  · unfold wpSetLength
    repeat' split
    all_goals exact ⟨rfl, rfl, rfl, rfl, fun h => ⟨rfl, h⟩⟩
  · split
    · exact WpRel.refl st
    · unfold wpStartStreaming
      by_cases h : (noLen st && !hasHdr st.headers nUpgrade) = true
      · rw [if_pos h]
        by_cases h1 : cfg.ver = 1
        · rw [if_pos h1]; exact ⟨rfl, rfl, rfl, rfl, fun h => ⟨rfl, h⟩⟩
        · rw [if_neg h1]; exact ⟨rfl, rfl, rfl, rfl, fun h => ⟨rfl, h⟩⟩
      · rw [if_neg h]; exact WpRel.refl st

theorem wprel_wpHead (cfg : Cfg) (st : St) : WpRel st (wpHead cfg st) := by
  unfold wpHead
  split
  · exact .of_finished rfl rfl rfl rfl rfl
  · exact WpRel.refl st

theorem wprel_writePrepare (cfg : Cfg) (st : St) : WpRel st (writePrepare cfg st) :=
  WpRel.trans (WpRel.trans (WpRel.trans (wprel_wpStatus st) (wprel_mergeTrailers cfg _)) (wprel_wpLength cfg _))
    (wprel_wpHead cfg _)

theorem h1SendHeaders_proj (cfg : Cfg) (st : St) :
    (h1SendHeaders cfg st).wq =
        h1StatusLine cfg st.status ++ h1FieldLines (h1HeaderSet cfg st) ++ crlf ++ crlf ++ st.wq ∧
    (h1SendHeaders cfg st).status = st.status ∧ (h1SendHeaders cfg st).keepAlive = st.keepAlive ∧
    (h1SendHeaders cfg st).finished = st.finished ∧ (h1SendHeaders cfg st).evs = st.evs ∧
    (h1SendHeaders cfg st).open_ = st.open_ ∧ (h1SendHeaders cfg st).handler = st.handler :=
  ⟨rfl, rfl, rfl, rfl, rfl, rfl, rfl⟩

theorem h1FieldLines_verbatim (hs : List (Bytes × Bytes))
    (h : ∀ kv ∈ hs, kv.1 ≠ [] ∧ kv.2 ≠ [] ∧ omitHeader kv.1 = false) :
    h1FieldLines hs = (hs.flatMap fun kv => crlf ++ kv.1 ++ [colon, sp] ++ kv.2) ++
      (if hasHdr hs nDate then [] else dateLine) := by
  unfold h1FieldLines
  congr 1
  induction hs with
  | nil => rfl
  | cons kv rest ih =>
    obtain ⟨h1, h2, h3⟩ := h kv (by simp)
    simp only [List.flatMap_cons, List.isEmpty_eq_false_iff.mpr h1, List.isEmpty_eq_false_iff.mpr h2, h3,
      Bool.or_self, Bool.false_eq_true, if_false]
    rw [ih (fun x hx => h x (by simp [hx]))]

/-- the field lines of lighttpd's own error response: Content-Type, the Content-Length of the
    error page, Connection as the keep-alive decision demands, Date -/
def errFields (cfg : Cfg) (status : Nat) (ka : Bool) : Bytes :=
  h1FieldLines (h1HeaderSet cfg
    { status := status, keepAlive := ka,
      headers := ctHtml ++ [(ofString "Content-Length", decBytes (errorPage status).length)] })

theorem startResponse_h1_finished (cfg : Cfg) (st : St) (hv : cfg.ver ≤ 1) (hst : st.status ≠ 0)
    (hf : (writePrepare cfg st).finished = true) :
    (startResponse cfg st).cstate = .done ∧
    (startResponse cfg st).status = (writePrepare cfg st).status ∧
    (startResponse cfg st).keepAlive = (writePrepare cfg st).keepAlive ∧
    (startResponse cfg st).evs = pushW (writePrepare cfg st).evs
      (h1StatusLine cfg (writePrepare cfg st).status ++
       h1FieldLines (h1HeaderSet cfg (writePrepare cfg st)) ++ crlf ++ crlf ++ (writePrepare cfg st).wq) := by
  have hv2 : ¬ (cfg.ver ≥ 2) := by omega
  unfold startResponse
  simp only [hst, if_false, hv2]
  simp [h1Progress, flush, h1SendHeaders, hf]

/-! ## backend events (repaired code) -/

theorem onData_active (cfg : Cfg) (st : St) (seg : Bytes)
    (hc : st.cstate = .handle ∧ st.handler = true ∨ st.cstate = .write) (ho : st.open_ = true) (hne : seg ≠ []) :
    onData cfg st seg = conStep cfg (gwRecvData cfg st seg) := by
  unfold onData
  have hg : (st.cstate = .done || st.cstate = .redispatch || !st.open_ || seg.isEmpty) = false := by
    rcases hc with ⟨hc, _⟩ | hc <;> simp [hc, ho, hne]
  have hl : lostHandler st = false := by rcases hc with ⟨_, hh⟩ | hc <;> simp [lostHandler, *]
  rw [if_neg (by simpa using hg), if_neg (by simp [hl])]

theorem onEnd_active (cfg : Cfg) (st : St) (e : End)
    (hc : st.cstate = .handle ∧ st.handler = true ∨ st.cstate = .write) (ho : st.open_ = true) (he : e ≠ .none) :
    onEnd cfg st e = conStep cfg (gwRecvEnd cfg st e) := by
  unfold onEnd
  have hg : (st.cstate = .done || st.cstate = .redispatch || !st.open_ || e = .none) = false := by
    rcases hc with ⟨hc, _⟩ | hc <;> simp [hc, ho, he]
  have hl : lostHandler st = false := by rcases hc with ⟨_, hh⟩ | hc <;> simp [lostHandler, *]
  rw [if_neg (by simpa using hg), if_neg (by simp [hl])]

theorem onData_incomplete (cfg : Cfg) (st st' : St) (seg : Bytes) (hbe : cfg.be ≠ .fcgi)
    (hc : st.cstate = .handle) (ho : st.open_ = true) (hs : st.started = false) (hh : st.handler = true)
    (hseg : seg ≠ [])
    (hp : headerStep cfg st seg = (st', .goOn))
    (hs' : st'.started = false) (hf' : st'.finished = false) (hc' : st'.cstate = .handle) (ho' : st'.open_ = true) :
    onData cfg st seg = st' := by
  have hr : gwRecvData cfg st seg = st' := by
    unfold gwRecvData readPlain
    rw [if_neg hbe, if_pos (by simp [hs]), hp]
    simp [hs']
  rw [onData_active cfg st seg (Or.inl ⟨hc, hh⟩) ho hseg, hr]
  simp [conStep, hc', handlerStarts, subrequestWaits, ho', hf', hs']

theorem gwRecvEnd_pre (cfg : Cfg) (st : St) (e : End)
    (hc : st.cstate = .handle) (hs : st.started = false)
    (hh : st.handler = true) (hst : st.status = 0) (he : e ≠ .none) (hfe : st.fcgi.ended = false) :
    gwRecvEnd cfg st e = { st with open_ := false, status := 500, handler := false } := by
  have herr : gwBackendError cfg st = gwClose cfg st := by simp [gwBackendError, backendError, hs]
  have hclose : gwClose cfg st = { st with open_ := false, status := 500, handler := false } := by
    simp [gwClose, backendDone, hc, hs, hh, hst]
  cases e <;> simp [gwRecvEnd, herr, hclose, hs, hfe] at he ⊢

/-- a backend failure event: reset / socket error, or FastCGI end of stream without END_REQUEST -/
def FailEnd (cfg : Cfg) (st : St) (e : End) : Prop :=
  e = .rst ∨ e = .err ∨ (cfg.be = .fcgi ∧ (e = .eof ∨ e = .hup) ∧ st.fcgi.ended = false)

theorem FailEnd.ne_none {cfg : Cfg} {st : St} {e : End} (h : FailEnd cfg st e) : e ≠ .none := by
  rcases h with h | h | ⟨_, h | h, _⟩ <;> simp [h]

theorem gwRecvEnd_fail (cfg : Cfg) (st : St) (e : End) (hs : st.started = true) (he : FailEnd cfg st e) :
    gwRecvEnd cfg st e = gwBackendError cfg st := by
  rcases he with h | h | ⟨hb, h | h, hfe⟩
  · subst h; rfl
  · subst h; rfl
  · subst h; simp [gwRecvEnd, hb, hfe]
  · subst h; simp [gwRecvEnd, hb, hfe, hs]

theorem gwRecvEnd_hup_started (cfg : Cfg) (st : St) (hs : st.started = true) :
    gwRecvEnd cfg st .hup = gwRecvEnd cfg st .eof := by
  simp [gwRecvEnd, hs]

theorem gwRecvEnd_eofHup (cfg : Cfg) (st : St) (e : End) (hbe : cfg.be ≠ .fcgi) (hs : st.started = true)
    (he : e = .eof ∨ e = .hup) : gwRecvEnd cfg st e = gwClose cfg st := by
  rcases he with h | h <;> subst h <;> simp [gwRecvEnd, hbe, hs]

theorem gwBackendError_unsent (cfg : Cfg) (st : St) (hs : st.started = true) (hn : st.hdrSent = false)
    (hb : bodiless cfg st = false) :
    gwBackendError cfg st = { (backendIncomplete st) with open_ := false } := by
  simp [gwBackendError, backendError, hs, hn, hb, gwClose, backendIncomplete]

theorem gwBackendError_sent (cfg : Cfg) (st : St) (hs : st.started = true) (hn : st.hdrSent = true)
    (hb : bodiless cfg st = false) :
    gwBackendError cfg st =
      { st with open_ := false, handler := false, keepAlive := false, finished := true,
                cerr := st.cerr || decide (cfg.ver ≥ 2) } := by
  simp [gwBackendError, backendError, hs, hn, hb, gwClose, backendAbort]

theorem backendError_bodiless (cfg : Cfg) (st : St) (hs : st.started = true) (hb : bodiless cfg st = true) :
    gwBackendError cfg st = gwClose cfg st := by
  simp [gwBackendError, backendError, hs, hb]

theorem backendDone_truncated_unsent (cfg : Cfg) (st : St) (hc : st.cstate = .handle) (hs : st.started = true)
    (hf : st.finished = false) (hsent : st.hdrSent = false) (ht : bodyTruncated cfg st = true) :
    backendDone cfg st = backendIncomplete st := by
  unfold backendDone
  rw [if_neg (by simp [hc]), if_neg (by simp [hs]), if_pos (by simp [hf]), if_pos (by simp [ht, hsent])]

theorem backendDone_truncated_sent (cfg : Cfg) (st : St) (hc : st.cstate = .write)
    (hf : st.finished = false) (hsent : st.hdrSent = true) (ht : bodyTruncated cfg st = true) :
    backendDone cfg st =
      { (if cfg.ver = 1 then chunkClose (backendAbort cfg st) else backendAbort cfg st) with finished := true } := by
  unfold backendDone
  rw [if_neg (by simp [hc]), if_neg (by simp [hc]), if_pos (by simp [hf]), if_neg (by simp [hsent])]
  simp only [ht, if_true]

theorem gwClose_handler (cfg : Cfg) (st : St) (hh : st.handler = true) :
    gwClose cfg st = backendDone cfg { st with open_ := false } := by
  unfold gwClose
  simp only [hh, if_true]

/-! ## the client-side frame -/

def St.client (st : St) : CState × Bool × Bool × Bool := (st.cstate, st.hdrSent, st.cerr, st.started)

/-- `started` is cleared only by `backendIncomplete` (head unsent), `cerr` set only by `backendAbort`
    (head sent); all else leaves `St.client` alone -/
structure ClientFrame (a b : St) : Prop where
  cstate : b.cstate = a.cstate
  hdrSent : b.hdrSent = a.hdrSent
  started : a.started = true → a.hdrSent = true → b.started = true
  cerr : b.cerr = true → a.cerr = true ∨ a.hdrSent = true

theorem ClientFrame.refl (a : St) : ClientFrame a a := ⟨rfl, rfl, fun h _ => h, fun h => Or.inl h⟩

theorem ClientFrame.trans {a b c : St} (h1 : ClientFrame a b) (h2 : ClientFrame b c) : ClientFrame a c :=
  ⟨h2.cstate.trans h1.cstate, h2.hdrSent.trans h1.hdrSent,
   fun hs hh => h2.started (h1.started hs hh) (h1.hdrSent.trans hh),
   fun hc => (h2.cerr hc).elim h1.cerr fun h => Or.inr (h1.hdrSent ▸ h)⟩

theorem ClientFrame.of_started {a b : St} (h1 : b.cstate = a.cstate) (h2 : b.hdrSent = a.hdrSent) (h3 : b.cerr = a.cerr)
    (h4 : b.started = true) : ClientFrame a b := ⟨h1, h2, fun _ _ => h4, fun hc => Or.inl (h3 ▸ hc)⟩

theorem ClientFrame.of_client {a b : St} (h : b.client = a.client) : ClientFrame a b := by
  simp only [St.client, Prod.mk.injEq] at h
  exact ⟨h.1, h.2.1, fun hs _ => h.2.2.2.trans hs, fun hc => Or.inl (h.2.2.1 ▸ hc)⟩

/-- `ite_ind`: `split` is slow to check on these record terms -/
theorem ClientFrame.ite {a x y : St} {p : Prop} [Decidable p] (hx : p → ClientFrame a x) (hy : ¬p → ClientFrame a y) :
    ClientFrame a (if p then x else y) := ite_ind (P := ClientFrame a) hx hy

theorem ClientFrame.ite_fst {α : Type} {a : St} {x y : St × α} {p : Prop} [Decidable p] (hx : p → ClientFrame a x.1)
    (hy : ¬p → ClientFrame a y.1) : ClientFrame a (if p then x else y).1 := ite_ind (P := fun z : St × α => ClientFrame a z.1) hx hy

theorem client_chunkAppend (st : St) (d : Bytes) : (chunkAppend st d).client = st.client := by
  unfold chunkAppend; repeat' split
  all_goals rfl

theorem client_dechunkAppend (st : St) (d : Bytes) : (dechunkAppend st d).1.client = st.client := by
  unfold dechunkAppend; dsimp only; repeat' split
  all_goals rfl

theorem client_appendMem (st : St) (d : Bytes) : (appendMem st d).1.client = st.client := by
  unfold appendMem; dsimp only; repeat' split
  · exact client_dechunkAppend st d     -- chunked
  · exact client_chunkAppend _ _        -- Content-Length reached
  · exact client_chunkAppend _ _        -- short of it
  · rfl                                 -- nothing left to take
  · exact client_chunkAppend st d       -- until EOF

theorem client_transferCqlen (st : St) (d : Bytes) : (transferCqlen st d).1.client = st.client := by
  unfold transferCqlen; dsimp only; repeat' split
  · rfl                                 -- empty record
  · exact client_dechunkAppend st d     -- chunked
  · exact client_chunkAppend _ _        -- beyond Content-Length
  · exact client_chunkAppend _ _        -- within it
  · exact client_chunkAppend st d       -- until EOF

theorem client_applyField (cfg : Cfg) (st : St) (k v : Bytes) : (applyField cfg st k v).client = st.client := by
  unfold applyField; dsimp only
  generalize strToCode v = c; generalize strtoI64 _ = n
  cases c <;> cases n <;>
    simp only [St.client, apply_ite St.cstate, apply_ite St.hdrSent, apply_ite St.cerr, apply_ite St.started, ite_self]

theorem client_applyLines (cfg : Cfg) (st : St) (ls : List Bytes) : (applyLines cfg st ls).client = st.client := by
  have h : (ls.foldl (applyLine cfg) st).client = st.client :=
    foldl_inv (fun s => s.client = st.client) (applyLine cfg) ls st rfl fun s l hs => by
      refine Eq.trans ?_ hs
      unfold applyLine; split
      · rfl
      · exact client_applyField cfg s _ _
  unfold applyLines; dsimp only; split
  · exact h
  · exact h

theorem client_processHeaders (cfg : Cfg) (st : St) (buf : Bytes) (ls : List Bytes) (nph : Bool) :
    (processHeaders cfg st buf ls nph).client = st.client := by
  unfold processHeaders; repeat' split
  · exact client_applyLines cfg _ _     -- status line
  · rfl                                 -- bad status line: 502
  · exact client_applyLines cfg st ls   -- status line inside a later block
  · rfl                                 -- proxy without status line: 502
  · exact client_applyLines cfg st ls   -- CGI-style head

theorem client_send1xx (cfg : Cfg) (st : St) : (send1xx cfg st).client = st.client := by
  unfold send1xx; dsimp only; repeat' split
  all_goals rfl

theorem client_chunkClose (st : St) : (chunkClose st).client = st.client := by
  unfold chunkClose; repeat' split
  all_goals rfl

theorem frame_phEarly (cfg : Cfg) (st : St) (r : St × Rc) (h : phEarly cfg st = some r) : ClientFrame st r.1 := by
  unfold phEarly at h
  dsimp only at h
  repeat' (split at h)
  all_goals cases h
  · exact ClientFrame.trans (ClientFrame.of_client (client_chunkAppend st st.hbuf)) (ClientFrame.of_started rfl rfl rfl rfl)
  · exact ClientFrame.of_client rfl

theorem frame_phTail (cfg : Cfg) (rec_ : St → St × Rc) (hrec : ∀ s, ClientFrame s (rec_ s).1) (st1 : St) (rest : Bytes) :
    ClientFrame st1 (phTail cfg rec_ st1 rest).1 := by
  unfold phTail
  split
  · exact ClientFrame.trans (b := { (send1xx cfg st1) with hbuf := rest }) (ClientFrame.of_client (client_send1xx cfg st1)) (hrec _)
  · dsimp only
    have h2 : ClientFrame st1 { st1 with started := true } := ClientFrame.of_started rfl rfl rfl rfl
    split
    · exact h2
    · split
      · exact h2
      · exact ClientFrame.trans h2 (ClientFrame.of_client (client_appendMem _ _))

theorem frame_parseHeaders (cfg : Cfg) : ∀ (fuel : Nat) (st : St), ClientFrame st (parseHeaders cfg fuel st).1 := by
  intro fuel
  induction fuel with
  | zero => intro st; exact ClientFrame.refl st
  | succ n ih =>
    intro st
    rw [parseHeaders_succ]
    generalize (if (hoff st.hbuf).2 ≠ 0 then _ else _ : Nat) = size
    split
    · exact ClientFrame.of_client rfl
    · cases he : phEarly cfg st with
      | some r => exact frame_phEarly cfg st r he
      | none =>
        show ClientFrame st (phRest cfg _ st).1
        unfold phRest
        split
        · exact ClientFrame.refl st
        · exact ClientFrame.trans (ClientFrame.of_client (client_processHeaders cfg st _ _ _)) (frame_phTail cfg _ ih _ _)

theorem frame_headerStep (cfg : Cfg) (st : St) (d : Bytes) : ClientFrame st (headerStep cfg st d).1 :=
  ClientFrame.trans (b := { st with hbuf := st.hbuf ++ d }) (ClientFrame.of_client rfl) (frame_parseHeaders cfg _ _)

theorem frame_readPlain (cfg : Cfg) (st : St) (seg : Bytes) : ClientFrame st (readPlain cfg st seg).1 := by
  have hh := frame_headerStep cfg st seg
  have ha : ClientFrame st (appendMem st seg).1 := ClientFrame.of_client (client_appendMem st seg)
  unfold readPlain
  generalize headerStep cfg st seg = r at hh
  generalize appendMem st seg = a at ha
  obtain ⟨st1, rc⟩ := r
  obtain ⟨st2, ok⟩ := a
  refine ClientFrame.ite_fst (fun _ => ?_) fun _ => ClientFrame.ite_fst (fun _ => ha) fun _ => ha
  refine ClientFrame.ite_fst (fun _ => hh) fun _ => ClientFrame.ite_fst (fun _ => ?_) fun _ => hh
  exact ClientFrame.trans hh (ClientFrame.ite (fun _ => ClientFrame.of_client rfl) fun _ => ClientFrame.of_client rfl)

theorem frame_fcgiDispatch (cfg : Cfg) : ∀ (evs : List FrEv) (st : St), ClientFrame st (fcgiDispatch cfg evs st).1 := by
  intro evs
  induction evs with
  | nil => intro st; exact ClientFrame.refl st
  | cons ev rest ih =>
    intro st
    unfold fcgiDispatch
    cases ev with
    | stdout data =>
      have hh := frame_headerStep cfg st data
      have ht : ClientFrame st (transferCqlen st data).1 := ClientFrame.of_client (client_transferCqlen st data)
      dsimp only
      generalize headerStep cfg st data = r at hh
      generalize transferCqlen st data = t at ht
      obtain ⟨st1, rc⟩ := r
      obtain ⟨st2, ok⟩ := t
      refine ClientFrame.ite_fst (fun _ => ih st) fun _ => ClientFrame.ite_fst (fun _ => ?_) fun _ => ClientFrame.ite_fst (fun _ => ?_) fun _ => ih st
      · exact ClientFrame.ite_fst (fun _ => ClientFrame.trans hh (ClientFrame.of_client rfl)) fun _ => ClientFrame.trans hh (ih _)
      · exact ClientFrame.ite_fst (fun _ => ClientFrame.trans ht (ClientFrame.of_client rfl)) fun _ => ClientFrame.trans ht (ih _)
    | stderr _ => exact ih st
    | endRequest => exact ClientFrame.refl st
    | other _ => exact ih st

theorem frame_readFcgi (cfg : Cfg) (st : St) (seg : Bytes) : ClientFrame st (readFcgi cfg st seg).1 := by
  unfold readFcgi
  dsimp only
  exact ClientFrame.trans (b := { st with fcgi := { (frFeed { st.fcgi with evs := [] } seg) with evs := [] } })
    (ClientFrame.of_client rfl) (frame_fcgiDispatch cfg _ _)

theorem frame_backendIncomplete (st : St) (h : st.hdrSent = false) : ClientFrame st (backendIncomplete st) :=
  ⟨rfl, rfl, fun _ hh => (by rw [h] at hh; cases hh), Or.inl⟩

theorem frame_backendDone (cfg : Cfg) (st : St) : ClientFrame st (backendDone cfg st) := by
  unfold backendDone
  refine ClientFrame.ite (fun _ => ClientFrame.refl st) fun _ => ClientFrame.ite (fun _ => ClientFrame.of_client rfl) fun _ =>
    ClientFrame.ite (fun _ => ?_) fun _ => ClientFrame.refl st
  refine ClientFrame.ite (fun h => frame_backendIncomplete st (by simpa using h : _ ∧ st.hdrSent = false).2) fun hnt => ?_
  dsimp only
  -- the abort only happens with the head already out
  have h1 : ClientFrame st (if bodyTruncated cfg st = true then backendAbort cfg st else st) :=
    ClientFrame.ite (fun ht => ⟨rfl, rfl, fun h _ => h, fun _ => Or.inr (by simpa [ht] using hnt)⟩) fun _ => ClientFrame.refl st
  exact ClientFrame.trans h1 (ClientFrame.trans (ClientFrame.ite (fun _ => ClientFrame.of_client (client_chunkClose _)) fun _ => ClientFrame.refl _)
    (ClientFrame.of_client rfl))

theorem frame_backendError (cfg : Cfg) (st : St) : ClientFrame st (backendError cfg st) := by
  unfold backendError
  refine ClientFrame.ite (fun _ => ClientFrame.refl st) fun _ => ClientFrame.ite (fun h => ?_) fun hns => ClientFrame.ite (fun hst => ?_) fun _ => ClientFrame.refl st
  · exact frame_backendIncomplete st (by simpa using h : _ ∧ st.hdrSent = false).2
  · exact ⟨rfl, rfl, fun h _ => h, fun _ => Or.inr (by simpa [hst] using hns)⟩

theorem frame_gwClose (cfg : Cfg) (st : St) : ClientFrame st (gwClose cfg st) := by
  unfold gwClose
  exact ClientFrame.ite (fun _ => ClientFrame.trans (b := { st with open_ := false }) (ClientFrame.of_client rfl) (frame_backendDone cfg _))
    fun _ => ClientFrame.of_client rfl

theorem frame_gwBackendError (cfg : Cfg) (st : St) : ClientFrame st (gwBackendError cfg st) :=
  ClientFrame.trans (frame_backendError cfg st) (frame_gwClose cfg _)

theorem frame_gwRecvData (cfg : Cfg) (st : St) (seg : Bytes) : ClientFrame st (gwRecvData cfg st seg) := by
  unfold gwRecvData
  have h1 : ClientFrame st (if cfg.be = .fcgi then readFcgi cfg st seg else readPlain cfg st seg).1 := by
    split
    · exact frame_readFcgi cfg st seg
    · exact frame_readPlain cfg st seg
  generalize (if cfg.be = .fcgi then readFcgi cfg st seg else readPlain cfg st seg) = r at h1
  obtain ⟨st1, rc⟩ := r
  cases rc
  · exact h1
  · exact ClientFrame.trans h1 (frame_gwClose cfg st1)
  · exact ClientFrame.trans h1 (frame_gwBackendError cfg st1)

theorem frame_gwRecvEnd (cfg : Cfg) (st : St) (e : End) : ClientFrame st (gwRecvEnd cfg st e) := by
  have hclose := frame_gwClose cfg st
  have hfail := frame_gwBackendError cfg st
  -- FastCGI: end of stream without END_REQUEST is a failure
  have hfcgi : ClientFrame st (if cfg.be = .fcgi then (if st.fcgi.ended then gwClose cfg st else gwBackendError cfg st)
      else gwClose cfg st) := .ite (fun _ => .ite (fun _ => hclose) fun _ => hfail) fun _ => hclose
  cases e with
  | none => exact .refl st
  | eof => exact hfcgi
  | rst => exact hfail
  | err => exact hfail
  | hup => exact .ite (fun _ => hfcgi) fun _ => hclose

/-! ## the reachability invariant of the relay -/

/-- `open_ = true`: closing sets `finished`; its 502 path clears `started` -/
structure Inv (st : St) : Prop where
  handle : st.cstate = .handle → st.hdrSent = false
  write : st.cstate = .write → st.hdrSent = true
  wstarted : st.cstate = .write → st.open_ = true → st.started = true
  unfinished : st.open_ = true → (st.cstate = .handle ∨ st.cstate = .write) → st.finished = false
  cerrSent : st.cerr = true → st.hdrSent = true

theorem inv_init : Inv ({} : St) :=
  ⟨fun _ => rfl, fun h => (by cases h), fun h => (by cases h), fun _ _ => rfl, fun h => (by cases h)⟩

theorem progress_proj (cfg : Cfg) (st : St) :
    let p := if cfg.ver ≥ 2 then h2Progress cfg st else h1Progress st
    p.hdrSent = st.hdrSent ∧ p.open_ = st.open_ ∧ p.started = st.started ∧ p.finished = st.finished ∧
    (p.cstate = .done ∨ (st.finished = false ∧ p.cstate = st.cstate)) := by
  intro p
  unfold p
  split
  · unfold h2Progress flush
    dsimp only
    cases hc : st.cerr <;> cases hf : st.finished <;> cases hs : cfg.streaming <;> simp [hc, hf, hs]
  · unfold h1Progress flush
    dsimp only
    cases hf : st.finished <;> simp [hf]

theorem inv_progress (cfg : Cfg) (g : St) (hc : g.cstate = .write) (hsent : g.hdrSent = true)
    (hst : g.open_ = true → g.finished = false → g.started = true) :
    Inv (if cfg.ver ≥ 2 then h2Progress cfg g else h1Progress g) := by
  obtain ⟨hsent', hopen, hstarted, hfin, hdone⟩ := progress_proj cfg g
  refine ⟨fun h => ?_, fun _ => by rw [hsent', hsent], fun hw ho => ?_, fun _ h => ?_, fun _ => by rw [hsent', hsent]⟩
  · rcases hdone with p | ⟨_, p⟩ <;> rw [p] at h
    · cases h
    · rw [hc] at h; cases h
  · rcases hdone with p | ⟨pf, _⟩
    · rw [p] at hw; cases hw
    · rw [hstarted]; exact hst (hopen ▸ ho) pf
  · rcases hdone with p | ⟨pf, _⟩
    · rw [p] at h; rcases h with h | h <;> cases h
    · rw [hfin, pf]

theorem inv_startResponse (cfg : Cfg) (g : St) (hs : g.open_ = true → g.finished = false → g.started = true) :
    Inv (startResponse cfg g) := by
  unfold startResponse
  dsimp only
  generalize hg1 : (if g.status = 0 then { g with status := 200 } else g) = g1
  have e1 : g1.open_ = g.open_ ∧ g1.finished = g.finished ∧ g1.started = g.started := by
    rw [← hg1]; split <;> simp
  have w := wprel_writePrepare cfg g1
  have hst : (writePrepare cfg g1).open_ = true → (writePrepare cfg g1).finished = false →
      (writePrepare cfg g1).started = true := by
    intro ho hf
    obtain ⟨a, b⟩ := w.unfinished hf
    rw [a, e1.2.2]
    exact hs (by rw [← e1.1, ← w.open_]; exact ho) (by rw [← e1.2.1]; exact b)
  by_cases hv : cfg.ver ≥ 2
  · rw [if_pos hv]
    have := inv_progress cfg
      { (writePrepare cfg g1) with evs := (writePrepare cfg g1).evs ++ [.hdrs (writePrepare cfg g1).status (renderHdrs (writePrepare cfg g1).headers)],
                                   hdrSent := true, cstate := .write } rfl rfl hst
    rw [if_pos hv] at this
    exact this
  · rw [if_neg hv]
    have := inv_progress cfg { (h1SendHeaders cfg (writePrepare cfg g1)) with cstate := .write } rfl rfl hst
    rw [if_neg hv] at this
    exact this

theorem inv_conStep (cfg : Cfg) (st g : St) (hi : Inv st) (hf : ClientFrame st g) (ho : st.open_ = true)
    (hc : st.cstate = .handle ∨ st.cstate = .write) : Inv (conStep cfg g) := by
  unfold conStep
  rcases hc with hc | hc
  · have gc : g.cstate = .handle := hf.cstate.trans hc
    rw [gc]
    dsimp only
    split
    · rename_i hstart
      refine inv_startResponse cfg g ?_
      intro go gf
      have : g.started = true ∧ cfg.streaming = true := by
        simpa [handlerStarts, subrequestWaits, go, gf] using hstart
      exact this.1
    · rename_i hstart
      refine ⟨fun _ => hf.hdrSent.trans (hi.handle hc), fun h => (by rw [gc] at h; cases h),
              fun h => (by rw [gc] at h; cases h), fun go _ => ?_,
              fun hce => hf.hdrSent.trans ((hf.cerr hce).elim hi.cerrSent id)⟩
      cases gf : g.finished
      · rfl
      · simp [handlerStarts, subrequestWaits, go, gf] at hstart
  · have gc : g.cstate = .write := hf.cstate.trans hc
    rw [gc]
    refine inv_progress cfg g gc (hf.hdrSent.trans (hi.write hc)) ?_
    intro _ _
    exact hf.started (hi.wstarted hc ho) (hi.write hc)

theorem inv_event (cfg : Cfg) (st g : St) (idle : Bool) (hi : Inv st) (hf : ClientFrame st g)
    (hact : idle = false → st.open_ = true ∧ (st.cstate = .handle ∨ st.cstate = .write)) :
    Inv (if idle then st
         else if lostHandler st then { st with evs := st.evs ++ [.redispatch], cstate := .redispatch }
         else conStep cfg g) := by
  split
  · exact hi
  · split
    · exact ⟨fun h => (by cases h), fun h => (by cases h), fun h => (by cases h),
             fun _ h => (by rcases h with h | h <;> cases h), hi.cerrSent⟩
    · obtain ⟨ho, hc⟩ := hact (by cases idle <;> simp_all)
      exact inv_conStep cfg st g hi hf ho hc

theorem inv_onData (cfg : Cfg) (st : St) (seg : Bytes) (hi : Inv st) : Inv (onData cfg st seg) := by
  refine inv_event cfg st _ _ hi (frame_gwRecvData cfg st seg) fun h => ?_
  cases ho : st.open_ <;> cases hc : st.cstate <;> simp [ho, hc] at h ⊢

theorem inv_onEnd (cfg : Cfg) (st : St) (e : End) (hi : Inv st) : Inv (onEnd cfg st e) := by
  refine inv_event cfg st _ _ hi (frame_gwRecvEnd cfg st e) fun h => ?_
  cases ho : st.open_ <;> cases hc : st.cstate <;> simp [ho, hc] at h ⊢

theorem inv_reach (cfg : Cfg) (segs : List Bytes) : ∀ st : St, Inv st → Inv (segs.foldl (onData cfg) st) :=
  fun st h => foldl_inv Inv (onData cfg) segs st h fun st seg => inv_onData cfg st seg

/-! ## when the backend stream breaks: own error response, abort -/

/-- what http_chunk_close() may add: the last-chunk of a body that lighttpd chunk-encodes itself -/
def ownLastChunk (st : St) : Bytes := if st.sendChunked && st.dc.isNone then ofString "0\r\n\r\n" else []

theorem chunkClose_proj (st : St) :
    (chunkClose st).wq = st.wq ++ ownLastChunk st ∧ (chunkClose st).evs = st.evs ∧
    (chunkClose st).cstate = st.cstate ∧ (chunkClose st).open_ = st.open_ ∧ (chunkClose st).cerr = st.cerr ∧
    ((chunkClose st).keepAlive = true → st.keepAlive = true) := by
  unfold chunkClose ownLastChunk
  cases hs : st.sendChunked <;> cases hd : st.dc <;> simp [hs, hd]
  split <;> simp

theorem ownLastChunk_nil (st : St) (h : st.sendChunked = true → st.dc.isSome = true) : ownLastChunk st = [] := by
  unfold ownLastChunk
  cases hs : st.sendChunked <;> cases hd : st.dc <;> simp_all

theorem chunkClose_noappend (st : St) (h : st.sendChunked = true → st.dc.isSome = true) :
    (chunkClose st).wq = st.wq ∧ (chunkClose st).evs = st.evs ∧ (chunkClose st).cstate = st.cstate ∧
    (chunkClose st).open_ = st.open_ ∧ (chunkClose st).cerr = st.cerr ∧
    ((chunkClose st).keepAlive = true → st.keepAlive = true) := by
  have hp := chunkClose_proj st
  rwa [ownLastChunk_nil st h, List.append_nil] at hp

/-- lighttpd answered with its own complete error response of that status (HTTP/1.x); the fields are
    pinned down (`errFields`) only for a request other than HEAD -/
def OwnError (cfg : Cfg) (st st' : St) (status : Nat) : Prop :=
  st'.status = status ∧ st'.cstate = .done ∧ st'.keepAlive = st.keepAlive ∧
  (∃ fields, st'.evs = pushW st.evs
      (h1StatusLine cfg status ++ fields ++ crlf ++ crlf ++ (if cfg.head then [] else errorPage status))) ∧
  (cfg.head = false → st'.evs = pushW st.evs
      (h1StatusLine cfg status ++ errFields cfg status st.keepAlive ++ crlf ++ crlf ++ errorPage status))

theorem ownError_conStep (cfg : Cfg) (st st1 : St) (status : Nat) (hv : cfg.ver ≤ 1) (hc : st1.cstate = .handle)
    (ho : st1.open_ = false) (hh : st1.handler = false) (hs : st1.status = status)
    (h5 : status = 500 ∨ status = 502) (hk : st1.keepAlive = st.keepAlive) (he : st1.evs = st.evs) :
    OwnError cfg st (conStep cfg st1) status := by
  subst hs
  have h4 : 400 ≤ st1.status := by rcases h5 with h | h <;> omega
  have h6 : st1.status < 600 := by rcases h5 with h | h <;> omega
  have h401 : st1.status ≠ 401 := by rcases h5 with h | h <;> omega
  have w := writePrepare_errdoc cfg st1 hh h4 h6
  have hstart : conStep cfg st1 = startResponse cfg st1 := by
    unfold conStep
    simp [hc, handlerStarts, subrequestWaits, ho]
  obtain ⟨rdone, rstatus, rka, revs⟩ := startResponse_h1_finished cfg st1 hv (by omega) w.finished
  rw [hstart]
  refine ⟨by rw [rstatus, w.status], rdone, by rw [rka, w.keepAlive, hk],
          ⟨_, by rw [revs, w.status, w.wq, w.evs, he]⟩, fun hhead => ?_⟩
  rw [revs, w.status, w.wq, w.evs, he, ← hk, errFields, h1HeaderSet, h1HeaderSet,
    writePrepare_errdoc_headers cfg st1 hh h4 h6 h401 hhead, w.keepAlive, w.status]
  simp [hhead]

theorem ownError_conStep_h2 (cfg : Cfg) (st st1 : St) (status : Nat) (hv : cfg.ver ≥ 2) (hc : st1.cstate = .handle)
    (ho : st1.open_ = false) (hh : st1.handler = false) (hs : st1.status = status)
    (h5 : status = 500 ∨ status = 502) (he : st1.evs = st.evs) (hce : st1.cerr = false) :
    (conStep cfg st1).status = status ∧ (conStep cfg st1).cstate = .done ∧
    ∃ fields, (conStep cfg st1).evs =
      pushW (st.evs ++ [.hdrs status fields]) (if cfg.head then [] else errorPage status) ++ [.endStream] := by
  subst hs
  have w := writePrepare_errdoc cfg st1 hh (by omega) (by omega)
  have hce2 : (writePrepare cfg st1).cerr = false := by rw [(wprel_writePrepare cfg st1).cerr, hce]
  have hstart : conStep cfg st1 = startResponse cfg st1 := by
    unfold conStep
    simp [hc, handlerStarts, subrequestWaits, ho]
  have hs0 : ¬ st1.status = 0 := by omega
  rw [hstart]
  unfold startResponse
  simp only [hs0, if_false, hv, if_true]
  unfold h2Progress
  simp [hce2, w.finished, flush, endStreamEv, w.dc, w.status, w.wq, w.evs, he]
  exact ⟨_, rfl⟩

/-- the core of `c10_truncated_after_head_closes` -/
theorem abort_of_gwClose_truncated (cfg : Cfg) (st : St) (hv : cfg.ver ≤ 1) (hc : st.cstate = .write)
    (hh : st.handler = true) (hf : st.finished = false) (hsent : st.hdrSent = true)
    (ht : bodyTruncated cfg st = true) :
    (conStep cfg (gwClose cfg st)).keepAlive = false ∧ (conStep cfg (gwClose cfg st)).cstate = .done ∧
    (conStep cfg (gwClose cfg st)).evs = pushW st.evs (st.wq ++ (if cfg.ver = 1 then ownLastChunk st else [])) := by
  have hv2 : ¬ (cfg.ver ≥ 2) := by omega
  rw [gwClose_handler cfg st hh, backendDone_truncated_sent cfg { st with open_ := false } hc hf hsent ht]
  generalize hst2 : ({ st with open_ := false } : St) = st2
  obtain ⟨hwq, hevs, hcs, -, -, hka'⟩ := chunkClose_proj (backendAbort cfg st2)
  have hka : (chunkClose (backendAbort cfg st2)).keepAlive = false := by
    cases hk : (chunkClose (backendAbort cfg st2)).keepAlive
    · rfl
    · have := hka' hk; simp [backendAbort] at this
  have e1 : st2.cstate = .write := by rw [← hst2]; exact hc
  have e2 : st2.wq = st.wq := by rw [← hst2]
  have e3 : st2.evs = st.evs := by rw [← hst2]
  have e4 : ownLastChunk (backendAbort cfg st2) = ownLastChunk st := by rw [← hst2]; rfl
  by_cases h1 : cfg.ver = 1
  · simp only [h1, if_true]
    have c1 : (chunkClose (backendAbort cfg st2)).cstate = .write := by rw [hcs]; simp [backendAbort, e1]
    have c2 : (chunkClose (backendAbort cfg st2)).wq = st.wq ++ ownLastChunk st := by
      rw [hwq, e4]; simp [backendAbort, e2]
    have c3 : (chunkClose (backendAbort cfg st2)).evs = st.evs := by rw [hevs]; simp [backendAbort, e3]
    simp [conStep, c1, h1Progress, flush, c2, c3, hka, h1]
  · simp [h1, conStep, e1, e2, e3, backendAbort, hv2, h1Progress, flush]

/-- the state after the read in which the chunked decoder met a framing error -/
def dechunkErrSt (st : St) (d : DcSt) (data : Bytes) : St :=
  { st with
    wq := st.wq ++ (if st.sendChunked then [] else (dcFeed { d with out := [] } data).out),
    dc := some { (dcFeed { d with out := [] } data) with out := [] } }

theorem gwRecvData_dechunk_err (cfg : Cfg) (st : St) (d : DcSt) (data : Bytes) (hbe : cfg.be ≠ .fcgi)
    (hs : st.started = true) (hdec : st.decodeChunked = true) (hd : st.dc = some d) (hdd : st.dcDone = 0)
    (herr : (dcFeed { d with out := [] } data).mode = .err) :
    gwRecvData cfg st data = gwBackendError cfg (dechunkErrSt st d data) := by
  unfold dechunkErrSt
  cases st with
  | mk status started finished handler keepAlive headers scratch decodeChunked sendChunked dc dcDone trailerBuf wq
       hbuf fcgi fcgiSend open_ cstate hdrSent cerr evs =>
    simp only at hs hdec hd hdd herr
    subst hs hdec hd hdd
    unfold gwRecvData
    simp only [hbe, if_false]
    unfold readPlain
    simp only [Bool.not_true, Bool.false_eq_true, if_false]
    unfold appendMem
    simp only [if_true]
    unfold dechunkAppend
    simp only [ne_eq, not_true_eq_false, if_false, herr]
    cases sendChunked <;> simp

end LtVerif.BeResp
