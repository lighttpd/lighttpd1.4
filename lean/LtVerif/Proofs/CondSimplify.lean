/-
  C14: configparser_simplify_regex() / config_finalize()'s regex rebuild (Model/CondSimplify.lean):
  `Plain`, `Simplified`, `litRegex`, `regexText`.
-/
import LtVerif.Model.CondSimplify
namespace LtVerif.Cond
open LtVerif B

/-! ### which strings configparser_simplify_regex() rewrites -/

def Plain (d : Bytes) : Prop := ∀ x ∈ d, x ≠ 0 ∧ regexChars.contains x = false

theorem strcspn_plain_prefix (d t : Bytes) (h : strcspn (d ++ t) = d.length) : Plain d := by
  induction d with
  | nil => intro x hx; cases hx
  | cons c d ih =>
    simp only [List.cons_append, strcspn, List.length_cons] at h
    split at h
    · omega
    · rename_i hc
      have hd := ih (by omega)
      intro x hx
      rcases List.mem_cons.mp hx with rfl | hx
      · constructor
        · intro h0; exact hc (Or.inl h0)
        · cases hb : regexChars.contains x with
          | false => rfl
          | true => exact absurd (Or.inr hb) hc
      · exact hd x hx

theorem strcspn_plain (s t : Bytes) (hp : Plain s)
    (ht : t = [] ∨ ∃ m r, t = m :: r ∧ (m = 0 ∨ regexChars.contains m = true)) :
    strcspn (s ++ t) = s.length := by
  induction s with
  | nil =>
    rcases ht with rfl | ⟨m, r, rfl, hm⟩
    · rfl
    · simp only [List.nil_append, strcspn, hm, if_true, List.length_nil]
  | cons x s ih =>
    have hx := hp x (by simp)
    have hs : Plain s := fun y hy => hp y (by simp [hy])
    have : ¬ (x = 0 ∨ regexChars.contains x = true) := by
      rintro (h | h)
      · exact hx.1 h
      · rw [hx.2] at h; cases h
    simp only [List.cons_append, strcspn, this, if_false, ih hs, List.length_cons]

theorem strcspn_plain_dollar (s : Bytes) (hp : Plain s) : strcspn (s ++ [36]) = s.length :=
  strcspn_plain s [36] hp (Or.inr ⟨36, [], rfl, Or.inr (by decide)⟩)

/-- shapes recognised by configparser_simplify_regex() (94 `^`, 36 `$`, 92 `\`, 46 `.`) -/
inductive Simplified : Bytes → CondOp → Bytes → Prop
  | pre (s : Bytes) : Plain s → Simplified (94 :: s) .prefix_ s                          -- `^lit`
  | exact (s : Bytes) : Plain s → Simplified (94 :: s ++ [36]) .eq s                     -- `^lit$`
  | suf (s : Bytes) : Plain s → Simplified (s ++ [36]) .suffix s                         -- `lit$`
  | ext (s : Bytes) : Plain s → Simplified (92 :: 46 :: s ++ [36]) .suffix (46 :: s)     -- `\.lit$`

theorem plain_no_dollar_last (s : Bytes) (hp : Plain s) (a : UInt8) (ha : a ≠ 36) :
    (a :: s).getLast? ≠ some 36 := by
  intro h
  rcases List.mem_cons.mp (List.mem_of_getLast? h) with h1 | h1
  · exact ha h1.symm
  · exact absurd (hp 36 h1).2 (by decide)

theorem plain_dollar_ne_cons {s r : Bytes} (hp : Plain s) {a : UInt8}
    (ha : regexChars.contains a = true) (h36 : a ≠ 36) : s ++ [36] ≠ a :: r := by
  intro h
  cases s with
  | nil => exact h36 (List.cons.inj h).1.symm
  | cons x s =>
    have hx := (hp x (by simp)).2
    rw [(List.cons.inj h).1, ha] at hx
    cases hx

theorem simplifyRegex_pre (s : Bytes) (hp : Plain s) : simplifyRegex (94 :: s) = (.prefix_, s) := by
  unfold simplifyRegex
  rw [if_neg (plain_no_dollar_last s hp 94 (by decide))]
  have h1 : strcspn s = s.length := by simpa using strcspn_plain s [] hp (Or.inl rfl)
  split
  · rename_i r hb
    obtain rfl : s = r := (List.cons.inj hb).2
    simp [simplifyTail, h1]
  · rename_i hb
    exact absurd rfl (hb s)

theorem simplifyRegex_exact (s : Bytes) (hp : Plain s) :
    simplifyRegex (94 :: s ++ [36]) = (.eq, s) := by
  unfold simplifyRegex
  rw [if_pos List.getLast?_concat]
  split
  · rename_i r hb
    simp at hb
  · simp [simplifyTail, strcspn_plain_dollar s hp]
  · rename_i h2 h3
    exact absurd rfl (h3 (s ++ [36]))

theorem simplifyRegex_ext (s : Bytes) (hp : Plain s) :
    simplifyRegex (92 :: 46 :: s ++ [36]) = (.suffix, 46 :: s) := by
  unfold simplifyRegex
  rw [if_pos List.getLast?_concat]
  split
  · simp [simplifyTail, strcspn_plain_dollar s hp]
  · rename_i r hb
    simp at hb
  · rename_i h2 h3
    exact absurd rfl (h2 (s ++ [36]))

theorem simplifyRegex_suf (s : Bytes) (hp : Plain s) :
    simplifyRegex (s ++ [36]) = (.suffix, s) := by
  unfold simplifyRegex
  rw [if_pos List.getLast?_concat]
  split
  · exact absurd ‹_› (plain_dollar_ne_cons hp (by decide) (by decide))
  · exact absurd ‹_› (plain_dollar_ne_cons hp (by decide) (by decide))
  · simp [simplifyTail, strcspn_plain_dollar s hp]

theorem simplifyTail_plain {b d post s : Bytes} {off len : Nat} {cond c : CondOp}
    (h : simplifyTail b off cond len = (c, s)) (hc : c ≠ .match_) (hb : b.drop off = d ++ post)
    (hlen : len - off = d.length) : Plain d := by
  refine strcspn_plain_prefix d post ?_
  unfold simplifyTail at h
  split at h
  · exact absurd (Prod.mk.inj h).1.symm hc
  · rw [← hb, ← hlen]; exact Decidable.not_not.mp ‹_›

/-- the `strcspn` test passed gives `Plain` for the middle part; the matching lemma above then
    fixes `(c, s)` (hence the copy `h0` of the hypothesis) -/
theorem simplifyRegex_shape (b : Bytes) (c : CondOp) (s : Bytes)
    (h : simplifyRegex b = (c, s)) (hc : c ≠ .match_) : Simplified b c s := by
  have h0 := h
  unfold simplifyRegex at h
  split at h
  · obtain ⟨d, rfl⟩ := List.getLast?_eq_some_iff.mp ‹_›
    split at h
    · -- "\\.…$"
      rename_i r hb
      obtain ⟨d', rfl⟩ : ∃ d', d = 92 :: 46 :: d' := by
        match d, hb with
        | [], hb => simp at hb
        | [x], hb => simp at hb
        | x :: y :: d', hb =>
          simp only [List.cons_append, List.cons.injEq] at hb
          exact ⟨d', by rw [hb.1, hb.2.1]⟩
      have hp := simplifyTail_plain h hc (d := d') (post := [36]) rfl (by simp)
      rw [simplifyRegex_ext d' hp] at h0
      cases h0
      exact .ext _ hp
    · -- "^…$"
      rename_i r hb
      obtain ⟨d', rfl⟩ : ∃ d', d = 94 :: d' := by
        match d, hb with
        | [], hb => simp at hb
        | x :: d', hb =>
          simp only [List.cons_append, List.cons.injEq] at hb
          exact ⟨d', by rw [hb.1]⟩
      have hp := simplifyTail_plain h hc (d := d') (post := [36]) rfl (by simp)
      rw [simplifyRegex_exact d' hp] at h0
      cases h0
      exact .exact _ hp
    · -- "…$"
      have hp := simplifyTail_plain h hc (d := d) (post := [36]) rfl (by simp)
      rw [simplifyRegex_suf d hp] at h0
      cases h0
      exact .suf _ hp
  · split at h
    · rename_i r _
      have hp := simplifyTail_plain h hc (d := r) (post := []) (by simp) (by simp)
      rw [simplifyRegex_pre r hp] at h0
      cases h0
      exact .pre _ hp
    · exact absurd (Prod.mk.inj h).1.symm hc

/-! ### the stored condition as a match of an anchored literal -/

def litRegex (bol : Bool) (body : Bytes) (eol : Bool) : Regex :=
  ⟨bol, body.map fun c => (Atom.lit c, Quant.one), eol⟩

/-- the text of `litRegex bol body eol` -/
def regexText (bol : Bool) (body : Bytes) (eol : Bool) : Bytes :=
  (if bol then [94] else []) ++
  body.flatMap (fun c => if regexChars.contains c then [92, c] else [c]) ++
  (if eol then [36] else [])

theorem flatMap_plain (d : Bytes) (h : Plain d) :
    d.flatMap (fun c => if regexChars.contains c then [92, c] else [c]) = d := by
  induction d with
  | nil => rfl
  | cons c d ih =>
    have hc := (h c (by simp)).2
    have hd : Plain d := fun x hx => h x (by simp [hx])
    simp only [List.flatMap_cons]
    rw [ih hd, hc]
    simp

theorem matchHere_lits (s : Bytes) (eol : Bool) (l : Bytes) :
    matchHere (s.map fun c => (Atom.lit c, Quant.one)) eol l =
      (if eol then l == s else s.isPrefixOf l) := by
  induction s generalizing l with
  | nil =>
    cases eol <;> cases l <;> simp [matchHere]
  | cons c s ih =>
    cases l with
    | nil => cases eol <;> simp [matchHere]
    | cons x l =>
      simp only [List.map_cons, matchHere, ih, Atom.ok]
      cases eol
      · simp only [Bool.false_eq_true, if_false, List.isPrefixOf]
        rw [Bool.beq_comm]
      · simp only [if_true]
        rw [List.cons_beq_cons]

theorem anyTail_iff (p : Bytes → Bool) (l : Bytes) :
    anyTail p l = true ↔ ∃ t, t <:+ l ∧ p t = true := by
  induction l with
  | nil =>
    simp only [anyTail]
    constructor
    · intro h; exact ⟨[], List.suffix_refl _, h⟩
    · rintro ⟨t, ht, hp⟩
      have : t = [] := List.suffix_nil.mp ht
      rw [this] at hp; exact hp
  | cons c s ih =>
    simp only [anyTail, Bool.or_eq_true, ih]
    constructor
    · rintro (h | ⟨t, ht, hp⟩)
      · exact ⟨c :: s, List.suffix_refl _, h⟩
      · exact ⟨t, List.suffix_cons_iff.mpr (Or.inr ht), hp⟩
    · rintro ⟨t, ht, hp⟩
      rcases List.suffix_cons_iff.mp ht with rfl | ht
      · exact Or.inl hp
      · exact Or.inr ⟨t, ht, hp⟩

theorem anyTail_beq (s l : Bytes) : anyTail (fun t => t == s) l = s.isSuffixOf l := by
  rw [Bool.eq_iff_iff, anyTail_iff, List.isSuffixOf_iff_suffix]
  constructor
  · rintro ⟨t, ht, hp⟩
    have : t = s := by simpa using hp
    exact this ▸ ht
  · intro h; exact ⟨s, h, by simp⟩

theorem litRegex_matches (bol : Bool) (body : Bytes) (eol : Bool) (l : Bytes) :
    (litRegex bol body eol).matches l =
      (if bol then (if eol then l == body else body.isPrefixOf l)
       else (if eol then body.isSuffixOf l else anyTail (fun t => body.isPrefixOf t) l)) := by
  cases bol <;> cases eol <;> simp only [litRegex, Regex.matches, Bool.false_eq_true, if_false, if_true]
  · congr 1; funext t; simpa using matchHere_lits body false t
  · rw [← anyTail_beq]; congr 1; funext t; simpa using matchHere_lits body true t
  · simpa using matchHere_lits body false l
  · simpa using matchHere_lits body true l

/-- `c ≠ .suffix`, `c ≠ .prefix_` are `decide`d into `Bool`: `^` unless `=$`, `$` unless `=^` -/
theorem Simplified.text {b : Bytes} {c : CondOp} {s : Bytes} (h : Simplified b c s) :
    (c = .prefix_ ∨ c = .suffix ∨ c = .eq) ∧ (∀ x ∈ s, x ≠ 0) ∧
      b = regexText (c ≠ .suffix) s (c ≠ .prefix_) := by
  cases h with
  | ext s hp =>
    -- the stored `.` is written back as `\.`
    refine ⟨.inr (.inl rfl), fun x hx => ?_, by
      rw [regexText, List.flatMap_cons, flatMap_plain s hp]; simp [regexChars]⟩
    rcases List.mem_cons.mp hx with rfl | hx
    · decide
    · exact (hp x hx).1
  | pre s hp | exact s hp | suf s hp =>
    exact ⟨by simp, fun x hx => (hp x hx).1, by rw [regexText, flatMap_plain s hp]; simp⟩

theorem evalLocal_literal (nd : Node) (e : Env) (hu : nd.comp ≠ .unset)
    (hc : nd.cond = .prefix_ ∨ nd.cond = .suffix ∨
      (nd.cond = .eq ∧ nd.comp ≠ .host ∧ nd.comp ≠ .remoteIp)) :
    evalLocal nd e =
      (litRegex (nd.cond ≠ .suffix) nd.str (nd.cond ≠ .prefix_)).matches (attr nd e) := by
  rw [litRegex_matches]
  -- `==`: only off host and remoteip is `eqLike` the plain `l == nd.str`
  rcases hc with h | h | ⟨h, h1, h2⟩ <;> simp [evalLocal, eqLike, *]

end LtVerif.Cond
