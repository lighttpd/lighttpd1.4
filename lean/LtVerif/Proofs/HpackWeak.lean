/-
  HPACK (C07), the round trip: the reference encoder against lshpack's decoder.  Whatever a peer
  encodes, the decoder returns exactly that list and ends with the encoder's table, or reports an
  error — and then some field does not fit the buffer.  One statement per layer carries both halves
  (`decodeItem_encodeFieldCore`, `decodeBlock_encodeBlock`, `recvConn_encodeConn`).  At the end the
  items the decoder refuses (`decodeItem_bad_index` … `decodeItem_nameRef_noValue`), which
  `decodeBlock_prefix_then_error` puts behind any valid prefix.
-/
import LtVerif.Proofs.Hpack
namespace LtVerif.Hpack
open LtVerif B

/-- `ok`: the caller's fits-the-buffer condition, which an error refutes -/
def ItemGood (r : ItemRes) (h : Header) (rest : Bytes) (t' : Table) (ok : Prop) : Prop :=
  (∃ f d', r = .fld f rest d' ∧ f.header = h ∧ d'.tbl = t') ∨ ((∃ e d', r = .err e d') ∧ ¬ ok)

theorem ItemGood.mono {r : ItemRes} {h : Header} {rest : Bytes} {t' : Table} {ok ok' : Prop}
    (hg : ItemGood r h rest t' ok) (himp : ok' → ok) : ItemGood r h rest t' ok' :=
  hg.imp_right fun ⟨he, hno⟩ => ⟨he, fun h' => hno (himp h')⟩

theorem decodeValue_good (cap : Nat) (d : Dec) (kind : Kind) (n v : Bytes) (hint : Nat)
    (huff : Bool) (rest : Bytes) :
    ItemGood (decodeValue cap d kind n hint (encStr huff v ++ rest)) (n, v) rest
      (if kind = .incr then d.tbl.push (n, v) else d.tbl) (n.length + v.length < cap ∧ cap ≤ 2 ^ 28) := by
  unfold decodeValue
  rw [if_neg (by simp [encStr_ne_nil])]
  rcases decStr_encStr_cases (cap - n.length) huff v rest with h | ⟨⟨e, h⟩, hno⟩
  · rw [h]
    exact .inl ⟨_, _, rfl, rfl, by split <;> rfl⟩
  · rw [h]
    exact .inr ⟨⟨e, d, rfl⟩, fun hok => hno ⟨by omega, by omega⟩⟩

theorem refItem_good (cap : Nat) (d : Dec) (kind : Kind) (n v0 v : Bytes) (hint : Nat) (huff : Bool)
    (rest : Bytes) (hk : kind ≠ .indexed) :
    ItemGood (refItem cap d kind (encStr huff v ++ rest) (some ((n, v0), hint))) (n, v) rest
      (if kind = .incr then d.tbl.push (n, v) else d.tbl) (n.length + v.length < cap ∧ cap ≤ 2 ^ 28) := by
  simp only [refItem]
  by_cases h1 : cap < n.length
  · rw [if_pos h1]; exact .inr ⟨⟨_, d, rfl⟩, by omega⟩
  · rw [if_neg h1, if_neg hk]; exact decodeValue_good cap d kind n v hint huff rest

theorem refItem_indexed_good (cap : Nat) (d : Dec) (n v : Bytes) (hint : Nat) (rest : Bytes) :
    ItemGood (refItem cap d .indexed rest (some ((n, v), hint))) (n, v) rest d.tbl
      (n.length + v.length < cap) := by
  simp only [refItem]
  by_cases h1 : cap < n.length
  · rw [if_pos h1]; exact .inr ⟨⟨_, d, rfl⟩, by omega⟩
  · rw [if_neg h1, if_pos trivial]
    by_cases h2 : cap - n.length < v.length
    · rw [if_pos h2]; exact .inr ⟨⟨_, d, rfl⟩, by omega⟩
    · rw [if_neg h2]; exact .inl ⟨_, _, rfl, rfl, rfl⟩

theorem litItem_good (cap : Nat) (d : Dec) (kind : Kind) (n v : Bytes) (hn hv : Bool) (rest : Bytes)
    (hk : kind ≠ .indexed) :
    ItemGood (litItem cap d kind (encStr hn n ++ (encStr hv v ++ rest))) (n, v) rest
      (if kind = .incr then d.tbl.push (n, v) else d.tbl) (HeaderOk cap (n, v) ∧ cap ≤ 2 ^ 28) := by
  unfold litItem
  rw [if_neg hk, if_neg (by simp [encStr_ne_nil])]
  rcases decStr_encStr_cases cap hn n (encStr hv v ++ rest) with h | ⟨⟨e, h⟩, hno⟩
  · rw [h]
    by_cases hnn : n = []
    · simp only [hnn, if_true]
      exact .inr ⟨⟨_, d, rfl⟩, fun hok => hok.1.name_ne rfl⟩
    · simp only [hnn, if_false]
      exact (decodeValue_good cap d kind n v 0 hv rest).mono fun hok => ⟨hok.1.fits, hok.2⟩
  · rw [h]
    exact .inr ⟨⟨_, d, rfl⟩, fun hok => hno ⟨by have := hok.1.fits; simp only at this; omega, hok.2⟩⟩

theorem decodeItem_literal_good {kind : Kind} {pbits flag : Nat} (hr : FirstOctet kind pbits flag)
    (hk : kind ≠ .indexed) (cap : Nat) (d : Dec) (nameRef : Nat) (n v : Bytes) (hn hv : Bool)
    (rest : Bytes) (hwf : d.tbl.WF) (hnr : nameRef ≠ 0 → ∃ v0, d.tbl.lookup nameRef = some (n, v0)) :
    ItemGood (decodeItem cap d ((if nameRef ≠ 0 then encInt pbits flag nameRef
        else flag.toUInt8 :: encStr hn n) ++ encStr hv v ++ rest)) (n, v) rest
      (if kind = .incr then d.tbl.push (n, v) else d.tbl) (HeaderOk cap (n, v) ∧ cap ≤ 2 ^ 28) := by
  by_cases h0 : nameRef = 0
  · simp only [h0, ne_eq, not_true_eq_false, if_false, List.cons_append, List.append_assoc]
    rw [decodeItem_flag hr]
    exact litItem_good cap d kind n v hn hv rest hk
  · obtain ⟨v0, hl⟩ := hnr h0
    obtain ⟨_, hlt⟩ := Table.lookup_lt hwf hl
    obtain ⟨hint, hdl⟩ := d.lookup_of_tbl hl
    simp only [h0, ne_eq, not_false_eq_true, if_true, List.append_assoc]
    rw [decodeItem_encInt hr cap d nameRef _ (by omega)]
    simp only [fldItem, h0, if_false, hdl]
    exact (refItem_good cap d kind n v0 v hint hv rest hk).mono fun hok => ⟨hok.1.fits, hok.2⟩

theorem decodeItem_encodeFieldCore (cap : Nat) (d : Dec) (c : Choice) (h : Header) (rest : Bytes)
    (hwf : d.tbl.WF) :
    ItemGood (decodeItem cap d ((encodeFieldCore d.tbl c h).1 ++ rest)) h rest
      (encodeFieldCore d.tbl c h).2 (HeaderOk cap h ∧ cap ≤ 2 ^ 28) := by
  obtain ⟨n, v⟩ := h
  unfold encodeFieldCore
  by_cases hix : c.mode = .indexed ∧ d.tbl.lookup c.idx = some (n, v)
  · obtain ⟨hpos, hlt⟩ := Table.lookup_lt hwf hix.2
    obtain ⟨hint, hdl⟩ := d.lookup_of_tbl hix.2
    simp only [hix, and_self, if_true]
    rw [decodeItem_encInt FirstOctet.indexed cap d c.idx rest (by omega)]
    simp only [fldItem, Nat.ne_of_gt hpos, if_false, hdl]
    exact (refItem_indexed_good cap d n v hint rest).mono fun hok => hok.1.fits
  · simp only [hix, if_false]
    have hnr : (if (d.tbl.lookup c.idx).map (·.1) = some n then c.idx else 0) ≠ 0 →
        ∃ v0, d.tbl.lookup (if (d.tbl.lookup c.idx).map (·.1) = some n then c.idx else 0) = some (n, v0) := by
      split
      · rename_i hm
        obtain ⟨⟨n', v0⟩, hl, hn'⟩ := Option.map_eq_some_iff.mp hm
        simp only at hn'; subst hn'
        exact fun _ => ⟨v0, hl⟩
      · exact fun h => absurd rfl h
    cases hm : c.mode with
    | incr => exact decodeItem_literal_good FirstOctet.incr (by decide) cap d _ n v _ _ rest hwf hnr
    | never => exact decodeItem_literal_good FirstOctet.never (by decide) cap d _ n v _ _ rest hwf hnr
    | without | indexed =>
      exact decodeItem_literal_good FirstOctet.without (by decide) cap d _ n v _ _ rest hwf hnr

theorem encodeFieldCore_ne_nil (t : Table) (c : Choice) (h : Header) (rest : Bytes) :
    (encodeFieldCore t c h).1 ++ rest ≠ [] := by
  unfold encodeFieldCore
  split
  · simp [encInt_ne_nil 7 128 _ (by decide)]
  · simp [encStr_ne_nil]

theorem decodeItem_update_ok (cap : Nat) (d : Dec) (n : Nat) (rest : Bytes)
    (hn : n ≤ d.tbl.maxCap) (hmax : d.tbl.maxCap < 2 ^ 32) (hrest : rest ≠ []) :
    decodeItem cap d (encInt 5 32 n ++ rest) = .upd rest (d.updateMax n) := by
  rw [decodeItem_update cap d n rest (by omega)]
  simp only [updItem, Nat.not_lt.mpr hn, if_false, hrest]

/-- `rest ≠ []`: a size update that ends the block is an error -/
theorem decodeBlock_resize (cap : Nat) : ∀ (rs : List Nat) (d : Dec) (rest : Bytes),
    d.tbl.WF → rest ≠ [] →
    ∃ d', d'.tbl = (encResize d.tbl rs).2 ∧ d'.tbl.WF ∧
      decodeBlock cap d ((encResize d.tbl rs).1 ++ rest) = decodeBlock cap d' rest := by
  intro rs
  induction rs with
  | nil => intro d rest hwf _; exact ⟨d, rfl, hwf, by simp [encResize]⟩
  | cons n ns ih =>
    intro d rest hwf hrest
    have hle : min n d.tbl.maxCap ≤ d.tbl.maxCap := Nat.min_le_right _ _
    obtain ⟨d', ht, hwf', hrec⟩ := ih (d.updateMax (min n d.tbl.maxCap)) rest (hwf.updateMax _ hle) hrest
    refine ⟨d', by rw [ht]; rfl, hwf', ?_⟩
    simp only [encResize, List.append_assoc]
    rw [decodeBlock_step cap d _ (by simp [encInt_ne_nil 5 32 _ (by decide)]),
      decodeItem_update_ok cap d _ _ hle hwf.max_lt (by simp [hrest])]
    exact hrec

/-- `tail` is arbitrary: with `tail = []` this is the round trip, with an invalid item in
    `tail` it is "valid prefix, then the error" -/
theorem decodeBlock_encodeBlock (cap : Nat) :
    ∀ (hs : List Header) (cs : List Choice) (d : Dec) (tail : Bytes), d.tbl.WF →
    (∃ (fs : List Field) (d' : Dec),
      decodeBlock cap d ((encodeBlock d.tbl cs hs).1 ++ tail) = (decodeBlock cap d' tail).pre fs ∧
      fs.map Field.header = hs ∧ d'.tbl = (encodeBlock d.tbl cs hs).2) ∨
    ((∃ e, (decodeBlock cap d ((encodeBlock d.tbl cs hs).1 ++ tail)).err = some e) ∧
      ¬ ((∀ h ∈ hs, HeaderOk cap h) ∧ cap ≤ 2 ^ 28)) := by
  intro hs
  induction hs with
  | nil => intro cs d tail hwf; exact .inl ⟨[], d, rfl, rfl, rfl⟩
  | cons h hs ih =>
    intro cs d tail hwf
    simp only [encodeBlock, encodeField, List.append_assoc]
    generalize cs.headD {} = c
    obtain ⟨d1, ht1, hwf1, hres⟩ := decodeBlock_resize cap c.resize d _ hwf
      (encodeFieldCore_ne_nil (encResize d.tbl c.resize).2 c h
        ((encodeBlock (encodeFieldCore (encResize d.tbl c.resize).2 c h).2 cs.tail hs).1 ++ tail))
    rw [hres, ← ht1, decodeBlock_step cap d1 _ (encodeFieldCore_ne_nil _ _ _ _)]
    rcases decodeItem_encodeFieldCore cap d1 c h
      ((encodeBlock (encodeFieldCore d1.tbl c h).2 cs.tail hs).1 ++ tail) hwf1
      with ⟨f, d2, hd, hfh, ht2⟩ | ⟨⟨e, d', hd⟩, hno⟩
    · have hwf2 : d2.tbl.WF := by rw [ht2]; exact encodeFieldCore_WF _ _ _ hwf1
      rw [hd]
      simp only
      rw [← ht2]
      rcases ih cs.tail d2 tail hwf2 with ⟨fs, d3, hrec, hmap, ht3⟩ | ⟨⟨e, he⟩, hno⟩
      · exact .inl ⟨f :: fs, d3, by simp [hrec, BlockRes.pre], by simp [hmap, hfh], ht3⟩
      · exact .inr ⟨⟨e, he⟩, fun hok => hno ⟨fun x hx => hok.1 x (by simp [hx]), hok.2⟩⟩
    · rw [hd]
      exact .inr ⟨⟨e, rfl⟩, fun hok => hno ⟨hok.1 h (by simp), hok.2⟩⟩

theorem decodeBlock_encodeBlock_cases (cap : Nat) (d : Dec) (cs : List Choice) (hs : List Header)
    (hwf : d.tbl.WF) :
    let r := decodeBlock cap d (encodeBlock d.tbl cs hs).1
    (r.err = none ∧ r.fields.map Field.header = hs ∧ r.dec.tbl = (encodeBlock d.tbl cs hs).2) ∨
    ((∃ e, r.err = some e) ∧ ¬ ((∀ h ∈ hs, HeaderOk cap h) ∧ cap ≤ 2 ^ 28)) := by
  have h := decodeBlock_encodeBlock cap hs cs d [] hwf
  rw [List.append_nil] at h
  rcases h with ⟨fs, d', hrun, hmap, ht⟩ | h
  · rw [hrun]
    exact .inl ⟨rfl, by simpa [BlockRes.pre, decodeBlock, decodeBlockAux] using hmap, ht⟩
  · exact .inr h

theorem decodeBlock_encodeBlock_weak (cap : Nat) (d : Dec) (cs : List Choice) (hs : List Header)
    (hwf : d.tbl.WF) :
    let r := decodeBlock cap d (encodeBlock d.tbl cs hs).1
    r.err = none → r.fields.map Field.header = hs ∧ r.dec.tbl = (encodeBlock d.tbl cs hs).2 := by
  intro r herr
  rcases decodeBlock_encodeBlock_cases cap d cs hs hwf with h | ⟨⟨e, he⟩, _⟩
  · exact h.2
  · rw [herr] at he; cases he

theorem decodeBlock_prefix_then_error (cap : Nat) (hcap : cap ≤ 2 ^ 28) (d : Dec) (cs : List Choice)
    (hs : List Header) (bad : Bytes) (e : Err) (hwf : d.tbl.WF) (hok : ∀ h ∈ hs, HeaderOk cap h)
    (hbad : bad ≠ [])
    (hitem : ∀ d' : Dec, d'.tbl = (encodeBlock d.tbl cs hs).2 → decodeItem cap d' bad = .err e d') :
    (decodeBlock cap d ((encodeBlock d.tbl cs hs).1 ++ bad)).err = some e ∧
      (decodeBlock cap d ((encodeBlock d.tbl cs hs).1 ++ bad)).fields.map Field.header = hs := by
  obtain ⟨fs, d', hrun, hmap, ht⟩ :=
    (decodeBlock_encodeBlock cap hs cs d bad hwf).resolve_right fun h => h.2 ⟨hok, hcap⟩
  rw [hrun, decodeBlock_item_err cap d' d' bad e hbad (hitem d' ht)]
  simp [BlockRes.pre, hmap]

def ItemOk (cap : Nat) (it : ConnItem) : Prop := ∀ h ∈ it.hs, HeaderOk cap h

theorem recvConn_encodeConn (cap : Nat) : ∀ (items : List ConnItem) (d : Dec), d.tbl.WF →
    ((recvConn cap d (encodeConn d.tbl items).1).2.2 = true →
      (recvConn cap d (encodeConn d.tbl items).1).1.map (·.map Field.header) = servedLists items ∧
        (recvConn cap d (encodeConn d.tbl items).1).2.1.tbl = (encodeConn d.tbl items).2) ∧
    ((∀ it ∈ items, ItemOk cap it) → cap ≤ 2 ^ 28 →
      (recvConn cap d (encodeConn d.tbl items).1).2.2 = true) := by
  intro items
  induction items with
  | nil => intro d _; exact ⟨fun _ => ⟨rfl, rfl⟩, fun _ _ => rfl⟩
  | cons it items ih =>
    intro d hwf
    simp only [encodeConn, recvConn]
    rcases decodeBlock_encodeBlock_cases cap d it.cs it.hs hwf with ⟨herr, hm, ht⟩ | ⟨⟨e, he⟩, hno⟩
    · rw [herr]
      simp only
      rw [← ht]
      obtain ⟨ih1, ih2⟩ := ih _ (decodeBlock_WF cap d _ hwf)
      refine ⟨fun halive => ?_, fun hok hcap => ih2 (fun x hx => hok x (by simp [hx])) hcap⟩
      obtain ⟨ihm, iht⟩ := ih1 halive
      refine ⟨?_, iht⟩
      by_cases hdisp : it.disp = .serve
      · simp [servedLists, hdisp, hm, ihm]
      · simp [servedLists, hdisp, ihm]
    · rw [he]
      exact ⟨fun h => (by cases h), fun hok hcap => absurd ⟨hok it (by simp), hcap⟩ hno⟩

theorem decodeItem_bad_index (cap : Nat) (d : Dec) (idx : Nat) (rest : Bytes)
    (hidx : idx < 2 ^ 32) (hnone : d.tbl.lookup idx = none) :
    decodeItem cap d (encInt 7 128 idx ++ rest) = .err .badData d := by
  rw [decodeItem_encInt FirstOctet.indexed cap d idx rest hidx]
  simp only [fldItem, Dec.lookup, hnone, refItem, litItem, if_true, ite_self]

theorem decodeItem_oversize_update (cap : Nat) (d : Dec) (n : Nat) (rest : Bytes)
    (hn : n < 2 ^ 32) (hbig : d.tbl.maxCap < n) :
    decodeItem cap d (encInt 5 32 n ++ rest) = .err .badData d := by
  rw [decodeItem_update cap d n rest hn]
  simp only [updItem, hbig, if_true]

theorem FirstOctet.of_flag {flag : Nat} (hf : flag = 0 ∨ flag = 16 ∨ flag = 64) :
    ∃ kind pbits, FirstOctet kind pbits flag ∧ kind ≠ .indexed := by
  rcases hf with rfl | rfl | rfl
  · exact ⟨_, _, FirstOctet.without, by decide⟩
  · exact ⟨_, _, FirstOctet.never, by decide⟩
  · exact ⟨_, _, FirstOctet.incr, by decide⟩

theorem decodeItem_truncated_name (cap : Nat) (d : Dec) (flag huff len : Nat) (avail : Bytes)
    (hf : flag = 0 ∨ flag = 16 ∨ flag = 64) (hh : huff = 0 ∨ huff = 128)
    (hshort : avail.length < len) :
    decodeItem cap d (flag.toUInt8 :: (encInt 7 huff len ++ avail)) = .err .badData d := by
  obtain ⟨kind, pbits, hr, hk⟩ := FirstOctet.of_flag hf
  have hne : encInt 7 huff len ++ avail ≠ [] := by
    simp [encInt_ne_nil 7 huff len (by rcases hh with h | h <;> subst h <;> decide)]
  rw [decodeItem_flag hr]
  simp only [litItem, hk, if_false, hne, decStr_truncated cap huff len avail hh hshort]
  rfl

theorem decodeItem_literal_noValue (cap : Nat) (d : Dec) (flag : Nat) (n : Bytes) (hn : Bool)
    (hf : flag = 0 ∨ flag = 16 ∨ flag = 64) (hnn : n ≠ []) (hlen : n.length < cap)
    (hcap : cap ≤ 2 ^ 28) :
    decodeItem cap d (flag.toUInt8 :: encStr hn n) = .err .badData d := by
  obtain ⟨kind, pbits, hr, hk⟩ := FirstOctet.of_flag hf
  have hs := decStr_encStr cap hn n [] hlen hcap
  rw [List.append_nil] at hs
  rw [decodeItem_flag hr]
  simp only [litItem, hk, if_false, encStr_ne_nil, hs, hnn]
  exact decodeValue_nil cap d kind n 0

theorem decodeItem_nameRef_noValue {kind : Kind} {pbits flag : Nat} (hr : FirstOctet kind pbits flag)
    (hk : kind ≠ .indexed) (cap : Nat) (d : Dec) (idx : Nat) (n v0 : Bytes)
    (hwf : d.tbl.WF) (hl : d.tbl.lookup idx = some (n, v0)) (hfit : n.length ≤ cap) :
    decodeItem cap d (encInt pbits flag idx) = .err .badData d := by
  obtain ⟨hpos, hlt⟩ := Table.lookup_lt hwf hl
  obtain ⟨hint, hdl⟩ := d.lookup_of_tbl hl
  have := decodeItem_encInt hr cap d idx [] (by omega)
  rw [List.append_nil] at this
  rw [this]
  simp only [fldItem, Nat.ne_of_gt hpos, if_false, hdl, refItem, Nat.not_lt.mpr hfit, hk]
  exact decodeValue_nil cap d kind n hint

end LtVerif.Hpack
