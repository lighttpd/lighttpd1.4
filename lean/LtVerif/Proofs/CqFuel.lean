/-
  C17 — the iteration bounds (`fuel`) of the model's retry loops are never reached: every turn
  consumes a scripted write result, a byte of `len` or a chunk of the source (the C loops
  have no bound).
-/
import LtVerif.Proofs.CqSStep
namespace LtVerif.Cq

/-! ## one turn of chunkqueue_steal_with_tempfiles() -/

theorem gatherSrc_nil {c : Chunk} {rest : List Chunk} {slots len : Nat} (hc : c.isMem = true) (hs : 0 < slots)
    (hl : 0 < len) (h : (gatherSrc (c :: rest) slots len).length = 0) : c.rem = 0 := by
  cases c with
  | file fid off len t fd => cases hc
  | mem d off cap =>
    obtain ⟨s, rfl⟩ : ∃ s, slots = s + 1 := ⟨slots - 1, by omega⟩
    simp only [gatherSrc] at h
    simp only [Chunk.rem]
    split at h
    · simp only [List.length_take, List.length_drop] at h
      omega
    · simp only [List.length_append, List.length_take, List.length_drop] at h
      omega

theorem cqmem_progress {toTemp : World → Cq → World × Cq × Bool} (ht : ToTemp toTemp) (w : World) (dest : Cq)
    (c : Chunk) (rest : List Chunk) (len : Nat) (hc : c.isMem = true)
    (hrc : 0 ≤ (cqmemToTempfile toTemp w dest (c :: rest) len).rc) (hl : 0 < len) :
    (cqmemToTempfile toTemp w dest (c :: rest) len).w.wsched.length < w.wsched.length ∨
      0 < (cqmemToTempfile toTemp w dest (c :: rest) len).rc ∨ c.rem = 0 := by
  rcases (cqmem_sout ht w dest (c :: rest) len rfl).2.2 hc hrc with e | ⟨k, hk, e⟩
  · exact Or.inl e
  · by_cases h0 : (gatherSrc (c :: rest) k len).length = 0
    · exact Or.inr (Or.inr (gatherSrc_nil hc hk hl h0))
    · exact Or.inr (Or.inl (by omega))

/-- a MEM turn that is not the last one makes the loop's measure smaller -/
theorem swLoop_mem_turn {toTemp : World → Cq → World × Cq × Bool} (ht : ToTemp toTemp) {w : World}
    {dest src : Cq} {c : Chunk} {cs : List Chunk} {len : Nat} {r : SwOut}
    (hr : cqmemToTempfile toTemp w dest (c :: cs) len = r) (hsrc : src.chunks = c :: cs)
    (hc : c.isMem = true) (hrc : 0 ≤ r.rc) (hz : len - r.rc.toNat ≠ 0) :
    (markWritten r.w src r.rc.toNat).1.wsched.length + (markWritten r.w src r.rc.toNat).2.chunks.length +
      (len - r.rc.toNat) < w.wsched.length + src.chunks.length + len := by
  subst hr
  rw [markWritten_eq, hsrc]
  dsimp only
  have h1 := (mwLoop_same (cqmemToTempfile toTemp w dest (c :: cs) len).w (c :: cs)
    (cqmemToTempfile toTemp w dest (c :: cs) len).rc.toNat).calm.wlen
  have h2 := (cqmem_sout ht w dest (c :: cs) len rfl).1.res.calm.wlen
  have h3 := mwLoop_length (cqmemToTempfile toTemp w dest (c :: cs) len).w (c :: cs)
    (cqmemToTempfile toTemp w dest (c :: cs) len).rc.toNat
  simp only [List.length_cons] at h3 ⊢
  rcases cqmem_progress ht w dest c cs len hc hrc (by omega) with e | e | e
  · omega
  · omega
  · -- the empty first chunk is consumed
    have h4 : (mwLoop (cqmemToTempfile toTemp w dest (c :: cs) len).w (c :: cs)
        (cqmemToTempfile toTemp w dest (c :: cs) len).rc.toNat).2.length ≤ cs.length := by
      rw [mwLoop, if_pos (by omega)]
      exact mwLoop_length _ _ _
    omega

theorem swLoop_file_turn {w : World} {dest src : Cq} {c : Chunk} {cs : List Chunk} {len : Nat}
    (hsrc : src.chunks = c :: cs) (hz : len - min len c.rem ≠ 0) :
    (steal w dest src (min len c.rem)).2.2.chunks = cs ∧
      (steal w dest src (min len c.rem)).1.wsched.length + cs.length + (len - min len c.rem) <
        w.wsched.length + src.chunks.length + len := by
  have hle : c.rem ≤ len := by
    by_cases h : c.rem ≤ len
    · exact h
    · rw [Nat.min_eq_left (by omega)] at hz; omega
  have h1 := (steal_step w dest src (min len c.rem)).same.calm.wlen
  rw [hsrc]
  refine ⟨by rw [steal_head len hsrc, if_pos hle], ?_⟩
  simp only [List.length_cons]
  omega

/-! ## more fuel changes nothing -/

theorem swLoop_mono {toTemp : World → Cq → World × Cq × Bool} (ht : ToTemp toTemp) (fuel : Nat) (w : World)
    (dest src : Cq) (len : Nat) (hf : w.wsched.length + src.chunks.length + len + 1 ≤ fuel) :
    swLoop toTemp (fuel + 1) w dest src len = swLoop toTemp fuel w dest src len := by
  induction fuel generalizing w dest src len with
  | zero => omega
  | succ fuel ih =>
    conv => lhs; rw [swLoop]
    conv => rhs; rw [swLoop]
    cases hsrc : src.chunks with
    | nil => rfl
    | cons c cs =>
      dsimp only
      by_cases hc : c.isMem = true
      · simp only [hc, ↓reduceIte]
        by_cases hrc : (cqmemToTempfile toTemp w dest (c :: cs) len).rc < 0
        · simp only [hrc, ↓reduceIte]
        · simp only [hrc, ↓reduceIte]
          by_cases hz : len - (cqmemToTempfile toTemp w dest (c :: cs) len).rc.toNat = 0
          · simp only [hz, ↓reduceIte]
          · simp only [hz, ↓reduceIte]
            have := swLoop_mem_turn ht rfl hsrc hc (by omega) hz
            exact ih _ _ _ _ (by omega)
      · have hc' : c.isMem = false := by cases h : c.isMem <;> simp_all
        simp only [hc', Bool.false_eq_true, ↓reduceIte]
        by_cases hz : len - min len c.rem = 0
        · simp only [hz, ↓reduceIte]
        · simp only [hz, ↓reduceIte]
          obtain ⟨e, h⟩ := swLoop_file_turn (w := w) (dest := dest) hsrc hz
          exact ih _ _ _ _ (by rw [e]; omega)

theorem swLoop_fuel {toTemp : World → Cq → World × Cq × Bool} (ht : ToTemp toTemp) (fuel k : Nat) (w : World)
    (dest src : Cq) (len : Nat) (hf : w.wsched.length + src.chunks.length + len + 1 ≤ fuel) :
    swLoop toTemp (fuel + k) w dest src len = swLoop toTemp fuel w dest src len := by
  induction k with
  | zero => rfl
  | succ k ih => rw [← Nat.add_assoc, swLoop_mono ht (fuel + k) w dest src len (by omega), ih]

theorem mtLoop_mono (fuel : Nat) (w : World) (q : Cq) (d : Bytes) (hf : w.wsched.length + 1 ≤ fuel) :
    mtLoop (fuel + 1) w q d = mtLoop fuel w q d := by
  induction fuel generalizing w q d with
  | zero => omega
  | succ fuel ih =>
    conv => lhs; rw [mtLoop]
    conv => rhs; rw [mtLoop]
    have hg : (getAppendTempfile w q).1.wsched.length ≤ w.wsched.length :=
      (getAppendTempfile_sstep (w := w) (q := q) rfl).res.calm.wlen
    generalize getAppendTempfile w q = r at hg ⊢
    obtain ⟨w1, q1, ok⟩ := r
    simp only at hg
    cases ok with
    | false => rfl
    | true =>
      dsimp only
      by_cases hd : d.length = 0
      · simp only [hd, ↓reduceIte]
      · simp only [hd, ↓reduceIte]
        have hshrink : ∀ g, effFault q1 (popW w1).2 = g → g ≠ .ok → g ≠ .eio →
            (popW w1).1.wsched.length + 1 ≤ fuel := by
          intro g hg1 hg2 hg3
          have := popW_scripted hg1 hg2 hg3
          omega
        cases hef : effFault q1 (popW w1).2 with
        | ok => rfl
        | short n =>
          dsimp only
          by_cases hn : n ≥ d.length
          · simp only [hn, ↓reduceIte]
          · simp only [hn, ↓reduceIte]
            refine ih _ _ _ ?_
            rw [(writeLast_calm _ _ _).2]
            exact hshrink _ hef (by simp) (by simp)
        | eintr =>
          dsimp only
          exact ih _ _ _ (hshrink _ hef (by simp) (by simp))
        | enospc =>
          dsimp only
          have hc : (tempfileErr (popW w1).1 q1 true).1.wsched.length ≤ (popW w1).1.wsched.length :=
            (tempfileErr_step (popW w1).1 q1 true).res.calm.wlen
          generalize tempfileErr (popW w1).1 q1 true = r at hc ⊢
          obtain ⟨w2, q2, retry⟩ := r
          simp only at hc
          cases retry with
          | false => rfl
          | true =>
            dsimp only
            refine ih _ _ _ ?_
            have := hshrink _ hef (by simp) (by simp)
            omega
        | eio =>
          dsimp only
          have hc := tempfileErr_noretry (popW w1).1 q1
          generalize tempfileErr (popW w1).1 q1 false = r at hc ⊢
          obtain ⟨w2, q2, retry⟩ := r
          simp only at hc
          subst hc
          rfl

theorem mtLoop_fuel (fuel k : Nat) (w : World) (q : Cq) (d : Bytes) (hf : w.wsched.length + 1 ≤ fuel) :
    mtLoop (fuel + k) w q d = mtLoop fuel w q d := by
  induction k with
  | zero => rfl
  | succ k ih => rw [← Nat.add_assoc, mtLoop_mono (fuel + k) w q d (by omega), ih]

end LtVerif.Cq
