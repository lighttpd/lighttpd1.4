/- Connection-end model (Model/H1End.lean): `ShutDown`, when `responseEnd` continues, `connRun_stop`. -/
import LtVerif.Model.H1End

namespace LtVerif
namespace H1End
open B

/-- connection_handle_shutdown(): FIN sent (pipelined bytes kept) or descriptor closed (read queue emptied) -/
structure ShutDown (i : EndIn) (o : EndOut) : Prop where
  notStart : o.state ≠ .requestStart
  finOrClosed : o.fin = true ∨ o.closed = true
  ifFin : o.fin = true → o.state = .close ∧ o.closed = false ∧ o.pending = i.pending
  ifClosed : o.closed = true → o.state = .connect ∧ o.pending = 0

theorem handleShutdown_shutDown (i : EndIn) (done : Nat) (sep : Bool) :
    ShutDown i (handleShutdown i done sep) := by
  unfold handleShutdown
  by_cases h : (i.fdOk && i.shutOk) = true
  · rw [if_pos h]; exact ⟨by simp, by simp, by simp, by simp⟩    -- shutdown(SHUT_WR) worked
  · rw [if_neg h]; exact ⟨by simp, by simp, by simp, by simp⟩    -- connection_close()

theorem responseEnd_continues_iff (i : EndIn) :
    (responseEnd i).state = .requestStart ↔
      (i.h2 = false ∧ i.reqLen = i.reqIn ∧ i.isError = false ∧ 0 < i.keepAlive) := by
  unfold responseEnd
  by_cases h2 : i.h2 = true
  · simp [h2, (handleShutdown_shutDown i 1 i.sepWq).notStart]
  · have h2' : i.h2 = false := by simpa using h2
    by_cases hl : i.reqLen = i.reqIn
    · by_cases he : i.isError = true
      · simp [h2', hl, he, (handleShutdown_shutDown i _ _).notStart]
      · have he' : i.isError = false := by simpa using he
        by_cases hk : 0 < i.keepAlive
        · simp [h2', hl, he', hk]
        · simp [h2', hl, he', hk, (handleShutdown_shutDown i _ _).notStart]
    · simp [h2', hl, (handleShutdown_shutDown i _ _).notStart]

theorem responseEnd_not_continues (i : EndIn) (h : (responseEnd i).state ≠ .requestStart) :
    ShutDown i (responseEnd i) := by
  unfold responseEnd at h ⊢
  dsimp only at h ⊢
  by_cases h2 : i.h2 = true
  · rw [if_pos h2] at h ⊢
    exact handleShutdown_shutDown i _ _
  · rw [if_neg h2] at h ⊢
    by_cases hk : (if (i.reqLen ≠ i.reqIn || i.isError) = true then (0 : Int) else i.keepAlive) > 0
    · rw [if_pos hk] at h; simp at h
    · rw [if_neg hk]; exact handleShutdown_shutDown i _ _

theorem endIn_continues_iff (fdOk shutOk : Bool) (p : Nat) (q : Req) :
    (responseEnd (endIn fdOk shutOk p q)).state = .requestStart ↔ Continues q := by
  rw [responseEnd_continues_iff]
  unfold endIn Continues
  cases hk : q.ka <;> cases hw : q.wrote <;> simp

theorem connRun_stop (fdOk shutOk : Bool) {q : Req} (qs : List Req) (hc : ¬ Continues q) :
    connRun fdOk shutOk (q :: qs) = ⟨sentOf q, 1, some (responseEnd (endIn fdOk shutOk qs.length q))⟩ ∧
    ShutDown (endIn fdOk shutOk qs.length q) (responseEnd (endIn fdOk shutOk qs.length q)) := by
  have hst : (responseEnd (endIn fdOk shutOk qs.length q)).state ≠ .requestStart :=
    fun h => hc ((endIn_continues_iff fdOk shutOk qs.length q).1 h)
  exact ⟨by simp [connRun, hst], responseEnd_not_continues _ hst⟩

end H1End
end LtVerif
