/-
  The request-head parser model (Model/H1Parse.lean), on top of the field section (Proofs/H1Fields.lean): one
  statement per remaining stage of what it returns (`*_spec`), by the stage's own case analysis; an accepted
  request-target holds no control character (`parseTarget_ctl` of Proofs/Burl.lean); `parseHead_spec` with `RejSt`;
  the per-stage rejections `stage_*`; Boolean tests for the examples.
-/
import LtVerif.Model.H1Parse
import LtVerif.Proofs.Bytes
import LtVerif.Proofs.Burl
import LtVerif.Proofs.H1Fields
namespace LtVerif
open B

theorem reqlineUri_spec (o : Opts) (r : PReq) (uri : Bytes) :
    (∀ r1 uri', reqlineUri o r uri = .ok (r1, uri') → (r1 = r ∧ uri' = uri) ∨ (∃ host, r1 = setHost r host)) ∧
    (∀ e, reqlineUri o r uri = .error e → e = 400) := by
  fun_cases reqlineUri o r uri
  all_goals refine ⟨fun _ _ h => ?_, fun _ h => ?_⟩ <;> cases h
  -- 400 | lenient, CONNECT authority, `OPTIONS *`: unchanged | absolute-form: authority recorded as host
  all_goals first | rfl | exact .inl ⟨rfl, rfl⟩ | exact .inr ⟨_, rfl⟩

structure ReqlineOk (o : Opts) (line : Bytes) (r0 : PReq) : Prop where
  fresh : r0.clSeen = false ∧ r0.bodyLen = 0
  method : methodTable.contains r0.method = true
  version : r0.version = 0 ∨ r0.version = 1
  target : r0.target ≠ []
  host : r0.host = none ∨ ∃ h, r0.host = some h ∧ r0.headers = [(nHost, h)]
  strictEol : o.headerStrict = true → line.getD (line.length - 2) 0 = cr

-- any `uri'`: `parseReqline` stores the target after its own emptiness check
theorem parseReqlineCore_spec (o : Opts) (line : Bytes) :
    (∀ r1 uri, parseReqlineCore o line = .ok (r1, uri) → ∀ {uri' : Bytes}, uri' ≠ [] →
      ReqlineOk o line { r1 with target := uri' }) ∧
    (∀ e, parseReqlineCore o line = .error e → e = 400 ∨ e = 501) := by
  fun_cases parseReqlineCore o line
  case case7 _ body? l hl _ _ ver? ver hver _ _ hm _ _ uri r0 _ | case8 _ body? l hl _ _ ver? ver hver _ _ hm _ _ uri r0 _ =>
    -- accepting leaves: case7 origin-form target (`/…`), case8 what `reqlineUri` makes of another
    have hcr : o.headerStrict = true → line.getD (line.length - 2) 0 = cr := fun hs => by
      simp only [body?] at hl
      split at hl
      · assumption
      · simp [hs] at hl
    have hv : ver = 0 ∨ ver = 1 := by
      simp only [ver?] at hver
      split at hver
      · exact .inr (Option.some.inj hver).symm
      · split at hver
        · exact .inl (Option.some.inj hver).symm
        · cases hver
    have hm' : methodTable.contains r0.method = true := by simpa using hm
    have ok : ∀ {uri' : Bytes}, uri' ≠ [] → ReqlineOk o line { r0 with target := uri' } :=
      fun hne => ⟨⟨rfl, rfl⟩, hm', hv, hne, .inl rfl, hcr⟩
    first
      | exact ⟨fun _ _ h _ hne => by cases h; exact ok hne, nofun⟩  -- origin-form
      | refine ⟨fun r1 _ h _ hne => ?_, fun e h => .inl ((reqlineUri_spec o r0 uri).2 e h)⟩  -- `reqlineUri`
        rcases (reqlineUri_spec o r0 uri).1 _ _ h with ⟨rfl, _⟩ | ⟨host, rfl⟩
        · exact ok hne
        · exact ⟨⟨rfl, rfl⟩, hm', hv, hne, .inr ⟨_, rfl, rfl⟩, hcr⟩
  all_goals refine ⟨fun _ _ h => ?_, fun _ h => ?_⟩ <;> cases h
  all_goals first | exact .inl rfl | exact .inr rfl  -- 501: unknown method; the other error leaves 400

theorem parseReqline_spec (o : Opts) (line blk : Bytes) :
    (∀ r0, parseReqline o line blk = .ok r0 → ReqlineOk o line r0 ∧
      (if o.headerStrict then
         if o.ctrlsReject && r0.method ≠ ofString "CONNECT" then fragmentInvalidStrict r0.target
         else r0.target.any uriCharInvalidStrict
       else blk.contains 0) = false) ∧
    (∀ e, parseReqline o line blk = .error e → e = 400 ∨ e = 501) := by
  fun_cases parseReqline o line blk
  case case1 e he =>  -- `parseReqlineCore` failed
    exact ⟨nofun, fun _ h => by cases h; exact (parseReqlineCore_spec o line).2 e he⟩
  case case4 r1 uri hc hne bad hbad =>  -- accepted
    refine ⟨fun _ h => ?_, nofun⟩
    cases h
    exact ⟨(parseReqlineCore_spec o line).1 r1 uri hc (by simpa using hne), Bool.eq_false_iff.mpr hbad⟩
  all_goals exact ⟨nofun, fun _ h => by cases h; exact .inl rfl⟩  -- empty target; final character check

theorem parseReqline_ok {o : Opts} {line blk : Bytes} {r0 : PReq} (h : parseReqline o line blk = .ok r0) :
    ReqlineOk o line r0 :=
  ((parseReqline_spec o line blk).1 r0 h).1

theorem parseReqline_checks {o : Opts} {line blk : Bytes} {r0 : PReq} (h : parseReqline o line blk = .ok r0) :
    (o.headerStrict = false → blk.contains 0 = false) ∧
    (o.headerStrict = true → (o.ctrlsReject = false ∨ r0.method = ofString "CONNECT") →
       r0.target.any uriCharInvalidStrict = false) ∧
    (o.headerStrict = true → o.ctrlsReject = true → r0.method ≠ ofString "CONNECT" →
       fragmentInvalidStrict r0.target = false) := by
  have hbad := ((parseReqline_spec o line blk).1 r0 h).2
  refine ⟨fun hs => by simpa [hs] using hbad, fun hs hm => ?_, fun hs hc hm => by simpa [hs, hc, hm] using hbad⟩
  rcases hm with hm | hm <;> simpa [hs, hm] using hbad

theorem methodTable_nul_free : ∀ nm ∈ methodTable, (0 : UInt8) ∉ nm := by
  unfold methodTable Extracted.methodNames
  simp only [List.map_cons, List.map_nil]
  repeat rw [ofString_ofList]
  decide +kernel

/-- an accepted cross-field step (`parsePost`); `host`, `teCl`: checks `r1` passed -/
structure PostOk (o : Opts) (r1 r : PReq) : Prop where
  bodyLen : r.bodyLen = r1.bodyLen
  version : r.version = r1.version
  method : r.method = r1.method
  target : r.target = r1.target
  host : r1.version ≥ 1 → r1.host ≠ none
  teCl : r1.bodyLen = -1 → r1.clSeen = true → o.headerStrict = false ∧ r.keepAlive = false

theorem parsePost_spec (o : Opts) (p : Nat) (r1 : PReq) :
    (∀ r t, parsePost o p r1 = .ok r t → PostOk o r1 r ∧
      parseTarget o ((r1.method = ofString "CONNECT") || (r1.method = ofString "OPTIONS" && r1.target = [42]))
        r1.target = .ok t) ∧
    (∀ e, parsePost o p r1 = .err e → e = 400 ∨ e = 411) := by
  fun_cases parsePost o p r1
  case case1 e he => exact ⟨nofun, fun _ h => by cases h; exact .inl (parseTarget_err he)⟩  -- target rejected
  case case6 _ _ ht hostStep rr hstep _ hz _ | case9 _ _ ht hostStep rr hstep _ _ tecl hnstrict r' _ =>
    -- accepting leaves: case6 no body, case9 a body announced; the host step changes `host`, `headers` only
    have hb : rr.bodyLen = r1.bodyLen ∧ rr.version = r1.version ∧ rr.method = r1.method ∧
              rr.target = r1.target ∧ rr.clSeen = r1.clSeen ∧ (r1.version ≥ 1 → r1.host ≠ none) := by
      cases hh : r1.host with
      | none =>
        simp only [hostStep, hh] at hstep
        split at hstep <;> cases hstep
        exact ⟨rfl, rfl, rfl, rfl, rfl, fun hv => absurd hv ‹_›⟩
      | some h0 =>
        simp only [hostStep, hh] at hstep
        repeat' split at hstep
        all_goals cases hstep
        exact ⟨rfl, rfl, rfl, rfl, rfl, nofun⟩
    obtain ⟨hb1, hb2, hb3, hb4, hb5, hb6⟩ := hb
    refine ⟨fun r t h => ?_, nofun⟩
    obtain ⟨rfl, rfl⟩ := HeadRes.ok.inj h
    refine ⟨?_, ht⟩
    first
      | exact ⟨hb1, hb2, hb3, hb4, hb6, fun hm => by rw [hb1, hm] at hz; simp at hz⟩  -- no body
      | (have hfin : rr.bodyLen = -1 → rr.clSeen = true → o.headerStrict = false := fun h1 h2 => by
           simpa [tecl, h1, h2] using hnstrict
         simp only [r']
         split
         · exact ⟨hb1, hb2, hb3, hb4, hb6, fun hm hc => ⟨hfin (hb1 ▸ hm) (hb5 ▸ hc), rfl⟩⟩
         · rename_i hno
           exact ⟨hb1, hb2, hb3, hb4, hb6, fun hm hc => absurd (by simp [tecl, hb1, hb5, hm, hc]) hno⟩)
  all_goals refine ⟨fun _ _ h => HeadRes.noConfusion h, fun _ h => ?_⟩ <;> cases h
  all_goals first | exact .inl rfl | exact .inr rfl  -- 411: POST without a length; the other error leaves 400

theorem parsePost_ok_keeps {o : Opts} {p : Nat} {r1 r : PReq} {t : Target} (h : parsePost o p r1 = .ok r t) :
    PostOk o r1 r :=
  ((parsePost_spec o p r1).1 r t h).1

theorem ctl_uriInvalid : ∀ c : UInt8, isCtl c = true → uriCharInvalidStrict c = true := by
  apply forall_uint8
  decide +kernel

theorem accepted_target_ctl_free {o : Opts} {p : Nat} {r0 r1 r : PReq} {t : Target} {line blk : Bytes}
    (hrl : parseReqline o line blk = .ok r0) (ht : r1.target = r0.target) (hm : r1.method = r0.method)
    (hpp : parsePost o p r1 = .ok r t) (hs : o.headerStrict = true)
    (hreach : o.ctrlsReject = true → o.urlNormalize = true) : ∀ c ∈ r0.target, isCtl c = false := by
  intro c hc
  cases hctl : isCtl c with
  | false => rfl
  | true =>
    exfalso
    obtain ⟨_, hstrict, hfrag⟩ := parseReqline_checks hrl
    by_cases hmode : o.ctrlsReject = false ∨ r0.method = ofString "CONNECT"
    · have := hstrict hs hmode
      rw [List.any_eq_false] at this
      exact this c hc (ctl_uriInvalid c hctl)
    · -- behind '#' the fragment check, before it `parseTarget_ctl`
      have hcr : o.ctrlsReject = true := by
        cases h : o.ctrlsReject with
        | true => rfl
        | false => exact absurd (.inl h) hmode
      have hnc : r0.method ≠ ofString "CONNECT" := fun h => hmode (.inr h)
      have hf := hfrag hs hcr hnc
      have hpre : c ∈ r0.target.takeWhile (· ≠ hash) := by
        have hsplit := List.takeWhile_append_dropWhile (p := (· ≠ hash)) (l := r0.target)
        rw [← hsplit] at hc
        simp only [List.mem_append] at hc
        rcases hc with hc | hc
        · exact hc
        · unfold fragmentInvalidStrict at hf
          rw [List.any_eq_false] at hf
          have h35 : (hash : UInt8) = 35 := rfl
          exact absurd (ctl_uriInvalid c hctl) (hf c (by simpa [h35] using hc))
      have htar := ((parsePost_spec o p r1).1 r t hpp).2
      rw [ht, hm] at htar
      by_cases hsp : ((r0.method = ofString "CONNECT") || (r0.method = ofString "OPTIONS" && r0.target = [42])) = true
      · simp only [Bool.or_eq_true, decide_eq_true_eq, Bool.and_eq_true] at hsp
        rcases hsp with h1 | ⟨_, h2⟩
        · exact hnc h1
        · rw [h2] at hc
          simp only [List.mem_singleton] at hc
          subst hc
          simp [isCtl] at hctl
      · rw [Bool.not_eq_true _ |>.mp hsp, parseTarget_ctl o hcr (hreach hcr) r0.target ⟨c, hpre, hctl⟩] at htar
        cases htar

/-! ### the whole head -/

/-- the statuses of the framing layer's rejections -/
def RejSt (e : Nat) : Prop := e = 400 ∨ e = 411 ∨ e = 413 ∨ e = 431 ∨ e = 501

theorem parseHead_spec (o : Opts) (mf p : Nat) (block : Bytes) :
    (∀ r t, parseHead o mf p block = .ok r t →
      ∃ rl fields len r0 r1, recvHead mf block = .head (rl :: fields) len ∧
        parseReqline o rl (block.take len) = .ok r0 ∧
        (o.headerStrict = true → block.getD (len - 2) 0 = cr) ∧
        parseHeaders o r0 fields = .ok r1 ∧ parsePost o p r1 = .ok r t) ∧
    (∀ e, parseHead o mf p block = .err e → RejSt e) := by
  fun_cases parseHead o mf p block
  all_goals refine ⟨fun _ _ h => ?_, fun _ h => ?_⟩ <;> cases h
  case case2 => exact .inr (.inr (.inr (.inl rfl)))  -- 431 from `recvHead`
  case case5 he _ => rcases (parseReqline_spec ..).2 _ he with h | h <;> (unfold RejSt; omega)  -- request line
  case case6 => exact .inl rfl  -- strict: bare LF ends the head
  case case7 he _ => rcases parseHeaders_err he with h | h <;> (unfold RejSt; omega)  -- field section
  case case8 he _ => rcases (parsePost_spec ..).2 _ he with h | h <;> (unfold RejSt; omega)  -- cross-field step
  case case10 _ _ _ _ hrl hcr _ hph _ _ hpp hrh =>  -- accepted
    exact ⟨_, _, _, _, _, hrh, hrl, fun hs => by simpa [hs] using hcr, hph, hpp⟩

/-! ### what each stage rejects on its own -/

theorem stage_repeated_content_length_rejected (o : Opts) (r0 : PReq) (lines : List Bytes)
    (fs : List (Bytes × Bytes)) (hfresh : Fresh r0)
    (htok : (groupFolds lines).map (fieldOf o) = fs.map Except.ok)
    (hdup : 2 ≤ (fs.filter (fun f => f.1 = nCL)).length) :
    ∀ r, parseHeaders o r0 lines ≠ .ok r := by
  intro r h
  have := (parseHeaders_framingInv hfresh htok h).clOnce
  omega

theorem stage_bad_content_length_rejected (o : Opts) (r0 : PReq) (lines : List Bytes)
    (fs : List (Bytes × Bytes)) (v : Bytes) (hfresh : Fresh r0)
    (htok : (groupFolds lines).map (fieldOf o) = fs.map Except.ok)
    (hmem : (nCL, v) ∈ fs) (hbad : v = [] ∨ strtoInt64 v = none) :
    ∀ r, parseHeaders o r0 lines ≠ .ok r := by
  intro r h
  obtain ⟨hne, k, hk, _⟩ := (parseHeaders_framingInv hfresh htok h).clNum v hmem
  rcases hbad with hb | hb
  · exact hne hb
  · simp [hb] at hk

theorem stage_bad_transfer_encoding_rejected (o : Opts) (r0 : PReq) (lines : List Bytes)
    (fs : List (Bytes × Bytes)) (v : Bytes) (hfresh : Fresh r0)
    (htok : (groupFolds lines).map (fieldOf o) = fs.map Except.ok)
    (hmem : (nTE, v) ∈ fs)
    (hbad : v = [] ∨ eqIcase v vChunked = false ∨ r0.version ≠ 1) :
    ∀ r, parseHeaders o r0 lines ≠ .ok r := by
  intro r h
  obtain ⟨h0, h1, h2⟩ := (parseHeaders_framingInv hfresh htok h).te v hmem
  rcases hbad with hb | hb | hb
  · exact h0 hb
  · simp [hb] at h1
  · exact hb h2

theorem stage_ctl_in_value_rejected_strict (o : Opts) (r0 : PReq) (lines : List Bytes)
    (fs : List (Bytes × Bytes)) (f : Bytes × Bytes) (hfresh : Fresh r0) (hs : o.headerStrict = true)
    (htok : (groupFolds lines).map (fieldOf o) = fs.map Except.ok)
    (hmem : f ∈ fs) (hbad : f.2.any lineCharInvalidStrict = true) :
    ∀ r, parseHeaders o r0 lines ≠ .ok r := by
  intro r h
  have := (parseHeaders_framingInv hfresh htok h).strictVal hs f hmem
  simp [hbad] at this

theorem stage_te_and_cl_rejected_strict (o : Opts) (port : Nat) (r : PReq)
    (hs : o.headerStrict = true) (hte : r.bodyLen = -1) (hcl : r.clSeen = true) :
    ∀ r' t, parsePost o port r ≠ .ok r' t := by
  intro r' t h
  have := ((parsePost_ok_keeps h).teCl hte hcl).1
  rw [hs] at this
  exact absurd this (by decide)

theorem stage_http11_without_host_rejected (o : Opts) (port : Nat) (r : PReq)
    (hv : r.version ≥ 1) (hh : r.host = none) :
    ∀ r' t, parsePost o port r ≠ .ok r' t :=
  fun _ _ h => (parsePost_ok_keeps h).host hv hh

theorem stage_bare_lf_reqline_rejected_strict (o : Opts) (line block : Bytes)
    (hs : o.headerStrict = true) (hlf : line.getD (line.length - 2) 0 ≠ cr) :
    parseReqline o line block = .error 400 := by
  have : parseReqlineCore o line = .error 400 := by
    unfold parseReqlineCore
    refine ite_ind (P := fun x => x = Except.error 400) (fun _ => rfl) (fun _ => ?_)
    simp only []
    rw [if_neg hlf, hs]
    rfl
  unfold parseReqline
  rw [this]

theorem stage_ws_before_colon_rejected_strict (o : Opts) (first : Bytes) (conts : List Bytes) (ci : Nat)
    (hs : o.headerStrict = true) (hci : findIdx (· = colon) first 0 = some ci)
    (hws : ((first.take ci).getLast?.map isWs).getD false = true) :
    fieldOf o (first :: conts) = .error 400 := by
  unfold fieldOf
  simp [hci, hws, hs]

theorem stage_bare_lf_field_rejected_strict (o : Opts) (line : Bytes) (f : Bytes × Bytes)
    (hs : o.headerStrict = true) (h : fieldOf o [line] = .ok f) :
    line.length ≥ 2 ∧ line.getD (line.length - 2) 0 = cr := by
  obtain ⟨_, j, body, _, _, hj, hb⟩ := (fieldOf_spec o [line]).1 f h
  rw [hs] at hj hb
  simp only [joinFolds, Option.some.injEq] at hj
  subst hj
  exact stripEol_strict_crlf line body hb

theorem stage_nul_rejected_lenient (o : Opts) (line block : Bytes)
    (hs : o.headerStrict = false) (hnul : block.contains 0 = true) :
    ∀ r, parseReqline o line block ≠ .ok r := by
  intro r h
  have := (parseReqline_checks h).1 hs
  rw [hnul] at this
  exact absurd this (by decide)

theorem stage_ctl_in_target_rejected_strict (o : Opts) (line block : Bytes) (r1 : PReq) (uri : Bytes)
    (hs : o.headerStrict = true) (hcore : parseReqlineCore o line = .ok (r1, uri))
    (hmode : o.ctrlsReject = false ∨ r1.method = ofString "CONNECT")
    (hbad : uri.any uriCharInvalidStrict = true) :
    parseReqline o line block = .error 400 := by
  unfold parseReqline
  simp only [hcore, hs]
  split
  · rfl
  · rcases hmode with hm | hm <;> simp [hm, hbad]

/-- D61: behind the first '#', which URL normalisation drops unread, the request line step checks in strict mode
    under every option set -/
theorem stage_ctl_in_fragment_rejected_default (o : Opts) (line block : Bytes) (r1 : PReq) (uri : Bytes)
    (hs : o.headerStrict = true) (hcore : parseReqlineCore o line = .ok (r1, uri))
    (hbad : fragmentInvalidStrict uri = true) :
    parseReqline o line block = .error 400 := by
  unfold parseReqline
  simp only [hcore, hs]
  split
  · rfl
  · have hall : uri.any uriCharInvalidStrict = true := by
      unfold fragmentInvalidStrict at hbad
      simp only [List.any_eq_true] at hbad ⊢
      obtain ⟨b, hb, hbb⟩ := hbad
      exact ⟨b, (List.dropWhile_sublist _).subset hb, hbb⟩
    split <;> simp_all

/-! ### reading results off one evaluation

  `PReq` has no decidable equality, so the examples let the kernel evaluate a Boolean test of the result.  The tests
  are definitions: unifying two `match` terms in a statement makes the elaborator evaluate the discriminant. -/

def errWith {α : Type} (x : Except Nat α) (e : Nat) : Bool :=
  match x with
  | .error e' => e' == e
  | .ok _ => false

theorem errWith_spec {α : Type} {x : Except Nat α} {e : Nat} (h : errWith x e = true) : x = .error e := by
  unfold errWith at h
  split at h
  · rw [eq_of_beq h]
  · simp at h

def okWith {α : Type} (x : Except Nat α) (P : α → Prop) [DecidablePred P] : Bool :=
  match x with
  | .ok a => decide (P a)
  | .error _ => false

theorem okWith_spec {α : Type} {x : Except Nat α} {P : α → Prop} [DecidablePred P] (h : okWith x P = true) :
    ∃ a, x = .ok a ∧ P a := by
  unfold okWith at h
  split at h
  · exact ⟨_, rfl, of_decide_eq_true h⟩
  · simp at h

def headOkWith (x : ReqOut) (P : PReq → Prop) [DecidablePred P] : Bool :=
  match x with
  | .ok r _ => decide (P r)
  | _ => false

theorem headOkWith_spec {x : ReqOut} {P : PReq → Prop} [DecidablePred P] (h : headOkWith x P = true) :
    ∃ r t, x = .ok r t ∧ P r := by
  unfold headOkWith at h
  split at h
  · exact ⟨_, _, rfl, of_decide_eq_true h⟩
  · simp at h

end LtVerif
