/-
  Helpers for Model/DavCond.lean: mod_webdav's entity tag is a strong RFC 9110 entity-tag with a
  decimal opaque part, so C15's `Cond.etagMatches_list` applies; case analysis of `precond`.
-/
import LtVerif.Model.DavCond
import LtVerif.Proofs.Cond304
import LtVerif.Proofs.Date
namespace LtVerif
namespace DavCond
open B Date Cond

def curTag (st : Stat) (flags : Nat) : ETag := ⟨false, natDec (etagHash st flags).toNat⟩

theorem etagCreate_text (st : Stat) (flags : Nat) (h : flags ≠ 0) :
    etagCreate st flags = (curTag st flags).text := by
  simp [etagCreate, h, curTag, ETag.text]

theorem digit_not_delim (b : UInt8) (h : isDigit b = true) : isDelim b = false := by
  simp only [isDigit, Bool.and_eq_true, decide_eq_true_eq] at h
  simp only [isDelim, Bool.or_eq_false_iff, decide_eq_false_iff_not]
  obtain ⟨h1, -⟩ := h
  refine ⟨⟨?_, ?_⟩, ?_⟩ <;> (intro e; subst e; revert h1; decide)

/- `unfold; dsimp only` first: unifying `(curTag st flags).otag` with `natDec _` unfolds `natDec`. -/
theorem curTag_wf (st : Stat) (flags : Nat) : (curTag st flags).WF := by
  unfold ETag.WF curTag
  dsimp only
  exact fun hmem => ne_of_test ((natDec_digits _).2 34 hmem) (c := 34) (by decide) rfl

theorem curTag_noDelim (st : Stat) (flags : Nat) : (curTag st flags).NoDelim := by
  unfold ETag.NoDelim curTag
  dsimp only
  exact fun b hb => digit_not_delim b ((natDec_digits _).2 b hb)

theorem single_text (t : ETag) : etagListText [] [(t, [])] = t.text := by
  simp [etagListText, itemsText]

theorem single_ok (st : Stat) (flags : Nat) : ItemsOk [(curTag st flags, ([] : Bytes))] := by
  refine ⟨curTag_wf st flags, curTag_noDelim st flags, ?_, ?_, trivial⟩
  · intro b hb; cases hb
  · intro h; exact absurd rfl h

theorem allDelim_nil : AllDelim [] := by intro b hb; cases hb

theorem etagMatches_cur (st st0 : Stat) (flags : Nat) (hf : flags ≠ 0) (w : Bool) :
    etagMatches (etagCreate st flags) (etagCreate st0 flags) w =
      decide (etagCreate st flags = etagCreate st0 flags) := by
  rw [etagCreate_text st flags hf, etagCreate_text st0 flags hf]
  have := etagMatches_list (curTag st flags) (curTag_wf st flags) w [] [(curTag st0 flags, [])]
    allDelim_nil (single_ok st0 flags)
  rw [single_text] at this
  rw [this]
  simp only [List.any_cons, List.any_nil, Bool.or_false, ETag.cmp, curTag, Bool.not_false,
    Bool.and_self, Bool.or_true, Bool.and_true, ETag.text]
  by_cases h : natDec (etagHash st flags).toNat = natDec (etagHash st0 flags).toNat <;> simp [h]

theorem imFails_none (flags : Nat) (lk : Lk) : imFails flags none lk = false := by cases lk <;> rfl
theorem inmFails_none (flags : Nat) (lk : Lk) : inmFails flags none lk = false := by cases lk <;> rfl
theorem iusFails_none (now : Int) (lk : Lk) : iusFails now none lk = false := by cases lk <;> rfl

theorem precond_zero_iff (now : Int) (flags : Nat) (im inm ius : Option Bytes) (lk : Lk)
    (hf : flags ≠ 0) :
    precond now flags im inm ius lk = 0 ↔
      (imFails flags im lk = false ∧ inmFails flags inm lk = false ∧ iusFails now ius lk = false) := by
  unfold precond
  simp only [hf, if_false]
  by_cases h0 : (im.isNone && inm.isNone && ius.isNone) = true
  · rw [if_pos h0]
    simp only [Bool.and_eq_true, Option.isNone_iff_eq_none] at h0
    obtain ⟨⟨rfl, rfl⟩, rfl⟩ := h0
    simp [imFails_none, inmFails_none, iusFails_none]
  · rw [if_neg h0]
    cases imFails flags im lk <;> cases inmFails flags inm lk <;> cases iusFails now ius lk <;> simp

theorem precond_flags0 (now : Int) (im inm ius : Option Bytes) (lk : Lk) :
    precond now 0 im inm ius lk = if iusFails now ius lk then 412 else 0 := by
  unfold precond
  simp only [if_true, imFails_none, inmFails_none, Bool.false_eq_true, if_false, Option.isNone_none,
    Bool.true_and]
  cases ius with
  | none => simp [iusFails_none]
  | some d => simp

end DavCond
end LtVerif
