/-
  C17, the closed system with its two spilling operations: Proofs/Cq.lean (the operations that
  write no temp file) and Proofs/CqSStep.lean (one statement per temp-file function) meet here.
  Defined here and used by other files: `FInv`, `SpillRes`; `step_inv`, `step_conserve`, `step_finv`.
-/
import LtVerif.Proofs.Cq
import LtVerif.Proofs.CqSStep
namespace LtVerif.Cq

/-! ## the closed system -/

theorem step_inv (s : Sys) (op : Op) (h : Inv s) (hop : OpOK s op) : Inv (step s op).1 := by
  cases op with
  | appendMemToTempfile qi d => exact inv_single h qi (appendMemToTempfile_sstep s.w (s.get qi) d).acct
  | stealWithTempfiles qi n =>
    obtain ⟨⟨a, _, c⟩, d⟩ :=
      (stealWithTempfiles_sw s.w (s.get qi) (s.get (!qi)) n).acct h.fresh (h.get qi) (h.get (!qi))
    exact inv_pair qi a c d
  | _ => exact ((step_plain s _ rfl).inv h hop).1

theorem run_inv (s : Sys) (ops : List Op) (h : Inv s) (hops : OpsOK s ops) :
    Inv (run s ops) :=
  run_inv_of step_inv s ops h hops

/-- the invariant of `c17_invariant` -/
structure FInv (base : Nat → Int) (s : Sys) : Prop where
  inv : Inv s
  gi : GI base s.w s.chunks
  /-- `base f` counts the names of `f` that do not belong to the queues: never
      negative, and the files the application hands in by name have one -/
  src : ∀ f, 0 ≤ base f ∧ (f < s.w.nsrc → 1 ≤ base f)

theorem step_nsrc (s : Sys) (op : Op) (h : Inv s) : (step s op).1.w.nsrc = s.w.nsrc := by
  by_cases hns : op.spills = false
  · exact (step_same s op hns).nsrc
  · cases op with
    | appendMemToTempfile qi d =>
      have := ((appendMemToTempfile_sstep s.w (s.get qi) d).acct h.fresh (h.get qi)).grows.nsrc
      simpa only [step, Sys.set_w] using this
    | stealWithTempfiles qi n =>
      have := ((stealWithTempfiles_sw s.w (s.get qi) (s.get (!qi)) n).acct h.fresh (h.get qi) (h.get (!qi))).1.grows.nsrc
      simpa only [step, Sys.set_w] using this
    | _ => exact absurd rfl hns

/-- what a spilling operation did to both queues' bytes, by its result -/
def SpillRes (s : Sys) (op : Op) : Prop :=
  match op, (step s op).2 with
  | .appendMemToTempfile qi d, .rc ok =>
    AppKeep (NoMem (s.get qi).chunks) ok d (s.abs qi) ((step s op).1.abs qi) ∧ (step s op).1.abs (!qi) = s.abs (!qi)
  | .stealWithTempfiles qi n, .rc ok =>
    Transfer (NoMem (s.get qi).chunks) ok n (s.abs qi) (s.abs (!qi)) ((step s op).1.abs qi) ((step s op).1.abs (!qi))
  | _, _ => True

theorem FInv.gi_at {base : Nat → Int} {s : Sys} (h : FInv base s) (i : Bool) :
    GI base s.w ((s.get i).chunks ++ (s.get (!i)).chunks) := by
  cases i
  · exact h.gi
  · exact h.gi.comm

theorem step_conserve (s : Sys) (op : Op) : Conserve s.w s.chunks (step s op).1.w (step s op).1.chunks := by
  cases op with
  | appendMemToTempfile qi d => exact sys_single qi rfl (appendMemToTempfile_sstep s.w (s.get qi) d).res
  | stealWithTempfiles qi n => exact sys_pair qi rfl (stealWithTempfiles_sw s.w (s.get qi) (s.get (!qi)) n).res
  | _ => exact (step_plain s _ rfl).res

theorem step_finv {base : Nat → Int} (s : Sys) (op : Op) (h : FInv base s) (hop : OpOK s op) :
    FInv base (step s op).1 ∧ SpillRes s op := by
  have hinv := step_inv s op h.inv hop
  have hsrc : ∀ f, 0 ≤ base f ∧ (f < (step s op).1.w.nsrc → 1 ≤ base f) := by
    rw [step_nsrc s op h.inv]; exact h.src
  by_cases hns : op.spills = false
  · -- file contents stay: the global invariant follows from conservation
    have hs := step_same s op hns
    have hg : GI base s.w (s.chunks ++ []) := by rw [List.append_nil]; exact h.gi
    have := hg.step (step_conserve s op) hs.grows hinv.fresh (hs.wi h.gi.wi) (hinv.q0.valid.append hinv.q1.valid)
    rw [List.append_nil] at this
    refine ⟨⟨hinv, this, hsrc⟩, ?_⟩
    cases op <;> first | trivial | cases hns  -- not spilling: `SpillRes` is `True`
  · cases op with
    | appendMemToTempfile qi d =>
      obtain ⟨_, a2, a3, a4⟩ := (appendMemToTempfile_sstep s.w (s.get qi) d).gi (h.inv.get qi) (h.gi_at qi)
      have hv := (h.inv.get (!qi)).valid
      refine ⟨⟨hinv, ?_, hsrc⟩, ?_⟩
      · cases qi
        · exact a2
        · exact a2.comm
      · cases qi <;> exact ⟨a4, absChunks_ext hv a3⟩
    | stealWithTempfiles qi n =>
      obtain ⟨_, _, a3, _, a5⟩ := (stealWithTempfiles_sw s.w (s.get qi) (s.get (!qi)) n).gi (X := [])
        (h.inv.get qi) (h.inv.get (!qi)) (by rw [List.append_nil]; exact h.gi_at qi)
      rw [List.append_nil] at a3
      refine ⟨⟨hinv, ?_, hsrc⟩, ?_⟩
      · cases qi
        · exact a3
        · exact a3.comm
      · cases qi <;> exact a5
    | _ => exact absurd rfl hns

theorem step_refines_spill {base : Nat → Int} (s : Sys) (op : Op) (h : FInv base s) (hop : OpOK s op)
    (hsp : op.spills = true) (hrc : (step s op).2 = .rc true) :
    ((step s op).1.abs op.qi, (step s op).1.abs (!op.qi)) =
        specStep (fun fid => (s.w.files fid).content) (s.abs op.qi) (s.abs (!op.qi)) op (step s op).2 ∧
      resOK (s.abs op.qi) op (step s op).2 := by
  have hres := (step_finv s op h hop).2
  cases op with
  | appendMemToTempfile qi d =>
    simp only [SpillRes, hrc, AppKeep] at hres
    simp only [hrc, specStep, Op.qi, resOK, and_true]
    exact Prod.ext hres.1 hres.2
  | stealWithTempfiles qi n =>
    simp only [SpillRes, hrc, Transfer] at hres
    obtain ⟨k, k1, k2, k3, k4, k5⟩ := hres
    simp only [hrc, specStep, Op.qi, resOK, and_true]
    refine Prod.ext ?_ ?_
    · simp only [k5, k4]
      rw [← List.take_eq_take_min]
    · simp only [k3, k4]
      rw [← List.drop_eq_drop_min]
  | _ => cases hsp

theorem run_finv {base : Nat → Int} (s : Sys) (ops : List Op) (h : FInv base s) (hops : OpsOK s ops) :
    FInv base (run s ops) :=
  run_inv_of (fun s op h hop => (step_finv s op h hop).1) s ops h hops

end LtVerif.Cq
