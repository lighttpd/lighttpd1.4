/-
  Lemmas about the HTTP/2 flow-control model (Model/H2Flow.lean): what `sendAmount`, one stream
  turn and one write pass do; one case lemma per operation of the model; the accounting invariant
  `CInv` and the range invariant `RInv` over every event history; completion of one stream
  (`turns`) and of all streams (`passes`) once the credit granted covers what is pending.
-/
import LtVerif.Model.H2Flow
namespace LtVerif

def SInv (s : FcStream) : Prop := s.swin = s.credit - (s.sent : Int)

structure CInv (c : FcConn) : Prop where
  conn : c.swin = c.credit - (c.sent : Int)
  init : c.initWin = c.clientInit
  streams : ∀ s ∈ c.streams, SInv s

/-- third conjunct: SETTINGS moves `initWin` and every live window by the same amount, so with the new
    `initWin ≥ 0` a lowered window stays ≥ −(2^31−1); the C guard alone gives ≥ −2^31 -/
def SRange (initWin : Int) (s : FcStream) : Prop :=
  s.swin ≤ int32Max ∧ -int32Max ≤ s.swin ∧ (s.live = true → initWin - int32Max ≤ s.swin)

/-- every window h2.c keeps in an `int32_t` is in range: the invariant of `c06_windows_fit_int32` -/
structure RInv (c : FcConn) : Prop where
  init : 0 ≤ c.initWin ∧ c.initWin ≤ int32Max
  conn : 0 ≤ c.swin ∧ c.swin ≤ int32Max
  streams : ∀ s ∈ c.streams, SRange c.initWin s

/-- turns of ONE stream with budgets `bs`; `cw` is charged only with what this stream sends -/
def turns : FcStream → Int → List Nat → FcStream × Int
  | s, cw, [] => (s, cw)
  | s, cw, b :: bs => turns (streamTurn cw b s).1 (cw - (streamTurn cw b s).2) bs

def openPending : List FcStream → Nat
  | [] => 0
  | s :: r => (if s.st = .open then s.pending else 0) + openPending r

def passes : FcConn → List Nat → FcConn
  | c, [] => c
  | c, b :: bs => passes (writePass c b).1 bs

/-- credit suffices for everything still to be sent -/
structure Ample (c : FcConn) : Prop where
  noGoaway : c.goaway = none
  streams : ∀ s ∈ c.streams, s.st = .open → (s.pending : Int) ≤ s.swin
  conn : (openPending c.streams : Int) ≤ c.swin

/-! ### amount, turn -/

theorem FcStream.live_iff (s : FcStream) : s.live = true ↔ s.st = .open := by
  cases h : s.st <;> simp [FcStream.live, h]

theorem sendAmount_natCast (a b pending dlen : Nat) :
    sendAmount a b pending dlen =
      if min (min dlen a) b > pending then pending
      else if min (min dlen a) b < 2048 ∧ pending ≥ 2048 then 0 else min (min dlen a) b := by
  rw [sendAmount, if_neg (by omega)]
  simp only [Int.toNat_natCast]

theorem sendAmount_le (swinS swinC : Int) (pending dlen : Nat) :
    sendAmount swinS swinC pending dlen ≤ pending ∧ sendAmount swinS swinC pending dlen ≤ dlen ∧
    (sendAmount swinS swinC pending dlen = 0 ∨
      ((sendAmount swinS swinC pending dlen : Int) ≤ swinS ∧
       (sendAmount swinS swinC pending dlen : Int) ≤ swinC)) := by
  by_cases h : swinS < 0 ∨ swinC < 0
  · rw [sendAmount, if_pos h]
    exact ⟨Nat.zero_le _, Nat.zero_le _, .inl rfl⟩
  · obtain ⟨a, rfl⟩ := Int.eq_ofNat_of_zero_le (a := swinS) (by omega)
    obtain ⟨b, rfl⟩ := Int.eq_ofNat_of_zero_le (a := swinC) (by omega)
    rw [sendAmount_natCast]
    have h := Nat.le_min.1 (Nat.le_refl (min (min dlen a) b))
    have := Nat.le_min.1 h.1
    generalize min (min dlen a) b = d at *
    split
    · omega
    · split
      · exact ⟨Nat.zero_le _, Nat.zero_le _, .inl rfl⟩
      · omega

/-- with `sendAmount_le`: the largest such amount; `hk`: not held back by the 2048-octet deferral -/
theorem sendAmount_ge (swinS swinC : Int) (pending dlen k : Nat)
    (hs : (k : Int) ≤ swinS) (hc : (k : Int) ≤ swinC) (hp : k ≤ pending) (hd : k ≤ dlen)
    (hk : 2048 ≤ k ∨ pending < 2048) : k ≤ sendAmount swinS swinC pending dlen := by
  obtain ⟨a, rfl⟩ := Int.eq_ofNat_of_zero_le (a := swinS) (by omega)
  obtain ⟨b, rfl⟩ := Int.eq_ofNat_of_zero_le (a := swinC) (by omega)
  rw [sendAmount_natCast]
  have : k ≤ min (min dlen a) b :=
    Nat.le_min.2 ⟨Nat.le_min.2 ⟨hd, Int.ofNat_le.1 hs⟩, Int.ofNat_le.1 hc⟩
  split
  · omega
  · split <;> omega

theorem perCallCap_ge (s : FcStream) : 2048 ≤ perCallCap s := by
  unfold perCallCap; split <;> omega

/-- what a turn of `s` sent (`t.2`) and what it made of the stream (`t.1`) -/
structure TurnSpec (cswin : Int) (budget : Nat) (s : FcStream) (t : FcStream × Nat) : Prop where
  amount : t.2 =
    if s.st = .open then sendAmount s.swin cswin s.pending (min (perCallCap s) budget) else 0
  credit : t.1.credit = s.credit
  swin : t.1.swin = s.swin - t.2
  sent : t.1.sent = s.sent + t.2
  pending : t.1.pending = s.pending - t.2
  st : t.1.st = if s.st = .open ∧ s.pending ≤ t.2 then .closed else s.st

/-- the early exits of `streamTurn` are the general case: with nothing pending or no budget
    `sendAmount` is 0 -/
theorem streamTurn_spec (cswin : Int) (budget : Nat) (s : FcStream) :
    TurnSpec cswin budget s (streamTurn cswin budget s) := by
  obtain ⟨hp, hd, _⟩ := sendAmount_le s.swin cswin s.pending (min (perCallCap s) budget)
  rw [streamTurn]
  by_cases ho : s.st = .open
  · rw [if_neg (not_not_intro ho)]
    by_cases h0 : s.pending = 0
    · rw [if_pos h0]
      exact ⟨by rw [if_pos ho]; show 0 = _; omega, rfl, (Int.sub_zero _).symm, rfl, rfl,
        (if_pos ⟨ho, Nat.le_of_eq h0⟩).symm⟩
    · rw [if_neg h0]
      by_cases hb : budget = 0
      · rw [if_pos hb]
        exact ⟨by rw [if_pos ho]; show 0 = _; omega, rfl, (Int.sub_zero _).symm, rfl, rfl,
          (if_neg fun h => h0 (Nat.le_zero.1 h.2)).symm⟩
      · rw [if_neg hb]
        exact ⟨(if_pos ho).symm, rfl, rfl, rfl, rfl,
          by simp only [ho, true_and, Nat.sub_eq_zero_iff_le]⟩
  · rw [if_pos ho]
    exact ⟨(if_neg ho).symm, rfl, (Int.sub_zero _).symm, rfl, rfl, (if_neg fun h => ho h.1).symm⟩

structure TurnBound (cswin : Int) (budget : Nat) (s : FcStream) (n : Nat) : Prop where
  le_pending : n ≤ s.pending
  le_budget : n ≤ budget
  fits : n = 0 ∨ (s.st = .open ∧ (n : Int) ≤ s.swin ∧ (n : Int) ≤ cswin)

theorem streamTurn_bound (cswin : Int) (budget : Nat) (s : FcStream) :
    TurnBound cswin budget s (streamTurn cswin budget s).2 := by
  rw [(streamTurn_spec cswin budget s).amount]
  split
  · obtain ⟨hp, hd, h⟩ := sendAmount_le s.swin cswin s.pending (min (perCallCap s) budget)
    exact ⟨hp, Nat.le_trans hd (Nat.min_le_right _ _), h.imp_right fun h => ⟨‹_›, h⟩⟩
  · exact ⟨Nat.zero_le _, Nat.zero_le _, .inl rfl⟩

theorem streamTurn_open {cswin : Int} {budget : Nat} {s : FcStream}
    (h : (streamTurn cswin budget s).1.st = .open) : s.st = .open := by
  rw [(streamTurn_spec cswin budget s).st] at h
  split at h
  · cases h
  · exact h

theorem streamTurn_SInv {cswin : Int} {budget : Nat} {s : FcStream} (h : SInv s) :
    SInv (streamTurn cswin budget s).1 := by
  have t := streamTurn_spec cswin budget s
  have := t.credit
  have := t.swin
  have := t.sent
  unfold SInv at *
  omega

theorem streamTurn_ample {cswin : Int} {budget : Nat} {s : FcStream} (h : (s.pending : Int) ≤ s.swin) :
    ((streamTurn cswin budget s).1.pending : Int) ≤ (streamTurn cswin budget s).1.swin := by
  have t := streamTurn_spec cswin budget s
  rw [t.swin, t.pending, Int.ofNat_sub (streamTurn_bound cswin budget s).le_pending]
  exact Int.sub_le_sub_right h _

/-- 2048: the deferral threshold of h2_send_cqdata -/
theorem streamTurn_progress (s : FcStream) (cswin : Int) (budget : Nat) (hopen : s.st = .open)
    (hbudget : 2048 ≤ budget ∨ s.pending ≤ budget)
    (hwin : (2048 ≤ s.swin ∧ 2048 ≤ cswin) ∨ ((s.pending : Int) ≤ s.swin ∧ (s.pending : Int) ≤ cswin)) :
    s.pending ≤ (streamTurn cswin budget s).2 ∨ 2048 ≤ (streamTurn cswin budget s).2 := by
  have := perCallCap_ge s
  rw [(streamTurn_spec cswin budget s).amount, if_pos hopen]
  by_cases hp : s.pending < 2048
  · exact .inl (sendAmount_ge _ _ _ _ _ (by omega) (by omega) (Nat.le_refl _) (by omega) (.inr hp))
  · exact .inr (sendAmount_ge _ _ _ _ _ (by omega) (by omega) (by omega) (by omega) (.inl (Nat.le_refl _)))

theorem streamTurn_range {iw cswin : Int} {budget : Nat} {s : FcStream} (hi : iw ≤ int32Max)
    (h : SRange iw s) : SRange iw (streamTurn cswin budget s).1 := by
  have hsw := (streamTurn_spec cswin budget s).swin
  have hn := (streamTurn_bound cswin budget s).fits
  obtain ⟨h1, h2, h3⟩ := h
  unfold SRange int32Max at *
  refine ⟨by omega, by omega, fun hl => ?_⟩
  have := h3 ((FcStream.live_iff s).2 (streamTurn_open ((FcStream.live_iff _).1 hl)))
  omega

theorem streamTurn_openPending (cswin : Int) (budget : Nat) (s : FcStream) :
    (if (streamTurn cswin budget s).1.st = .open then (streamTurn cswin budget s).1.pending else 0)
      + (streamTurn cswin budget s).2 = (if s.st = .open then s.pending else 0) := by
  have t := streamTurn_spec cswin budget s
  have b := streamTurn_bound cswin budget s
  rw [t.st, t.pending]
  by_cases ho : s.st = .open
  · simp only [ho, true_and, if_true]
    by_cases hz : s.pending ≤ (streamTurn cswin budget s).2
    · rw [if_pos hz, if_neg (by decide), Nat.zero_add, Nat.le_antisymm b.le_pending hz]
    · rw [if_neg hz, if_pos rfl, Nat.sub_add_cancel b.le_pending]
  · simp only [ho, false_and, if_false, Nat.zero_add]
    exact b.fits.resolve_right fun h => ho h.1

/-! ### write pass -/

theorem writePassAux_mem (ss : List FcStream) (cswin : Int) (budget : Nat) :
    ∀ s' ∈ (writePassAux cswin budget ss).streams, ∃ s ∈ ss, ∃ cw b, s' = (streamTurn cw b s).1 := by
  intro s' h
  induction ss generalizing cswin budget with
  | nil => simp [writePassAux] at h
  | cons s rest ih =>
    simp only [writePassAux, List.mem_cons] at h
    rcases h with h | h
    · exact ⟨s, by simp, cswin, budget, h⟩
    · obtain ⟨s0, hs0, e⟩ := ih _ _ h
      exact ⟨s0, by simp [hs0], e⟩

theorem writePassAux_spec : ∀ (ss : List FcStream) (cswin : Int) (budget : Nat),
    (writePassAux cswin budget ss).cswin = cswin - ((writePassAux cswin budget ss).total : Int) ∧
    ((writePassAux cswin budget ss).total = 0 ∨ ((writePassAux cswin budget ss).total : Int) ≤ cswin) ∧
    (writePassAux cswin budget ss).total ≤ budget ∧
    ((∀ s ∈ ss, SInv s) → ∀ s ∈ (writePassAux cswin budget ss).streams, SInv s) := by
  intro ss cswin budget
  induction ss generalizing cswin budget with
  | nil => simp [writePassAux]
  | cons s rest ih =>
    have tb := streamTurn_bound cswin budget s
    have hn := tb.fits
    obtain ⟨h1, h2, h3, _⟩ :=
      ih (cswin - ((streamTurn cswin budget s).2 : Int)) (budget - (streamTurn cswin budget s).2)
    refine ⟨?_, ?_, Nat.add_le_of_le_sub tb.le_budget h3, fun hall s' hs' => ?_⟩
    · simp only [writePassAux]; omega
    · simp only [writePassAux]; omega
    · obtain ⟨s0, hs0, cw, b, rfl⟩ := writePassAux_mem _ cswin budget s' hs'
      exact streamTurn_SInv (hall s0 hs0)

theorem writePassAux_openPending (ss : List FcStream) (cswin : Int) (budget : Nat) :
    openPending (writePassAux cswin budget ss).streams + (writePassAux cswin budget ss).total
      = openPending ss := by
  induction ss generalizing cswin budget with
  | nil => rfl
  | cons s rest ih =>
    have h1 := streamTurn_openPending cswin budget s
    have h2 := ih (cswin - ((streamTurn cswin budget s).2 : Int)) (budget - (streamTurn cswin budget s).2)
    simp only [writePassAux, openPending]
    omega

theorem writePassAux_progress (ss : List FcStream) (cswin : Int) (budget : Nat) (hb : 2048 ≤ budget)
    (h : ∃ s ∈ ss, s.st = .open ∧ 0 < s.pending ∧ (s.pending : Int) ≤ s.swin ∧
      (s.pending : Int) ≤ cswin) :
    0 < (writePassAux cswin budget ss).total := by
  obtain ⟨s, hs, ho, hp, h1, h2⟩ := h
  induction ss generalizing cswin budget with
  | nil => simp at hs
  | cons t rest ih =>
    simp only [writePassAux]
    by_cases hn : (streamTurn cswin budget t).2 = 0
    · rcases List.mem_cons.1 hs with rfl | hs
      · have := streamTurn_progress s cswin budget ho (.inl hb) (.inr ⟨h1, h2⟩)
        omega
      · have := ih (cswin - ((streamTurn cswin budget t).2 : Int))
          (budget - (streamTurn cswin budget t).2) (by omega) hs (by omega)
        omega
    · omega

/-! ### cases of each operation -/

theorem mem_insertPrio {s y : FcStream} {l : List FcStream} :
    y ∈ insertPrio s l ↔ y = s ∨ y ∈ l := by
  induction l with
  | nil => simp [insertPrio]
  | cons x xs ih =>
    rw [insertPrio]
    split
    · simp
    · simp only [List.mem_cons, ih]
      exact or_left_comm

theorem forall_updFirst {Q : FcStream → Prop} {sid : Nat} {f : FcStream → FcStream} {s : FcStream} :
    ∀ {l : List FcStream}, l.find? (·.id = sid) = some s → (∀ y ∈ l, Q y) → (Q s → Q (f s)) →
      ∀ y ∈ updFirst sid f l, Q y
  | [], h, _, _, _, _ => by simp at h
  | x :: xs, h, hl, hf, y, hy => by
    obtain ⟨hx0, hxs⟩ := List.forall_mem_cons.1 hl
    rw [updFirst] at hy
    rw [List.find?_cons] at h
    by_cases hx : x.id = sid
    · rw [if_pos hx, List.mem_cons] at hy
      simp only [hx, decide_true, Option.some.injEq] at h
      subst h
      exact hy.elim (fun e => e ▸ hf hx0) (hxs y)
    · rw [if_neg hx, List.mem_cons] at hy
      simp only [hx, decide_false] at h
      exact hy.elim (fun e => e ▸ hx0) (forall_updFirst h hxs hf y)

/-- the cases of h2_recv_window_update(): only the GOAWAY state changes (`same`; with `g := c.goaway`
    nothing does), the connection window is raised, or the stream the lookup finds is reset or has
    its window raised -/
theorem windowUpdate_cases {P : FcConn → Prop} (c : FcConn) (sid inc : Nat)
    (same : ∀ g, P { c with goaway := g })
    (conn : c.swin ≤ int32Max - inc → P { c with swin := c.swin + inc, credit := c.credit + inc })
    (reset : ∀ s, c.streams.find? (·.id = sid) = some s → s.st = .open →
      P { c with streams := updFirst sid (fun x => { x with st := .closed }) c.streams })
    (raise : ∀ s, c.streams.find? (·.id = sid) = some s → s.st = .open → s.swin ≤ int32Max - inc →
      P { c with streams := updFirst sid (fun x => { x with swin := x.swin + inc, credit := x.credit + inc })
                              c.streams }) :
    P (windowUpdate c sid inc).1 := by
  rw [windowUpdate]
  by_cases h0 : sid = 0
  · rw [if_pos h0]
    split
    · exact same _                 -- increment 0
    · split
      · exact same _               -- overflow
      · exact conn (by omega)
  · rw [if_neg h0]
    split
    · split
      · exact same _               -- idle stream
      · exact same _               -- retired stream
    · rename_i s hs
      by_cases hst : s.st = .closed ∨ s.st = .halfClosedLocal
      · rw [if_pos hst]
        exact same _               -- closed or half-closed (local): ignored
      · have ho : s.st = .open := by
          cases h : s.st with
          | «open» => rfl
          | halfClosedLocal => exact absurd (.inr h) hst
          | closed => exact absurd (.inl h) hst
        rw [if_neg hst]
        by_cases hi : inc = 0
        · rw [if_pos hi]
          exact reset s hs ho      -- increment 0
        · rw [if_neg hi]
          split
          · exact reset s hs ho    -- overflow
          · exact raise s hs ho (by omega)

/-- the cases of the SETTINGS_INITIAL_WINDOW_SIZE branch -/
theorem applyInitialWindow_cases {P : FcConn → Prop} (c : FcConn) (v : Nat)
    (same : ∀ g, P { c with goaway := g })
    (apply : (v : Int) ≤ int32Max →
      (∀ s ∈ c.streams, s.live = true → winOverflows s.swin ((v : Int) - c.initWin) = false) →
      P { c with initWin := v, clientInit := v,
                 streams := c.streams.map fun s =>
                   if s.live then { s with swin := s.swin + ((v : Int) - c.initWin),
                                           credit := s.credit + ((v : Int) - c.clientInit) }
                   else s }) :
    P (applyInitialWindow c v).1 := by
  rw [applyInitialWindow]
  by_cases hv : (v : Int) > int32Max
  · rw [if_pos hv]
    exact same _                   -- value above 2^31-1
  · rw [if_neg hv]
    split
    · exact same _                 -- a live stream's window would overflow
    · rename_i hany
      refine apply (by omega) fun s hs hl => ?_
      simp only [List.any_eq_true, Bool.and_eq_true, not_exists, not_and] at hany
      simpa using hany s hs hl

theorem writePass_cases {P : FcConn → Prop} (c : FcConn) (budget : Nat) (same : P c)
    (pass : P { c with streams := (writePassAux c.swin budget c.streams).streams,
                       swin := (writePassAux c.swin budget c.streams).cswin,
                       sent := c.sent + (writePassAux c.swin budget c.streams).total }) :
    P (writePass c budget).1 := by
  unfold writePass
  split
  · exact same
  · exact pass

theorem fcStep_cases {P : FcConn → Prop} (c : FcConn) (e : FcEv) (same : P c)
    (opened : ∀ id body inc, P (openStream c id body inc))
    (settings : ∀ v, P (applyInitialWindow c v).1)
    (update : ∀ sid inc, P (windowUpdate c sid inc).1)
    (write : ∀ budget, P (writePass c budget).1) : P (fcStep c e).1 := by
  cases e <;> rw [fcStep]
  · split
    · exact same
    · exact opened ..
  · split
    · exact same
    · exact settings _
  · split
    · exact same
    · exact update ..
  · exact write _

theorem fcRun_inv {P : FcConn → Prop} (step : ∀ c e, P c → P (fcStep c e).1) :
    ∀ (es : List FcEv) (c : FcConn), P c → P (fcRun c es).1
  | [], _, h => h
  | e :: es, c, h => fcRun_inv step es _ (step c e h)

/-! ### `CInv` -/

theorem CInv.init_holds (h : Extracted.h2ConnSendWindow = rfcInitialWindow ∧
                             Extracted.h2PeerInitialWindow = rfcInitialWindow) : CInv FcConn.init :=
  ⟨by simp [FcConn.init, h.1], by simp [FcConn.init, h.2], fun s hs => by simp [FcConn.init] at hs⟩

theorem CInv.openStream {c : FcConn} (inv : CInv c) (id body : Nat) (inc : Bool) :
    CInv (openStream c id body inc) := by
  refine ⟨inv.conn, inv.init, fun s hs => ?_⟩
  rcases mem_insertPrio.1 hs with rfl | hs
  · simp [SInv, inv.init]
  · exact inv.streams s hs

theorem CInv.applyInitialWindow {c : FcConn} (inv : CInv c) (v : Nat) :
    CInv (applyInitialWindow c v).1 := by
  refine applyInitialWindow_cases c v (fun _ => ⟨inv.conn, inv.init, inv.streams⟩)
    fun _ _ => ⟨inv.conn, rfl, fun s hs => ?_⟩
  obtain ⟨s0, hs0, rfl⟩ := List.mem_map.1 hs
  have h0 := inv.streams s0 hs0
  split
  · unfold SInv at *
    simp only
    rw [h0, inv.init]
    omega
  · exact h0

theorem CInv.windowUpdate {c : FcConn} (inv : CInv c) (sid inc : Nat) :
    CInv (windowUpdate c sid inc).1 := by
  refine windowUpdate_cases c sid inc (fun _ => ⟨inv.conn, inv.init, inv.streams⟩)
    (fun _ => ⟨?_, inv.init, inv.streams⟩)
    (fun s hs _ => ⟨inv.conn, inv.init, forall_updFirst hs inv.streams id⟩)
    fun s hs _ _ => ⟨inv.conn, inv.init, forall_updFirst hs inv.streams fun h => ?_⟩
  · simp only; rw [inv.conn]; omega
  · unfold SInv at *; simp only; omega

theorem CInv.writePass {c : FcConn} (inv : CInv c) (budget : Nat) : CInv (writePass c budget).1 := by
  obtain ⟨h1, _, _, h4⟩ := writePassAux_spec c.streams c.swin budget
  refine writePass_cases c budget inv ⟨?_, inv.init, h4 inv.streams⟩
  simp only; rw [h1, inv.conn]; omega

theorem CInv.step {c : FcConn} (inv : CInv c) (e : FcEv) : CInv (fcStep c e).1 :=
  fcStep_cases c e inv inv.openStream inv.applyInitialWindow inv.windowUpdate inv.writePass

theorem CInv.run {c : FcConn} (inv : CInv c) (es : List FcEv) : CInv (fcRun c es).1 :=
  fcRun_inv (fun _ e h => h.step e) es c inv

/-! ### `RInv` -/

/-- a window within int32 that the guard of h2_parse_frame_settings lets pass stays there -/
theorem le_of_not_winOverflows {swin diff : Int} (h : winOverflows swin diff = false)
    (hs : swin ≤ int32Max) : swin + diff ≤ int32Max := by
  unfold winOverflows at h
  split at h
  · simp only [decide_eq_false_iff_not] at h; omega
  · omega

theorem RInv.init_holds (h : Extracted.h2ConnSendWindow = rfcInitialWindow ∧
                             Extracted.h2PeerInitialWindow = rfcInitialWindow) : RInv FcConn.init :=
  ⟨by simp [FcConn.init, h.2, rfcInitialWindow, int32Max],
   by simp [FcConn.init, h.1, rfcInitialWindow, int32Max], fun s hs => by simp [FcConn.init] at hs⟩

theorem RInv.openStream {c : FcConn} (inv : RInv c) (id body : Nat) (inc : Bool) :
    RInv (openStream c id body inc) := by
  refine ⟨inv.init, inv.conn, fun s hs => ?_⟩
  rcases mem_insertPrio.1 hs with rfl | hs
  · have := inv.init
    unfold SRange int32Max at *
    simp only [LtVerif.openStream]
    omega
  · exact inv.streams s hs

theorem RInv.writePass {c : FcConn} (inv : RInv c) (budget : Nat) : RInv (writePass c budget).1 := by
  obtain ⟨h1, h2, _, _⟩ := writePassAux_spec c.streams c.swin budget
  have := inv.conn
  refine writePass_cases c budget inv ⟨inv.init, by simp only; omega, fun s' hs' => ?_⟩
  obtain ⟨s, hs, cw, b, rfl⟩ := writePassAux_mem _ _ _ s' hs'
  exact streamTurn_range inv.init.2 (inv.streams s hs)

theorem RInv.applyInitialWindow {c : FcConn} (inv : RInv c) (v : Nat) :
    RInv (applyInitialWindow c v).1 := by
  refine applyInitialWindow_cases c v (fun _ => ⟨inv.init, inv.conn, inv.streams⟩)
    fun hv hno => ⟨⟨Int.natCast_nonneg v, hv⟩, inv.conn, fun s hs => ?_⟩
  obtain ⟨s0, hs0, rfl⟩ := List.mem_map.1 hs
  obtain ⟨h1, h2, h3⟩ := inv.streams s0 hs0
  by_cases hl : s0.live = true
  · rw [if_pos hl]
    have := le_of_not_winOverflows (hno s0 hs0 hl) h1
    have := h3 hl
    unfold SRange int32Max at *
    exact ⟨by simp only; omega, by simp only; omega, fun _ => by simp only; omega⟩
  · rw [if_neg hl]
    exact ⟨h1, h2, fun h => absurd h hl⟩

theorem RInv.windowUpdate {c : FcConn} (inv : RInv c) (sid inc : Nat) :
    RInv (windowUpdate c sid inc).1 := by
  have := inv.conn
  refine windowUpdate_cases c sid inc (fun _ => ⟨inv.init, inv.conn, inv.streams⟩)
    (fun _ => ⟨inv.init, by simp only; omega, inv.streams⟩)
    (fun s hs _ => ⟨inv.init, inv.conn, forall_updFirst hs inv.streams
      fun ⟨h1, h2, _⟩ => ⟨h1, h2, fun h => by simp [FcStream.live] at h⟩⟩)
    fun s hs ho _ => ⟨inv.init, inv.conn, forall_updFirst (Q := SRange c.initWin) hs inv.streams
      fun ⟨h1, h2, h3⟩ => ?_⟩
  have := h3 ((FcStream.live_iff s).2 ho)
  unfold SRange int32Max at *
  exact ⟨by simp only; omega, by simp only; omega, fun _ => by simp only; omega⟩

theorem RInv.step {c : FcConn} (inv : RInv c) (e : FcEv) : RInv (fcStep c e).1 :=
  fcStep_cases c e inv inv.openStream inv.applyInitialWindow inv.windowUpdate inv.writePass

theorem RInv.run {c : FcConn} (inv : RInv c) (es : List FcEv) : RInv (fcRun c es).1 :=
  fcRun_inv (fun _ e h => h.step e) es c inv

/-! ### completion -/

theorem turns_not_open : ∀ (bs : List Nat) (s : FcStream) (cw : Int), s.st ≠ .open →
    turns s cw bs = (s, cw)
  | [], _, _, _ => rfl
  | b :: bs, s, cw, h => by
    rw [turns, streamTurn, if_pos h]
    simpa using turns_not_open bs s cw h

theorem turns_complete : ∀ (bs : List Nat) (s : FcStream) (cw : Int),
    s.st = .open → (s.pending : Int) ≤ s.swin → (s.pending : Int) ≤ cw →
    (∀ b ∈ bs, 2048 ≤ b) → s.pending < 2048 * bs.length →
    (turns s cw bs).1.st = .closed ∧ (turns s cw bs).1.pending = 0 ∧
    (turns s cw bs).1.sent = s.sent + s.pending := by
  intro bs s cw hopen hs hc hb hl
  induction bs generalizing s cw with
  | nil => simp at hl
  | cons b bs ih =>
    obtain ⟨hb0, hbs⟩ := List.forall_mem_cons.1 hb
    -- while both windows cover the remainder a turn sends it all (`hz`) or at least 2048 octets,
    -- and the windows cover what is left
    have ts := streamTurn_spec cw b s
    have hle := (streamTurn_bound cw b s).le_pending
    have hge := streamTurn_progress s cw b hopen (.inl hb0) (.inr ⟨hs, hc⟩)
    have hs' := streamTurn_ample (cswin := cw) (budget := b) hs
    rw [turns]
    generalize streamTurn cw b s = t at *
    have hse := ts.sent
    have hpe := ts.pending
    have hst := ts.st
    by_cases hz : s.pending ≤ t.2
    · rw [if_pos ⟨hopen, hz⟩] at hst
      rw [turns_not_open bs _ _ (by rw [hst]; decide)]
      exact ⟨hst, hpe.trans (Nat.sub_eq_zero_of_le hz), by rw [hse, Nat.le_antisymm hle hz]⟩
    · rw [if_neg (fun h => hz h.2), hopen] at hst
      have hn : 2048 ≤ t.2 := hge.resolve_left hz
      rw [List.length_cons] at hl
      obtain ⟨a1, a2, a3⟩ := ih t.1 (cw - t.2) hst hs'
        (by rw [hpe, Int.ofNat_sub hle]; exact Int.sub_le_sub_right hc _) hbs (by omega)
      exact ⟨a1, a2, by rw [a3, hse, hpe, Nat.add_assoc, Nat.add_sub_cancel' hle]⟩

theorem openPending_pos {ss : List FcStream} (h : 0 < openPending ss) :
    ∃ s ∈ ss, s.st = .open ∧ 0 < s.pending ∧ s.pending ≤ openPending ss := by
  induction ss with
  | nil => simp [openPending] at h
  | cons t rest ih =>
    rw [openPending] at h ⊢
    by_cases ht : t.st = .open ∧ 0 < t.pending
    · exact ⟨t, by simp, ht.1, ht.2, by rw [if_pos ht.1]; omega⟩
    · have : 0 < openPending rest := by
        split at h
        · have : t.pending = 0 := Nat.eq_zero_of_not_pos fun hp => ht ⟨‹_›, hp⟩
          omega
        · omega
      obtain ⟨s, hs, ho, hp, hle⟩ := ih this
      exact ⟨s, by simp [hs], ho, hp, by omega⟩

theorem writePass_ample {c : FcConn} (h : Ample c) (b : Nat) :
    Ample (writePass c b).1 ∧
    openPending (writePass c b).1.streams + (writePassAux c.swin b c.streams).total = openPending c.streams ∧
    (writePass c b).1.sent = c.sent + (writePassAux c.swin b c.streams).total := by
  obtain ⟨h1, _, _, _⟩ := writePassAux_spec c.streams c.swin b
  have h2 := writePassAux_openPending c.streams c.swin b
  rw [writePass, if_neg (by simp [h.noGoaway])]
  refine ⟨⟨h.noGoaway, fun s' hs' ho => ?_, ?_⟩, h2, rfl⟩
  · obtain ⟨s, hs, cw, bb, rfl⟩ := writePassAux_mem _ _ _ s' hs'
    exact streamTurn_ample (h.streams s hs (streamTurn_open ho))
  · have := h.conn
    simp only
    omega

theorem passes_complete (bs : List Nat) (c : FcConn) (ha : Ample c) (hb : ∀ b ∈ bs, 2048 ≤ b)
    (hl : openPending c.streams ≤ bs.length) :
    openPending (passes c bs).streams = 0 ∧ (passes c bs).sent = c.sent + openPending c.streams := by
  induction bs generalizing c with
  | nil => simp at hl; simp [passes, hl]
  | cons b bs ih =>
    obtain ⟨hb0, hbs⟩ := List.forall_mem_cons.1 hb
    obtain ⟨ha', hsum, hsent⟩ := writePass_ample ha b
    -- one pass per pending octet is enough: under `Ample` a pass with budget ≥ 2048 sends at least one
    have hprog : openPending c.streams = 0 ∨ 0 < (writePassAux c.swin b c.streams).total := by
      by_cases hz : openPending c.streams = 0
      · exact .inl hz
      · obtain ⟨s, hs, ho, hp, hle⟩ := openPending_pos (Nat.pos_of_ne_zero hz)
        have := ha.conn
        exact .inr (writePassAux_progress c.streams c.swin b hb0
          ⟨s, hs, ho, hp, ha.streams s hs ho, by omega⟩)
    rw [List.length_cons] at hl
    obtain ⟨h1, h2⟩ := ih (writePass c b).1 ha' hbs (by omega)
    rw [passes]
    exact ⟨h1, by omega⟩

end LtVerif
