/-
  Helper lemmas for C09: reverse-proxy field filter, hex chunk sizes and chunked upload
  (Model/ProxyReq.lean).
-/
import LtVerif.Proofs.Bytes
import LtVerif.Model.ProxyReq
namespace LtVerif.Proxy
open LtVerif B

/-- what `fieldAct` has tested before `.emit`; its configuration-only skips (authorizer's
    Content-Length, Upgrade to HTTP/1.0) are not recorded -/
structure Emitted (c : Cfg) (version : Nat) (k v : Bytes) : Prop where
  connection : nameIs k "Connection" = false
  proxyConnection : nameIs k "Proxy-Connection" = false
  proxy : nameIs k "Proxy" = false
  host : nameIs k "Host" = false
  setCookie : nameIs k "Set-Cookie" = false
  name : k ≠ []
  value : v ≠ []
  te : nameIs k "TE" = true → eqIcase v (ofString "trailers") = true ∧ version ≠ 0 ∧ c.forceHttp10 = false

theorem fieldAct_emit (c : Cfg) (version : Nat) (k v : Bytes) (h : fieldAct c version k v = .emit) :
    Emitted c version k v := by
  unfold fieldAct at h
  have skip : Act.skip ≠ Act.emit := nofun
  obtain ⟨hHost, h⟩ := ite_ne_left skip h       -- Host
  obtain ⟨_, h⟩ := ite_ne_left skip h           -- Content-Length of an authorizer
  obtain ⟨hProxy, h⟩ := ite_ne_left skip h      -- Proxy-Connection, Proxy
  obtain ⟨hTE, h⟩ := ite_ne_left skip h         -- TE other than "trailers" to HTTP/1.1
  obtain ⟨_, h⟩ := ite_ne_left skip h           -- Upgrade to HTTP/1.0
  obtain ⟨hConn, h⟩ := ite_ne_left skip h       -- Connection
  obtain ⟨hCookie, h⟩ := ite_ne_left skip h     -- Set-Cookie
  obtain ⟨hBlank, _⟩ := ite_ne_left skip h      -- blank name or value
  simp only [Bool.or_eq_true, not_or, Bool.not_eq_true, List.isEmpty_iff] at hHost hProxy hConn hCookie hBlank
  refine ⟨hConn, hProxy.1, hProxy.2, hHost, hCookie, hBlank.1, hBlank.2, fun hte => ?_⟩
  have : (c.forceHttp10 = false ∧ ¬version = 0) ∧ eqIcase v (ofString "trailers") = true := by
    simpa [hte] using hTE
  exact ⟨this.2, this.1.2, this.1.1⟩

/-! ### hex chunk sizes -/

theorem hexLcBytes_hexStr : ∀ (fuel n : Nat) (acc : Bytes), n < fuel →
    ∃ ds, hexLcBytes fuel n acc = ds ++ acc ∧ HexStr ds n
  | 0, _, _, h => by omega
  | f + 1, n, acc, h => by
    have h1 : n / 16 % 16 < 16 := by omega
    have h2 : n % 16 < 16 := by omega
    unfold hexLcBytes
    by_cases hz : n / 256 = 0
    · refine ⟨[hexDigitLC (n / 16 % 16).toUInt8] ++ [hexDigitLC (n % 16).toUInt8], by simp [hz], ?_⟩
      have := (HexStr.one h1).snoc h2
      rwa [show n / 16 % 16 * 16 + n % 16 = n by omega] at this
    · obtain ⟨ds, e, hs⟩ := hexLcBytes_hexStr f (n / 256)
        (hexDigitLC (n / 16 % 16).toUInt8 :: hexDigitLC (n % 16).toUInt8 :: acc) (by omega)
      refine ⟨ds ++ [hexDigitLC (n / 16 % 16).toUInt8, hexDigitLC (n % 16).toUInt8], by simp [hz, e], ?_⟩
      have := (hs.snoc h1).snoc h2
      rw [show (n / 256 * 16 + n / 16 % 16) * 16 + n % 16 = n by omega] at this
      simpa using this

theorem hexLc_hexStr (n : Nat) : HexStr (hexLc n) n := by
  obtain ⟨ds, h1, hs⟩ := hexLcBytes_hexStr (n + 1) n [] (by omega)
  rwa [hexLc, h1, List.append_nil]

theorem parseHexLine_digits (ds rest : Bytes) (h : ∀ d ∈ ds, (hexVal d).isSome = true) :
    ∀ acc ndig, 0 < ndig + ds.length →
      parseHexLine (ds ++ cr :: lf :: rest) acc ndig = some (hexFold acc ds, rest) := by
  induction ds with
  | nil =>
    intro acc ndig hpos
    have hcr : hexValNat cr = none := by decide
    simp only [List.nil_append, parseHexLine, hcr, List.head?_cons, true_and, hexFold, List.foldl_nil,
      List.drop_succ_cons, List.drop_zero]
    have : ndig > 0 := by simpa using hpos
    simp [this]
  | cons d t ih =>
    intro acc ndig _
    obtain ⟨u, hu⟩ := Option.isSome_iff_exists.mp (h d (by simp))
    simp only [List.cons_append, parseHexLine, hexValNat, hu, Option.map_some]
    rw [ih (fun x hx => h x (by simp [hx])) _ _ (by omega)]
    simp [hexFold, hu]

/-! ### chunked upload -/

/-- one chunk as proxy_stdin_append() frames it -/
def chunkEnc (c : Bytes) : Bytes := hexLc c.length ++ crlf ++ c ++ crlf

theorem dechunk_last (fuel : Nat) : dechunk (fuel + 1) lastChunk = some ([], []) := by
  have : lastChunk = [48] ++ cr :: lf :: crlf := by decide
  rw [dechunk, this, parseHexLine_digits [48] crlf (by decide) 0 0 (by simp)]
  simp [hexFold, hexVal, isDigit, crlf]

theorem dechunk_chunk (fuel : Nat) (c rest : Bytes) (hc : c ≠ []) :
    dechunk (fuel + 1) (chunkEnc c ++ rest) = (dechunk fuel rest).map fun b => (c ++ b.1, b.2) := by
  have hs := hexLc_hexStr c.length
  have shape : chunkEnc c ++ rest = hexLc c.length ++ cr :: lf :: (c ++ (crlf ++ rest)) := by
    simp [chunkEnc, crlf, List.append_assoc]
  rw [shape, dechunk, parseHexLine_digits _ _ hs.xdigit 0 0
    (by have := List.length_pos_iff.mpr hs.ne; omega), hs.value]
  have hpos : c.length ≠ 0 := fun e => hc (List.eq_nil_of_length_eq_zero e)
  have l1 : ¬ ((c ++ (crlf ++ rest)).length < c.length + 2 ∨
      ((c ++ (crlf ++ rest)).drop c.length).take 2 ≠ crlf) := by simp [crlf]
  have d1 : (c ++ (crlf ++ rest)).drop (c.length + 2) = rest := by
    rw [← List.drop_drop]; simp [crlf]
  simp only [hpos, l1, ↓reduceIte, d1, List.take_left]
  cases dechunk fuel rest <;> rfl

theorem dechunk_chunks (cs : List Bytes) (hne : ∀ c ∈ cs, c ≠ []) :
    ∀ fuel, (cs.flatMap chunkEnc ++ lastChunk).length < fuel →
      dechunk fuel (cs.flatMap chunkEnc ++ lastChunk) = some (cs.flatten, []) := by
  intro fuel hf
  have hfl : cs.foldr (· ++ ·) [] = cs.flatten := by
    clear hne hf
    induction cs with
    | nil => rfl
    | cons c t ih => simp [ih]
  rw [decode_flatMap chunkEnc dechunk (fun c b => (c ++ b.1, b.2)) lastChunk ([], []) cs
    (fun _ _ => by simp [chunkEnc, crlf]) dechunk_last
    (fun c hc f rest => dechunk_chunk f c rest (hne c hc)) fuel hf, foldr_pair, hfl]

/-- invariant of the streamed upload before completion.  `1 < hdr.length` in the lemmas below puts
    `wb_reqlen = -(bytes queued)` into the `< -1` ("length still unknown") branch. -/
structure UpInv (hdr : Bytes) (st : RawSt) (cs : List Bytes) : Prop where
  out : st.out = hdr ++ cs.flatMap chunkEnc
  pending : st.pending = []
  reqlen : st.reqlen = -(st.out.length : Int)
  nonempty : ∀ c ∈ cs, c ≠ []

theorem upInv_stdinAppend (hdr : Bytes) (hh : 1 < hdr.length) (st : RawSt) (cs : List Bytes) (p : Bytes)
    (h : UpInv hdr st cs) :
    UpInv hdr (stdinAppend { st with pending := p }) (if p.isEmpty then cs else cs ++ [p]) := by
  obtain ⟨h1, h2, h3, h4⟩ := h
  have hlen : hdr.length ≤ st.out.length := by rw [h1, List.length_append]; omega
  unfold stdinAppend
  by_cases hp : p.isEmpty = true
  · have hpn : p = [] := by simpa using hp
    simp only [hp, ↓reduceIte]
    have hc : ¬ ((st.out.length : Int) = st.reqlen) := by rw [h3]; omega
    simp only [hc, ↓reduceIte]
    exact ⟨h1, hpn, h3, h4⟩
  · have hpn : p ≠ [] := fun e => hp (List.isEmpty_iff.mpr e)
    simp only [hp, Bool.false_eq_true, ↓reduceIte]
    have hr1 : ¬ (st.reqlen = -1) := by rw [h3]; omega
    have hr2 : ¬ (st.reqlen ≥ 0) := by rw [h3]; omega
    simp only [hr1, hr2, ↓reduceIte]
    have hout : st.out ++ (hexLc p.length ++ crlf) ++ p ++ crlf =
        hdr ++ (cs ++ [p]).flatMap chunkEnc := by
      rw [h1]; simp [chunkEnc, List.append_assoc]
    have hc : ¬ (((st.out ++ (hexLc p.length ++ crlf) ++ p ++ crlf).length : Int) =
        st.reqlen - (((hexLc p.length ++ crlf).length + 2 + p.length : Nat) : Int)) := by
      rw [h3]; simp only [List.length_append]; push_cast; omega
    simp only [hc, ↓reduceIte]
    refine ⟨hout, rfl, ?_, ?_⟩
    · simp only; rw [h3]; simp only [List.length_append, crlf, List.length_cons, List.length_nil]
      push_cast; omega
    · intro c hcm
      rcases List.mem_append.mp hcm with hcm | hcm
      · exact h4 c hcm
      · simp only [List.mem_singleton] at hcm; rw [hcm]; exact hpn

theorem upInv_foldl (hdr : Bytes) (hh : 1 < hdr.length) (segs : List Bytes) :
    ∀ (st : RawSt) (cs : List Bytes), UpInv hdr st cs →
      ∃ cs', UpInv hdr (segs.foldl (arrive {} true) st) cs' ∧ cs'.flatten = cs.flatten ++ segs.flatten := by
  induction segs with
  | nil => intro st cs h; exact ⟨cs, h, by simp⟩
  | cons s tl ih =>
    intro st cs h
    simp only [List.foldl_cons]
    have hstep : UpInv hdr (arrive {} true st s) (if s.isEmpty then cs else cs ++ [s]) := by
      have := upInv_stdinAppend hdr hh st cs s h
      unfold arrive
      simp only [h.pending, List.nil_append]
      cases s with
      | nil => exact ⟨h.out, rfl, h.reqlen, h.nonempty⟩
      | cons a t => exact this
    obtain ⟨cs', hc1, hc2⟩ := ih _ _ hstep
    refine ⟨cs', hc1, ?_⟩
    rw [hc2]
    cases s <;> simp

theorem runChunked_spec (hdr : Bytes) (hh : 1 < hdr.length) (seg0 : Bytes) (segs : List Bytes) :
    ∃ stream, (runChunked hdr seg0 segs).out = hdr ++ stream ∧
      dechunk (stream.length + 1) stream = some ((seg0 :: segs).flatten, []) ∧
      (runChunked hdr seg0 segs).pending = [] := by
  have h0 : UpInv hdr { out := hdr, reqlen := -(hdr.length : Int), pending := [] } [] :=
    ⟨by simp, rfl, rfl, by intro c hc; simp at hc⟩
  have h1 := upInv_stdinAppend hdr hh _ [] seg0 h0
  obtain ⟨cs, hc1, hc2⟩ := upInv_foldl hdr hh segs _ _ h1
  obtain ⟨e1, e2, e3, e4⟩ := hc1
  unfold runChunked
  simp only at e1 e2 e3 ⊢
  generalize segs.foldl (arrive {} true) (stdinAppend { out := hdr, reqlen := -(hdr.length : Int), pending := seg0 }) = st at *
  have hlen : hdr.length ≤ st.out.length := by rw [e1, List.length_append]; omega
  have hlt : st.reqlen < -1 := by rw [e3]; omega
  have hfin : complete true st = { st with out := st.out ++ lastChunk, reqlen := (st.out.length : Int) + 6 } := by
    have hneg : (st.out.length : Int) = -st.reqlen := by rw [e3]; omega
    unfold complete
    rw [if_pos hlt]
    simp only [↓reduceIte, stdinAppend, e2, List.isEmpty_nil, hneg]
  rw [hfin]
  refine ⟨cs.flatMap chunkEnc ++ lastChunk, by simp [e1, List.append_assoc], ?_, e2⟩
  rw [dechunk_chunks cs e4 _ (Nat.lt_succ_self _)]
  rw [hc2]
  cases seg0 <;> simp

end LtVerif.Proxy
