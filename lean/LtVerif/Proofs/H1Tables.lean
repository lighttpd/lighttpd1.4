/-
  Facts read off the tables extracted from the C (Extracted/H1RespTables.lean): the status line with
  its reason phrases, and the four escape tables of buffer_append_string_encoded().
-/
import LtVerif.Proofs.H1Store
namespace LtVerif
open B

/-! ### status line and reason phrases -/

def statusRowOk (s : Nat) (t : Bytes) : Bool :=
  (t.all fun x => x != cr && x != lf) &&
  match t with
  | a :: b :: c :: d :: _ => [a, b, c].all isDigit && decNat [a, b, c] == s && d == sp
  | _ => false

theorem statusTable_rows : Extracted.statusTable.all (fun e => statusRowOk e.1 (ofString e.2)) = true := by
  simp only [Extracted.statusTable, List.all_cons, List.all_nil, Bool.and_true, Bool.and_eq_true]
  -- row by row: a rewrite in the whole table is quadratic
  repeat' apply And.intro
  all_goals (rw [B.ofString_ofList]; decide +kernel)

theorem statusTable_row {e : Nat × String} (he : e ∈ Extracted.statusTable) :
    statusRowOk e.1 (ofString e.2) = true :=
  List.all_eq_true.mp statusTable_rows e he

theorem statusText_clean (s : Nat) : NoCRLF (statusText s) := by
  unfold statusText
  split
  · rename_i e hf
    have hrow := statusTable_row (List.mem_of_find?_eq_some hf)
    simp only [statusRowOk, Bool.and_eq_true, List.all_eq_true, bne_iff_ne] at hrow
    exact ⟨fun h => (hrow.1 _ h).1 rfl, fun h => (hrow.1 _ h).2 rfl⟩
  · exact (natToDec_clean s).append (by decide +kernel)

theorem statusText_shape (s : Nat) (h1 : 100 ≤ s) (h2 : s < 1000) :
    ∃ code rest, statusText s = code ++ sp :: rest ∧ code.length = 3 ∧ code.all isDigit = true ∧
      decNat code = s := by
  unfold statusText
  split
  · rename_i e hf
    have hrow := statusTable_row (List.mem_of_find?_eq_some hf)
    have hs : e.1 = s := by simpa using List.find?_some hf
    generalize ofString e.2 = t at hrow
    simp only [statusRowOk, Bool.and_eq_true] at hrow
    split at hrow
    · rename_i a b c d rest
      simp only [Bool.and_eq_true, beq_iff_eq] at hrow
      exact ⟨[a, b, c], rest, by rw [hrow.2.2]; rfl, rfl, hrow.2.1.1, hrow.2.1.2.trans hs⟩
    · exact absurd hrow.2 (by decide)
  · refine ⟨natToDec s, [], rfl, ?_, natToDec_all_digit s, decNat_natToDec s⟩
    have h3 := (natToDec_length_le_iff s (k := 3) (by decide)).mpr h2
    have h2' := mt (natToDec_length_le_iff s (k := 2) (by decide)).mp (by omega)
    omega

theorem statusText_ne_nil (s : Nat) : statusText s ≠ [] := by
  unfold statusText
  split
  · rename_i e hf
    have hrow := statusTable_row (List.mem_of_find?_eq_some hf)
    intro hnil
    simp [hnil, statusRowOk] at hrow
  · simp

theorem errorPage_pos (s : Nat) : 0 < (errorPage s).length := by
  have := List.length_pos_iff.mpr (statusText_ne_nil s)
  unfold errorPage
  simp only [List.length_append]
  omega

theorem parseStatusLine_render (v : UInt8) (code rest : Bytes) (hl : code.length = 3)
    (hd : code.all isDigit = true) :
    parseStatusLine (ofString "HTTP/1." ++ v :: sp :: (code ++ sp :: rest)) = some (decNat code) := by
  obtain ⟨a, b, c, rfl⟩ : ∃ a b c, code = [a, b, c] := by
    match code, hl with
    | [a, b, c], _ => exact ⟨a, b, c, rfl⟩
  have hp : ofString "HTTP/1." = [72, 84, 84, 80, 47, 49, 46] := by decide +kernel
  simp [parseStatusLine, hp, hd]

theorem parseStatus_all : ∀ s, s < 1000 → 100 ≤ s →
    parseStatusLine (ofString "HTTP/1.1 " ++ statusText s) = some s ∧
    parseStatusLine (ofString "HTTP/1.0 " ++ statusText s) = some s := by
  intro s h2 h1
  obtain ⟨code, rest, ht, hl, hd, hv⟩ := statusText_shape s h1 h2
  have e1 : ofString "HTTP/1.1 " = ofString "HTTP/1." ++ [49, sp] := by decide +kernel
  have e0 : ofString "HTTP/1.0 " = ofString "HTTP/1." ++ [48, sp] := by decide +kernel
  rw [ht, e1, e0, ← hv]
  exact ⟨by simpa using parseStatusLine_render 49 code rest hl hd,
    by simpa using parseStatusLine_render 48 code rest hl hd⟩

/-! ### encoders -/

theorem encTable_plain : ∀ e, e < 4 → ((encTable e).zipIdx.all fun p =>
    p.1 || (0x20 ≤ p.2 && p.2 != 0x7f && (2 ≤ e || (0x21 ≤ p.2 && p.2 ≤ 0x7e)))) = true := by
  decide +kernel

theorem mustEncode_false {e : Nat} {b : UInt8} (he : e < 4) (h : mustEncode e b = false) :
    0x20 ≤ b ∧ b ≠ 0x7f ∧ (e < 2 → 0x21 ≤ b ∧ b ≤ 0x7e) := by
  have hall := encTable_plain e he
  rw [List.all_eq_true] at hall
  unfold mustEncode at h
  have hm : (false, b.toNat) ∈ (encTable e).zipIdx := by
    rw [List.mem_zipIdx_iff_getElem?]
    cases hg : (encTable e)[b.toNat]? with
    | none => simp [List.getD, hg] at h
    | some m => simp [List.getD, hg] at h; simp [h]
  have := hall _ hm
  simp only [Bool.false_or, Bool.and_eq_true, decide_eq_true_eq, bne_iff_ne, Bool.or_eq_true] at this
  obtain ⟨⟨h1, h2⟩, h3⟩ := this
  refine ⟨UInt8.le_iff_toNat_le.mpr h1, fun hb => h2 (by rw [hb]; rfl), fun h2e => ?_⟩
  rcases h3 with h3 | h3
  · omega
  · exact ⟨UInt8.le_iff_toNat_le.mpr h3.1, UInt8.le_iff_toNat_le.mpr h3.2⟩

theorem hexDigitUC_range {n : UInt8} (h : n.toNat < 16) : 0x30 ≤ hexDigitUC n ∧ hexDigitUC n ≤ 0x46 := by
  unfold hexDigitUC
  simp only [UInt8.le_iff_toNat_le, UInt8.lt_iff_toNat_lt]
  split <;> simp [UInt8.toNat_add] <;> omega

theorem nibbles_lt (b : UInt8) : (b >>> 4).toNat < 16 ∧ (b &&& 0xf).toNat < 16 := by
  have hb := b.toNat_lt
  have hm : b.toNat &&& (2 ^ 4 - 1) = b.toNat % 2 ^ 4 := Nat.and_two_pow_sub_one_eq_mod _ 4
  have e : (0xf : UInt8).toNat = 2 ^ 4 - 1 := rfl
  rw [UInt8.toNat_shiftRight, UInt8.toNat_and, e, hm, Nat.shiftRight_eq_div_pow]
  exact ⟨by change b.toNat / 2 ^ 4 < 16; omega, by omega⟩

theorem encodeByte_printable {e : Nat} {b x : UInt8} (he : e < 4) (hx : x ∈ encodeByte e b) :
    0x20 ≤ x ∧ x ≠ 0x7f ∧ (e < 2 → 0x21 ≤ x ∧ x ≤ 0x7e) := by
  have hgraph : 0x21 ≤ x ∧ x ≤ 0x7e → 0x20 ≤ x ∧ x ≠ 0x7f ∧ (e < 2 → 0x21 ≤ x ∧ x ≤ 0x7e) := fun h =>
    ⟨UInt8.le_trans (by decide) h.1, fun h7 => absurd (h7 ▸ h.2) (by decide), fun _ => h⟩
  have hhex : ∀ {n : UInt8}, n.toNat < 16 → 0x21 ≤ hexDigitUC n ∧ hexDigitUC n ≤ 0x7e := fun hn =>
    ⟨UInt8.le_trans (by decide) (hexDigitUC_range hn).1, UInt8.le_trans (hexDigitUC_range hn).2 (by decide)⟩
  unfold encodeByte at hx
  split at hx
  · rename_i hm
    simp only [Bool.not_eq_true', List.mem_singleton] at hm hx
    rw [hx]; exact mustEncode_false he hm
  · apply hgraph
    split at hx <;> simp only [List.mem_cons, List.not_mem_nil, or_false] at hx
    · rcases hx with rfl | rfl | rfl
      · decide
      · exact hhex (nibbles_lt b).1
      · exact hhex (nibbles_lt b).2
    · rcases hx with rfl | rfl | rfl | rfl | rfl | rfl
      · decide
      · decide
      · decide
      · exact hhex (nibbles_lt b).1
      · exact hhex (nibbles_lt b).2
      · decide

theorem encodeByte_rel_printable : ∀ e, e < 2 → ∀ b : UInt8, ∀ x ∈ encodeByte e b, 0x21 ≤ x ∧ x ≤ 0x7e :=
  fun _ he _ _ hx => (encodeByte_printable (by omega) hx).2.2 he

theorem encodeByte_no_ctl : ∀ e, e < 4 → ∀ b : UInt8, ∀ x ∈ encodeByte e b, 0x20 ≤ x ∧ x ≠ 0x7f :=
  fun _ he _ _ hx => ⟨(encodeByte_printable he hx).1, (encodeByte_printable he hx).2.1⟩

end LtVerif
