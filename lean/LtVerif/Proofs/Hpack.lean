/-
  HPACK (C07): lshpack's decoder, layer by layer — integers (`decInt_encInt_total`), string
  literals (`decStr_encStr_cases`), the dynamic table (`Table.WF`), one call of the decoder cut
  into named parts (`decodeItem_cons`, `decodeItem_encInt`, `decodeItem_from`), the decode loop:
  it never runs out of fuel, so `decodeBlock` unfolds item by item (`decodeBlock_step`), and it
  keeps what `Dec.Next` keeps (`decodeBlockAux_inv`).
-/
import LtVerif.Model.Hpack
import LtVerif.Proofs.HpackHuffman
namespace LtVerif.Hpack
open LtVerif B

/-- admissible shifts of the continuation loop -/
def ShiftOk (sh : Nat) : Prop := sh = 0 ∨ sh = 7 ∨ sh = 14 ∨ sh = 21 ∨ sh = 28

theorem split128 (acc n sh : Nat) :
    acc + n % 128 * 2 ^ sh + n / 128 * 2 ^ (sh + 7) = acc + n * 2 ^ sh := by
  have h : n * 2 ^ sh = (n % 128 + 128 * (n / 128)) * 2 ^ sh := by rw [Nat.mod_add_div]
  rw [h, Nat.pow_add, Nat.add_mul]
  simp [Nat.mul_comm, Nat.mul_left_comm, Nat.add_assoc]

theorem decIntTail_far (bs : Bytes) : ∀ (sh acc : Nat), 35 ≤ sh → decIntTail bs sh acc = none := by
  induction bs with
  | nil => intro _ _ _; rfl
  | cons b rest ih =>
    intro sh acc hsh
    simp only [decIntTail]
    split
    · exact ih _ _ (by omega)
    · rw [if_neg (by omega), if_neg (by omega)]

/-- `acc < 2 ^ (sh + 8)`: loop invariant, from a prefix < 2^8; `sh = 28 → 1 ≤ n`: the C refuses a zero
    fifth octet -/
theorem decIntTail_last (n sh acc : Nat) (rest : Bytes) (hn : n < 128) (hsh : ShiftOk sh)
    (hacc : acc < 2 ^ (sh + 8)) (h28 : sh = 28 → 1 ≤ n) :
    decIntTail (n.toUInt8 :: rest) sh acc =
      if acc + n * 2 ^ sh < 2 ^ 32 then some (acc + n * 2 ^ sh, rest) else none := by
  simp only [decIntTail]
  rw [toNat_toUInt8 (n := n) (by omega), Nat.mod_eq_of_lt hn, if_neg (by omega)]
  rcases hsh with h | h | h | h | h <;> subst h
  -- the fifth octet must be 1..15 and must not wrap
  iterate 4 rw [if_pos (by omega), if_pos (by omega)]
  have h1 := h28 rfl
  rw [if_neg (by omega)]
  by_cases hfit : acc + n * 2 ^ 28 < 2 ^ 32
  · rw [if_pos ⟨rfl, h1, by omega, hfit⟩, if_pos hfit]
  · rw [if_neg (fun h => hfit h.2.2.2), if_neg hfit]

theorem decIntTail_encIntTailF (f : Nat) : ∀ (n sh acc : Nat) (rest : Bytes),
    n ≤ f → ShiftOk sh → acc < 2 ^ (sh + 8) → (sh = 28 → 1 ≤ n) →
    decIntTail (encIntTailF f n ++ rest) sh acc =
      if acc + n * 2 ^ sh < 2 ^ 32 then some (acc + n * 2 ^ sh, rest) else none := by
  induction f with
  | zero =>
    intro n sh acc rest hn hsh hacc h28
    exact decIntTail_last n sh acc rest (by omega) hsh hacc h28
  | succ f ih =>
    intro n sh acc rest hn hsh hacc h28
    unfold encIntTailF
    by_cases hlt : n < 128
    · rw [if_pos hlt]
      exact decIntTail_last n sh acc rest hlt hsh hacc h28
    · rw [if_neg hlt]
      simp only [List.cons_append, decIntTail]
      rw [toNat_toUInt8 (n := n % 128 + 128) (by omega), if_pos (Nat.le_add_left 128 _),
        Nat.add_mod_right, Nat.mod_mod]
      by_cases hs : sh = 28
      · -- a sixth octet would follow: refused, and the value is ≥ 2^35 anyway
        subst hs
        rw [decIntTail_far _ 35 _ (by omega), if_neg (by omega)]
      · have hsh' : ShiftOk (sh + 7) := by unfold ShiftOk at hsh ⊢; omega
        have hm : n % 128 * 2 ^ sh ≤ 127 * 2 ^ sh := Nat.mul_le_mul_right _ (by omega)
        have hp : 2 ^ (sh + 7 + 8) = 128 * (256 * 2 ^ sh) := by
          rw [show sh + 7 + 8 = sh + 15 by omega, Nat.pow_add]; omega
        have hq : 2 ^ (sh + 8) = 256 * 2 ^ sh := by rw [Nat.pow_add]; omega
        rw [ih (n / 128) (sh + 7) _ rest (by omega) hsh' (by omega) (by intro _; omega), split128]

theorem decInt_encInt_total (pbits hi n : Nat) (rest : Bytes)
    (hhi : hi % 2 ^ pbits = 0) (hfit : hi + 2 ^ pbits ≤ 256) :
    decInt pbits (encInt pbits hi n ++ rest) = if n < 2 ^ 32 then some (n, rest) else none := by
  have hP : 0 < 2 ^ pbits := Nat.pow_pos (by decide)
  have hmod : ∀ x, x < 2 ^ pbits → (hi + x) % 2 ^ pbits = x := fun x hx => by
    obtain ⟨k, hk⟩ := Nat.dvd_of_mod_eq_zero hhi
    rw [hk, Nat.mul_add_mod]; exact Nat.mod_eq_of_lt hx
  unfold encInt
  by_cases hlt : n < 2 ^ pbits - 1
  · simp only [hlt, if_true, List.singleton_append, decInt]
    rw [toNat_toUInt8 (n := hi + n) (by omega), hmod n (by omega), if_pos hlt, if_pos (by omega)]
  · simp only [hlt, if_false, List.cons_append, decInt]
    rw [toNat_toUInt8 (n := hi + (2 ^ pbits - 1)) (by omega), hmod _ (by omega)]
    simp only [Nat.lt_irrefl, if_false]
    unfold encIntTail
    rw [decIntTail_encIntTailF _ _ 0 (2 ^ pbits - 1) rest (Nat.le_refl _) (Or.inl rfl) (by simp; omega)
      (by intro h; cases h)]
    simp only [Nat.pow_zero, Nat.mul_one]
    rw [Nat.add_sub_of_le (Nat.le_of_not_lt hlt)]

theorem decInt_encInt (pbits hi n : Nat) (rest : Bytes)
    (hhi : hi % 2 ^ pbits = 0) (hfit : hi + 2 ^ pbits ≤ 256) (hn : n < 2 ^ 32) :
    decInt pbits (encInt pbits hi n ++ rest) = some (n, rest) := by
  rw [decInt_encInt_total pbits hi n rest hhi hfit, if_pos hn]

theorem decIntTail_lt : ∀ (bs : Bytes) (sh acc : Nat) {n : Nat} {rest : Bytes},
    decIntTail bs sh acc = some (n, rest) → rest.length < bs.length
  | [], _, _, _, _, h => by cases h
  | b :: tl, sh, acc, n, rest, h => by
    simp only [decIntTail] at h
    split at h
    · exact Nat.lt_succ_of_lt (decIntTail_lt tl _ _ h)
    · repeat' split at h      -- last octet: accepted with `tl` left, or refused
      all_goals cases h
      all_goals exact Nat.lt_succ_self _

theorem decInt_lt {p : Nat} {bs : Bytes} {n : Nat} {rest : Bytes}
    (h : decInt p bs = some (n, rest)) : rest.length < bs.length := by
  cases bs with
  | nil => cases h
  | cons b tl =>
    simp only [decInt] at h
    split at h
    · cases h; exact Nat.lt_succ_self _
    · exact Nat.lt_succ_of_lt (decIntTail_lt _ _ _ h)

theorem encInt_cons (pbits hi n : Nat) (hfit : hi + 2 ^ pbits ≤ 256) :
    ∃ b tl, encInt pbits hi n = b :: tl ∧ b.toNat = hi + min n (2 ^ pbits - 1) := by
  have hP : 0 < 2 ^ pbits := Nat.pow_pos (by decide)
  unfold encInt
  by_cases hlt : n < 2 ^ pbits - 1
  · refine ⟨(hi + n).toUInt8, [], by simp [hlt], ?_⟩
    rw [toNat_toUInt8 (by omega)]; omega
  · refine ⟨(hi + (2 ^ pbits - 1)).toUInt8, encIntTail (n - (2 ^ pbits - 1)), by simp [hlt], ?_⟩
    rw [toNat_toUInt8 (by omega)]; omega

theorem encInt_ne_nil (pbits hi n : Nat) (hfit : hi + 2 ^ pbits ≤ 256) : encInt pbits hi n ≠ [] := by
  obtain ⟨b, tl, he, _⟩ := encInt_cons pbits hi n hfit
  simp [he]

theorem encStr_ne_nil (huff : Bool) (s : Bytes) : encStr huff s ≠ [] := by
  unfold encStr
  cases huff
  · simp [encInt_ne_nil 7 0 s.length (by decide)]
  · simp [encInt_ne_nil 7 128 (huffEncode s).length (by decide)]

/-- hdec_dec_str() once the length is read (`hi` = 128: Huffman-coded, 0: raw) -/
theorem decStr_encInt (cap hi len : Nat) (body : Bytes) (hh : hi = 0 ∨ hi = 128) :
    decStr cap (encInt 7 hi len ++ body) =
      if 2 ^ 32 ≤ len ∨ body.length < len then .error .badData
      else if hi = 128 then
        match huffDecode cap (body.take len) with
        | .ok s => .ok (s, body.drop len)
        | .error e => .error e
      else if cap < len then .error .moreBuf
      else .ok (body.take len, body.drop len) := by
  have hfit : hi + 2 ^ 7 ≤ 256 := by omega
  obtain ⟨b, tl, he, hb⟩ := encInt_cons 7 hi len hfit
  have hd := decInt_encInt_total 7 hi len body (by omega) hfit
  rw [he] at hd ⊢
  simp only [List.cons_append] at hd ⊢
  have hb128 : 128 ≤ b.toNat ↔ hi = 128 := by
    have := Nat.min_le_right len (2 ^ 7 - 1); omega
  unfold decStr
  simp only [hd, hb128]
  by_cases hlen : len < 2 ^ 32
  · simp only [hlen, if_true, Nat.not_le.mpr hlen, false_or]
    rfl
  · simp only [hlen, if_false, Nat.not_lt.mp hlen, true_or, if_true]

/-- `cap ≤ 2 ^ 28`: a Huffman code has at most 30 bits, so an encoding is at most 4 times as long as
    the string and its length stays below the 2^32 that `decInt` reads (lighttpd's buffer: 65535) -/
theorem decStr_encStr_cases (cap : Nat) (huff : Bool) (s rest : Bytes) :
    decStr cap (encStr huff s ++ rest) = .ok (s, rest) ∨
      ((∃ e, decStr cap (encStr huff s ++ rest) = .error e) ∧ ¬ (s.length < cap ∧ cap ≤ 2 ^ 28)) := by
  unfold encStr
  cases huff with
  | false =>
    simp only [Bool.false_eq_true, if_false]
    rw [List.append_assoc, decStr_encInt cap 0 _ _ (.inl rfl)]
    by_cases h1 : 2 ^ 32 ≤ s.length ∨ (s ++ rest).length < s.length
    · rw [if_pos h1]
      exact .inr ⟨⟨_, rfl⟩, by simp only [List.length_append] at h1; omega⟩
    · rw [if_neg h1, if_neg (by decide)]
      by_cases h2 : cap < s.length
      · rw [if_pos h2]; exact .inr ⟨⟨_, rfl⟩, by omega⟩
      · rw [if_neg h2, List.take_left' rfl, List.drop_left' rfl]; exact .inl rfl
  | true =>
    simp only [if_true]
    rw [List.append_assoc, decStr_encInt cap 128 _ _ (.inr rfl)]
    have hl := huffEncode_length_le s
    by_cases h1 : 2 ^ 32 ≤ (huffEncode s).length ∨ (huffEncode s ++ rest).length < (huffEncode s).length
    · rw [if_pos h1]
      exact .inr ⟨⟨_, rfl⟩, by simp only [List.length_append] at h1; omega⟩
    · rw [if_neg h1, if_pos rfl, List.take_left' rfl, List.drop_left' rfl]
      cases hh : huffDecode cap (huffEncode s) with
      | error e =>
        refine .inr ⟨⟨e, rfl⟩, fun hfit => ?_⟩
        rw [huffDecode_huffEncode cap s hfit.1] at hh
        cases hh
      | ok s' =>
        rw [huffEncode_injective (huffDecode_canonical cap _ _ hh)]
        exact .inl rfl

theorem decStr_encStr (cap : Nat) (huff : Bool) (s rest : Bytes)
    (hlen : s.length < cap) (hcap : cap ≤ 2 ^ 28) :
    decStr cap (encStr huff s ++ rest) = .ok (s, rest) :=
  (decStr_encStr_cases cap huff s rest).resolve_right fun h => h.2 ⟨hlen, hcap⟩

theorem decStr_truncated (cap : Nat) (huff : Nat) (len : Nat) (avail : Bytes)
    (hh : huff = 0 ∨ huff = 128) (hshort : avail.length < len) :
    decStr cap (encInt 7 huff len ++ avail) = .error .badData := by
  rw [decStr_encInt cap huff len avail hh, if_pos (.inr hshort)]

theorem decStr_le {cap : Nat} {bs s rest : Bytes} (h : decStr cap bs = .ok (s, rest)) :
    rest.length ≤ bs.length := by
  cases bs with
  | nil => cases h; exact Nat.le_refl _
  | cons b tl =>
    simp only [decStr] at h
    split at h
    · cases h
    · rename_i len r hd
      have := decInt_lt hd
      have : (r.drop len).length ≤ r.length := by simp
      repeat' split at h      -- every `.ok` hands back `r.drop len`
      all_goals cases h
      all_goals omega

theorem overhead_eq : Extracted.hpackEntryOverhead = 32 := rfl

theorem tableSize_cons (h : Header) (t : List Header) :
    tableSize (h :: t) = entrySize h + tableSize t := by
  simp [tableSize]

theorem tableSize_evict_le (cap : Nat) (t : List Header) : tableSize (evict cap t) ≤ cap := by
  induction t generalizing cap with
  | nil => simp [evict, tableSize]
  | cons h t ih =>
    simp only [evict]
    split
    · have := ih (cap - entrySize h)
      rw [tableSize_cons]; omega
    · simp [tableSize]

theorem evict_of_le (cap : Nat) (t : List Header) (h : tableSize t ≤ cap) : evict cap t = t := by
  induction t generalizing cap with
  | nil => rfl
  | cons x t ih =>
    rw [tableSize_cons] at h
    simp only [evict]
    rw [if_pos (by omega), ih (cap - entrySize x) (by omega)]

theorem evict_evict (a b : Nat) (l : List Header) : evict a (evict b l) = evict (min a b) l := by
  induction l generalizing a b with
  | nil => simp [evict]
  | cons h t ih =>
    simp only [evict]
    by_cases hb : entrySize h ≤ b
    · simp only [hb, if_true, evict]
      by_cases ha : entrySize h ≤ a
      · have hm : entrySize h ≤ min a b := by omega
        simp only [ha, hm, if_true, ih]
        congr 2; omega
      · have hm : ¬ entrySize h ≤ min a b := by omega
        simp [ha, hm]
    · have hm : ¬ entrySize h ≤ min a b := by omega
      simp [hb, hm, evict]

theorem evict_prefix (cap : Nat) (l : List Header) :
    ∃ k, evict cap l = l.take k ∧ k ≤ l.length := by
  induction l generalizing cap with
  | nil => exact ⟨0, rfl, Nat.le_refl _⟩
  | cons h t ih =>
    simp only [evict]
    split
    · obtain ⟨k, hk, hle⟩ := ih (cap - entrySize h)
      exact ⟨k + 1, by simp [hk], by simp; omega⟩
    · exact ⟨0, rfl, Nat.zero_le _⟩

theorem length_le_tableSize (t : List Header) : 32 * t.length ≤ tableSize t := by
  induction t with
  | nil => simp [tableSize]
  | cons x t ih =>
    rw [tableSize_cons]
    simp only [List.length_cons, entrySize, overhead_eq]; omega

theorem Table.WF.updateMax {t : Table} (h : t.WF) (n : Nat) (hn : n ≤ t.maxCap) : (t.updateMax n).WF :=
  ⟨hn, h.max_lt, tableSize_evict_le _ _⟩

theorem Table.WF.push {t : Table} (h : t.WF) (x : Header) : (t.push x).WF :=
  ⟨h.cur_le, h.max_lt, tableSize_evict_le _ _⟩

theorem Table.WF.setMaxCapacity {t : Table} (n : Nat) (hn : n < 2 ^ 32) : (t.setMaxCapacity n).WF :=
  ⟨Nat.le_refl _, hn, tableSize_evict_le _ _⟩

theorem Table.init_WF : Table.init.WF := ⟨Nat.le_refl _, by decide, by decide⟩

theorem encodeFieldCore_WF (t : Table) (c : Choice) (h : Header) (hwf : t.WF) :
    (encodeFieldCore t c h).2.WF := by
  unfold encodeFieldCore
  split
  · exact hwf
  · simp only; split
    · exact hwf.push _
    · exact hwf

theorem Table.lookup_zero (t : Table) : t.lookup 0 = none := by simp [Table.lookup]

theorem Table.lookup_lt {t : Table} (hwf : t.WF) {i : Nat} {h : Header} (hl : t.lookup i = some h) :
    0 < i ∧ i < 2 ^ 28 := by
  have hstatic : Extracted.hpackStaticTableSize = 61 := rfl
  unfold Table.lookup at hl
  by_cases h0 : i = 0
  · simp [h0] at hl
  · simp only [h0, if_false] at hl
    refine ⟨by omega, ?_⟩
    by_cases h1 : i ≤ Extracted.hpackStaticTableSize
    · omega
    · simp only [h1, if_false] at hl
      obtain ⟨hlen, _⟩ := List.getElem?_eq_some_iff.mp hl
      have := length_le_tableSize t.dyn
      have := hwf.size_le; have := hwf.cur_le; have := hwf.max_lt
      omega

theorem Dec.lookup_of_tbl (d : Dec) {i : Nat} {h : Header} (hl : d.tbl.lookup i = some h) :
    ∃ hint, d.lookup i = some (h, hint) := by
  unfold Dec.lookup
  rw [hl]
  by_cases h1 : i ≤ Extracted.hpackStaticTableSize
  · exact ⟨i, by simp [h1]⟩
  · exact ⟨d.hints.getD (i - Extracted.hpackStaticTableSize - 1) 0, by simp [h1]⟩

theorem Dec.push_tbl (d : Dec) (h : Header) (hint : Nat) : (d.push h hint).tbl = d.tbl.push h := rfl
theorem Dec.updateMax_tbl (d : Dec) (n : Nat) : (d.updateMax n).tbl = d.tbl.updateMax n := rfl

/-- the `while ((*s & 0xe0) == 0x20)` loop body: a size update after its integer -/
def updItem (d : Dec) : Option (Nat × Bytes) → ItemRes
  | none => .err .badData d
  | some (n, rest) =>
    if d.tbl.maxCap < n then .err .badData d
    else if rest = [] then .err .badData (d.updateMax n)
    else .upd rest (d.updateMax n)

/-- `index == 0`: the name is a string literal, then the value -/
def litItem (cap : Nat) (d : Dec) (kind : Kind) (rest1 : Bytes) : ItemRes :=
  if kind = .indexed then .err .badData d
  else if rest1 = [] then .err .badData d
  else
    match decStr cap rest1 with
    | .error e => .err (if e = .moreBuf then .moreBufName else e) d
    | .ok (raw, rest2) =>
      if raw = [] then .err .badData d
      else decodeValue cap d kind raw 0 rest2

/-- `index > 0`: the name (for an indexed field also the value) comes from the table entry -/
def refItem (cap : Nat) (d : Dec) (kind : Kind) (rest1 : Bytes) : Option (Header × Nat) → ItemRes
  | none => .err .badData d
  | some ((n, v), hint) =>
    if cap < n.length then .err .moreBufName d
    else if kind = .indexed then
      if cap - n.length < v.length then .err .moreBuf d
      else .fld ⟨n, v, hint, false⟩ rest1 d
    else decodeValue cap d kind n hint rest1

/-- a field once its index is read -/
def fldItem (cap : Nat) (d : Dec) (kind : Kind) : Option (Nat × Bytes) → ItemRes
  | none => .err .badData d
  | some (idx, rest1) =>
    if idx = 0 then litItem cap d kind rest1 else refItem cap d kind rest1 (d.lookup idx)

theorem decodeItem_cons (cap : Nat) (d : Dec) (b : UInt8) (rest0 : Bytes) :
    decodeItem cap d (b :: rest0) =
      if 32 ≤ b.toNat ∧ b.toNat < 64 then updItem d (decInt 5 (b :: rest0))
      else fldItem cap d (reprOf b.toNat).1
        (match (reprOf b.toNat).2 with
         | some p => decInt p (b :: rest0)
         | none => some (0, rest0)) := rfl

/-- the first-octet patterns of RFC 7541 6.1 / 6.2: `flag` in the bits above a
    `pbits`-bit index, as `reprOf` reads them (an all-zero index with a literal
    name following is read without `decInt`) -/
structure FirstOctet (kind : Kind) (pbits flag : Nat) : Prop where
  mod : flag % 2 ^ pbits = 0
  fit : flag + 2 ^ pbits ≤ 256
  two : 2 ≤ 2 ^ pbits
  repr : ∀ b, flag ≤ b → b < flag + 2 ^ pbits → ¬ (32 ≤ b ∧ b < 64) ∧ (reprOf b).1 = kind ∧
    ((reprOf b).2 = some pbits ∨ (b = flag ∧ (reprOf b).2 = none))

theorem FirstOctet.indexed : FirstOctet .indexed 7 128 :=
  ⟨by decide, by decide, by decide, fun b h1 h2 => by
    unfold reprOf; rw [if_pos (by omega)]; exact ⟨by omega, rfl, .inl rfl⟩⟩

theorem FirstOctet.incr : FirstOctet .incr 6 64 :=
  ⟨by decide, by decide, by decide, fun b h1 h2 => by
    unfold reprOf; rw [if_neg (by omega)]
    by_cases h : 64 < b
    · rw [if_pos h]; exact ⟨by omega, rfl, .inl rfl⟩
    · rw [if_neg h, if_pos (by omega)]; exact ⟨by omega, rfl, .inr ⟨by omega, rfl⟩⟩⟩

theorem FirstOctet.never : FirstOctet .never 4 16 :=
  ⟨by decide, by decide, by decide, fun b h1 h2 => by
    unfold reprOf; rw [if_neg (by omega), if_neg (by omega), if_neg (by omega)]
    by_cases h : b = 16
    · rw [if_pos h]; exact ⟨by omega, rfl, .inr ⟨h, rfl⟩⟩
    · rw [if_neg h, if_pos (by omega)]; exact ⟨by omega, rfl, .inl rfl⟩⟩

theorem FirstOctet.without : FirstOctet .without 4 0 :=
  ⟨by decide, by decide, by decide, fun b h1 h2 => by
    unfold reprOf
    rw [if_neg (by omega), if_neg (by omega), if_neg (by omega), if_neg (by omega), if_neg (by omega)]
    by_cases h : b = 0
    · rw [if_pos h]; exact ⟨by omega, rfl, .inr ⟨h, rfl⟩⟩
    · rw [if_neg h]; exact ⟨by omega, rfl, .inl rfl⟩⟩

theorem decodeItem_encInt {kind : Kind} {pbits flag : Nat} (hr : FirstOctet kind pbits flag) (cap : Nat)
    (d : Dec) (idx : Nat) (rest : Bytes) (hidx : idx < 2 ^ 32) :
    decodeItem cap d (encInt pbits flag idx ++ rest) = fldItem cap d kind (some (idx, rest)) := by
  have hP : 0 < 2 ^ pbits := Nat.pow_pos (by decide)
  obtain ⟨b, tl, he, hb⟩ := encInt_cons pbits flag idx hr.fit
  have hd := decInt_encInt pbits flag idx rest hr.mod hr.fit hidx
  rw [he] at hd ⊢
  simp only [List.cons_append] at hd ⊢
  have hmin := Nat.min_le_right idx (2 ^ pbits - 1)
  obtain ⟨hnot, hk, hp⟩ := hr.repr b.toNat (by omega) (by omega)
  rw [decodeItem_cons, if_neg hnot, hk]
  rcases hp with hp | ⟨hbf, hp⟩
  · rw [hp]; simp only [hd]
  · -- the index is 0 and `decInt` would have read the same
    rw [hp]
    have h0 : b.toNat % 2 ^ pbits = 0 := by rw [hbf]; exact hr.mod
    have hone : 0 < 2 ^ pbits - 1 := by have := hr.two; omega
    simp only [decInt, h0, hone, if_true, Option.some.injEq, Prod.mk.injEq] at hd
    simp only [hd.1, hd.2]

theorem decodeItem_flag {kind : Kind} {pbits flag : Nat} (hr : FirstOctet kind pbits flag) (cap : Nat)
    (d : Dec) (rest : Bytes) :
    decodeItem cap d (flag.toUInt8 :: rest) = litItem cap d kind rest := by
  have h0 : encInt pbits flag 0 = [flag.toUInt8] := by
    have := hr.two
    simp only [encInt, Nat.add_zero]
    rw [if_pos (by omega)]
  have := decodeItem_encInt hr cap d 0 rest (by decide)
  rwa [h0] at this

theorem decodeItem_update (cap : Nat) (d : Dec) (n : Nat) (rest : Bytes) (hn : n < 2 ^ 32) :
    decodeItem cap d (encInt 5 32 n ++ rest) = updItem d (some (n, rest)) := by
  obtain ⟨b, tl, he, hb⟩ := encInt_cons 5 32 n (by decide)
  have hd := decInt_encInt 5 32 n rest (by decide) (by decide) hn
  rw [he] at hd ⊢
  simp only [List.cons_append] at hd ⊢
  have := Nat.min_le_right n (2 ^ 5 - 1)
  rw [decodeItem_cons, if_pos (by omega), hd]

theorem decodeValue_nil (cap : Nat) (d : Dec) (kind : Kind) (n : Bytes) (hint : Nat) :
    decodeValue cap d kind n hint [] = .err .badData d := by
  simp [decodeValue]

def Dec.HintFor (d : Dec) (hint : Nat) (n : Bytes) : Prop :=
  hint = 0 ∨ ∃ idx v, d.lookup idx = some ((n, v), hint)

/-- what one item can do to the decoder state -/
inductive Dec.Next (d : Dec) : Dec → Prop
  | same : Next d d
  | upd (n : Nat) : n ≤ d.tbl.maxCap → Next d (d.updateMax n)
  | push (h : Header) (hint : Nat) : d.HintFor hint h.1 → Next d (d.push h hint)

def ItemRes.All (P : Dec → Prop) (Q : Field → Prop) (R : Bytes → Prop) : ItemRes → Prop
  | .err _ d => P d
  | .upd rest d => P d ∧ R rest
  | .fld f rest d => P d ∧ Q f ∧ R rest

/-- for an error this is `d.Next d'`: `.same` where the state is untouched -/
abbrev ItemRes.From (d : Dec) (len : Nat) (r : ItemRes) : Prop :=
  r.All d.Next (fun f => d.HintFor f.hint f.name) fun rest => rest.length ≤ len

theorem decodeValue_from (cap : Nat) (d : Dec) (kind : Kind) (n : Bytes) (hint : Nat) {rest : Bytes}
    {len : Nat} (hh : d.HintFor hint n) (hl : rest.length ≤ len) :
    (decodeValue cap d kind n hint rest).From d len := by
  unfold decodeValue
  split
  · exact .same
  · split
    · exact .same
    · rename_i hs
      refine ⟨?_, hh, Nat.le_trans (decStr_le hs) hl⟩
      split
      · exact .push _ _ hh
      · exact .same

theorem updItem_from (d : Dec) (p : Nat) (bs : Bytes) : (updItem d (decInt p bs)).From d (bs.length - 1) := by
  cases h : decInt p bs with
  | none => exact .same
  | some r =>
    have := decInt_lt h
    simp only [updItem]
    split
    · exact .same
    · split
      · exact .upd _ (by omega)
      · exact ⟨.upd _ (by omega), by omega⟩

theorem litItem_from (cap : Nat) (d : Dec) (kind : Kind) {rest : Bytes} {len : Nat} (hl : rest.length ≤ len) :
    (litItem cap d kind rest).From d len := by
  unfold litItem
  split
  · exact .same
  · split
    · exact .same
    · split
      · exact .same
      · rename_i hs
        split
        · exact .same
        · exact decodeValue_from _ _ _ _ _ (.inl rfl) (Nat.le_trans (decStr_le hs) hl)

theorem refItem_from (cap : Nat) (d : Dec) (kind : Kind) {rest : Bytes} {len : Nat} (idx : Nat)
    (hl : rest.length ≤ len) : (refItem cap d kind rest (d.lookup idx)).From d len := by
  cases hlk : d.lookup idx with
  | none => exact .same
  | some e =>
    obtain ⟨⟨n, v⟩, hint⟩ := e
    have hh : d.HintFor hint n := .inr ⟨idx, v, hlk⟩
    simp only [refItem]
    split
    · exact .same
    · split
      · split
        · exact .same
        · exact ⟨.same, hh, hl⟩
      · exact decodeValue_from _ _ _ _ _ hh hl

theorem decodeItem_from (cap : Nat) (d : Dec) (bs : Bytes) : (decodeItem cap d bs).From d (bs.length - 1) := by
  cases bs with
  | nil => exact .same
  | cons b rest0 =>
    rw [decodeItem_cons]
    split
    · exact updItem_from d 5 _
    · unfold fldItem
      split
      · exact .same
      · rename_i idx rest1 hi
        -- the index was read by `decInt`, or the first octet was skipped
        have hl : rest1.length ≤ rest0.length := by
          split at hi
          · exact Nat.le_of_lt_succ (decInt_lt hi)
          · cases hi; exact Nat.le_refl _
        split
        · exact litItem_from _ _ _ hl
        · exact refItem_from _ _ _ _ hl

theorem Dec.Next.wf {d d' : Dec} (h : d.Next d') (hwf : d.tbl.WF) : d'.tbl.WF := by
  cases h with
  | same => exact hwf
  | upd n hn => exact hwf.updateMax n hn
  | push h hint _ => exact hwf.push h

theorem decodeBlockAux_succ (cap fuel : Nat) (d : Dec) (bs : Bytes) (acc : List Field) :
    decodeBlockAux cap (fuel + 1) d bs acc =
      if bs = [] then ⟨acc.reverse, none, d⟩
      else
        match decodeItem cap d bs with
        | .err e d' => ⟨acc.reverse, some e, d'⟩
        | .upd rest d' => decodeBlockAux cap fuel d' rest acc
        | .fld f rest d' => decodeBlockAux cap fuel d' rest (f :: acc) := rfl

def BlockRes.pre (fs : List Field) (r : BlockRes) : BlockRes := { r with fields := fs ++ r.fields }

theorem decodeBlockAux_pre (cap : Nat) : ∀ (fuel : Nat) (d : Dec) (bs : Bytes) (acc : List Field),
    decodeBlockAux cap fuel d bs acc = (decodeBlockAux cap fuel d bs []).pre acc.reverse := by
  intro fuel
  induction fuel with
  | zero => intro d bs acc; simp [decodeBlockAux, BlockRes.pre]
  | succ k ih =>
    intro d bs acc
    rw [decodeBlockAux_succ, decodeBlockAux_succ]
    split
    · simp [BlockRes.pre]
    · split
      · simp [BlockRes.pre]
      · exact ih _ _ _
      · rename_i f rest d' _
        rw [ih _ _ (f :: acc), ih _ _ [f]]
        simp [BlockRes.pre]

/-- `decodeItem` uses up input, so the loop never runs out of fuel -/
theorem decodeBlockAux_fuel (cap : Nat) : ∀ (fuel fuel' : Nat) (d : Dec) (bs : Bytes),
    bs.length < fuel → bs.length < fuel' →
    decodeBlockAux cap fuel d bs [] = decodeBlockAux cap fuel' d bs [] := by
  intro fuel
  induction fuel with
  | zero => intro _ _ _ h; cases h
  | succ k ih =>
    intro fuel' d bs h h'
    obtain ⟨k', rfl⟩ : ∃ k', fuel' = k' + 1 := ⟨fuel' - 1, by omega⟩
    rw [decodeBlockAux_succ, decodeBlockAux_succ]
    split
    · rfl
    · rename_i hne
      have hpos := List.length_pos_iff.mpr hne
      have hl := decodeItem_from cap d bs
      cases hi : decodeItem cap d bs with
      | err e d' => rfl
      | upd rest d' =>
        rw [hi] at hl
        have := hl.2
        exact ih _ _ _ (by omega) (by omega)
      | fld f rest d' =>
        rw [hi] at hl
        have := hl.2.2
        simp only
        rw [decodeBlockAux_pre cap k, decodeBlockAux_pre cap k', ih k' d' rest (by omega) (by omega)]

theorem decodeBlock_step (cap : Nat) (d : Dec) (bs : Bytes) (hne : bs ≠ []) :
    decodeBlock cap d bs =
      match decodeItem cap d bs with
      | .err e d' => ⟨[], some e, d'⟩
      | .upd rest d' => decodeBlock cap d' rest
      | .fld f rest d' => (decodeBlock cap d' rest).pre [f] := by
  have hpos := List.length_pos_iff.mpr hne
  have hl := decodeItem_from cap d bs
  conv => lhs; unfold decodeBlock
  rw [decodeBlockAux_succ, if_neg hne]
  cases hi : decodeItem cap d bs with
  | err e d' => rfl
  | upd rest d' =>
    rw [hi] at hl
    have := hl.2
    exact decodeBlockAux_fuel cap _ _ d' rest (by omega) (Nat.lt_succ_self _)
  | fld f rest d' =>
    rw [hi] at hl
    have := hl.2.2
    simp only
    rw [decodeBlockAux_pre, decodeBlockAux_fuel cap _ _ d' rest (by omega) (Nat.lt_succ_self _)]
    rfl

theorem decodeBlock_item_err (cap : Nat) (d d' : Dec) (bs : Bytes) (e : Err) (hne : bs ≠ [])
    (h : decodeItem cap d bs = .err e d') : decodeBlock cap d bs = ⟨[], some e, d'⟩ := by
  rw [decodeBlock_step cap d bs hne, h]

theorem decodeBlockAux_inv (cap : Nat) {P : Dec → Prop} {Q : Field → Prop}
    (hP : ∀ d d', P d → d.Next d' → P d') (hQ : ∀ d f, P d → d.HintFor f.hint f.name → Q f) :
    ∀ (fuel : Nat) (d : Dec) (bs : Bytes), P d →
      P (decodeBlockAux cap fuel d bs []).dec ∧ ∀ f ∈ (decodeBlockAux cap fuel d bs []).fields, Q f := by
  intro fuel
  induction fuel with
  | zero => intro d bs hd; exact ⟨hd, by simp [decodeBlockAux]⟩
  | succ k ih =>
    intro d bs hd
    rw [decodeBlockAux_succ]
    split
    · exact ⟨hd, by simp⟩
    · have h := decodeItem_from cap d bs
      cases heq : decodeItem cap d bs with
      | err e d' => rw [heq] at h; exact ⟨hP _ _ hd h, by simp⟩
      | upd rest d' => rw [heq] at h; exact ih _ _ (hP _ _ hd h.1)
      | fld f rest d' =>
        rw [heq] at h
        simp only
        rw [decodeBlockAux_pre]
        obtain ⟨hd', hfs⟩ := ih d' rest (hP _ _ hd h.1)
        exact ⟨hd', fun x hx => by
          rcases List.mem_cons.mp hx with rfl | hx
          · exact hQ _ _ hd h.2.1
          · exact hfs x hx⟩

theorem decodeBlock_WF (cap : Nat) (d : Dec) (bs : Bytes) (hwf : d.tbl.WF) :
    (decodeBlock cap d bs).dec.tbl.WF :=
  (decodeBlockAux_inv cap (P := fun d => d.tbl.WF) (Q := fun _ => True) (fun _ _ hd h => h.wf hd)
    (fun _ _ _ _ => trivial) _ d bs hwf).1

theorem recvConn_WF (cap : Nat) : ∀ (ws : List Wire) (d : Dec), d.tbl.WF →
    (recvConn cap d ws).2.1.tbl.WF := by
  intro ws
  induction ws with
  | nil => intro d hwf; exact hwf
  | cons w ws ih =>
    intro d hwf
    simp only [recvConn]
    split
    · exact decodeBlock_WF cap d w.bs hwf
    · exact ih _ (decodeBlock_WF cap d w.bs hwf)

end LtVerif.Hpack
