/-
  C11, part 2b: what gw_host_get returns in each balance mode (least-connection, round-robin, hash / sticky),
  per call on an arbitrary world.
-/
import LtVerif.Model.Gw
import LtVerif.Proofs.Bytes
namespace LtVerif.Gw

/-- GW_BALANCE_LEAST_CONNECTION after `n` hosts: `acc` = (least load of an available host, the first that has it) -/
structure LcInv (w : World) (n : Nat) (acc : Int × Option Nat) : Prop where
  least : ∀ j, j < n → (w.host j).active ≠ 0 → acc.1 ≤ (w.host j).load
  pick : ∀ k, acc.2 = some k → k < n ∧ (w.host k).active ≠ 0 ∧ (w.host k).load = acc.1 ∧
        ∀ j, j < n → j < k → (w.host j).active ≠ 0 → acc.1 < (w.host j).load
  none : acc.2 = none → acc.1 = intMax
  cap : acc.1 ≤ intMax

theorem lc_range (w : World) : ∀ n, LcInv w n ((List.range n).foldl (lcStep w) (intMax, none))
  | 0 => ⟨by simp, by simp, by simp, by simp⟩
  | n + 1 => by
    rw [foldl_range_succ]
    obtain ⟨h1, h2, h3, h4⟩ := lc_range w n
    generalize (List.range n).foldl (lcStep w) (intMax, none) = acc at h1 h2 h3 h4
    unfold lcStep
    by_cases ha : (w.host n).active = 0
    · rw [if_pos ha]
      refine ⟨fun j hj hact => ?_, fun k hk => ?_, h3, h4⟩
      · rcases Nat.lt_succ_iff_lt_or_eq.mp hj with hj | rfl
        · exact h1 j hj hact
        · exact absurd ha hact
      · obtain ⟨a1, a2, a3, a4⟩ := h2 k hk
        exact ⟨by omega, a2, a3, fun j _ hjk hact => a4 j (by omega) hjk hact⟩
    · rw [if_neg ha]
      by_cases hlt : (w.host n).load < acc.1
      · rw [if_pos hlt]
        refine ⟨fun j hj hact => ?_, fun k hk => ?_, nofun, by dsimp only; omega⟩
        · rcases Nat.lt_succ_iff_lt_or_eq.mp hj with hj | rfl
          · have := h1 j hj hact; dsimp only; omega
          · exact Int.le_refl _
        · cases hk
          refine ⟨Nat.lt_succ_self _, ha, rfl, fun j _ hjk hact => ?_⟩
          have := h1 j hjk hact; dsimp only; omega
      · rw [if_neg hlt]
        refine ⟨fun j hj hact => ?_, fun k hk => ?_, h3, h4⟩
        · rcases Nat.lt_succ_iff_lt_or_eq.mp hj with hj | rfl
          · exact h1 j hj hact
          · omega
        · obtain ⟨a1, a2, a3, a4⟩ := h2 k hk
          exact ⟨by omega, a2, a3, fun j _ hjk hact => a4 j (by omega) hjk hact⟩

/-- GW_BALANCE_HASH / STICKY after `n` hosts: `acc` = (greatest `base ^^^ gw_hash` of an available host, the last that has it) -/
structure HashInv (w : World) (base : UInt32) (n : Nat) (acc : UInt32 × Option Nat) : Prop where
  greatest : ∀ j, j < n → (w.host j).active ≠ 0 → base ^^^ (w.host j).gwHash ≤ acc.1
  pick : ∀ k, acc.2 = some k → k < n ∧ (w.host k).active ≠ 0 ∧ base ^^^ (w.host k).gwHash = acc.1
  none : acc.2 = none → acc.1 = 0 ∧ ∀ j, j < n → (w.host j).active = 0

theorem hash_range (w : World) (base : UInt32) :
    ∀ n, HashInv w base n ((List.range n).foldl (hashStep w base) (0, none))
  | 0 => ⟨by simp, by simp, by simp⟩
  | n + 1 => by
    rw [foldl_range_succ]
    obtain ⟨h1, h2, h3⟩ := hash_range w base n
    generalize (List.range n).foldl (hashStep w base) (0, none) = acc at h1 h2 h3
    unfold hashStep
    by_cases ha : (w.host n).active = 0
    · rw [if_pos ha]
      refine ⟨fun j hj hact => ?_, fun k hk => ?_, fun hn => ⟨(h3 hn).1, fun j hj => ?_⟩⟩
      · rcases Nat.lt_succ_iff_lt_or_eq.mp hj with hj | rfl
        · exact h1 j hj hact
        · exact absurd ha hact
      · obtain ⟨a1, a2, a3⟩ := h2 k hk
        exact ⟨by omega, a2, a3⟩
      · rcases Nat.lt_succ_iff_lt_or_eq.mp hj with hj | rfl
        · exact (h3 hn).2 j hj
        · exact ha
    · rw [if_neg ha]
      by_cases hle : acc.1 ≤ base ^^^ (w.host n).gwHash
      · rw [if_pos hle]
        refine ⟨fun j hj hact => ?_, fun k hk => ?_, nofun⟩
        · rcases Nat.lt_succ_iff_lt_or_eq.mp hj with hj | rfl
          · exact UInt32.le_trans (h1 j hj hact) hle
          · exact UInt32.le_refl _
        · cases hk; exact ⟨Nat.lt_succ_self _, ha, rfl⟩
      · rw [if_neg hle]
        refine ⟨fun j hj hact => ?_, fun k hk => ?_, fun hn => ?_⟩
        · rcases Nat.lt_succ_iff_lt_or_eq.mp hj with hj | rfl
          · exact h1 j hj hact
          · exact UInt32.le_of_lt (UInt32.not_le.mp hle)
        · obtain ⟨a1, a2, a3⟩ := h2 k hk
          exact ⟨by omega, a2, a3⟩
        · exact absurd (by rw [(h3 hn).1]; exact UInt32.zero_le) hle

theorem firstActive_range' (w : World) (n : Nat) : ∀ a,
    (∀ j, firstActive w (List.range' a n) = some j →
        a ≤ j ∧ j < a + n ∧ (w.host j).active ≠ 0 ∧ ∀ i, a ≤ i → i < j → (w.host i).active = 0) ∧
    (firstActive w (List.range' a n) = none → ∀ i, a ≤ i → i < a + n → (w.host i).active = 0) := by
  induction n with
  | zero => intro a; simp [firstActive]; intro i h1 h2; omega
  | succ n ih =>
    intro a
    rw [List.range'_succ]
    simp only [firstActive]
    by_cases ha : (w.host a).active ≠ 0
    · rw [if_pos ha]
      refine ⟨?_, by simp⟩
      intro j hj; simp at hj; subst hj
      exact ⟨Nat.le_refl _, by omega, ha, by intro i h1 h2; omega⟩
    · rw [if_neg ha]
      have ha' : (w.host a).active = 0 := by simpa using ha
      obtain ⟨h1, h2⟩ := ih (a + 1)
      refine ⟨?_, ?_⟩
      · intro j hj
        obtain ⟨b1, b2, b3, b4⟩ := h1 j hj
        refine ⟨by omega, by omega, b3, ?_⟩
        intro i hi1 hi2
        by_cases e : i = a
        · subst e; exact ha'
        · exact b4 i (by omega) hi2
      · intro hn i hi1 hi2
        by_cases e : i = a
        · subst e; exact ha'
        · exact h2 hn i (by omega) (by omega)

/-- GW_BALANCE_RR: the result is the first active host after last_used_ndx, cyclically -/
theorem rrPick_spec (w : World) :
    (∀ j, rrPick w = some j → j < w.nhosts ∧ (w.host j).active ≠ 0 ∧
      ((w.lastUsed + 1).toNat ≤ j ∧ (∀ i, (w.lastUsed + 1).toNat ≤ i → i < j → (w.host i).active = 0) ∨
       j < (w.lastUsed + 1).toNat ∧ (∀ i, (w.lastUsed + 1).toNat ≤ i → i < w.nhosts → (w.host i).active = 0) ∧
         ∀ i, i < j → (w.host i).active = 0)) ∧
    (rrPick w = none → ∀ i, i < w.nhosts → (w.host i).active = 0) := by
  unfold rrPick
  dsimp only
  obtain ⟨f1, f2⟩ := firstActive_range' w (w.nhosts - (w.lastUsed + 1).toNat) (w.lastUsed + 1).toNat
  cases h1 : firstActive w (List.range' (w.lastUsed + 1).toNat (w.nhosts - (w.lastUsed + 1).toNat)) with
  | some j =>
    obtain ⟨a1, a2, a3, a4⟩ := f1 j h1
    refine ⟨?_, by simp⟩
    intro j' hj'; simp at hj'; subst hj'
    exact ⟨by omega, a3, Or.inl ⟨a1, a4⟩⟩
  | none =>
    have hnone := f2 h1
    rw [List.range_eq_range']
    obtain ⟨g1, g2⟩ := firstActive_range' w (min (w.lastUsed + 1).toNat w.nhosts) 0
    dsimp only
    refine ⟨?_, ?_⟩
    · intro j hj
      obtain ⟨b1, b2, b3, b4⟩ := g1 j hj
      refine ⟨by omega, b3, Or.inr ⟨by omega, ?_, fun i hi => b4 i (Nat.zero_le _) hi⟩⟩
      intro i hi1 hi2; exact hnone i hi1 (by omega)
    · intro hn i hi
      by_cases e : (w.lastUsed + 1).toNat ≤ i
      · exact hnone i e (by omega)
      · exact g2 hn i (Nat.zero_le _) (by omega)

/-- gw_host_get never returns a host without an active proc -/
theorem hostPick_available (w : World) (key h : Nat) (hh : (hostPick w key).1 = some h) :
    h < w.nhosts ∧ (w.host h).active ≠ 0 := by
  unfold hostPick at hh
  split at hh
  · split at hh
    · rename_i h1; simp at hh; subst hh; exact ⟨by omega, h1.2⟩
    · simp at hh
  · split at hh
    · obtain ⟨a1, a2, _⟩ := (lc_range w _).pick h hh
      exact ⟨a1, a2⟩
    · split at hh
      · split at hh
        · rename_i j hj
          simp at hh; subst hh
          obtain ⟨a1, a2, _⟩ := (rrPick_spec w).1 _ hj
          exact ⟨a1, a2⟩
        · simp at hh
      · split at hh
        · obtain ⟨a1, a2, _⟩ := (hash_range w (baseHash w.balance key) _).pick h hh
          exact ⟨a1, a2⟩
        · simp at hh

/-- with an available host there is no 503 (least-connection starts at INT_MAX and compares with `<`: load INT_MAX
    is never chosen; `balance ≤ 3` = the modes gw_host_get() knows) -/
theorem hostPick_complete (w : World) (key : Nat) (hb : w.balance ≤ 3)
    (hex : ∃ j, j < w.nhosts ∧ (w.host j).active ≠ 0 ∧ (w.host j).load < intMax) :
    ∃ h, (hostPick w key).1 = some h := by
  obtain ⟨j, hj1, hj2, hj3⟩ := hex
  unfold hostPick
  split
  · rename_i hle
    have : w.nhosts = 1 ∧ j = 0 := by omega
    obtain ⟨e1, rfl⟩ := this
    simp [e1, hj2]
  · split
    · obtain ⟨h1, h2, h3, _⟩ := lc_range w _
      cases hp : ((List.range w.nhosts).foldl (lcStep w) (intMax, none)).2 with
      | some k => exact ⟨k, hp⟩
      | none =>
        have := h1 j hj1 hj2
        rw [h3 hp] at this
        omega
    · split
      · cases hp : rrPick w with
        | some k => exact ⟨k, by simp⟩
        | none => exact absurd ((rrPick_spec w).2 hp j hj1) hj2
      · split
        · obtain ⟨h1, h2, h3⟩ := hash_range w (baseHash w.balance key) _
          cases hp : ((List.range w.nhosts).foldl (hashStep w (baseHash w.balance key)) (0, none)).2 with
          | some k => exact ⟨k, hp⟩
          | none => exact absurd ((h3 hp).2 j hj1) hj2
        · rename_i b0 b1 b23
          omega

end LtVerif.Gw
