/-
  The lemmas of `Model/Basic.lean` (bytes, byte strings, `splitOn`/`join`, decimal and hex digit strings) and
  about plain lists (left folds, association lists, reading `l.flatMap enc` back piece by piece: `decode_flatMap`)
  that the proofs of several properties share, and two devices most of them use: a statement about all
  bytes from its 256 instances (`forall_uint8`), and case analysis of an `if` with the branch
  conditions, in a goal and in a hypothesis (`ite_ind`, `of_ite_eq`).
  Core Lean only.
-/
import LtVerif.Model.Basic
namespace LtVerif

/-- `decide +kernel` can check the 256 instances -/
theorem forall_uint8 {P : UInt8 → Prop} (h : ∀ n : Fin 256, P (UInt8.ofNat n.val)) : ∀ b, P b := by
  intro b
  simpa using h ⟨b.toNat, b.toNat_lt⟩

/-- core's `UInt8.toNat_ofNat_of_lt'` with a numeral bound (for `omega`) -/
theorem toNat_toUInt8 {n : Nat} (h : n < 256) : n.toUInt8.toNat = n := UInt8.toNat_ofNat_of_lt' h

theorem ne_of_test {p : UInt8 → Bool} {b c : UInt8} (h : p b = true) (hc : p c = false) : b ≠ c :=
  fun e => by rw [e, hc] at h; exact Bool.noConfusion h

/-- The C functions are modelled as cascades of `if`s; walking them with this lemma costs a fraction of
    what `split` does, because `split` abstracts the whole goal over the condition at every level. -/
theorem ite_ind {α : Sort _} {P : α → Prop} {p : Prop} [Decidable p] {a b : α}
    (ha : p → P a) (hb : ¬p → P b) : P (if p then a else b) := by
  split
  · exact ha ‹_›
  · exact hb ‹_›

theorem ite_ind₂ {α β : Sort _} {R : α → β → Prop} {p : Prop} [Decidable p] {a a' : α} {b b' : β}
    (h1 : p → R a b) (h2 : ¬p → R a' b') : R (if p then a else a') (if p then b else b') := by
  split
  · exact h1 ‹_›
  · exact h2 ‹_›

/-- the same for a cascade held by a hypothesis: one link comes off, where `split at h` would
    simplify the whole remaining chain at every link -/
theorem of_ite_eq {α : Type _} {c : Prop} [Decidable c] {t e x : α} (h : (if c then t else e) = x) :
    (c ∧ t = x) ∨ (¬ c ∧ e = x) :=
  ite_ind (P := fun y => y = x → (c ∧ t = x) ∨ (¬ c ∧ e = x))
    (fun hc h => Or.inl ⟨hc, h⟩) (fun hc h => Or.inr ⟨hc, h⟩) h

/-- … when the `then` branch cannot be the value (an error where the result is `ok`, say) -/
theorem ite_ne_left {α : Type _} {c : Prop} [Decidable c] {y x r : α} (hy : y ≠ r)
    (h : (if c then y else x) = r) : ¬c ∧ x = r :=
  (of_ite_eq h).resolve_left fun h => hy h.2

/-! ### left folds (the models feed bytes, operations and table rows with `List.foldl`) -/

theorem foldl_inv {α β : Type} (P : β → Prop) (f : β → α → β) (l : List α) (b : β)
    (hb : P b) (hf : ∀ b a, P b → P (f b a)) : P (l.foldl f b) := by
  induction l generalizing b with
  | nil => exact hb
  | cons a l ih => exact ih _ (hf _ _ hb)

/-- a left fold follows a closed form `F` (the state as a function of the consumed prefix) as long
    as each step does -/
theorem foldl_closed {σ β : Type} (step : σ → β → σ) (F : List β → σ) {s : σ} (p : List β) (h0 : F [] = s)
    (h : ∀ q b r, p = q ++ b :: r → step (F q) b = F (q ++ [b])) : p.foldl step s = F p := by
  subst h0
  suffices ∀ (r q : List β), p = q ++ r → r.foldl step (F q) = F p from this p [] rfl
  intro r
  induction r with
  | nil => intro q hq; simp [hq]
  | cons b r ih =>
    intro q hq
    rw [List.foldl_cons, h q b r hq]
    exact ih (q ++ [b]) (by simp [hq])

theorem foldl_range_succ {β : Type} (f : β → Nat → β) (b : β) (n : Nat) :
    (List.range (n + 1)).foldl f b = f ((List.range n).foldl f b) n := by
  rw [List.range_succ, List.foldl_append]; rfl

namespace B

/-! ### `ofString` -/

theorem ofString_append (a b : String) : ofString (a ++ b) = ofString a ++ ofString b := by
  simp only [ofString, String.toList_append, List.map_append]

theorem ofString_join (l : List String) : ofString (String.join l) = l.flatMap ofString := by
  unfold ofString
  rw [String.toList_join, List.map_flatMap]

/-- The kernel evaluates `String.toList` on a literal by decoding UTF-8 byte by byte from the start
    for every character, quadratic in the length; `rw [ofString_ofList]` on `ofString "…"` lets the unifier read the literal as
    `String.ofList […]` instead, after which the kernel only maps over the characters. -/
theorem ofString_ofList (l : List Char) : ofString (String.ofList l) = l.map fun ch => ch.toNat.toUInt8 := by
  simp only [ofString, String.toList_ofList]

/-- `ofString` maps a character to the low byte of its code: hence the bounds -/
theorem ofString_inj {a b : String} (ha : ∀ c ∈ a.toList, c.toNat < 256) (hb : ∀ c ∈ b.toList, c.toNat < 256)
    (h : ofString a = ofString b) : a = b := by
  apply String.ext
  unfold ofString at h
  generalize a.toList = l at h ha
  generalize b.toList = m at h hb
  induction l generalizing m with
  | nil => cases m with
    | nil => rfl
    | cons d m => cases h
  | cons c l ih => cases m with
    | nil => cases h
    | cons d m =>
      simp only [List.map_cons, List.cons.injEq] at h
      have e : c = d := Char.toNat_inj.mp (by
        have := congrArg UInt8.toNat h.1
        rwa [UInt8.toNat_ofNat_of_lt' (ha c (by simp)), UInt8.toNat_ofNat_of_lt' (hb d (by simp))] at this)
      rw [e, ih (fun x hx => ha x (by simp [hx])) m h.2 (fun x hx => hb x (by simp [hx]))]

/-! ### decimal rendering (`natToDec`) -/

theorem natToDec_eq (n : Nat) :
    natToDec n = (Nat.toDigits 10 n).map fun ch => ch.toNat.toUInt8 := by
  simp [natToDec, ofString]

/-- the ASCII digit of `k < 10`: the three ways the models spell it are one byte -/
structure DigitByte (k : Nat) : Prop where
  char : k.digitChar.toNat.toUInt8 = 48 + k.toUInt8
  ofNat : UInt8.ofNat (48 + k) = 48 + k.toUInt8
  toUInt8 : (48 + k).toUInt8 = 48 + k.toUInt8
  isDigit : isDigit (48 + k.toUInt8) = true
  toNat : (48 + k.toUInt8).toNat = 48 + k

theorem digitByte (k : Nat) (h : k < 10) : DigitByte k := by
  constructor <;> (revert k; decide)

/-- `natToDec` by its last digit.  The decimal renderers of the models (li_itostrn, buffer_append_int, ...)
    are this recursion with fuel, so each of them is `natToDec`. -/
theorem natToDec_rec (n : Nat) :
    natToDec n = if n < 10 then [48 + n.toUInt8] else natToDec (n / 10) ++ [48 + (n % 10).toUInt8] := by
  rw [natToDec_eq, Nat.toDigits_eq_if (by decide)]
  split
  · rename_i h; simp [(digitByte n h).char]
  · rw [List.map_append, ← natToDec_eq]; simp [(digitByte (n % 10) (Nat.mod_lt _ (by decide))).char]

theorem natToDec_ne_nil (n : Nat) : natToDec n ≠ [] := by
  rw [natToDec_rec]; split <;> simp

theorem natToDec_digits (n : Nat) : ∀ b ∈ natToDec n, isDigit b = true := by
  induction n using Nat.strongRecOn with
  | _ n ih =>
    rw [natToDec_rec]
    split
    · rename_i h; simpa using (digitByte n h).isDigit
    · intro b hb
      rcases List.mem_append.mp hb with hb | hb
      · exact ih _ (by omega) b hb
      · rw [List.mem_singleton.mp hb]; exact (digitByte _ (Nat.mod_lt n (by decide))).isDigit

def decOf (ds : Bytes) (a : Nat := 0) : Nat := ds.foldl (fun a d => a * 10 + (d.toNat - 48)) a

theorem decOf_natToDec (n : Nat) : decOf (natToDec n) = n := by
  induction n using Nat.strongRecOn with
  | _ n ih =>
    rw [natToDec_rec]
    split
    · rename_i h; simp [decOf, (digitByte n h).toNat]
    · have := ih (n / 10) (by omega)
      simp only [decOf] at this
      simp only [decOf, List.foldl_append, this, List.foldl_cons, List.foldl_nil,
        (digitByte _ (Nat.mod_lt n (by decide))).toNat]
      omega

theorem natToDec_inj {n m : Nat} (h : natToDec n = natToDec m) : n = m := by
  rw [← decOf_natToDec n, h, decOf_natToDec]

theorem decOf_eq_foldl (v : Bytes) : decOf v = v.foldl (fun a b => 10 * a + (b.toNat - 48)) 0 := by
  simp [decOf, Nat.mul_comm]

theorem natToDec_length_le_iff (n : Nat) {k : Nat} (hk : 0 < k) : (natToDec n).length ≤ k ↔ n < 10 ^ k := by
  rw [natToDec_eq, List.length_map]
  exact Nat.length_toDigits_le_iff (by decide) hk

end B
open B

/-! ### hexadecimal digit strings -/

theorem hexVal_zero : hexVal (0 : UInt8) = none := by decide +kernel

theorem hexVal_le (b u : UInt8) (h : hexVal b = some u) : u.toNat ≤ 15 := by
  have := b.toNat_lt
  unfold hexVal at h
  simp only [isDigit, Bool.and_eq_true, decide_eq_true_eq, UInt8.le_iff_toNat_le, UInt8.reduceToNat] at h
  split at h
  · injection h with h; subst h; simp only [UInt8.toNat_sub, UInt8.reduceToNat]; omega
  · split at h
    · injection h with h; subst h; simp only [UInt8.toNat_sub, UInt8.reduceToNat]; omega
    · split at h
      · injection h with h; subst h; simp only [UInt8.toNat_sub, UInt8.reduceToNat]; omega
      · cases h

/-- value of the hex digits `hx`, most significant first, read onto `v` (a byte that is no hex digit counts 0):
    what `ckHex` of Model/H1Chunked.lean computes over a run of digits while its overflow guard does not fire -/
def hexFold (v : Nat) (hx : Bytes) : Nat := hx.foldl (fun a d => a * 16 + ((hexVal d).getD 0).toNat) v

theorem hexFold_ge (v : Nat) (hx : Bytes) : v ≤ hexFold v hx :=
  foldl_inv (fun x => v ≤ x) _ hx v (Nat.le_refl v) fun b _ h => by omega

/-- what each of the models' hex renderers (http_chunk_len_append, buffer_append_uint_hex_lc) is shown to
    produce, and all that the readers need -/
structure HexStr (ds : Bytes) (n : Nat) : Prop where
  ne : ds ≠ []
  xdigit : ∀ d ∈ ds, (hexVal d).isSome = true
  val : ∀ a, hexFold a ds = a * 16 ^ ds.length + n

theorem hexDigitLC_val : ∀ k : Fin 16,
    hexVal (hexDigitLC k.val.toUInt8) = some k.val.toUInt8 ∧ k.val.toUInt8.toNat = k.val := by
  decide

theorem HexStr.one {k : Nat} (h : k < 16) : HexStr [hexDigitLC k.toUInt8] k := by
  obtain ⟨h1, h2⟩ := hexDigitLC_val ⟨k, h⟩
  exact ⟨by simp, by simp [h1], fun a => by simp [hexFold, h1, h2]⟩

theorem HexStr.snoc {ds : Bytes} {n k : Nat} (hs : HexStr ds n) (h : k < 16) :
    HexStr (ds ++ [hexDigitLC k.toUInt8]) (n * 16 + k) := by
  obtain ⟨h1, h2⟩ := hexDigitLC_val ⟨k, h⟩
  refine ⟨by simp, ?_, fun a => ?_⟩
  · intro d hd
    rcases List.mem_append.mp hd with hd | hd
    · exact hs.xdigit d hd
    · simp only [List.mem_singleton] at hd; simp [hd, h1]
  · have := hs.val a
    simp only [hexFold] at this
    simp only [hexFold, List.foldl_append, this, List.foldl_cons, List.foldl_nil, h1, Option.getD_some, h2,
      List.length_append, List.length_singleton, Nat.pow_succ]
    rw [Nat.add_mul, Nat.mul_assoc]; omega

theorem HexStr.value {ds : Bytes} {n : Nat} (hs : HexStr ds n) : hexFold 0 ds = n := by
  simpa using hs.val 0

theorem HexStr.not_mem {ds : Bytes} {n : Nat} (hs : HexStr ds n) {c : UInt8} (hc : hexVal c = none) : c ∉ ds :=
  fun h => by simpa [hc] using hs.xdigit c h

/-! ### case folding -/

namespace B

theorem toLower_idem (b : UInt8) : toLower (toLower b) = toLower b :=
  forall_uint8 (P := fun b => toLower (toLower b) = toLower b) (by decide +kernel) b

theorem map_toLower_idem (k : Bytes) : (k.map toLower).map toLower = k.map toLower := by
  simp only [List.map_map, Function.comp_def, toLower_idem]

end B

theorem toLower_eq_of_not_lower {b c : UInt8} (hc : isLower c = false) (h : toLower b = c) : b = c := by
  rcases forall_uint8 (P := fun b => toLower b = b ∨ isLower (toLower b) = true) (by decide +kernel) b
    with e | e
  · exact e ▸ h
  · rw [h, hc] at e; exact Bool.noConfusion e

/-- the test `(b & 0xdf) == 'X'` of the C (response.c, h2.c) finds exactly the bytes that fold to 'x' -/
theorem toLower_eq_x_iff (b : UInt8) : toLower b = 120 ↔ (b &&& 0xdf) = 88 :=
  forall_uint8 (P := fun b => toLower b = 120 ↔ (b &&& 0xdf) = 88) (by decide +kernel) b

theorem toLower_eq_slash {b : UInt8} (h : toLower b = slash) : b = slash :=
  toLower_eq_of_not_lower (by decide) h

theorem toLower_slash : toLower slash = slash := by decide +kernel

theorem map_toLower_eq : ∀ {seg c : Bytes}, (∀ x ∈ c, isLower x = false) → seg.map toLower = c → seg = c
  | [], [], _, _ => rfl
  | [], _ :: _, _, h => by simp at h
  | _ :: _, [], _, h => by simp at h
  | a :: as, x :: xs, hc, h => by
    simp only [List.map_cons, List.cons.injEq] at h
    rw [toLower_eq_of_not_lower (hc x (by simp)) h.1, map_toLower_eq (fun y hy => hc y (by simp [hy])) h.2]

theorem xor_eq_iff (a b c : UInt8) : a ^^^ b = c ↔ b = a ^^^ c := by
  constructor <;> rintro rfl <;> rw [← UInt8.xor_assoc, UInt8.xor_self, UInt8.zero_xor]

theorem toLower_xor (a : UInt8) : toLower a = a ∨ toLower a = a ^^^ 0x20 :=
  forall_uint8 (P := fun a => toLower a = a ∨ toLower a = a ^^^ 0x20) (by decide +kernel) a

theorem toLower_ascii (b : UInt8) : toLower b = b ∨ (b < 0x80 ∧ toLower b < 0x80) := by
  unfold toLower
  split
  · -- an upper-case letter is below 0x80, and stays there when the bit 0x20 is set
    rename_i hu
    simp only [isUpper, Bool.and_eq_true, decide_eq_true_eq] at hu
    have hb : b < 0x80 := UInt8.lt_of_le_of_lt hu.2 (by decide)
    refine Or.inr ⟨hb, ?_⟩
    rw [UInt8.lt_iff_toNat_lt] at hb ⊢
    rw [UInt8.toNat_or]
    exact Nat.or_lt_two_pow (n := 7) hb (by decide)
  · exact Or.inl rfl

/-! ### scanning up to the first byte that fails a test -/

theorem dropWhile_all {p : UInt8 → Bool} {l : Bytes} (h : ∀ b ∈ l, p b = true) : l.dropWhile p = [] := by
  simpa using List.dropWhile_append_of_pos (l₂ := []) h

theorem span_append {p : UInt8 → Bool} {ds rest : Bytes} (hds : ∀ d ∈ ds, p d = true)
    (hrest : ∀ b, rest.head? = some b → p b = false) :
    (ds ++ rest).takeWhile p = ds ∧ (ds ++ rest).dropWhile p = rest := by
  rw [List.takeWhile_append_of_pos hds, List.dropWhile_append_of_pos hds]
  cases rest with
  | nil => simp
  | cons x xs => simp [hrest x rfl]

theorem dropWhile_append_stop (f : UInt8 → Bool) (c : UInt8) (hc : f c = false)
    (p rest : Bytes) : (p ++ c :: rest).dropWhile f = p.dropWhile f ++ c :: rest := by
  rw [List.dropWhile_append, List.dropWhile_cons_of_neg (by simp [hc])]
  split
  · rename_i h; rw [List.isEmpty_iff.mp h]; rfl
  · rfl

theorem takeWhile_append_stop (f : UInt8 → Bool) (c : UInt8) (hc : f c = false)
    (p rest : Bytes) : (p ++ c :: rest).takeWhile f = p.takeWhile f := by
  rw [List.takeWhile_append, List.takeWhile_cons_of_neg (by simp [hc]), List.append_nil]
  split
  · rename_i h; exact ((List.takeWhile_prefix f).eq_of_length h).symm
  · rfl

theorem span_stop {p : UInt8 → Bool} {a : Bytes} {x : UInt8} (b : Bytes) (ha : ∀ y ∈ a, p y = true)
    (hx : p x = false) : (a ++ x :: b).takeWhile p = a ∧ (a ++ x :: b).dropWhile p = x :: b :=
  span_append ha fun _ h => Option.some.inj h ▸ hx

theorem span_inj {p : UInt8 → Bool} {s : UInt8} (hs : p s = false) {r1 r2 a b : Bytes}
    (h1 : ∀ x ∈ r1, p x = true) (h2 : ∀ x ∈ r2, p x = true) (h : r1 ++ s :: a = r2 ++ s :: b) :
    r1 = r2 ∧ a = b := by
  have := congrArg (List.takeWhile p) h
  rw [(span_stop a h1 hs).1, (span_stop b h2 hs).1] at this
  subst this
  exact ⟨rfl, by simpa using h⟩

/-- the index form a pointer walk needs -/
theorem takeWhile_cut (p : UInt8 → Bool) (l : Bytes) :
    (∀ x ∈ l.takeWhile p, p x = true) ∧
    ((l.drop (l.takeWhile p).length = [] ∧ l = l.takeWhile p) ∨
     ∃ b r, l.drop (l.takeWhile p).length = b :: r ∧ l = l.takeWhile p ++ b :: r ∧ p b = false) := by
  induction l with
  | nil => simp
  | cons c r ih =>
    by_cases hc : p c = true
    · simp only [List.takeWhile_cons, hc, if_true, List.length_cons, List.drop_succ_cons, List.mem_cons,
        List.cons_append, List.cons.injEq, true_and]
      refine ⟨?_, ih.2⟩
      rintro x (rfl | hx)
      · exact hc
      · exact ih.1 x hx
    · simp only [List.takeWhile_cons, hc]
      exact ⟨by simp, Or.inr ⟨c, r, rfl, rfl, by simpa using hc⟩⟩

/-! ### `splitOn` and `join` -/

theorem splitOn_ne_nil (sep : UInt8) (s : Bytes) : splitOn sep s ≠ [] := by
  induction s with
  | nil => simp [splitOn]
  | cons x xs ih =>
    unfold splitOn
    split
    · simp
    · split <;> simp

theorem splitOn_cons_exists (sep : UInt8) (s : Bytes) : ∃ H T, splitOn sep s = H :: T :=
  List.exists_cons_of_ne_nil (splitOn_ne_nil sep s)

theorem splitOn_cons_sep (sep : UInt8) (q : Bytes) :
    splitOn sep (sep :: q) = [] :: splitOn sep q := by
  obtain ⟨p, ps, hp⟩ := splitOn_cons_exists sep q
  rw [splitOn, hp]; simp

theorem splitOn_cons_ne {sep x : UInt8} {q p : Bytes} {ps : List Bytes} (hx : x ≠ sep)
    (hp : splitOn sep q = p :: ps) : splitOn sep (x :: q) = (x :: p) :: ps := by
  rw [splitOn, hp]; simp [hx]

theorem splitOn_of_not_mem {sep : UInt8} {p : Bytes} (h : sep ∉ p) : splitOn sep p = [p] := by
  induction p with
  | nil => simp [splitOn]
  | cons x xs ih =>
    have hx : x ≠ sep := fun e => h (by simp [e])
    have hxs : sep ∉ xs := fun e => h (by simp [e])
    rw [splitOn_cons_ne hx (ih hxs)]

theorem splitOn_at_sep (sep : UInt8) (a b : Bytes) :
    splitOn sep (a ++ sep :: b) = splitOn sep a ++ splitOn sep b := by
  induction a with
  | nil => rw [List.nil_append, splitOn_cons_sep]; rfl
  | cons x xs ih =>
    obtain ⟨p, ps, hp⟩ := splitOn_cons_exists sep xs
    rw [hp] at ih
    by_cases hx : x = sep
    · rw [hx, List.cons_append, splitOn_cons_sep, splitOn_cons_sep, ih, hp]; rfl
    · rw [List.cons_append, splitOn_cons_ne hx ih, splitOn_cons_ne hx hp]; rfl

theorem splitOn_append_sep {sep : UInt8} {p : Bytes} (q : Bytes) (h : sep ∉ p) :
    splitOn sep (p ++ sep :: q) = p :: splitOn sep q := by
  rw [splitOn_at_sep, splitOn_of_not_mem h]; rfl

theorem splitOn_mem_nosep (sep : UInt8) (s : Bytes) : ∀ seg ∈ splitOn sep s, sep ∉ seg := by
  induction s with
  | nil => simp [splitOn]
  | cons x xs ih =>
    obtain ⟨p, ps, hp⟩ := splitOn_cons_exists sep xs
    rw [hp] at ih
    by_cases hx : x = sep
    · rw [hx, splitOn_cons_sep, hp]
      intro seg hseg
      rcases List.mem_cons.mp hseg with rfl | h
      · simp
      · exact ih seg h
    · rw [splitOn_cons_ne hx hp]
      intro seg hseg
      rcases List.mem_cons.mp hseg with rfl | h
      · have := ih p (by simp)
        simp [this, Ne.symm hx]
      · exact ih seg (by simp [h])

theorem join_splitOn (sep : UInt8) (s : Bytes) : join sep (splitOn sep s) = s := by
  induction s with
  | nil => simp [splitOn, join]
  | cons x xs ih =>
    obtain ⟨p, ps, hp⟩ := splitOn_cons_exists sep xs
    rw [hp] at ih
    by_cases hx : x = sep
    · rw [hx, splitOn_cons_sep, hp]; simp [join, ih]
    · rw [splitOn_cons_ne hx hp]
      cases ps <;> simp [join] at ih ⊢ <;> exact ih

theorem first_seg (sep : UInt8) (s : Bytes) :
    ∃ H, sep ∉ H ∧ (s = H ∨ ∃ r, s = H ++ sep :: r) := by
  obtain ⟨H, T, h⟩ := splitOn_cons_exists sep s
  have hj := join_splitOn sep s
  rw [h] at hj
  refine ⟨H, splitOn_mem_nosep sep s H (by simp [h]), ?_⟩
  cases T with
  | nil => left; exact hj.symm
  | cons t ts => right; exact ⟨_, hj.symm⟩

theorem splitOn_join {sep : UInt8} : ∀ (l : List Bytes), l ≠ [] → (∀ seg ∈ l, sep ∉ seg) →
    splitOn sep (join sep l) = l
  | [], h, _ => absurd rfl h
  | [p], _, hn => by simp [join, splitOn_of_not_mem (hn p (by simp))]
  | p :: q :: qs, _, hn => by
    have hp := hn p (by simp)
    have ih := splitOn_join (q :: qs) (by simp) (fun s hs => hn s (by simp [hs]))
    simp only [join]
    rw [splitOn_append_sep _ hp, ih]

theorem join_concat (sep : UInt8) (x : Bytes) : ∀ (l : List Bytes), l ≠ [] →
    join sep (l ++ [x]) = join sep l ++ sep :: x
  | [], h => absurd rfl h
  | [p], _ => by simp [join]
  | p :: q :: qs, _ => by
    have ih := join_concat sep x (q :: qs) (by simp)
    simp only [List.cons_append] at ih ⊢
    simp only [join]
    rw [ih]; simp

theorem flatMap_join {sep : UInt8} : ∀ (stack : List Bytes), stack ≠ [] →
    stack.flatMap (· ++ [sep]) = join sep stack ++ [sep]
  | [], h => absurd rfl h
  | [p], _ => by simp [join]
  | p :: q :: qs, _ => by
    have ih := flatMap_join (sep := sep) (q :: qs) (by simp)
    simp only [List.flatMap_cons] at ih ⊢
    rw [ih]; simp [join]

theorem join_mem {sep : UInt8} {l : List Bytes} {b : UInt8} (h : b ∈ join sep l) : b = sep ∨ ∃ seg ∈ l, b ∈ seg := by
  induction l with
  | nil => simp [join] at h
  | cons p ps ih =>
    cases ps with
    | nil => simp only [join] at h; right; exact ⟨p, by simp, h⟩
    | cons q qs =>
      simp only [join, List.mem_append, List.mem_cons] at h
      rcases h with h | h | h
      · right; exact ⟨p, by simp, h⟩
      · left; exact h
      · rcases ih h with e | ⟨seg, hs, hb⟩
        · left; exact e
        · right; exact ⟨seg, by simp [hs], hb⟩

theorem infix_join (sep : UInt8) : ∀ (l : List Bytes) (t : Bytes), t ∈ l → t <:+: join sep l
  | [], _, h => nomatch h
  | [p], t, h => by rw [List.mem_singleton.mp h]; exact List.infix_refl _
  | p :: q :: l, t, h => by
    show t <:+: p ++ sep :: join sep (q :: l)
    rcases List.mem_cons.mp h with rfl | h
    · exact (List.prefix_append _ _).isInfix
    · exact (infix_join sep (q :: l) t h).trans ((List.suffix_cons _ _).isInfix.trans (List.suffix_append _ _).isInfix)

theorem splitOn_mem {sep : UInt8} {s t : Bytes} (ht : t ∈ splitOn sep s) : t <:+: s ∧ sep ∉ t :=
  ⟨join_splitOn sep s ▸ infix_join sep _ t ht, splitOn_mem_nosep sep s t ht⟩

theorem splitOn_mem_sub (sep : UInt8) (s : Bytes) : ∀ seg ∈ splitOn sep s, ∀ b ∈ seg, b ∈ s :=
  fun _ hs _ hb => (splitOn_mem hs).1.subset hb

/-! ### lists -/

theorem foldr_pair {α β γ : Type} (g : α → β → β) (b0 : β) (t : γ) (l : List α) :
    l.foldr (fun x b => (g x b.1, b.2)) (b0, t) = (l.foldr g b0, t) := by
  induction l with
  | nil => rfl
  | cons x l ih => simp only [List.foldr_cons, ih]

theorem take_snoc_lt {α : Type} (q : List α) (b : α) {n : Nat} (h : q.length < n) :
    (q ++ [b]).take n = q.take n ++ [b] := by
  rw [List.take_of_length_le (by rw [List.length_append]; exact h), List.take_of_length_le (Nat.le_of_lt h)]

theorem length_append_cons {l d p : Bytes} {c : UInt8} (h : l = d ++ c :: p) :
    l.length = d.length + p.length + 1 := by
  rw [h, List.length_append, List.length_cons, Nat.add_assoc]

theorem split_at_iff {l d : Bytes} {c : UInt8} (hlen : d.length < l.length) :
    (l.getD d.length 0 = c ∧ l.take d.length = d) ↔ ∃ p, l = d ++ c :: p := by
  constructor
  · rintro ⟨hc, ht⟩
    refine ⟨l.drop (d.length + 1), ?_⟩
    have h1 := List.take_append_drop d.length l
    rw [ht, List.drop_eq_getElem_cons hlen] at h1
    rw [List.getD_eq_getElem?_getD, List.getElem?_eq_getElem hlen] at hc
    simp only [Option.getD_some] at hc
    rw [hc] at h1
    exact h1.symm
  · rintro ⟨p, rfl⟩
    simp [List.getD_eq_getElem?_getD]

theorem le_sum_of_mem {α : Type} (g : α → Nat) (l : List α) (x : α) (hx : x ∈ l) :
    g x ≤ (l.map g).sum := by
  induction l with
  | nil => cases hx
  | cons y ys ih =>
    simp only [List.map_cons, List.sum_cons]
    rcases List.mem_cons.mp hx with rfl | h
    · omega
    · have := ih h; omega

theorem idxOf?_append_self (a : UInt8) (v rest : Bytes) (h : a ∉ v) :
    (v ++ a :: rest).idxOf? a = some v.length := by
  induction v with
  | nil => simp [List.idxOf?, List.findIdx?_cons]
  | cons x xs ih =>
    have hx : x ≠ a := fun e => h (by simp [e])
    have hxs : a ∉ xs := fun e => h (by simp [e])
    have := ih hxs
    simp only [List.idxOf?] at this ⊢
    simp only [List.cons_append, List.findIdx?_cons, beq_iff_eq, hx, if_false, this]
    simp

theorem lookup_mem {α : Type} {c : List (Int × α)} {key : Int} {e : α} (h : c.lookup key = some e) :
    (key, e) ∈ c := by
  obtain ⟨l₁, l₂, rfl, -⟩ := List.lookup_eq_some_iff.1 h
  exact List.mem_append_right _ List.mem_cons_self

theorem lookup_iff_mem {α : Type} (c : List (Int × α)) (h : c.Pairwise (fun a b => a.1 ≠ b.1)) (k : Int) (v : α) :
    c.lookup k = some v ↔ (k, v) ∈ c := by
  refine ⟨lookup_mem, fun hm => ?_⟩
  induction c with
  | nil => cases hm
  | cons a c ih =>
    obtain ⟨ak, av⟩ := a
    rw [List.pairwise_cons] at h
    rcases List.mem_cons.1 hm with e | hm
    · cases e; simp
    · have hk : (k == ak) = false := by simpa using fun e => h.1 (k, v) hm e.symm
      simp only [List.lookup_cons, hk]
      exact ih h.2 hm

/-- No piece is empty, so `length + 1` fuel is enough.
    The receivers of the gateway encodings (FastCGI records and pairs, SCGI, uwsgi, chunks) are instances. -/
theorem decode_flatMap {α β : Type} (enc : α → Bytes) (dec : Nat → Bytes → Option β)
    (cons : α → β → β) (tail : Bytes) (b0 : β) (l : List α)
    (hne : ∀ x ∈ l, enc x ≠ [])
    (hbase : ∀ fuel, dec (fuel + 1) tail = some b0)
    (hstep : ∀ x ∈ l, ∀ fuel rest, dec (fuel + 1) (enc x ++ rest) = (dec fuel rest).map (cons x)) :
    ∀ fuel, (l.flatMap enc ++ tail).length < fuel →
      dec fuel (l.flatMap enc ++ tail) = some (l.foldr cons b0) := by
  induction l with
  | nil =>
    intro fuel hf
    obtain ⟨f, rfl⟩ : ∃ f, fuel = f + 1 := ⟨fuel - 1, by omega⟩
    exact hbase f
  | cons x t ih =>
    intro fuel hf
    obtain ⟨f, rfl⟩ : ∃ f, fuel = f + 1 := ⟨fuel - 1, by omega⟩
    have := List.length_pos_iff.mpr (hne x (by simp))
    simp only [List.flatMap_cons, List.append_assoc, List.foldr_cons, List.length_append] at hf ⊢
    rw [hstep x (by simp) f, ih (fun y hy => hne y (by simp [hy])) (fun y hy => hstep y (by simp [hy])) f
      (by rw [List.length_append]; omega)]
    rfl

theorem decode_flatMap_list {α : Type} (enc : α → Bytes) (dec : Nat → Bytes → Option (List α))
    (l : List α) (hne : ∀ x ∈ l, enc x ≠ []) (hbase : ∀ fuel, dec (fuel + 1) [] = some [])
    (hstep : ∀ x ∈ l, ∀ fuel rest, dec (fuel + 1) (enc x ++ rest) = (dec fuel rest).map (x :: ·)) :
    ∀ fuel, (l.flatMap enc).length < fuel → dec fuel (l.flatMap enc) = some l := by
  intro fuel hf
  have := decode_flatMap enc dec List.cons [] [] l hne hbase hstep fuel (by simpa using hf)
  simpa using this

end LtVerif
