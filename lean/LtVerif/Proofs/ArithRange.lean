/-
  Helper lemmas for the checked http_range.c model (Model/ArithRange.lean), C12.
-/
import LtVerif.Model.ArithRange
import LtVerif.Proofs.ArithBase
import LtVerif.Proofs.Bytes
namespace LtVerif
namespace Arith
namespace Rg
open B

theorem llMax_eq : llMax = 9223372036854775807 := by decide
theorem llMin_eq : llMin = -9223372036854775808 := by decide
theorem rmax_eq : rmax = 128 := by decide
theorem rmaxU_le : rmaxU ≤ rmax := by decide

def InB (len : Int) (r : Rng) : Prop := 0 ≤ r.1 ∧ r.1 ≤ r.2 ∧ r.2 < len
def AllInB (len : Int) (l : List Rng) : Prop := ∀ r ∈ l, InB len r

/-- `chk_ind` for `chk`; hypothesis = `inI64_iff` unfolded -/
theorem chk_ok {x : Int} {w : String} (h : -9223372036854775808 ≤ x ∧ x ≤ 9223372036854775807) :
    chk x w = .ok x := by
  simp [chk, (inI64_iff x).mpr h]

theorem chk_match {α : Sort _} {P : α → Prop} {x : Int} {w : String} {f : String → α} {g : Int → α}
    (h : -9223372036854775808 ≤ x ∧ x ≤ 9223372036854775807) (hg : P (g x)) :
    P (match chk x w with
      | .ub w => f w
      | .ok v => g v) := by
  rw [chk_ok h]; exact hg

theorem clampLL_range (neg : Bool) (v : Nat) : llMin ≤ clampLL neg v ∧ clampLL neg v ≤ llMax := by
  unfold clampLL
  rw [llMax_eq, llMin_eq]
  cases neg <;> simp <;> split <;> omega

theorem strtoll_range {s : Bytes} {n : Int} {ds e : Bytes} (h : strtoll s = some (n, ds, e)) :
    llMin ≤ n ∧ n ≤ llMax := by
  unfold strtoll at h
  simp only at h
  split at h
  · cases h
  · simp only [Option.some.injEq, Prod.mk.injEq] at h
    rw [← h.1]; exact clampLL_range _ _

def NextOk (len : Int) : R (Option Rng × Bytes) → Prop
  | .ub _ => False
  | .ok (none, _) => True
  | .ok (some rg, _) => InB len rg

theorem parseNext_ok (s : Bytes) (len : Int) (hlen : 0 < len) (hmax : len ≤ llMax) :
    NextOk len (parseNext s len) := by
  rw [llMax_eq] at hmax
  rw [parseNext]
  cases hs : strtoll s with
  | none => trivial
  | some t =>
    obtain ⟨n, ds, e⟩ := t
    have hr := strtoll_range hs
    rw [llMax_eq, llMin_eq] at hr
    refine ite_ind (fun hn => ite_ind (fun hnl => ?_) fun _ => trivial) fun hn => ?_
    · -- "first-" or "first-last"
      split
      · refine chk_match (by omega) ?_
        cases strtoll _ with
        | none => exact ⟨hn, by omega, by omega⟩
        | some t2 =>
          obtain ⟨m, ds2, e2⟩ := t2
          refine ite_ind (fun _ => ⟨hn, by omega, by omega⟩) fun _ => ite_ind (fun _ => ?_) fun _ => trivial
          simp only [NextOk, InB]
          split <;> omega
      · trivial
    · -- "-suffix"
      refine chk_match (by omega) (ite_ind (fun hmin => ?_) fun _ => ⟨Int.le_refl _, by omega, by omega⟩)
      rw [llMin_eq] at hmin
      exact chk_match (by omega) (ite_ind (fun _ => chk_match (by omega) ⟨by omega, by omega, by omega⟩)
        fun _ => ⟨Int.le_refl _, by omega, by omega⟩)

/-- loop invariant of http_range_parse() -/
structure PInv (len : Int) (st : PSt) : Prop where
  inb : AllInB len st.rs
  lim : st.lim ≤ rmax

theorem parseStep_spec (len : Int) (hmax : len ≤ llMax) (st : PSt) (rg : Rng) (hi : PInv len st)
    (hlt : st.rs.length < st.lim) (hrg : InB len rg) :
    ∃ st' brk, parseStep st rg = .ok (st', brk) ∧ PInv len st' ∧ st'.rs.length ≤ st'.lim := by
  rw [llMax_eq] at hmax
  have hu := rmaxU_le
  have hin := hi.inb
  unfold parseStep
  split
  · rename_i hrs
    rw [hrs] at hlt
    exact ⟨_, _, rfl, ⟨List.forall_mem_singleton.mpr hrg, hi.lim⟩, hlt⟩
  · rename_i prev more hrs
    rw [hrs] at hin hlt
    obtain ⟨hprev, hmore⟩ := List.forall_mem_cons.mp hin
    have hall : AllInB len (rg :: prev :: more) := List.forall_mem_cons.mpr ⟨hrg, hin⟩
    simp only [List.length_cons] at hlt
    obtain ⟨r1, r2, r3⟩ := hrg
    split
    · rw [chk_ok (x := rg.1 - 80) (by omega)]; simp only
      split
      · exact ⟨_, _, rfl, ⟨hall, hi.lim⟩, by simp only [List.length_cons]; omega⟩
      · refine ⟨_, _, rfl, ⟨List.forall_mem_cons.mpr ⟨?_, hmore⟩, hi.lim⟩, by simp only [List.length_cons]; omega⟩
        obtain ⟨p1, p2, p3⟩ := hprev
        simp only [InB]; split <;> omega
    · split
      · refine ⟨_, _, rfl, hi, ?_⟩; rw [hrs]; simp only [List.length_cons]; omega
      · exact ⟨_, _, rfl, ⟨hall, hu⟩, by simp only [List.length_cons]; omega⟩

theorem parseLoop_spec (len : Int) (hlen : 0 < len) (hmax : len ≤ llMax) (ps : List Bytes) :
    ∀ st : PSt, PInv len st → st.rs.length < st.lim →
      ∃ st', parseLoop len st ps = .ok st' ∧ PInv len st' ∧ st'.rs.length ≤ rmax := by
  induction ps with
  | nil => intro st hi hlt; exact ⟨st, rfl, hi, by have := hi.lim; omega⟩
  | cons p ps ih =>
    intro st hi hlt
    have hl := hi.lim
    rw [rmax_eq] at hl
    unfold parseLoop
    have c : ¬ (2 * st.rs.length + 1 ≥ 2 * rmax) := by rw [rmax_eq]; omega
    rw [if_neg c]
    have hn := parseNext_ok p len hlen hmax
    split
    · rename_i heq; rw [heq] at hn; exact hn.elim
    · rename_i rg heq
      rw [heq] at hn
      obtain ⟨st', brk, hs, hi', hle⟩ := parseStep_spec len hmax st rg hi hlt hn
      rw [hs]; simp only
      split
      · exact ⟨st', rfl, hi', by have := hi'.lim; omega⟩
      · rename_i hc
        simp only [not_or, Nat.not_le] at hc
        exact ih st' hi' hc.2
    · exact ih st hi hlt

theorem overlaps_spec (len : Int) (hmax : len ≤ llMax) (b e : Int) (r : Rng) (hb : InB len (b, e))
    (hr : InB len r) : ∃ v, overlaps b e r = .ok v := by
  rw [llMax_eq] at hmax
  obtain ⟨a1, a2, a3⟩ := hb
  obtain ⟨b1, b2, b3⟩ := hr
  simp only at a1 a2 a3
  unfold overlaps
  split
  · rw [chk_ok (x := r.1 - 80) (by omega)]; exact ⟨_, rfl⟩
  · rw [chk_ok (x := b - 80) (by omega)]; exact ⟨_, rfl⟩

theorem mergeFirst_spec (len : Int) (hmax : len ≤ llMax) (b e : Int) (hb : InB len (b, e)) (l : List Rng)
    (hl : AllInB len l) :
    ∃ o, mergeFirst b e l = .ok o ∧
      ∀ m l', o = some (m, l') → InB len m ∧ AllInB len l' ∧ l'.length + 1 = l.length := by
  induction l with
  | nil => exact ⟨none, rfl, by intro m l' h; cases h⟩
  | cons r rest ih =>
    obtain ⟨hr, hrest⟩ := List.forall_mem_cons.mp hl
    obtain ⟨v, hv⟩ := overlaps_spec len hmax b e r hb hr
    obtain ⟨o, ho, hsp⟩ := ih hrest
    unfold mergeFirst
    rw [hv]
    cases v with
    | true =>
      refine ⟨_, rfl, ?_⟩
      intro m l' h
      cases h
      obtain ⟨a1, a2, a3⟩ := hb
      obtain ⟨b1, b2, b3⟩ := hr
      simp only at a1 a2 a3
      refine ⟨?_, hrest, by simp⟩
      simp only [InB]
      refine ⟨by split <;> omega, ?_, by split <;> omega⟩
      split <;> split <;> omega
    | false =>
      simp only
      rw [ho]
      cases o with
      | none => exact ⟨none, rfl, by intro m l' h; cases h⟩
      | some pr =>
        obtain ⟨m, rest'⟩ := pr
        refine ⟨_, rfl, ?_⟩
        intro m' l' h
        cases h
        obtain ⟨g1, g2, g3⟩ := hsp m rest' rfl
        exact ⟨g1, List.forall_mem_cons.mpr ⟨hr, g2⟩, by simp; omega⟩

theorem coalescePass_spec (len : Int) (hmax : len ≤ llMax) (l : List Rng) (hl : AllInB len l) :
    ∃ o, coalescePass l = .ok o ∧ ∀ l', o = some l' → AllInB len l' ∧ l'.length + 1 = l.length := by
  induction l with
  | nil => exact ⟨none, rfl, by intro l' h; cases h⟩
  | cons r rest ih =>
    obtain ⟨hr, hrest⟩ := List.forall_mem_cons.mp hl
    obtain ⟨o, ho, hsp⟩ := mergeFirst_spec len hmax r.1 r.2 hr rest hrest
    obtain ⟨o2, ho2, hsp2⟩ := ih hrest
    unfold coalescePass
    rw [ho]
    cases o with
    | some pr =>
      obtain ⟨m, rest'⟩ := pr
      refine ⟨_, rfl, ?_⟩
      intro l' h
      cases h
      obtain ⟨g1, g2, g3⟩ := hsp m rest' rfl
      exact ⟨List.forall_mem_cons.mpr ⟨g1, g2⟩, by simp; omega⟩
    | none =>
      simp only
      rw [ho2]
      cases o2 with
      | none => exact ⟨none, rfl, by intro l' h; cases h⟩
      | some rest' =>
        refine ⟨_, rfl, ?_⟩
        intro l' h
        cases h
        obtain ⟨g1, g2⟩ := hsp2 rest' rfl
        exact ⟨List.forall_mem_cons.mpr ⟨hr, g1⟩, by simp; omega⟩

theorem coalesce_spec (len : Int) (hmax : len ≤ llMax) : ∀ (fuel : Nat) (l : List Rng), AllInB len l →
    ∃ l', coalesce fuel l = .ok l' ∧ AllInB len l' ∧ l'.length ≤ l.length := by
  intro fuel
  induction fuel with
  | zero => intro l hl; exact ⟨l, rfl, hl, Nat.le_refl _⟩
  | succ fuel ih =>
    intro l hl
    obtain ⟨o, ho, hsp⟩ := coalescePass_spec len hmax l hl
    unfold coalesce
    rw [ho]
    cases o with
    | none => exact ⟨l, rfl, hl, Nat.le_refl _⟩
    | some l1 =>
      obtain ⟨g1, g2⟩ := hsp l1 rfl
      obtain ⟨l', e, h1, h2⟩ := ih l1 g1
      exact ⟨l', e, h1, by omega⟩

theorem parse_spec (s : Bytes) (len : Int) (hlen : 0 < len) (hmax : len ≤ llMax) :
    ∃ rs, parse s len = .ok rs ∧ AllInB len rs ∧ rs.length ≤ rmax := by
  have h0 : PInv len { rs := [], lim := rmax } := ⟨by intro r hr; simp at hr, Nat.le_refl _⟩
  obtain ⟨st, he, hi, hle⟩ := parseLoop_spec len hlen hmax (splitOn 44 s) _ h0 (by simp; rw [rmax_eq]; omega)
  unfold parse
  rw [he]; simp only
  have hrev : AllInB len st.rs.reverse := fun r hr => hi.inb r (by simpa using hr)
  split
  · exact ⟨_, rfl, hrev, by simpa using hle⟩
  · split
    · exact ⟨_, rfl, hrev, by simpa using hle⟩
    · obtain ⟨l', e, h1, h2⟩ := coalesce_spec len hmax st.rs.reverse.length st.rs.reverse hrev
      exact ⟨l', e, h1, by simp at h2; omega⟩

end Rg
end Arith
end LtVerif
