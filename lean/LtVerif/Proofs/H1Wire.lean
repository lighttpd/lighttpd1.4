/-
  The header section: split at LF into its lines, its fields in wire order (`headFields`), read back by
  the reference client (`wireDecode_render`, for any clean store), cut into physical lines when fields repeat.
-/
import LtVerif.Proofs.H1Tables
namespace LtVerif
open B

theorem renderHead_eq_join : ∀ (lines : List Bytes),
    renderHead lines = join lf (lines.map (· ++ [cr]) ++ [[cr], []]) := by
  intro lines
  induction lines with
  | nil => simp [renderHead, join, cr, lf]
  | cons l rest ih =>
    have hne : ∃ y ys, rest.map (· ++ [cr]) ++ [[cr], []] = y :: ys := by
      cases rest with
      | nil => exact ⟨_, _, rfl⟩
      | cons a b => exact ⟨_, _, rfl⟩
    obtain ⟨y, ys, hy⟩ := hne
    have hr : renderHead (l :: rest) = l ++ [cr, lf] ++ renderHead rest := by
      simp [renderHead]
    rw [hr, ih, List.map_cons, List.cons_append, hy]
    simp [join]

theorem splitOn_renderHead (lines : List Bytes) (h : ∀ l ∈ lines, lf ∉ l) :
    splitOn lf (renderHead lines) = lines.map (· ++ [cr]) ++ [[cr], []] := by
  rw [renderHead_eq_join]
  apply splitOn_join
  · simp
  · intro seg hseg
    rcases List.mem_append.mp hseg with hm | hm
    · obtain ⟨l, hl, rfl⟩ := List.mem_map.mp hm
      intro hmem
      rcases List.mem_append.mp hmem with h1 | h1
      · exact h l hl h1
      · simp [cr, lf] at h1
    · simp at hm
      rcases hm with rfl | rfl <;> simp [cr, lf]

theorem takeLine_append : ∀ (l r : Bytes), lf ∉ l → takeLine (l ++ lf :: r) = some (l, r)
  | [], r, _ => by simp [takeLine]
  | b :: t, r, h => by
    have hb : b ≠ lf := fun e => h (by simp [e])
    have ht : lf ∉ t := fun e => h (by simp [e])
    simp [takeLine, hb, takeLine_append t r ht]

theorem splitHead_render : ∀ (lines : List Bytes) (fuel : Nat) (rest : Bytes),
    (∀ l ∈ lines, lf ∉ l ∧ l ≠ []) → lines.length < fuel →
    splitHead fuel (renderHead lines ++ rest) = some (lines, rest)
  | [], fuel, rest, _, hf => by
    cases fuel with
    | zero => omega
    | succ f =>
      have : renderHead [] ++ rest = [cr] ++ lf :: rest := by simp [renderHead]
      rw [this]
      unfold splitHead
      rw [takeLine_append [cr] rest (by decide)]
      simp [stripCR]
  | l :: ls, fuel, rest, h, hf => by
    cases fuel with
    | zero => omega
    | succ f =>
      have hl := h l (by simp)
      have e : renderHead (l :: ls) ++ rest = (l ++ [cr]) ++ lf :: (renderHead ls ++ rest) := by
        simp [renderHead]
      rw [e]
      unfold splitHead
      have hlf : lf ∉ l ++ [cr] := by
        intro hm
        rcases List.mem_append.mp hm with h1 | h1
        · exact hl.1 h1
        · simp [cr, lf] at h1
      rw [takeLine_append _ _ hlf]
      simp only [show stripCR (l ++ [cr]) = some l by simp [stripCR]]
      have hne : l.isEmpty = false := List.isEmpty_eq_false_iff.mpr hl.2
      simp only [hne, Bool.false_eq_true, if_false]
      rw [splitHead_render ls f rest (fun x hx => h x (by simp [hx])) (by simp at hf; omega)]

theorem parseField_render (k v : Bytes) (hk : k ≠ [] ∧ colon ∉ k) :
    parseField (k ++ [colon, sp] ++ v) = some (k, ltrim v) := by
  have e : k ++ [colon, sp] ++ v = k ++ colon :: (sp :: v) := by simp
  obtain ⟨h1, h2⟩ := span_stop (p := (· ≠ colon)) (sp :: v) (fun y hy => decide_eq_true fun e => hk.2 (e ▸ hy))
    (decide_eq_false fun h => h rfl)
  unfold parseField
  rw [e]
  simp only [h1, h2]
  have hne : k.isEmpty = false := List.isEmpty_eq_false_iff.mpr hk.1
  simp [hne, ltrim, List.dropWhile, isOws]

theorem renderHead_length (lines : List Bytes) : lines.length < (renderHead lines).length := by
  induction lines with
  | nil => simp [renderHead]
  | cons l t ih =>
    have : renderHead (l :: t) = l ++ [cr, lf] ++ renderHead t := by simp [renderHead]
    rw [this]
    simp only [List.length_append, List.length_cons, List.length_nil]
    omega

def headFields (hs : List Hdr) (date : Bytes) (tag : Option Bytes) : List (Bytes × Bytes) :=
  (hs.filter fieldVisible).map (fun h => (h.key, h.value))
    ++ (if Hdrs.has hs nDate then [] else [(ofString "Date", date)])
    ++ (match tag with
        | some t => if Hdrs.has hs nServer then [] else [(ofString "Server", t)]
        | none => [])

theorem headLines_eq (ver11 : Bool) (status : Nat) (hs : List Hdr) (date : Bytes) (tag : Option Bytes) :
    headLines ver11 status hs date tag
      = ((if ver11 then ofString "HTTP/1.1 " else ofString "HTTP/1.0 ") ++ statusText status)
        :: (headFields hs date tag).map (fun f => f.1 ++ [colon, sp] ++ f.2) := by
  have e1 : (ofString "Date: " : Bytes) = ofString "Date" ++ [colon, sp] := by decide +kernel
  have e2 : (ofString "Server: " : Bytes) = ofString "Server" ++ [colon, sp] := by decide +kernel
  unfold headLines headFields
  rw [e1, e2]
  cases tag <;>
    simp only [List.map_append, List.map_map, Function.comp_def, apply_ite (List.map _), List.map_nil,
      List.map_cons] <;> rfl

theorem colonSp_clean : NoCRLF [colon, sp] := (by decide +kernel)

theorem forall_headFields {Q : Bytes × Bytes → Prop} {hs : List Hdr} {date : Bytes} {tag : Option Bytes}
    (hf : ∀ x ∈ hs, Q (x.key, x.value)) (hd : Q (ofString "Date", date))
    (ht : ∀ t, tag = some t → Q (ofString "Server", t)) : ∀ f ∈ headFields hs date tag, Q f := by
  intro f hm
  unfold headFields at hm
  rcases List.mem_append.mp hm with h1 | h1
  · rcases List.mem_append.mp h1 with h2 | h2
    · obtain ⟨x, hx, rfl⟩ := List.mem_map.mp h2
      exact hf x (List.mem_filter.mp hx).1
    · split at h2
      · simp at h2
      · simp at h2; subst h2; exact hd
  · cases tag with
    | none => simp at h1
    | some t =>
      simp only [] at h1
      split at h1
      · simp at h1
      · simp at h1; subst h1; exact ht t rfl

theorem forall_headLines {Q : Bytes → Prop} {ver11 : Bool} {status : Nat} {hs : List Hdr} {date : Bytes}
    {tag : Option Bytes}
    (hst : Q ((if ver11 then ofString "HTTP/1.1 " else ofString "HTTP/1.0 ") ++ statusText status))
    (hfl : ∀ f ∈ headFields hs date tag, Q (f.1 ++ [colon, sp] ++ f.2)) :
    ∀ l ∈ headLines ver11 status hs date tag, Q l := by
  intro l hl
  rw [headLines_eq] at hl
  rcases List.mem_cons.mp hl with rfl | hl
  · exact hst
  · obtain ⟨f, hf, rfl⟩ := List.mem_map.mp hl
    exact hfl f hf

theorem statusLine_clean (ver11 : Bool) (status : Nat) :
    NoCRLF ((if ver11 then ofString "HTTP/1.1 " else ofString "HTTP/1.0 ") ++ statusText status) := by
  cases ver11 <;> exact NoCRLF.append (by decide +kernel) (statusText_clean status)

theorem field_clean {k v : Bytes} (hk : NoCRLF k) (hv : NoCRLF v) : NoCRLF (k ++ [colon, sp] ++ v) :=
  (hk.append colonSp_clean).append hv

theorem headLines_clean (ver11 : Bool) (status : Nat) (hs : List Hdr) (date : Bytes) (tag : Option Bytes)
    (h : HdrsClean hs) (hd : NoCRLF date) (ht : ∀ t, tag = some t → NoCRLF t) :
    ∀ l ∈ headLines ver11 status hs date tag, NoCRLF l :=
  forall_headLines (statusLine_clean ver11 status)
    (forall_headFields (fun x hx => field_clean (h x hx).1 (h x hx).2)
      (field_clean tok_DA.clean hd) (fun t e => field_clean tok_SV.clean (ht t e)))

theorem headFields_keys (hs : List Hdr) (date : Bytes) (tag : Option Bytes) (hk : KeysOk hs) :
    ∀ f ∈ headFields hs date tag, f.1 ≠ [] ∧ colon ∉ f.1 :=
  forall_headFields (fun x hx => hk x hx) tok_DA.key (fun _ _ => tok_SV.key)

theorem mapM_parse (fl : List (Bytes × Bytes)) (h : ∀ f ∈ fl, f.1 ≠ [] ∧ colon ∉ f.1) :
    (fl.map (fun f => f.1 ++ [colon, sp] ++ f.2)).mapM parseField = some (fl.map fun f => (f.1, ltrim f.2)) := by
  induction fl with
  | nil => rfl
  | cons f t ih =>
    have := ih (fun x hx => h x (by simp [hx]))
    simp only [List.map_cons, List.mapM_cons, parseField_render f.1 f.2 (h f (by simp)), this]
    rfl

/-- `c`: first byte of the folded name (99 `c`ontent-length, 116 `t`ransfer-encoding); 120 `x`, 88 `X`:
    only X- names can be hidden -/
theorem visible_of_same (x : Hdr) (k : Bytes) (c : UInt8) (hk : (Hdrs.nm k).head? = some c) (hc : c ≠ 120)
    (hx : Hdrs.sameName x.key k = true) : fieldVisible x = !x.value.isEmpty := by
  rw [Hdrs.sameName_iff] at hx
  rw [← hx] at hk
  cases hkey : x.key with
  | nil => simp [hkey, Hdrs.nm] at hk
  | cons b t =>
    have hb : toLower b = c := by simpa [hkey, Hdrs.nm] using hk
    have : (b &&& 0xdf) ≠ 88 := fun e => hc (hb ▸ (toLower_eq_x_iff b).mpr e)
    simp [fieldVisible, hkey, this]

theorem fieldVals_headFields (hs : List Hdr) (date : Bytes) (tag : Option Bytes) (k : Bytes) (c : UInt8)
    (hnd : Hdrs.NoDup hs) (hk : (Hdrs.nm k).head? = some c) (hc : c ≠ 120)
    (hdate : eqIcase (ofString "Date") k = false) (hsrv : eqIcase (ofString "Server") k = false) :
    fieldVals ((headFields hs date tag).map fun f => (f.1, ltrim f.2)) k = Hdrs.vals hs k := by
  have hvis : fieldVals (((hs.filter fieldVisible).map (fun h => (h.key, h.value))).map fun f => (f.1, ltrim f.2)) k
      = Hdrs.vals hs k := by
    unfold fieldVals
    simp only [List.map_map, List.filter_map, Function.comp_def]
    have e1 : (hs.filter fieldVisible).filter (fun x => eqIcase x.key k)
        = (hs.filter (fun x => Hdrs.sameName x.key k)).filter fieldVisible := by
      simp only [List.filter_filter, Hdrs.sameName]
      congr 1
      funext x
      exact Bool.and_comm _ _
    rw [e1, filter_eq_find hs k hnd]
    unfold Hdrs.vals Hdrs.get
    cases hf : hs.find? (fun x => Hdrs.sameName x.key k) with
    | none => simp
    | some x =>
      have hx : Hdrs.sameName x.key k = true := by
        have := List.find?_some hf
        simpa using this
      have hv := visible_of_same x k c hk hc hx
      by_cases he : x.value.isEmpty = true
      · simp [hv, he]
      · simp [hv, he]
  have hd0 : ∀ v, fieldVals [(ofString "Date", v)] k = [] := fun v => by simp [fieldVals, hdate]
  have hs0 : ∀ v, fieldVals [(ofString "Server", v)] k = [] := fun v => by simp [fieldVals, hsrv]
  have happ : ∀ (a b : List (Bytes × Bytes)), fieldVals (a ++ b) k = fieldVals a k ++ fieldVals b k := by
    intro a b; simp [fieldVals]
  unfold headFields
  rw [List.map_append, List.map_append, happ, happ, hvis]
  have hn0 : fieldVals [] k = [] := rfl
  cases tag <;> simp only [apply_ite (List.map _), apply_ite (fieldVals · k), List.map_cons, List.map_nil, hd0,
    hs0, hn0, ite_self, List.append_nil]

theorem wireDecode_render (isHead ver11 : Bool) (status : Nat) (hs : List Hdr) (date after : Bytes)
    (tag : Option Bytes) (h100 : 100 ≤ status) (h1000 : status < 1000) (hso : StoreOk hs) (hc : HdrsClean hs)
    (hd : NoCRLF date) (ht : ∀ t, tag = some t → NoCRLF t) :
    wireDecode isHead (renderHead (headLines ver11 status hs date tag) ++ after)
      = (rfcBody (rfcFraming isHead status hs) after).map
          fun br => (status, (headFields hs date tag).map (fun f => (f.1, ltrim f.2)), br.1, br.2) := by
  have heq := headLines_eq ver11 status hs date tag
  have hne : ∀ l ∈ headLines ver11 status hs date tag, lf ∉ l ∧ l ≠ [] := by
    intro l hl
    refine ⟨(headLines_clean ver11 status hs date tag hc hd ht l hl).2, ?_⟩
    rw [heq] at hl
    rcases List.mem_cons.mp hl with rfl | hl
    · cases ver11 <;> simp [ofString]
    · obtain ⟨f, _, rfl⟩ := List.mem_map.mp hl
      simp
  have hsplit := splitHead_render _ ((renderHead (headLines ver11 status hs date tag) ++ after).length + 1)
    after hne (by
      have := renderHead_length (headLines ver11 status hs date tag)
      simp only [List.length_append]; omega)
  have hpst : parseStatusLine ((if ver11 then ofString "HTTP/1.1 " else ofString "HTTP/1.0 ")
      ++ statusText status) = some status := by
    have := parseStatus_all status h1000 h100
    cases ver11
    · simpa using this.2
    · simpa using this.1
  have hmap := mapM_parse (headFields hs date tag) (headFields_keys hs date tag hso.2)
  have hvCL := fieldVals_headFields hs date tag nContentLength 99 hso.1 (hk := by decide +kernel)
    (hc := by decide) (hdate := by decide +kernel) (hsrv := by decide +kernel)
  have hvTE := fieldVals_headFields hs date tag nTransferEncoding 116 hso.1 (hk := by decide +kernel)
    (hc := by decide) (hdate := by decide +kernel) (hsrv := by decide +kernel)
  unfold wireDecode
  rw [hsplit, heq]
  simp only [hpst, hmap, hvCL, hvTE]
  unfold rfcFraming
  cases rfcBody (framingOf isHead status (Hdrs.vals hs nContentLength) (Hdrs.vals hs nTransferEncoding))
      after with
  | none => rfl
  | some br => rfl

theorem line_pieces {l : Bytes} (hl : NoCRLF l) (hne : l ≠ []) :
    ∃ ps : List Bytes, l ++ [cr, lf] = ps.flatMap (· ++ [cr, lf]) ∧ ∀ p ∈ ps, NoCRLF p ∧ p ≠ [] :=
  ⟨[l], by simp, List.forall_mem_singleton.mpr ⟨hl, hne⟩⟩

theorem ValueOk.pieces {k v : Bytes} (h : ValueOk k v) (hk : NoCRLF k) :
    ∃ ps : List Bytes, (k ++ [colon, sp] ++ v) ++ [cr, lf] = ps.flatMap (· ++ [cr, lf]) ∧
      ∀ p ∈ ps, NoCRLF p ∧ p ≠ [] := by
  induction h with
  | plain v hv => exact line_pieces (field_clean hk hv) (by simp)
  | more old k' v _ _ hk' _ hv ih =>
    obtain ⟨ps, hps, hall⟩ := ih
    refine ⟨ps ++ [k' ++ [colon, sp] ++ v], ?_, ?_⟩
    · have : k ++ [colon, sp] ++ (old ++ [cr, lf] ++ k' ++ [colon, sp] ++ v) ++ [cr, lf]
          = ((k ++ [colon, sp] ++ old) ++ [cr, lf]) ++ ((k' ++ [colon, sp] ++ v) ++ [cr, lf]) := by simp
      rw [this, hps]
      simp
    · exact List.forall_mem_append.mpr ⟨hall, List.forall_mem_singleton.mpr ⟨field_clean hk' hv, by simp⟩⟩

theorem lines_pieces (P : Bytes → Prop) : ∀ (lines : List Bytes),
    (∀ l ∈ lines, ∃ ps : List Bytes, l ++ [cr, lf] = ps.flatMap (· ++ [cr, lf]) ∧ ∀ p ∈ ps, P p) →
    ∃ phys : List Bytes, lines.flatMap (· ++ [cr, lf]) = phys.flatMap (· ++ [cr, lf]) ∧ ∀ p ∈ phys, P p
  | [], _ => ⟨[], rfl, by intro p hp; simp at hp⟩
  | l :: t, h => by
    obtain ⟨ps, hps, hall⟩ := h l (by simp)
    obtain ⟨phys, hphys, hall2⟩ := lines_pieces P t (fun x hx => h x (by simp [hx]))
    refine ⟨ps ++ phys, by simp [hps, hphys], ?_⟩
    intro p hp
    rcases List.mem_append.mp hp with h1 | h1
    · exact hall p h1
    · exact hall2 p h1

theorem headLines_pieces (ver11 : Bool) (status : Nat) (hs : List Hdr) (date : Bytes) (tag : Option Bytes)
    (h : FieldsOk hs) (hd : NoCRLF date) (ht : ∀ t, tag = some t → NoCRLF t) :
    ∃ phys : List Bytes, renderHead (headLines ver11 status hs date tag) = renderHead phys ∧
      ∀ p ∈ phys, NoCRLF p ∧ p ≠ [] := by
  obtain ⟨phys, hphys, hP⟩ := lines_pieces (fun p => NoCRLF p ∧ p ≠ []) _
    (forall_headLines (line_pieces (statusLine_clean ver11 status) (by cases ver11 <;> simp [ofString]))
      (forall_headFields (hs := hs) (date := date) (tag := tag) (fun x hx => (h x hx).2.pieces (h x hx).1)
        (line_pieces (field_clean tok_DA.clean hd) (by simp))
        (fun t e => line_pieces (field_clean tok_SV.clean (ht t e)) (by simp))))
  exact ⟨phys, by unfold renderHead; rw [hphys], hP⟩

end LtVerif
