/-
  Lemmas about the HTTP/2 frame-level model (Model/H2.lean): `sendGoaway` and the other building
  blocks of the receive side, the send side, and what batches, steps and runs keep (`RunInv`).
-/
import LtVerif.Model.H2Monitor
import LtVerif.Proofs.Bytes
namespace LtVerif

/-! ### control frames -/

def Out.isCtl : Out → Bool
  | .headers _ _ _ => false
  | .data _ _ _ => false
  | _ => true

def AllCtl (o : List Out) : Prop := ∀ x ∈ o, x.isCtl = true

theorem AllCtl.nil : AllCtl [] := fun _ h => nomatch h

theorem AllCtl.append {a b : List Out} (ha : AllCtl a) (hb : AllCtl b) : AllCtl (a ++ b) :=
  List.forall_mem_append.mpr ⟨ha, hb⟩

theorem AllCtl.cons {x : Out} {b : List Out} (hx : x.isCtl = true) (hb : AllCtl b) : AllCtl (x :: b) :=
  List.forall_mem_cons.mpr ⟨hx, hb⟩

theorem sendGoaway_ctl (c : H2Conn) (code : Nat) : AllCtl (sendGoaway c code).2 := by
  have ite := @ite_ind Res fun r => AllCtl r.2
  have hr : AllCtl (goawayResets c code).2 :=
    ite (fun _ => ite_ind (P := AllCtl) (fun _ x hx => by obtain ⟨s, _, rfl⟩ := List.mem_map.mp hx; rfl) fun _ => AllCtl.nil)
      fun _ => AllCtl.nil
  exact ite (fun _ => hr) fun _ => AllCtl.append hr (AllCtl.cons rfl AllCtl.nil)

/-! ### the list of tracked streams -/

theorem findStrm_id {c : H2Conn} {sid : Nat} {s : Strm} (h : findStrm c sid = some s) : s.id = sid ∧ s ∈ c.streams := by
  unfold findStrm at h
  exact ⟨by simpa using List.find?_some h, List.mem_of_find?_eq_some h⟩

theorem findStrm_mem {c : H2Conn} {sid : Nat} {s : Strm} (h : findStrm c sid = some s) : ∃ x ∈ c.streams, x.id = sid :=
  ⟨s, (findStrm_id h).2, (findStrm_id h).1⟩

theorem findStrm_none {c : H2Conn} {sid : Nat} (h : findStrm c sid = none) : ∀ s ∈ c.streams, s.id ≠ sid := by
  unfold findStrm at h
  intro s hs e
  have := List.find?_eq_none.mp h s hs
  simp [e] at this

theorem rstState_err (c : H2Conn) (sid : Nat) : ∀ s' ∈ (rstState c sid).streams, s'.id = sid → s'.err = true := by
  intro s' hs' e
  unfold rstState at hs'
  split at hs'
  · rename_i hn
    exact absurd e (findStrm_none hn s' hs')
  · simp only at hs'
    split at hs' <;>
    · simp only [updStrm, List.mem_map] at hs'
      obtain ⟨s, _, rfl⟩ := hs'
      by_cases hi : s.id = sid
      · simp [hi]
      · simp only [hi, if_false] at e

/-- h2_apply_priority_update() only moves the stream -/
theorem reprio_perm (l : List Strm) (i : Nat) (s : Strm) (hi : i < l.length) : (reprio l i s).Perm (l.set i s) := by
  rw [List.set_eq_take_append_cons_drop, if_pos hi]
  unfold reprio
  split
  · generalize (l.take i).reverse.takeWhile (·.gt s) = tw
    have hb := (List.take_append_drop (i - tw.length) (l.take i)).symm
    generalize l.take i = b at hb ⊢
    generalize l.drop (i + 1) = a
    rw [List.append_assoc, List.append_assoc]
    conv => rhs; rw [hb, List.append_assoc]
    apply List.Perm.append_left
    simp only [List.singleton_append]
    exact (List.perm_middle).symm
  · have htd := (List.takeWhile_append_dropWhile (p := fun x => x.lt s) (l := l.drop (i + 1))).symm
    generalize l.take i = b
    generalize (l.drop (i + 1)).takeWhile (·.lt s) = tw at htd ⊢
    generalize (l.drop (i + 1)).dropWhile (·.lt s) = dw at htd ⊢
    rw [htd, List.append_assoc, List.append_assoc]
    apply List.Perm.append_left
    simp only [List.singleton_append]
    exact List.perm_middle

/-- h2_apply_priority_update() on a new stream only places it -/
theorem addStrm_perm (c : H2Conn) (s : Strm) : (addStrm c s).streams.Perm (c.streams ++ [s]) := by
  have htd := List.takeWhile_append_dropWhile (p := fun x : Strm => decide (x.prio > s.prio)) (l := c.streams.reverse)
  have hrev : c.streams = (c.streams.reverse.dropWhile fun x => decide (x.prio > s.prio)).reverse ++
      (c.streams.reverse.takeWhile fun x => decide (x.prio > s.prio)).reverse := by
    rw [← List.reverse_append, htd, List.reverse_reverse]
  simp only [addStrm]
  generalize (c.streams.reverse.dropWhile fun x => decide (x.prio > s.prio)).reverse = d at hrev ⊢
  generalize (c.streams.reverse.takeWhile fun x => decide (x.prio > s.prio)).reverse = t at hrev ⊢
  rw [hrev, List.append_assoc, List.append_assoc]
  exact List.Perm.append_left d List.perm_append_comm

theorem addStrm_len (c : H2Conn) (s : Strm) : (addStrm c s).streams.length = c.streams.length + 1 := by
  rw [(addStrm_perm c s).length_eq, List.length_append, List.length_singleton]

theorem passAux_len_le (fsize : Nat) : ∀ (ss : List Strm) (cswin : Int) (budget : Nat),
    (passAux fsize cswin budget ss).streams.length ≤ ss.length := by
  intro ss
  induction ss with
  | nil => intro _ _; simp [passAux]
  | cons s rest ih =>
    intro cswin budget
    simp only [passAux]
    generalize strmTurn fsize cswin budget s = t
    obtain ⟨t1, t2, t3, t4⟩ := t
    have := ih (cswin - t3) (budget - t3)
    cases t1 <;> simp <;> omega

theorem processPass_len_le (c : H2Conn) (budget : Nat) :
    (processPass c budget).1.streams.length ≤ c.streams.length := by
  have ite := @ite_ind Res fun r => r.1.streams.length ≤ c.streams.length
  exact ite (fun _ => Nat.le_refl _) fun _ => ite (fun _ => Nat.zero_le _) fun _ => passAux_len_le _ _ _ _

/-! ### connection errors -/

theorem goawayResets_cid_goaway (c : H2Conn) (code : Nat) :
    (goawayResets c code).1.cid = c.cid ∧ (goawayResets c code).1.goaway = c.goaway := by
  have one : ∀ (c : H2Conn) (sid : Nat), (rstState c sid).cid = c.cid ∧ (rstState c sid).goaway = c.goaway := by
    intro c sid
    unfold rstState
    split
    · exact ⟨rfl, rfl⟩
    · simp only [updStrm]; split <;> exact ⟨rfl, rfl⟩
  exact ite_ind (P := fun r : Res => r.1.cid = c.cid ∧ r.1.goaway = c.goaway)
    (fun _ => foldl_inv (fun c' : H2Conn => c'.cid = c.cid ∧ c'.goaway = c.goaway) _ _ c ⟨rfl, rfl⟩
      fun c' s h => ⟨(one c' s.id).1.trans h.1, (one c' s.id).2.trans h.2⟩) fun _ => ⟨rfl, rfl⟩

/-- **a connection error is visible**: raising one leaves the connection in the terminal state, and
    while no error GOAWAY is out it emits GOAWAY(last stream id, code) -/
theorem sendGoaway_observable (c : H2Conn) (code : Nat) (hc : code ≠ 0) :
    (sendGoaway c code).1.goaway > 0 ∧
    (c.goaway ≤ 0 → Out.goaway c.cid code ∈ (sendGoaway c code).2 ∧ (sendGoaway c code).1.goaway = (code : Int)) := by
  have hcg := goawayResets_cid_goaway c code
  unfold sendGoaway
  by_cases hg : c.goaway ≤ 0
  · -- the GOAWAY goes out: `goaway` becomes the code
    have this : ¬ ((goawayResets c code).1.goaway ≠ 0 ∧ ((goawayResets c code).1.goaway > 0 ∨ code = 0)) := by
      rw [hcg.2]
      exact fun ⟨_, h⟩ => h.elim (fun h => by omega) hc
    simp only [if_neg this, if_neg hc, hcg.1, List.mem_append, List.mem_singleton, or_true, implies_true, and_true]
    omega
  · -- an error GOAWAY is out already and stays
    have this : (goawayResets c code).1.goaway ≠ 0 ∧ ((goawayResets c code).1.goaway > 0 ∨ code = 0) := by
      rw [hcg.2]
      exact ⟨by omega, Or.inl (by omega)⟩
    rw [if_pos this, hcg.2]
    exact ⟨by omega, fun h => absurd h hg⟩

/-- the conclusion is `ConnErr` of Props/C05.lean -/
theorem connErr_of_eq {c : H2Conn} {r : Res} {code : Nat} (hg : c.goaway ≤ 0) (h : r = sendGoaway c code)
    (hc : code ≠ 0 := by decide) : Out.goaway c.cid code ∈ r.2 ∧ r.1.goaway > 0 :=
  h ▸ ⟨((sendGoaway_observable c code hc).2 hg).1, (sendGoaway_observable c code hc).1⟩

theorem sendGoaway_out (c : H2Conn) (code : Nat) (hc : code ≠ 0) (hg : c.goaway = 0) :
    (sendGoaway c code).2 = [Out.goaway c.cid code] := by
  have hcg := goawayResets_cid_goaway c code
  have h2 : (goawayResets c code).2 = [] := by simp [goawayResets, hg, hc]
  unfold sendGoaway
  simp only [hcg.2, hg, ne_eq, not_true_eq_false, false_and, if_false, h2, hcg.1, List.nil_append]

theorem applySettings_silent : ∀ (ps : List (Nat × Nat)) (c : H2Conn), c.goaway ≤ 0 →
    (applySettings c ps).1.goaway = c.goaway → (applySettings c ps).2 = []
  | [], _, _ => fun _ => rfl
  | (k, v) :: rest, c, hg => by
    -- a connection error changes `goaway`; the other branches go on with the same `goaway`
    have err : ∀ code : Nat, code ≠ 0 → (sendGoaway c code).1.goaway = c.goaway → (sendGoaway c code).2 = [] := by
      intro code hc h
      rw [((sendGoaway_observable c code hc).2 hg).2] at h
      have : (code : Int) > 0 := by omega
      omega
    have ite := @ite_ind Res fun r => r.1.goaway = c.goaway → r.2 = []
    unfold applySettings
    refine ite (fun _ => err _ (by decide)) fun _ => ite (fun _ => ?_) fun _ => ?_
    · refine ite (fun _ => err _ (by decide)) fun _ => ?_
      exact ite (fun _ => err _ (by decide)) fun _ => applySettings_silent rest _ hg
    · refine ite (fun _ => ?_) fun _ => applySettings_silent rest c hg
      exact ite (fun _ => err _ (by decide)) fun _ => applySettings_silent rest _ hg

/-- in particular no acknowledgement is sent -/
theorem recvSettings_paramErr {c : H2Conn} {ps : List (Nat × Nat)} {code : Nat} (junk : Nat) (hg : c.goaway ≤ 0)
    (hc : code ≠ 0) (h : applySettings c ps = sendGoaway c code) :
    recvSettings c false 0 ps junk = sendGoaway c code := by
  have ob := sendGoaway_observable c code hc
  have hne : ¬ ((sendGoaway c code).1.goaway = c.goaway ∧ junk ≠ 0) := fun ⟨e, _⟩ => by rw [(ob.2 hg).2] at e; omega
  have hpos : ¬ (sendGoaway c code).1.goaway ≤ 0 := by have := ob.1; omega
  simp only [recvSettings, ne_eq, not_true_eq_false, if_false, Bool.not_false, if_true, h, hne, hpos, List.append_nil]

theorem recvSettings_junk {c : H2Conn} {ps : List (Nat × Nat)} {junk : Nat} (hg : c.goaway ≤ 0)
    (hok : (applySettings c ps).1.goaway = c.goaway) (hj : junk ≠ 0) :
    recvSettings c false 0 ps junk = sendGoaway (applySettings c ps).1 E.frameSize := by
  have hpos : ¬ (sendGoaway (applySettings c ps).1 E.frameSize).1.goaway ≤ 0 := by
    have := (sendGoaway_observable (applySettings c ps).1 E.frameSize (by decide)).1; omega
  simp only [recvSettings, ne_eq, not_true_eq_false, if_false, Bool.not_false, if_true, hok, hj, not_false_eq_true, and_self,
    applySettings_silent ps c hg hok, List.nil_append, hpos, List.append_nil]

/-! ### outbound frame sizes -/

/-- payload octets of an emitted frame (a response header block is framed by `hpackSplit`) -/
def Out.payloadLen : Out → Nat
  | .settingsAck => 0
  | .pingAck _ => 8
  | .goaway _ _ => 8
  | .rst _ _ => 4
  | .windowUpdate _ _ => 4
  | .headers _ _ _ => 0
  | .data _ len _ => len

theorem dataSplit_le (file : Bool) (fsize : Nat) : ∀ (fuel n x : Nat), x ∈ dataSplit file fsize fuel n → x ≤ fsize := by
  intro fuel
  induction fuel with
  | zero => intro n x h; simp [dataSplit] at h
  | succ f ih =>
    intro n x h
    cases n with
    | zero => simp [dataSplit] at h
    | succ m =>
      simp only [dataSplit, List.mem_cons] at h
      rcases h with h | h
      · subst h
        split
        · omega
        · split <;> omega
      · exact ih _ _ h

theorem dataSplit_sum (file : Bool) (fsize : Nat) (hf : fsize > 9) : ∀ (fuel n : Nat), n ≤ fuel →
    (dataSplit file fsize fuel n).sum = n := by
  intro fuel
  induction fuel with
  | zero =>
    intro n h
    rw [Nat.le_zero.mp h]
    rfl
  | succ f ih =>
    intro n h
    cases n with
    | zero => rfl
    | succ m =>
      simp only [dataSplit, List.sum_cons]
      generalize hx : (if m + 1 < fsize then m + 1 else if file = true then fsize - 9 else fsize) = x
      have hx1 : 1 ≤ x ∧ x ≤ m + 1 := by
        rw [← hx]
        split
        · omega
        · split <;> omega
      rw [ih _ (by omega)]; omega

theorem hpackSplit_le (fsize : Nat) : ∀ (fuel n x : Nat), n ≤ fsize * (fuel + 1) → x ∈ hpackSplit fsize fuel n → x ≤ fsize := by
  intro fuel
  induction fuel with
  | zero =>
    intro n x hn h
    simp [hpackSplit] at h
    subst h
    omega
  | succ f ih =>
    intro n x hn h
    unfold hpackSplit at h
    split at h
    · simp at h
      subst h
      assumption
    · simp only [List.mem_cons] at h
      rcases h with h | h
      · omega
      · refine ih _ _ ?_ h
        have : fsize * (f + 1 + 1) = fsize * (f + 1) + fsize := by rw [Nat.mul_succ]
        omega

theorem hpackSplit_sum (fsize : Nat) : ∀ (fuel n : Nat), (hpackSplit fsize fuel n).sum = n := by
  intro fuel
  induction fuel with
  | zero => intro n; simp [hpackSplit]
  | succ f ih =>
    intro n
    unfold hpackSplit
    split
    · simp
    · simp only [List.sum_cons, ih]; omega

theorem endStream_payload (s : Strm) : ∀ o ∈ (endStream s).1, o.payloadLen ≤ 4 := by
  have one : ∀ x : Out, x.payloadLen ≤ 4 → ∀ o ∈ [x], o.payloadLen ≤ 4 :=
    fun x hx o ho => by rw [List.mem_singleton.mp ho]; exact hx
  have hd : ∀ o ∈ (if s.st ≠ .hcLocal then [Out.data s.id 0 true] else []), o.payloadLen ≤ 4 :=
    ite_ind (P := fun l : List Out => ∀ o ∈ l, o.payloadLen ≤ 4) (fun _ => one _ (Nat.zero_le _)) fun _ _ h => nomatch h
  have ite := @ite_ind (List Out × Bool) fun r => ∀ o ∈ r.1, o.payloadLen ≤ 4
  refine ite (fun _ _ h => nomatch h) fun _ => ite (fun _ => one _ (Nat.le_refl _)) fun _ => ?_
  exact ite (fun _ o ho => (List.mem_append.mp ho).elim (hd o) (one _ (Nat.le_refl _) o)) fun _ => hd

theorem sendHdrs_payload (s : Strm) : ∀ o ∈ (sendHdrs s).2, o.payloadLen = 0 :=
  ite_ind (P := fun r : Strm × List Out => ∀ o ∈ r.2, o.payloadLen = 0) (fun _ _ h => nomatch h)
    fun _ o ho => by rw [List.mem_singleton.mp ho]; rfl

theorem strmTurn_payload (fsize : Nat) (cswin : Int) (budget : Nat) (s : Strm) (hf : 4 ≤ fsize) :
    ∀ o ∈ (strmTurn fsize cswin budget s).2.1, o.payloadLen ≤ fsize := by
  have hhd : ∀ o ∈ (sendHdrs s).2 ++ (dataSplit s.file fsize (turnAmount cswin budget s) (turnAmount cswin budget s)).map
      (fun l => Out.data s.id l false), o.payloadLen ≤ fsize := by
    intro o ho
    rcases List.mem_append.mp ho with h | h
    · rw [sendHdrs_payload s o h]; exact Nat.zero_le _
    · obtain ⟨l, hl, rfl⟩ := List.mem_map.mp h
      exact dataSplit_le _ _ _ _ _ hl
  have ite := @ite_ind (Option Strm × List Out × Nat × Bool) fun r => ∀ o ∈ r.2.1, o.payloadLen ≤ fsize
  refine ite (fun _ o ho => Nat.le_trans (endStream_payload s o ho) hf) fun _ => ite (fun _ o ho => ?_) fun _ => hhd
  exact (List.mem_append.mp ho).elim (hhd o) fun h => Nat.le_trans (endStream_payload _ o h) hf

theorem passAux_payload (fsize : Nat) (hf : 4 ≤ fsize) : ∀ (ss : List Strm) (cswin : Int) (budget : Nat),
    ∀ o ∈ (passAux fsize cswin budget ss).outs, o.payloadLen ≤ fsize := by
  intro ss
  induction ss with
  | nil => intro _ _ o ho; simp [passAux] at ho
  | cons s rest ih =>
    intro cswin budget o ho
    simp only [passAux] at ho
    have ht := strmTurn_payload fsize cswin budget s hf
    generalize strmTurn fsize cswin budget s = t at ho ht
    obtain ⟨t1, t2, t3, t4⟩ := t
    simp only [List.mem_append] at ho
    rcases ho with h | h
    · exact ht o h
    · exact ih _ _ o h

theorem processPass_payload (c : H2Conn) (budget : Nat) (hf : 4 ≤ c.peerMaxFrame) :
    ∀ o ∈ (processPass c budget).2, o.payloadLen ≤ c.peerMaxFrame := by
  have ite := @ite_ind Res fun r => ∀ o ∈ r.2, o.payloadLen ≤ c.peerMaxFrame
  exact ite (fun _ _ ho => nomatch ho) fun _ => ite (fun _ _ ho => nomatch ho) fun _ => passAux_payload _ hf _ _ _

theorem ctl_payload (o : Out) (h : o.isCtl = true) : o.payloadLen ≤ 8 := by
  cases o <;> simp [Out.isCtl] at h <;> simp [Out.payloadLen]

/-! ### the peer's frame size limit -/

/-- the peer's SETTINGS_MAX_FRAME_SIZE the server works with stays in the RFC 9113 range -/
def FsOk (c : H2Conn) : Prop := 16384 ≤ c.peerMaxFrame ∧ c.peerMaxFrame ≤ 16777215

@[simp] theorem updStrm_fs (c : H2Conn) (sid : Nat) (f : Strm → Strm) : (updStrm c sid f).peerMaxFrame = c.peerMaxFrame := rfl
@[simp] theorem connWinUpd_fs (c : H2Conn) (len : Nat) : (connWinUpd c len).1.peerMaxFrame = c.peerMaxFrame := rfl

theorem processPass_fs (c : H2Conn) (budget : Nat) : (processPass c budget).1.peerMaxFrame = c.peerMaxFrame := by
  have ite := @ite_ind Res fun r => r.1.peerMaxFrame = c.peerMaxFrame
  exact ite (fun _ => rfl) fun _ => ite (fun _ => rfl) fun _ => rfl

/-! ### batches, steps, runs -/

theorem recvBatch_append : ∀ (a b : List FrameIn) (c : H2Conn),
    recvBatch c (a ++ b) = ((recvBatch (recvBatch c a).1 b).1, (recvBatch c a).2 ++ (recvBatch (recvBatch c a).1 b).2) := by
  intro a
  induction a with
  | nil => intro b c; simp [recvBatch]
  | cons f fs ih =>
    intro b c
    simp only [List.cons_append, recvBatch, ih, List.append_assoc]

/-- a property of the state and the frames emitted so far that `recvFrame` and `processPass` keep and
    that does not look at `stop`: kept by batches, quiescence, steps and histories -/
structure RunInv (Q : H2Conn → List Out → Prop) : Prop where
  frame : ∀ c os f, Q c os → Q (recvFrame c f).1 (os ++ (recvFrame c f).2)
  pass : ∀ c os budget, Q c os → Q (processPass c budget).1 (os ++ (processPass c budget).2)
  stop : ∀ c os, Q c os → Q { c with stop := false } os

namespace RunInv
variable {Q : H2Conn → List Out → Prop} (I : RunInv Q)
include I

omit I in
theorem nil {c : H2Conn} {os : List Out} (h : Q c os) : Q c (os ++ []) := by rw [List.append_nil]; exact h

theorem preSlot (f : FrameIn) (fuel : Nat) : ∀ (c : H2Conn) (os : List Out), Q c os →
    Q (preSlot fuel c f).1 (os ++ (preSlot fuel c f).2) := by
  induction fuel with
  | zero => intro c os h; exact nil h
  | succ fuel ih =>
    intro c os h
    unfold LtVerif.preSlot
    refine ite_ind (P := fun r : Res => Q r.1 (os ++ r.2)) (fun _ => ?_) fun _ => nil h
    rw [← List.append_assoc]
    exact ih _ _ (I.pass c os 262144 h)

theorem postStop (c : H2Conn) (os : List Out) (h : Q c os) : Q (postStop c).1 (os ++ (postStop c).2) :=
  ite_ind (P := fun r : Res => Q r.1 (os ++ r.2)) (fun _ => I.pass _ os 262144 (I.stop c os h)) fun _ => nil h

theorem batch (fs : List FrameIn) : ∀ (c : H2Conn) (os : List Out), Q c os →
    Q (recvBatch c fs).1 (os ++ (recvBatch c fs).2) := by
  induction fs with
  | nil => intro c os h; exact nil h
  | cons f fs ih =>
    intro c os h
    simp only [recvBatch, ← List.append_assoc]
    exact ih _ _ (I.postStop _ _ (I.frame _ _ f (I.preSlot f 4096 c os h)))

theorem quiesce (fuel : Nat) : ∀ (c : H2Conn) (os : List Out), Q c os →
    Q (processQuiesce fuel c).1 (os ++ (processQuiesce fuel c).2) := by
  induction fuel with
  | zero => intro c os h; exact nil h
  | succ fuel ih =>
    intro c os h
    have hp := I.pass c os 262144 h
    simp only [processQuiesce]
    refine ite_ind (P := fun r : Res => Q r.1 (os ++ r.2)) (fun he => ?_) fun _ => ?_
    · rw [List.isEmpty_iff.mp he] at hp; exact hp
    · rw [← List.append_assoc]; exact ih _ _ hp

theorem step (c : H2Conn) (b : List FrameIn) (os : List Out) (h : Q c os) :
    Q (h2Step c b).1 (os ++ (h2Step c b).2) := by
  unfold h2Step
  rw [← List.append_assoc]
  exact I.quiesce 100000 _ _ (I.batch b c os h)

theorem run : ∀ (bs : List (List FrameIn)) (c : H2Conn) (os : List Out),
    Q c os → Q (runState c bs) (os ++ runOuts c bs)
  | [], _, _, h => nil h
  | b :: bs, c, os, h => by
    rw [runState, runOuts, ← List.append_assoc]
    exact run bs _ _ (I.step c b os h)

end RunInv

end LtVerif
