/-
  HPACK (C07), response direction: h2_send_headers_block() cuts the text block of an interim
  (1xx) response or of trailers back into name / value pairs.  For every list of fields that can
  be written as lines at all (`LineOk`), cutting the written block gives back exactly that list
  (trailers: with lower-cased names).
-/
import LtVerif.Proofs.HpackResp
namespace LtVerif.H2Headers
open LtVerif B Hpack

def fieldLine (f : Header) : Bytes := f.1 ++ [colon, sp] ++ f.2 ++ [cr, lf]

def renderBlock (fs : List Header) : Bytes := fs.flatMap fieldLine ++ [cr, lf]

structure LineOk (f : Header) : Prop where
  name_ne : f.1 ≠ []
  name_colon : colon ∉ f.1
  name_lf : lf ∉ f.1
  value_ne : f.2 ≠ []
  value_lf : lf ∉ f.2
  value_ws : ∀ b rest, f.2 = b :: rest → b ≠ sp ∧ b ≠ ht

theorem headLines_go_step (fuel : Nat) (v rest : Bytes) (acc : List Bytes) (hv : lf ∉ v) (hlen : 2 ≤ v.length) :
    headLines.go (fuel + 1) (v ++ [cr, lf] ++ rest) acc = headLines.go fuel rest ((v ++ [cr, lf]) :: acc) := by
  have hidx : (v ++ [cr, lf] ++ rest).idxOf? lf = some (v.length + 1) := by
    have := idxOf?_lf_append v rest hv
    simpa [List.append_assoc] using this
  have htake : (v ++ [cr, lf] ++ rest).take (v.length + 1 + 1) = v ++ [cr, lf] := by
    rw [show v.length + 1 + 1 = (v ++ [cr, lf]).length by simp, List.take_left]
  have hdrop : (v ++ [cr, lf] ++ rest).drop (v.length + 1 + 1) = rest := by
    rw [show v.length + 1 + 1 = (v ++ [cr, lf]).length by simp, List.drop_left]
  have hne : ∀ l : Bytes, l.length ≤ 2 → v ++ [cr, lf] ≠ l := by
    intro l hl h; have := congrArg List.length h
    simp only [List.length_append, List.length_cons, List.length_nil] at this; omega
  simp only [headLines.go, hidx, htake, hdrop, hne [lf] (by decide), hne [cr, lf] (by decide), or_self,
    if_false]

theorem headLines_go_lines : ∀ (fs : List Header) (fuel : Nat) (acc : List Bytes),
    (∀ f ∈ fs, lf ∉ f.1 ∧ lf ∉ f.2) → fs.length < fuel → (acc ≠ [] ∨ fs ≠ []) →
    headLines.go fuel (renderBlock fs) acc = some (acc.reverse ++ fs.map fieldLine) := by
  intro fs
  induction fs with
  | nil =>
    intro fuel acc _ hf hne
    obtain ⟨k, rfl⟩ : ∃ k, fuel = k + 1 := ⟨fuel - 1, by simp at hf; omega⟩
    have hacc : acc ≠ [] := by rcases hne with h | h; exact h; exact absurd rfl h
    have hidx : ([cr, lf] : Bytes).idxOf? lf = some 1 := by decide
    simp [renderBlock, headLines.go, hidx, hacc]
  | cons f fs ih =>
    intro fuel acc hok hf _
    obtain ⟨k, rfl⟩ : ∃ k, fuel = k + 1 := ⟨fuel - 1, by simp at hf; omega⟩
    have hfo := hok f (by simp)
    have hbody : lf ∉ f.1 ++ [colon, sp] ++ f.2 := by
      simp only [List.mem_append, List.mem_cons, List.not_mem_nil, or_false, not_or]
      exact ⟨⟨hfo.1, by decide, by decide⟩, hfo.2⟩
    have hshape : renderBlock (f :: fs) = (f.1 ++ [colon, sp] ++ f.2) ++ [cr, lf] ++ renderBlock fs := by
      simp [renderBlock, fieldLine, List.append_assoc]
    rw [hshape, headLines_go_step k _ _ acc hbody (by simp; omega)]
    rw [ih k _ (fun x hx => hok x (by simp [hx])) (by simp at hf; omega) (Or.inl (by simp))]
    simp [fieldLine, List.append_assoc]

theorem lineField_fieldLine (f : Header) (h : LineOk f) : lineField (fieldLine f) = some f := by
  obtain ⟨n, v⟩ := f
  have hn := h.name_ne; have hc := h.name_colon; have hvn := h.value_ne; have hws := h.value_ws
  simp only at hn hc hvn hws
  unfold lineField
  have hlen : (fieldLine (n, v)).length = (n ++ [colon, sp] ++ v).length + 2 := by
    simp [fieldLine]; omega
  have hsplit : fieldLine (n, v) = (n ++ [colon, sp] ++ v) ++ [cr, lf] := by simp [fieldLine]
  have h1 : ¬ ((fieldLine (n, v)).length < 2 ∨
      (fieldLine (n, v)).drop ((fieldLine (n, v)).length - 2) ≠ [cr, lf]) := by
    rw [hlen, Nat.add_sub_cancel, hsplit, List.drop_left]
    simp
  rw [if_neg h1]
  have hcontent : (fieldLine (n, v)).take ((fieldLine (n, v)).length - 2) = n ++ colon :: sp :: v := by
    rw [hlen, Nat.add_sub_cancel, hsplit, List.take_left]; simp
  simp only [hcontent]
  rw [idxOf?_append_self colon n (sp :: v) hc]
  obtain ⟨b, rest, rfl⟩ : ∃ b rest, v = b :: rest := by
    cases v with
    | nil => exact absurd rfl hvn
    | cons b rest => exact ⟨b, rest, rfl⟩
  obtain ⟨hb1, hb2⟩ := hws b rest rfl
  cases hnl : n.length with
  | zero => exact absurd (List.length_eq_zero_iff.mp hnl) hn
  | succ k =>
    simp only
    have hdrop : (n ++ colon :: sp :: b :: rest).drop (k + 1 + 1) = sp :: b :: rest := by
      rw [show k + 1 + 1 = (n ++ [colon]).length by simp [hnl]]
      rw [show n ++ colon :: sp :: b :: rest = (n ++ [colon]) ++ (sp :: b :: rest) by simp, List.drop_left]
    have htake : (n ++ colon :: sp :: b :: rest).take (k + 1) = n := by
      rw [← hnl, List.take_left]
    rw [hdrop, htake]
    simp [List.dropWhile, hb1, hb2]

theorem renderBlock_length (fs : List Header) : fs.length ≤ (fs.flatMap fieldLine).length := by
  induction fs with
  | nil => simp
  | cons f fs ih => simp only [List.flatMap_cons, List.length_append, List.length_cons, fieldLine]; omega

theorem filterMap_lines (fs : List Header) (hok : ∀ f ∈ fs, LineOk f) :
    (fs.map fieldLine).filterMap lineField = fs := by
  induction fs with
  | nil => rfl
  | cons f fs ih =>
    simp only [List.map_cons, List.filterMap_cons, lineField_fieldLine f (hok f (by simp))]
    rw [ih (fun x hx => hok x (by simp [hx]))]

theorem fieldLine_head (f : Header) (h : LineOk f) : ∃ b bs, fieldLine f = b :: bs ∧ b ≠ colon := by
  obtain ⟨n, v⟩ := f
  cases n with
  | nil => exact absurd rfl h.name_ne
  | cons b bs => exact ⟨b, _, rfl, fun e => h.name_colon (by simp [e])⟩

/-- http_header_parse_hoff() finds the written lines again -/
theorem headLines_render (fs : List Header) (hne : fs ≠ []) (hok : ∀ f ∈ fs, LineOk f)
    (hlen : (renderBlock fs).length ≤ 65535) : headLines (renderBlock fs) = some (fs.map fieldLine) := by
  unfold headLines
  rw [if_neg (by omega)]
  rw [headLines_go_lines fs _ [] (fun f hf => ⟨(hok f hf).name_lf, (hok f hf).value_lf⟩)
    (by have := renderBlock_length fs; simp only [renderBlock, List.length_append]; omega) (Or.inr hne)]
  rfl

/-- h2_send_headers_block() on written lines (no ":status" line) -/
theorem blockFields_render (fs : List Header) (hne : fs ≠ []) (hok : ∀ f ∈ fs, LineOk f)
    (hlen : (renderBlock fs).length ≤ 65535) : blockFields (renderBlock fs) = fs := by
  have hhead : (renderBlock fs).headD 0 ≠ colon := by
    cases fs with
    | nil => exact absurd rfl hne
    | cons f rest =>
      obtain ⟨b, bs, hl, hb⟩ := fieldLine_head f (hok f (by simp))
      simpa [renderBlock, hl] using hb
  unfold blockFields
  rw [headLines_render fs hne hok hlen]
  simp only
  rw [if_neg hhead]
  exact filterMap_lines fs hok

/-- with a ":status: NNN" line in front (h2_send_1xx()) -/
theorem blockFields_status (d3 : Bytes) (fs : List Header) (hd : d3.length = 3) (hdl : lf ∉ d3)
    (hok : ∀ f ∈ fs, LineOk f)
    (hlen : (ofString ":status: " ++ d3 ++ [cr, lf] ++ renderBlock fs).length ≤ 65535) :
    blockFields (ofString ":status: " ++ d3 ++ [cr, lf] ++ renderBlock fs) =
      (ofString ":status", d3) :: fs := by
  have hv : lf ∉ ofString ":status: " ++ d3 := by
    simp only [List.mem_append, not_or]; exact ⟨by decide, hdl⟩
  unfold blockFields headLines
  rw [if_neg (by omega)]
  have hfuel : ∃ k, (ofString ":status: " ++ d3 ++ [cr, lf] ++ renderBlock fs).length + 1 = k + 1 ∧
      fs.length < k := by
    refine ⟨_, rfl, ?_⟩
    have := renderBlock_length fs
    simp only [renderBlock, List.length_append]; omega
  obtain ⟨k, hk, hkl⟩ := hfuel
  rw [hk, headLines_go_step k _ _ [] hv (by simp [hd]),
    headLines_go_lines fs k _ (fun f hf => ⟨(hok f hf).name_lf, (hok f hf).value_lf⟩) hkl (Or.inl (by simp))]
  have hhead : (ofString ":status: " ++ d3 ++ [cr, lf] ++ renderBlock fs).headD 0 = colon := by
    have : ofString ":status: " = colon :: ofString "status: " := by decide +kernel
    rw [this]; rfl
  simp only [hhead, if_true, List.reverse_cons, List.reverse_nil, List.nil_append, List.singleton_append,
    List.drop_succ_cons, List.drop_zero]
  rw [filterMap_lines fs hok]
  have hdrop : (ofString ":status: " ++ d3 ++ [cr, lf] ++ renderBlock fs).drop 9 =
      d3 ++ ([cr, lf] ++ renderBlock fs) := by
    have h9 : (ofString ":status: ").length = 9 := by decide +kernel
    rw [List.append_assoc, List.append_assoc, ← h9, List.drop_left]
  rw [hdrop, ← hd, List.take_left]

theorem lower_not_mem (a : UInt8) (s : Bytes) (ha : isLower a = false) (h : a ∉ s) : a ∉ lower s := by
  intro hm
  simp only [lower, List.mem_map] at hm
  obtain ⟨b, hb, hba⟩ := hm
  rw [toLower_eq_of_not_lower ha hba] at hb
  exact h hb

theorem LineOk.lower {f : Header} (h : LineOk f) : LineOk (lower f.1, f.2) where
  name_ne := by
    intro e
    have : (H2Headers.lower f.1).length = 0 := by simp only [] at e; rw [e]; rfl
    rw [lower_length] at this
    exact h.name_ne (List.length_eq_zero_iff.mp this)
  name_colon := lower_not_mem colon f.1 (by decide) h.name_colon
  name_lf := lower_not_mem lf f.1 (by decide) h.name_lf
  value_ne := h.value_ne
  value_lf := h.value_lf
  value_ws := h.value_ws

theorem lower_line (f : Header) (h : LineOk f) :
    (match (fieldLine f).idxOf? colon with
     | some i => lower ((fieldLine f).take i) ++ (fieldLine f).drop i
     | none => fieldLine f) = fieldLine (lower f.1, f.2) := by
  have hs : fieldLine f = f.1 ++ colon :: (sp :: f.2 ++ [cr, lf]) := by simp [fieldLine]
  rw [hs, idxOf?_append_self colon f.1 _ h.name_colon]
  simp only [List.take_left, List.drop_left]
  simp [fieldLine]

/-- h2_send_end_stream_trailers() -/
theorem trailerFields_render (fs : List Header) (hne : fs ≠ []) (hok : ∀ f ∈ fs, LineOk f)
    (hlen : (renderBlock fs).length ≤ 65535) :
    trailerFields (renderBlock fs) = some (fs.map fun f => (lower f.1, f.2)) := by
  unfold trailerFields
  rw [headLines_render fs hne hok hlen]
  simp only
  have hany : (fs.map fieldLine).any (fun l => l.headD 0 = colon) = false := by
    rw [List.any_eq_false]
    intro l hl
    simp only [List.mem_map] at hl
    obtain ⟨f, hf, rfl⟩ := hl
    obtain ⟨b, bs, hl, hb⟩ := fieldLine_head f (hok f hf)
    simpa [hl] using hb
  simp only [hany, Bool.false_eq_true, if_false, List.map_map]
  have hmap : ∀ g : Bytes → Bytes, (∀ f ∈ fs, g (fieldLine f) = fieldLine (lower f.1, f.2)) →
      fs.map (g ∘ fieldLine) = (fs.map fun f => (lower f.1, f.2)).map fieldLine := by
    intro g hg
    rw [List.map_map]
    apply List.map_congr_left
    intro f hf
    exact hg f hf
  rw [hmap _ (fun f hf => lower_line f (hok f hf)), filterMap_lines _ (by
    intro g hg
    simp only [List.mem_map] at hg
    obtain ⟨f, hf, rfl⟩ := hg
    exact (hok f hf).lower)]

theorem interimText_regroup {α : Type} (L : α → Bytes) : ∀ (es : List α) (X : Bytes),
    X ++ es.flatMap (fun e => [cr, lf] ++ L e) ++ [cr, lf, cr, lf] =
      X ++ [cr, lf] ++ (es.flatMap (fun e => L e ++ [cr, lf]) ++ [cr, lf]) := by
  intro es
  induction es with
  | nil => intro X; simp
  | cons e es ih =>
    intro X
    have := ih (X ++ [cr, lf] ++ L e)
    simp only [List.flatMap_cons, List.append_assoc] at this ⊢
    rw [this]

/-- unlike `wantField`, h2_send_1xx() does not drop X-Sendfile / X-LIGHTTPD-* -/
def interimWant (r : Resp) : List Header :=
  (r.arr.filter fun e => e.key ≠ [] ∧ e.value ≠ []).map fun e => (lower e.key, e.value)

theorem interimText_eq (status : Nat) (r : Resp) (hk : r.Keyed) :
    interimText status r =
      ofString ":status: " ++ natToDec status ++ [cr, lf] ++ renderBlock (interimWant r) := by
  unfold interimText interimWant renderBlock
  have hfm : ∀ es : List RespHdr, (∀ e ∈ es, e ∈ r.arr) →
      es.flatMap (fun e =>
        let name := if e.id ≠ 0 then
            let row := Extracted.httpHeaderLc.getD e.id []
            (row ++ List.replicate (32 - row.length) 0).take e.key.length
          else lower e.key
        [cr, lf] ++ name ++ [colon, sp] ++ e.value) =
      es.flatMap (fun e => [cr, lf] ++ (lower e.key ++ [colon, sp] ++ e.value)) := by
    intro es hes
    rw [List.flatMap_def, List.flatMap_def]
    congr 1
    apply List.map_congr_left
    intro e he
    have hid := hk e (hes e he)
    by_cases h0 : e.id = 0
    · simp [h0, List.append_assoc]
    · have hrow : Extracted.httpHeaderLc.getD e.id [] = lower e.key := by
        rw [hid]; exact (lcName_hkeyGet e.key (by rw [← hid]; exact h0)).2
      simp only [ne_eq, h0, not_false_eq_true, if_true, hrow, List.take_left' (lower_length e.key),
        List.append_assoc]
  rw [hfm _ (fun e he => (List.mem_filter.mp he).1),
    interimText_regroup (fun e : RespHdr => lower e.key ++ [colon, sp] ++ e.value)]
  simp [fieldLine, List.flatMap_map, List.append_assoc]

theorem status_digits (status : Nat) (h1 : 100 ≤ status) (h2 : status ≤ 999) :
    (natToDec status).length = 3 ∧ lf ∉ natToDec status := by
  have h3 := (natToDec_length_le_iff status (k := 3) (by decide)).mpr (by omega)
  have h2' := mt (natToDec_length_le_iff status (k := 2) (by decide)).mp (by omega)
  exact ⟨by omega, fun h => absurd (natToDec_digits status lf h) (by decide)⟩

end LtVerif.H2Headers
