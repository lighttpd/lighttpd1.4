/-
  Huffman (C07), part 2: lshpack's table-driven decoder (`huffDecode`) reads back what its
  encoder (`huffEncode`) writes and accepts nothing else (`huffDecode_canonical`).  From the
  certificates of Proofs/HpackHuffCert.lean: the automaton is simulated, octet by octet, by the
  bit-level walk over the code tree (`walk`, `byte_sim`); `huffDecodeAux_walk` says both what the
  decoder answers when the walk succeeds and that it answers nothing the walk does not give.
-/
import LtVerif.Proofs.HpackHuffCert
import LtVerif.Proofs.Bytes
namespace LtVerif.Hpack
open LtVerif B
open LtVerif.Extracted

theorem descend_append (t : HuffTree) (p q : List Bool) :
    descend t (p ++ q) = descend (descend t p) q := by
  simp [descend, List.foldl_append]

theorem tstep_inv {t : HuffTree} {p : List Bool} {b : Bool} {t' : HuffTree} {p' : List Bool}
    {o : Option Nat} (h : tstep t p b = some (t', p', o)) (ht : t = descend hpackHuffTree p) :
    t' = descend hpackHuffTree p' := by
  unfold tstep at h
  split at h
  · split at h
    · simp only [Option.some.injEq, Prod.mk.injEq] at h
      obtain ⟨rfl, rfl, _⟩ := h
      rfl
    · cases h
  · rename_i l r hc
    simp only [Option.some.injEq, Prod.mk.injEq] at h
    obtain ⟨rfl, rfl, _⟩ := h
    rw [descend_append, ← ht]
    simp [descend, hc]
  · cases h

theorem trun_out : ∀ (bits : List Bool) (t : HuffTree) (p : List Bool) (out : List Nat),
    trun t p bits out = (trun t p bits []).map fun r => (r.1, r.2.1, r.2.2 ++ out) := by
  intro bits
  induction bits with
  | nil => intro t p out; simp [trun]
  | cons b bs ih =>
    intro t p out
    simp only [trun]
    split
    · simp
    · rename_i t1 p1 o hs
      rw [ih t1 p1 (pushNat o out), ih t1 p1 (pushNat o [])]
      cases o <;> simp [pushNat, Option.map_map, Function.comp_def]

/-- the bit-level walk from the inner node with path `p`: the path reached and the symbols read,
    newest first.  `trun` also carries the subtree, which the path determines, and an accumulator. -/
def walk (p bits : List Bool) : Option (List Bool × List Nat) :=
  (trun (descend hpackHuffTree p) p bits []).map fun r => (r.2.1, r.2.2)

theorem walk_cons (p : List Bool) (b : Bool) (bs : List Bool) :
    walk p (b :: bs) = (tstep (descend hpackHuffTree p) p b).bind fun s =>
      (walk s.2.1 bs).map fun r => (r.1, r.2 ++ pushNat s.2.2 []) := by
  unfold walk
  simp only [trun]
  cases hs : tstep (descend hpackHuffTree p) p b with
  | none => rfl
  | some s =>
    obtain ⟨t1, p1, o⟩ := s
    simp only [Option.bind_some]
    rw [trun_out, tstep_inv hs rfl, Option.map_map, Option.map_map]
    rfl

theorem walk_append (a : List Bool) : ∀ (p b : List Bool),
    walk p (a ++ b) = (walk p a).bind fun r => (walk r.1 b).map fun r' => (r'.1, r'.2 ++ r.2) := by
  induction a with
  | nil =>
    intro p b
    show walk p b = (walk p b).map fun r' => (r'.1, r'.2 ++ [])
    simp
  | cons x xs ih =>
    intro p b
    rw [List.cons_append, walk_cons, walk_cons]
    cases tstep (descend hpackHuffTree p) p x with
    | none => rfl
    | some s =>
      simp only [Option.bind_some, ih]
      cases walk s.2.1 xs with
      | none => rfl
      | some r => simp [Function.comp_def, List.append_assoc]

theorem code_walk (x : UInt8) :
    walk [] (huffCode x) = some ([], [x.toNat]) ∧ (huffCode x).length ≤ 30 ∧ 5 ≤ (huffCode x).length := by
  have h := codes_ok
  unfold codesAll at h
  rw [List.all_eq_true] at h
  have hx := h x.toNat (by simp [List.mem_range]; exact x.toNat_lt)
  show (trun hpackHuffTree [] (codeNat x.toNat) []).map _ = _ ∧ (codeNat x.toNat).length ≤ 30 ∧
    5 ≤ (codeNat x.toNat).length
  generalize x.toNat = i at hx ⊢
  split at hx
  · rename_i t' s heq
    simp only [Bool.and_eq_true, beq_iff_eq, decide_eq_true_eq] at hx
    obtain ⟨⟨rfl, h30⟩, h5⟩ := hx
    exact ⟨by rw [heq]; rfl, h30, h5⟩
  · cases hx

theorem huffBits_cons (x : UInt8) (xs : Bytes) : huffBits (x :: xs) = huffCode x ++ huffBits xs := by
  simp [huffBits]

theorem huffBits_walk (s : Bytes) : walk [] (huffBits s) = some ([], (s.map UInt8.toNat).reverse) := by
  induction s with
  | nil => rfl
  | cons x xs ih => rw [huffBits_cons, walk_append, (code_walk x).1]; simp [ih]

theorem huffBits_length_le (s : Bytes) : (huffBits s).length ≤ 30 * s.length := by
  induction s with
  | nil => simp [huffBits]
  | cons x xs ih =>
    rw [huffBits_cons, List.length_append, List.length_cons]
    have := (code_walk x).2.1
    omega

/-- row `q`, column `x` of the certificate `cert_ok` -/
theorem nibble_sim (q x : Nat) (hq : q < 256) (hx : x < 16) :
    match walk (pathOf q) (bits4 x) with
    | none => huffStep q x = none
    | some (p', o) =>
      ∃ st' sym, st' < 256 ∧ huffStep q x = some (st', accepting p', sym) ∧ pathOf st' = p' ∧
        o = (pushSym sym []).map UInt8.toNat := by
  have hc := cert_ok
  unfold certAll at hc
  rw [List.all_eq_true] at hc
  have hrow := hc q (by simp [List.mem_range]; exact hq)
  unfold certRow at hrow
  split at hrow
  · rename_i l r hd
    rw [List.all_eq_true] at hrow
    have hchk := hrow x (by simp [List.mem_range]; exact hx)
    rw [← hd] at hchk
    unfold certCheck at hchk
    rcases he : huffEntry q x with ⟨st', fl, sym⟩
    simp only [he] at hchk
    unfold huffStep walk
    simp only [he]
    cases ht : trun (descend hpackHuffTree (pathOf q)) (pathOf q) (bits4 x) [] with
    | none =>
      simp only [ht, decide_eq_true_eq] at hchk
      exact if_pos hchk
    | some r =>
      obtain ⟨t', p', o⟩ := r
      simp only [ht, Bool.and_eq_true, beq_iff_eq, decide_eq_true_eq] at hchk
      obtain ⟨⟨⟨⟨⟨hfail, hpath⟩, hacc⟩, ho⟩, hst⟩, hsym⟩ := hchk
      refine ⟨st', if fl &&& hpackHuffSym ≠ 0 then some sym.toUInt8 else none, hst, ?_, hpath, ?_⟩
      · rw [if_neg (by simp [hfail])]
        simp only [Option.some.injEq, Prod.mk.injEq, true_and, and_true]
        exact hacc
      · rw [ho]; unfold symNat
        split <;> simp [pushSym, toNat_toUInt8 hsym]
  · cases hrow

def bitsOfByte (b : UInt8) : List Bool := bits4 (b.toNat / 16) ++ bits4 (b.toNat % 16)

theorem pushSym_eq (s : Option UInt8) (out : Bytes) : pushSym s out = pushSym s [] ++ out := by
  cases s <;> simp [pushSym]

theorem byte_sim (q : Nat) (hq : q < 256) (b : UInt8) :
    match walk (pathOf q) (bitsOfByte b) with
    | none => ∀ st1 a1 s1, huffStep q (b.toNat / 16) = some (st1, a1, s1) →
        huffStep st1 (b.toNat % 16) = none
    | some (p2, o) => ∃ st1 a1 s1 st2 s2,
        huffStep q (b.toNat / 16) = some (st1, a1, s1) ∧
        huffStep st1 (b.toNat % 16) = some (st2, accepting p2, s2) ∧ st2 < 256 ∧ pathOf st2 = p2 ∧
        o = (pushSym s2 (pushSym s1 [])).map UInt8.toNat := by
  have hhi : b.toNat / 16 < 16 := by have := b.toNat_lt; omega
  have hlo : b.toNat % 16 < 16 := by omega
  have hn1 := nibble_sim q _ hq hhi
  unfold bitsOfByte
  rw [walk_append]
  cases h1 : walk (pathOf q) (bits4 (b.toNat / 16)) with
  | none =>
    rw [h1] at hn1
    intro st1 a1 s1 hs
    rw [hn1] at hs; cases hs
  | some r1 =>
    obtain ⟨p1, o1⟩ := r1
    rw [h1] at hn1
    obtain ⟨st1, s1, hst1, hstep1, rfl, ho1⟩ := hn1
    have hn2 := nibble_sim st1 _ hst1 hlo
    simp only [Option.bind_some]
    cases h2 : walk (pathOf st1) (bits4 (b.toNat % 16)) with
    | none =>
      rw [h2] at hn2
      intro st1' a1' s1' hs
      rw [hstep1] at hs
      cases hs; exact hn2
    | some r2 =>
      obtain ⟨p2, o2⟩ := r2
      rw [h2] at hn2
      obtain ⟨st2, s2, hst2, hstep2, hp2, ho2⟩ := hn2
      refine ⟨st1, _, s1, st2, s2, hstep1, hstep2, hst2, hp2, ?_⟩
      simp only
      rw [pushSym_eq s2, List.map_append, ← ho1, ← ho2]

theorem huffDecodeAux_walk (bytes : Bytes) : ∀ (q room : Nat) (out : Bytes), q < 256 →
    match walk (pathOf q) (bytes.flatMap bitsOfByte) with
    | none => ∀ res, huffDecodeAux bytes q (accepting (pathOf q)) room out ≠ .ok res
    | some (p', o') => ∃ r : Bytes, r.map UInt8.toNat = o'.reverse ∧
        (∀ res, huffDecodeAux bytes q (accepting (pathOf q)) room out = .ok res →
          accepting p' = true ∧ res = out.reverse ++ r) ∧
        (o'.length < room → accepting p' = true →
          huffDecodeAux bytes q (accepting (pathOf q)) room out = .ok (out.reverse ++ r)) := by
  induction bytes with
  | nil =>
    intro q room out _
    refine ⟨[], rfl, fun res h => ?_, fun _ hacc => by simp [huffDecodeAux, hacc]⟩
    simp only [huffDecodeAux] at h
    split at h
    · rename_i hacc; cases h; exact ⟨hacc, by simp⟩
    · cases h
  | cons b rest ih =>
    intro q room out hq
    have hb := byte_sim q hq b
    rw [List.flatMap_cons, walk_append]
    cases h1 : walk (pathOf q) (bitsOfByte b) with
    | none =>
      rw [h1] at hb
      intro res h
      rw [huffDecodeAux] at h
      split at h
      · cases h
      · cases e1 : huffStep q (b.toNat / 16) with
        | none => simp [e1] at h
        | some r1 =>
          obtain ⟨st1, a1, s1⟩ := r1
          simp only [e1] at h
          split at h
          · cases h
          · simp [hb st1 a1 s1 e1] at h
    | some r1 =>
      obtain ⟨p2, o2⟩ := r1
      rw [h1] at hb
      obtain ⟨st1, a1, s1, st2, s2, e1, e2, hst2, rfl, ho2⟩ := hb
      have hl : o2.length = symLen s1 + symLen s2 := by
        rw [ho2]; cases s1 <;> cases s2 <;> simp [pushSym, symLen]
      have hout : (pushSym s2 (pushSym s1 out)).reverse =
          out.reverse ++ (pushSym s2 (pushSym s1 [])).reverse := by
        rw [pushSym_eq s2 (pushSym s1 out), pushSym_eq s1 out, pushSym_eq s2 (pushSym s1 [])]
        simp [List.append_assoc]
      have hrec := ih st2 (room - symLen s1 - symLen s2) (pushSym s2 (pushSym s1 out)) hst2
      have hdec : huffDecodeAux (b :: rest) q (accepting (pathOf q)) room out =
          if room = 0 ∨ room - symLen s1 = 0 then .error .moreBuf
          else huffDecodeAux rest st2 (accepting (pathOf st2)) (room - symLen s1 - symLen s2)
            (pushSym s2 (pushSym s1 out)) := by
        rw [huffDecodeAux]
        simp only [e1, e2]
        by_cases h0 : room = 0 <;> simp [h0]
      rw [hdec]
      simp only [Option.bind_some]
      cases h3 : walk (pathOf st2) (rest.flatMap bitsOfByte) with
      | none =>
        rw [h3] at hrec
        intro res h
        split at h
        · cases h
        · exact hrec res h
      | some r3 =>
        obtain ⟨p3, o3⟩ := r3
        rw [h3] at hrec
        obtain ⟨r, hr, hsound, hsim⟩ := hrec
        refine ⟨(pushSym s2 (pushSym s1 [])).reverse ++ r, ?_, fun res h => ?_, fun hroom hacc => ?_⟩
        · simp only [List.map_append, List.map_reverse, hr, ← ho2, List.reverse_append]
        · split at h
          · cases h
          · obtain ⟨ha, hres⟩ := hsound res h
            exact ⟨ha, by rw [hres, hout, List.append_assoc]⟩
        · simp only [List.length_append] at hroom
          rw [if_neg (by omega), hsim (by omega) hacc, hout, List.append_assoc]

theorem bitsOfByte_byteOfBits (a b c d e f g h : Bool) :
    bitsOfByte (byteOfBits [a, b, c, d, e, f, g, h]) = [a, b, c, d, e, f, g, h] := by
  revert a b c d e f g h
  decide +kernel

theorem bitsToBytes_bits (B : List Bool) :
    ∃ k, k < 8 ∧ (bitsToBytes B).flatMap bitsOfByte = B ++ List.replicate k true := by
  induction B using bitsToBytes.induct with
  | case1 a b c d e f g h rest ih =>      -- a full octet
    obtain ⟨k, hk, he⟩ := ih
    refine ⟨k, hk, ?_⟩
    simp only [bitsToBytes, List.flatMap_cons, bitsOfByte_byteOfBits, he]
    simp
  | case2 => exact ⟨0, by decide, by simp [bitsToBytes]⟩      -- no bits left
  | case3 l hne hnot =>      -- 1 to 7 bits left: padded to an octet
    rcases l with _ | ⟨a, _ | ⟨b, _ | ⟨c, _ | ⟨d, _ | ⟨e, _ | ⟨f, _ | ⟨g, _ | ⟨h, rest⟩⟩⟩⟩⟩⟩⟩⟩
    · exact absurd rfl hnot
    · exact ⟨7, by decide, by simp [bitsToBytes, List.replicate, bitsOfByte_byteOfBits]⟩
    · exact ⟨6, by decide, by simp [bitsToBytes, List.replicate, bitsOfByte_byteOfBits]⟩
    · exact ⟨5, by decide, by simp [bitsToBytes, List.replicate, bitsOfByte_byteOfBits]⟩
    · exact ⟨4, by decide, by simp [bitsToBytes, List.replicate, bitsOfByte_byteOfBits]⟩
    · exact ⟨3, by decide, by simp [bitsToBytes, List.replicate, bitsOfByte_byteOfBits]⟩
    · exact ⟨2, by decide, by simp [bitsToBytes, List.replicate, bitsOfByte_byteOfBits]⟩
    · exact ⟨1, by decide, by simp [bitsToBytes, List.replicate, bitsOfByte_byteOfBits]⟩
    · exact absurd rfl (hne a b c d e f g h rest)

theorem accepting_iff (p : List Bool) :
    accepting p = true ↔ p.length < 8 ∧ p = List.replicate p.length true := by
  simp only [accepting, Bool.and_eq_true, decide_eq_true_eq, List.all_eq_true, id_eq,
    List.eq_replicate_iff, true_and]

/-- `s.length < cap`, not `≤`: the C reports MORE_BUF when the buffer is exactly full and an
    input nibble is left -/
theorem huffDecode_huffEncode (cap : Nat) (s : Bytes) (h : s.length < cap) :
    huffDecode cap (huffEncode s) = .ok s := by
  unfold huffDecode huffEncode
  obtain ⟨k, hk, hbits⟩ := bitsToBytes_bits (huffBits s)
  have hpad : walk [] (List.replicate k true) = some (List.replicate k true, []) := pad_ok k hk
  have hw := huffDecodeAux_walk (bitsToBytes (huffBits s)) 0 cap [] (by decide)
  rw [pathOf_zero, hbits, walk_append, huffBits_walk] at hw
  simp only [Option.bind_some, hpad, Option.map_some, List.nil_append, show accepting [] = true from rfl] at hw
  obtain ⟨r, hr, _, hsim⟩ := hw
  rw [hsim (by simpa using h) ((accepting_iff _).mpr ⟨by simpa using hk, by simp⟩)]
  have : r = s := (List.map_inj_right fun _ _ => UInt8.toNat_inj.mp).mp (by simpa using hr)
  simp [this]

theorem flatMap_bits_length (src : Bytes) : (src.flatMap bitsOfByte).length = 8 * src.length := by
  induction src with
  | nil => rfl
  | cons b rest ih => simp [List.flatMap_cons, bitsOfByte, bits4, ih]; omega

theorem bitsToBytes_length (B : List Bool) : (bitsToBytes B).length = (B.length + 7) / 8 := by
  obtain ⟨k, hk, he⟩ := bitsToBytes_bits B
  have := congrArg List.length he
  rw [flatMap_bits_length, List.length_append, List.length_replicate] at this
  omega

theorem huffEncode_length_le (s : Bytes) : (huffEncode s).length ≤ 4 * s.length := by
  unfold huffEncode
  rw [bitsToBytes_length]
  have := huffBits_length_le s
  omega

theorem descend_none (p : List Bool) : descend .none p = .none := by
  induction p with
  | nil => rfl
  | cons b ps ih => simpa [descend, HuffTree.child] using ih

theorem mem_leaves_of_descend : ∀ (p : List Bool) (t : HuffTree) (s : Nat),
    descend t p = .leaf s → (p, s) ∈ leaves t := by
  intro p
  induction p with
  | nil => intro t s h; simp only [descend, List.foldl_nil] at h; subst h; simp [leaves]
  | cons b ps ih =>
    intro t s h
    cases t with
    | leaf s' =>
      have : descend (.leaf s') (b :: ps) = .none := by
        simpa [descend, HuffTree.child] using descend_none ps
      rw [this] at h; cases h
    | none => rw [descend_none] at h; cases h
    | node l r =>
      have hd : descend (HuffTree.node l r) (b :: ps) = descend (if b then r else l) ps := by
        simp [descend, HuffTree.child]
      rw [hd] at h
      simp only [leaves, List.mem_append, List.mem_map]
      cases b with
      | false => exact Or.inl ⟨(ps, s), ih l s (by simpa using h), rfl⟩
      | true => exact Or.inr ⟨(ps, s), ih r s (by simpa using h), rfl⟩

theorem path_of_leaf (p : List Bool) (s : Nat) (h : descend hpackHuffTree p = .leaf s) (hs : s < 256) :
    p = codeNat s := by
  have hm := mem_leaves_of_descend p hpackHuffTree s h
  have hall := leaves_ok
  unfold leavesAll at hall
  rw [List.all_eq_true] at hall
  have := hall (p, s) hm
  simp only [Bool.or_eq_true, decide_eq_true_eq, beq_iff_eq] at this
  rcases this with h1 | h1
  · omega
  · exact h1.symm

theorem walk_bits : ∀ (bits p : List Bool) {p' : List Bool} {o' : List Nat}, walk p bits = some (p', o') →
    ∃ syms : List Nat, o' = syms.reverse ∧ p ++ bits = syms.flatMap codeNat ++ p' ∧ ∀ x ∈ syms, x < 256 := by
  intro bits
  induction bits with
  | nil =>
    intro p p' o' h
    cases h
    exact ⟨[], rfl, by simp, by simp⟩
  | cons b bs ih =>
    intro p p' o' h
    rw [walk_cons] at h
    cases hs : tstep (descend hpackHuffTree p) p b with
    | none => simp [hs] at h
    | some r =>
      obtain ⟨t1, p1, o⟩ := r
      simp only [hs, Option.bind_some, Option.map_eq_some_iff] at h
      obtain ⟨⟨p2, o2⟩, hw, heq⟩ := h
      cases heq
      obtain ⟨syms, rfl, hbits, hlt⟩ := ih p1 hw
      unfold tstep at hs
      split at hs
      · rename_i s hc
        split at hs
        · rename_i hs256
          simp only [Option.some.injEq, Prod.mk.injEq] at hs
          obtain ⟨_, rfl, rfl⟩ := hs
          -- a leaf: the bits since the last symbol are the code of `s`
          have hcode := path_of_leaf (p ++ [b]) s (by rw [descend_append]; simpa [descend] using hc) hs256
          refine ⟨s :: syms, by simp [pushNat], ?_, ?_⟩
          · simp only [List.nil_append] at hbits
            rw [List.flatMap_cons, ← hcode, hbits]
            simp [List.append_assoc]
          · intro x hx
            rcases List.mem_cons.mp hx with rfl | hx
            · exact hs256
            · exact hlt x hx
        · cases hs
      · rename_i l r hc
        simp only [Option.some.injEq, Prod.mk.injEq] at hs
        obtain ⟨_, rfl, rfl⟩ := hs
        exact ⟨syms, by simp [pushNat], by simpa [List.append_assoc] using hbits, hlt⟩
      · cases hs

theorem byteOfBits_bitsOfByte (b : UInt8) : byteOfBits (bitsOfByte b) = b :=
  forall_uint8 (P := fun b => byteOfBits (bitsOfByte b) = b) (by decide +kernel) b

theorem bitsToBytes_flatMap (src : Bytes) : bitsToBytes (src.flatMap bitsOfByte) = src := by
  induction src with
  | nil => rfl
  | cons b rest ih =>
    have hb := byteOfBits_bitsOfByte b
    simp only [bitsOfByte, bits4, List.cons_append, List.nil_append] at hb
    simp only [List.flatMap_cons, bitsOfByte, bits4, List.cons_append, List.nil_append, bitsToBytes, hb]
    rw [ih]

theorem bitsToBytes_unique (src : Bytes) (B : List Bool) (k : Nat) (hk : k < 8)
    (h : src.flatMap bitsOfByte = B ++ List.replicate k true) : bitsToBytes B = src := by
  obtain ⟨k', hk', h'⟩ := bitsToBytes_bits B
  have hl := congrArg List.length h
  have hl' := congrArg List.length h'
  simp only [flatMap_bits_length, List.length_append, List.length_replicate] at hl hl'
  have : k' = k := by omega
  subst this
  rw [← bitsToBytes_flatMap src, h, ← h', bitsToBytes_flatMap]

theorem huffDecode_canonical (cap : Nat) (src s : Bytes) (h : huffDecode cap src = .ok s) :
    src = huffEncode s := by
  unfold huffDecode at h
  have hw := huffDecodeAux_walk src 0 cap [] (by decide)
  rw [pathOf_zero] at hw
  cases hwalk : walk [] (src.flatMap bitsOfByte) with
  | none => rw [hwalk] at hw; exact absurd h (hw s)
  | some w =>
    obtain ⟨p', o'⟩ := w
    rw [hwalk] at hw
    obtain ⟨r, hr, hsound, _⟩ := hw
    obtain ⟨hacc, hres⟩ := hsound s h
    simp only [List.reverse_nil, List.nil_append] at hres
    subst hres
    obtain ⟨syms, rfl, hbits, _⟩ := walk_bits _ _ hwalk
    obtain ⟨hlen, hp⟩ := (accepting_iff p').mp hacc
    have hsyms : syms = s.map UInt8.toNat := by simpa using hr.symm
    have hcodes : (s.map UInt8.toNat).flatMap codeNat = huffBits s := by
      simp only [huffBits, List.flatMap_map]; rfl
    rw [List.nil_append, hsyms, hcodes, hp] at hbits
    unfold huffEncode
    exact (bitsToBytes_unique src (huffBits s) p'.length hlen hbits).symm

theorem huffEncode_injective {a b : Bytes} (h : huffEncode a = huffEncode b) : a = b := by
  have ha := huffDecode_huffEncode (a.length + b.length + 1) a (by omega)
  have hb := huffDecode_huffEncode (a.length + b.length + 1) b (by omega)
  rw [h, hb] at ha
  exact (Except.ok.inj ha).symm

end LtVerif.Hpack
