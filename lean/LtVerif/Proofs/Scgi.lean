/-
  Helper lemmas for C09: SCGI netstring and uwsgi packet round trips, the unframed body hand-over
  `RawSt.run` (Model/Scgi.lean).
-/
import LtVerif.Proofs.Cgi
import LtVerif.Proofs.Bytes
import LtVerif.Model.Scgi
namespace LtVerif
open LtVerif B

/-! ### the netstring length -/

theorem parseDec_digits (ds rest : Bytes) (h : ∀ d ∈ ds, isDigit d = true) :
    ∀ a0, Scgi.parseDec (ds ++ colon :: rest) a0 = some (decOf ds a0, rest) := by
  induction ds with
  | nil => intro a0; simp [Scgi.parseDec, decOf, isDigit, colon]
  | cons d t ih =>
    intro a0
    have hd := h d (by simp)
    simp only [List.cons_append, Scgi.parseDec, hd, ↓reduceIte]
    rw [ih (fun x hx => h x (by simp [hx]))]
    simp [decOf]

/-! ### SCGI -/

theorem scgi_pairs_eq (env : List (Bytes × Bytes)) :
    Scgi.pairs env = (env.flatMap fun p => [p.1, p.2]).flatMap (· ++ [0]) := by
  rw [List.flatMap_assoc]
  show (env.flatMap fun p => Scgi.pair p.1 p.2) = _
  congr 1; funext p; simp [Scgi.pair]

theorem splitNul_string (fuel : Nat) (s rest : Bytes) (h : NulFree s) :
    Scgi.splitNul (fuel + 1) (s ++ [0] ++ rest) = (Scgi.splitNul fuel rest).map (s :: ·) := by
  have e : (s ++ 0 :: rest).isEmpty = false := by cases s <;> simp
  rw [List.append_assoc, List.singleton_append, Scgi.splitNul]
  simp only [e, Bool.false_eq_true, ↓reduceIte, splitAtByte_append 0 s rest h]
  cases Scgi.splitNul fuel rest <;> rfl

theorem splitNul_pairs (env : List (Bytes × Bytes)) (h : EnvNulFree env) :
    ∀ fuel, (Scgi.pairs env).length < fuel →
      Scgi.splitNul fuel (Scgi.pairs env) = some (env.flatMap fun p => [p.1, p.2]) := by
  rw [scgi_pairs_eq]
  refine decode_flatMap_list _ Scgi.splitNul _ (fun _ _ => by simp) (fun _ => rfl) fun s hs f rest => ?_
  obtain ⟨p, hp, hsp⟩ := List.mem_flatMap.mp hs
  refine splitNul_string f s rest ?_
  rcases List.mem_cons.mp hsp with rfl | hsp
  · exact (h p hp).1
  · rw [List.mem_singleton.mp hsp]; exact (h p hp).2

theorem pairUp_flat (env : List (Bytes × Bytes)) :
    Scgi.pairUp (env.flatMap fun p => [p.1, p.2]) = some env := by
  induction env with
  | nil => simp [Scgi.pairUp]
  | cons p ps ih => simp [Scgi.pairUp, ih]

theorem scgi_decode_header (env : List (Bytes × Bytes)) (h : EnvNulFree env) (body : Bytes) :
    Scgi.decode (Scgi.encodeHeader env ++ body) =
      some (env ++ [(ofString "SCGI", ofString "1")], body) := by
  have hfull : EnvNulFree (env ++ [(ofString "SCGI", ofString "1")]) := by
    intro p hp
    rcases List.mem_append.mp hp with hp | hp
    · exact h p hp
    · simp only [List.mem_singleton] at hp; rw [hp]
      exact ⟨by show (0 : UInt8) ∉ ofString "SCGI"; decide, by show (0 : UInt8) ∉ ofString "1"; decide⟩
  generalize henv : env ++ [(ofString "SCGI", ofString "1")] = env' at hfull
  have hne := natToDec_ne_nil (Scgi.pairs env').length
  have hdig := natToDec_digits (Scgi.pairs env').length
  have hval := decOf_natToDec (Scgi.pairs env').length
  rw [← natDec_eq] at hne hdig hval
  have hshape : Scgi.encodeHeader env ++ body =
      natDec (Scgi.pairs env').length ++ colon :: (Scgi.pairs env' ++ 44 :: body) := by
    simp [Scgi.encodeHeader, henv, List.append_assoc]
  rw [hshape]
  unfold Scgi.decode
  have hhead : ((natDec (Scgi.pairs env').length ++ colon :: (Scgi.pairs env' ++ 44 :: body)).head?.map
      isDigit).getD false = true := by
    cases hd : natDec (Scgi.pairs env').length with
    | nil => exact absurd hd hne
    | cons a t =>
      have := hdig a (by rw [hd]; simp)
      simp [this]
  simp only [hhead, Bool.not_true, Bool.false_eq_true, ↓reduceIte]
  rw [parseDec_digits _ _ hdig 0, hval]
  simp only
  have hlen : ¬ ((Scgi.pairs env' ++ 44 :: body).length < (Scgi.pairs env').length + 1) := by
    simp only [List.length_append, List.length_cons]; omega
  have hcomma : (Scgi.pairs env' ++ 44 :: body).getD (Scgi.pairs env').length 0 = 44 := by
    simp [List.getD_eq_getElem?_getD]
  simp only [hlen, hcomma, ne_eq, not_true_eq_false, or_self, ↓reduceIte, List.take_left]
  rw [splitNul_pairs env' hfull _ (Nat.lt_succ_self _)]
  simp only [pairUp_flat, Option.some.injEq, Prod.mk.injEq, true_and]
  rw [show (Scgi.pairs env').length + 1 = (Scgi.pairs env' ++ [44]).length by simp]
  rw [show Scgi.pairs env' ++ 44 :: body = (Scgi.pairs env' ++ [44]) ++ body by simp]
  exact List.drop_left

/-! ### uwsgi -/

theorem le16_toNat (n : Nat) (h : n ≤ 65535) :
    ((n % 256).toUInt8.toNat + 256 * (n / 256 % 256).toUInt8.toNat) = n := by
  rw [toNat_toUInt8 (by omega), toNat_toUInt8 (by omega)]; omega

theorem uwsgi_addAll_spec (env : List (Bytes × Bytes)) :
    ∀ acc vars, Uwsgi.addAll acc env = some vars →
      vars = acc ++ env.flatMap (fun p => Uwsgi.pair p.1 p.2) ∧
      ∀ p ∈ env, p.1.length ≤ 65535 ∧ p.2.length ≤ 65535 := by
  induction env with
  | nil => intro acc vars h; simp [Uwsgi.addAll] at h; simp [h]
  | cons p ps ih =>
    intro acc vars h
    obtain ⟨k, v⟩ := p
    have hu : Extracted.C09.ushrtMax = 65535 := rfl
    simp only [Uwsgi.addAll, hu] at h
    by_cases hb : k.length > 65535 ∨ v.length > 65535
    · simp [hb] at h
    · simp only [hb, ↓reduceIte] at h
      obtain ⟨h1, h2⟩ := ih _ _ h
      refine ⟨by rw [h1]; simp [List.append_assoc], ?_⟩
      intro q hq
      rcases List.mem_cons.mp hq with rfl | hq
      · show k.length ≤ 65535 ∧ v.length ≤ 65535
        exact ⟨by omega, by omega⟩
      · exact h2 q hq

theorem uwsgi_decodeVars_pair (f : Nat) (k v rest : Bytes) (hk : k.length ≤ 65535) (hv : v.length ≤ 65535) :
    Uwsgi.decodeVars (f + 1) (Uwsgi.pair k v ++ rest) = (Uwsgi.decodeVars f rest).map ((k, v) :: ·) := by
  have ek := le16_toNat k.length hk
  have ev := le16_toNat v.length hv
  have shape : Uwsgi.pair k v ++ rest =
      (k.length % 256).toUInt8 :: (k.length / 256 % 256).toUInt8 ::
        (k ++ ((v.length % 256).toUInt8 :: (v.length / 256 % 256).toUInt8 :: (v ++ rest))) := by
    simp [Uwsgi.pair, Uwsgi.le16, List.append_assoc]
  rw [shape, Uwsgi.decodeVars]
  simp only [ek]
  have l1 : ¬ ((k ++ ((v.length % 256).toUInt8 :: (v.length / 256 % 256).toUInt8 :: (v ++ rest))).length
      < k.length) := by
    simp only [List.length_append]; omega
  simp only [l1, ↓reduceIte, List.drop_left, ev, List.take_left]
  have l2 : ¬ ((v ++ rest).length < v.length) := by simp only [List.length_append]; omega
  simp only [l2, ↓reduceIte]
  cases Uwsgi.decodeVars f rest <;> rfl

theorem uwsgi_decodeVars (env : List (Bytes × Bytes))
    (h : ∀ p ∈ env, p.1.length ≤ 65535 ∧ p.2.length ≤ 65535) :
    ∀ fuel, (env.flatMap fun p => Uwsgi.pair p.1 p.2).length < fuel →
      Uwsgi.decodeVars fuel (env.flatMap fun p => Uwsgi.pair p.1 p.2) = some env :=
  decode_flatMap_list _ Uwsgi.decodeVars env (fun _ _ => by simp [Uwsgi.pair, Uwsgi.le16]) (fun _ => rfl)
    fun p hp fuel rest => uwsgi_decodeVars_pair fuel p.1 p.2 rest (h p hp).1 (h p hp).2

theorem uwsgi_decode_header (env : List (Bytes × Bytes)) (vars body : Bytes)
    (h : Uwsgi.addAll [] env = some vars) (hfit : vars.length ≤ 65535) :
    Uwsgi.decode (Uwsgi.encodeHeader vars ++ body) = some (env, body) := by
  obtain ⟨h1, h2⟩ := uwsgi_addAll_spec env [] vars h
  simp only [List.nil_append] at h1
  have hl := le16_toNat vars.length hfit
  simp only [Uwsgi.encodeHeader, Uwsgi.le16, List.cons_append, List.nil_append, Uwsgi.decode, hl]
  have l1 : ¬ ((vars ++ body).length < vars.length) := by simp only [List.length_append]; omega
  simp only [ne_eq, not_true_eq_false, l1, or_self, ↓reduceIte, List.take_left, List.drop_left]
  rw [h1, uwsgi_decodeVars env h2 _ (Nat.lt_succ_self _)]

theorem uwsgi_addAll_none (env : List (Bytes × Bytes)) :
    ∀ acc, Uwsgi.addAll acc env = none → ∃ p ∈ env, p.1.length > 65535 ∨ p.2.length > 65535 := by
  induction env with
  | nil => intro acc h; simp [Uwsgi.addAll] at h
  | cons p ps ih =>
    intro acc h
    obtain ⟨k, v⟩ := p
    have hu : Extracted.C09.ushrtMax = 65535 := rfl
    simp only [Uwsgi.addAll, hu] at h
    by_cases hb : k.length > 65535 ∨ v.length > 65535
    · exact ⟨(k, v), by simp, hb⟩
    · simp only [hb, ↓reduceIte] at h
      obtain ⟨q, hq, hq2⟩ := ih _ h
      exact ⟨q, by simp [hq], hq2⟩

theorem uwsgi_addAll_prefix (env : List (Bytes × Bytes)) : ∀ (a1 a2 : Bytes),
    Uwsgi.addAll (a1 ++ a2) env = (Uwsgi.addAll a2 env).map (a1 ++ ·) := by
  induction env with
  | nil => intro a1 a2; simp [Uwsgi.addAll]
  | cons p ps ih =>
    intro a1 a2
    obtain ⟨k, v⟩ := p
    simp only [Uwsgi.addAll]
    by_cases hb : k.length > Extracted.C09.ushrtMax ∨ v.length > Extracted.C09.ushrtMax
    · simp [hb]
    · simp only [hb, ↓reduceIte]
      rw [List.append_assoc, ih a1 (a2 ++ Uwsgi.pair k v)]

theorem uwsgi_createEnv_cases (env : List (Bytes × Bytes)) (bodyLen : Int) (pending : Bytes) :
    (∃ vars, Uwsgi.addAll [] env = some vars ∧ vars.length ≤ 65535 ∧
      Uwsgi.createEnv env bodyLen pending = .ok (RawSt.startBody (Uwsgi.encodeHeader vars) bodyLen pending)) ∨
    (Uwsgi.addAll [] env = none ∧ Uwsgi.createEnv env bodyLen pending = .status 400) ∨
    (∃ vars, Uwsgi.addAll [] env = some vars ∧ 65535 < vars.length ∧
      Uwsgi.createEnv env bodyLen pending = .status 431) := by
  have hu : Extracted.C09.ushrtMax = 65535 := rfl
  unfold Uwsgi.createEnv
  cases ha : Uwsgi.addAll [] env with
  | none => exact Or.inr (Or.inl ⟨rfl, rfl⟩)
  | some vars =>
    by_cases hfit : vars.length > 65535
    · exact Or.inr (Or.inr ⟨vars, rfl, hfit, by simp [hu, hfit]⟩)
    · exact Or.inl ⟨vars, rfl, by omega, by simp [hu, hfit]⟩

/-! ### `RawSt.run`: unframed body hand-over (SCGI, uwsgi; the proxy's Content-Length case uses
    these through `Proxy.run_raw`) -/

theorem rawFold_inv (segs : List Bytes) : ∀ st : RawSt,
    (segs.foldl RawSt.arrive st).out ++ (segs.foldl RawSt.arrive st).pending =
      st.out ++ st.pending ++ segs.flatten := by
  induction segs with
  | nil => intro st; simp
  | cons s tl ih =>
    intro st
    simp only [List.foldl_cons, List.flatten_cons]
    rw [ih]
    simp [RawSt.arrive, RawSt.moveAll, List.append_assoc]

theorem rawRun_out (hdr : Bytes) (bodyLen : Int) (seg0 : Bytes) (segs : List Bytes) :
    (RawSt.run hdr bodyLen seg0 segs).out = hdr ++ (seg0 :: segs).flatten := by
  simp only [RawSt.run, RawSt.moveAll]
  rw [rawFold_inv]
  unfold RawSt.startBody
  split <;> simp [List.append_assoc]

theorem rawRun_pending (hdr : Bytes) (bodyLen : Int) (seg0 : Bytes) (segs : List Bytes) :
    (RawSt.run hdr bodyLen seg0 segs).pending = [] := by
  simp [RawSt.run, RawSt.moveAll]

theorem rawFold_reqlen (segs : List Bytes) : ∀ st : RawSt,
    (segs.foldl RawSt.arrive st).reqlen = st.reqlen := by
  induction segs with
  | nil => intro st; rfl
  | cons s tl ih => intro st; simp only [List.foldl_cons]; rw [ih]; simp [RawSt.arrive, RawSt.moveAll]

theorem rawRun_reqlen (hdr : Bytes) (seg0 : Bytes) (segs : List Bytes) :
    (RawSt.run hdr (((seg0 :: segs).flatten.length : Nat) : Int) seg0 segs).reqlen =
      ((RawSt.run hdr (((seg0 :: segs).flatten.length : Nat) : Int) seg0 segs).out.length : Int) := by
  rw [rawRun_out]
  simp only [RawSt.run, RawSt.moveAll, rawFold_reqlen]
  unfold RawSt.startBody
  generalize (seg0 :: segs).flatten = body
  by_cases hz : ((body.length : Nat) : Int) = 0
  · have : body.length = 0 := by omega
    simp [this]
  · have hp : ((body.length : Nat) : Int) > 0 := by omega
    simp only [ne_eq, hz, not_false_eq_true, ↓reduceIte, hp, List.length_append]
    push_cast; rfl

end LtVerif
