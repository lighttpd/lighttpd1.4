/-
  The C pointer loop of mod_deflate_choose_encoding (Model/DeflateScan.lean) computes exactly the
  accept set of the specification-style scanner (Model/Deflate.lean: `acceptSet`), for every
  byte string.  Route: `paramIsQ0_eq` (look-ahead = `paramIsQ0` of the parameter text) →
  `paramLoop_spec` → `pe_gen` (element = token · white space · rest) → `G` → `iter_core` (one
  iteration lists one token) → `scanLoop_spec`.
-/
import LtVerif.Model.DeflateScan
import LtVerif.Proofs.Deflate
namespace LtVerif.Deflate
namespace Scan
open LtVerif B

theorem cunion_empty (a : CSet) : cunion a {} = a := by cases a; simp [cunion]

theorem encOf_nil : encOf [] = {} := by decide

theorem acceptStep_eq (acc : CSet) (tok : Bytes) (q : Bool) :
    acceptStep acc ⟨tok, q⟩ = cunion acc (if q then {} else encOf tok) := by
  cases q
  · simp only [acceptStep, encOf]
    cases codingOfToken tok with
    | none => simp [cunion_empty]
    | some c => cases c <;> cases acc <;> simp [CSet.insert, cunion]
  · simp [acceptStep, cunion_empty]

/-- `takeWhile` / `dropWhile pr` over `p ++ R` stop at `R`: empty, or head fails `pr` -/
def Stop (pr : UInt8 → Bool) (R : Bytes) : Prop := R = [] ∨ ∃ h R', R = h :: R' ∧ pr h = false

theorem takeWhile_stop (pr : UInt8 → Bool) (R : Bytes) (h : Stop pr R) : R.takeWhile pr = [] := by
  rcases h with rfl | ⟨h, R', rfl, hh⟩ <;> simp [List.takeWhile, *]

theorem dropWhile_app (pr : UInt8 → Bool) (p R : Bytes) (h : Stop pr R) :
    (p ++ R).dropWhile pr = p.dropWhile pr ++ R := by
  rcases h with rfl | ⟨c, R', rfl, hc⟩
  · rw [List.append_nil, List.append_nil]
  · exact dropWhile_append_stop pr c hc p R'

theorem tw_app (pr : UInt8 → Bool) (p R : Bytes) (h : Stop pr R) :
    (p ++ R).takeWhile pr = p.takeWhile pr := by
  rcases h with rfl | ⟨c, R', rfl, hc⟩
  · rw [List.append_nil]
  · exact takeWhile_append_stop pr c hc p R'

theorem stop_dropWhile (pr : UInt8 → Bool) (l : Bytes) : Stop pr (l.dropWhile pr) := by
  induction l with
  | nil => exact Or.inl rfl
  | cons x xs ih =>
    by_cases hx : pr x = true
    · simpa [List.dropWhile, hx] using ih
    · right; exact ⟨x, xs, by simp [List.dropWhile, hx], by simpa using hx⟩

theorem stop_head {pr : UInt8 → Bool} {c : UInt8} {r : Bytes} (h : Stop pr (c :: r)) : pr c = false := by
  rcases h with h | ⟨h, R', heq, hh⟩
  · exact absurd h (by simp)
  · simp only [List.cons.injEq] at heq
    rw [heq.1]; exact hh

/-- text of one parameter -/
def ParB (p : Bytes) : Prop := ∀ b ∈ p, b ≠ semi ∧ b ≠ comma

/-- what ends a parameter -/
def PEnd (R : Bytes) : Prop := R = [] ∨ ∃ h R', R = h :: R' ∧ (h = semi ∨ h = comma)

theorem pend_stop (pr : UInt8 → Bool) (hs : pr semi = false) (hc : pr comma = false) (R : Bytes)
    (h : PEnd R) : Stop pr R := by
  rcases h with rfl | ⟨h, R', rfl, rfl | rfl⟩
  · exact Or.inl rfl
  · exact Or.inr ⟨_, _, rfl, hs⟩
  · exact Or.inr ⟨_, _, rfl, hc⟩

/-- `paramIsQ0` behind its leading white space -/
def q0Head : Bytes → Bool
  | q :: e :: z :: rest => (q = 113 || q = 81) && e = 61 && z = 48 && q0Rest rest
  | _ => false

theorem paramIsQ0_head (p : Bytes) : paramIsQ0 p = q0Head (p.dropWhile isWs) := by
  unfold paramIsQ0
  have : (fun b => decide (b = sp) || decide (b = B.ht)) = isWs := by funext b; rfl
  rw [this]
  rcases List.dropWhile isWs p with _ | ⟨q, _ | ⟨e, _ | ⟨z, rest⟩⟩⟩ <;> rfl

theorem qZeroAt_spec (p' R : Bytes) (hp : ParB p') (hR : PEnd R) :
    qZeroAt (p' ++ R) = q0Head p' := by
  rcases p' with _ | ⟨q, _ | ⟨e, _ | ⟨z, rest⟩⟩⟩
  -- fewer than three bytes in `p'`: the head of `R`, ';' or ',', fails the `q=0` test on both sides
  · rcases hR with rfl | ⟨h, R', rfl, hh⟩
    · rfl
    · rcases R' with _ | ⟨a, _ | ⟨b, R''⟩⟩ <;> try rfl
      rcases hh with rfl | rfl <;> simp [qZeroAt, q0Head, semi, comma]
  · rcases hR with rfl | ⟨h, R', rfl, hh⟩
    · rfl
    · rcases R' with _ | ⟨a, R''⟩
      · rfl
      · rcases hh with rfl | rfl <;> simp [qZeroAt, q0Head, semi, comma]
  · rcases hR with rfl | ⟨h, R', rfl, hh⟩
    · rfl
    · rcases hh with rfl | rfl <;> simp [qZeroAt, q0Head, semi, comma]
  -- otherwise the look-ahead stops at the head of `R`, where `q0End` sees the end
  · show qZeroAt (q :: e :: z :: (rest ++ R)) = _
    simp only [qZeroAt]
    by_cases hc : ((q = 113 || q = 81) && e = 61 && z = 48) = true
    · rw [if_pos hc]
      simp only [q0Head, hc, Bool.true_and]
      have hrest : ParB rest := fun b hb => hp b (by simp [hb])
      rcases rest with _ | ⟨d, r'⟩
      · -- nothing behind the "0"
        rcases hR with rfl | ⟨h, R', rfl, hh⟩
        · simp [q0Rest]
        · rcases hh with rfl | rfl <;> simp [q0Rest, semi, comma, dot]
      · have hd := hrest d (by simp)
        by_cases hdd : d = dot
        · subst hdd
          have hst : Stop (fun b => b = (48 : UInt8)) R :=
            pend_stop _ (by decide) (by decide) R hR
          simp only [List.cons_append, if_true, q0Rest]
          rw [dropWhile_app _ r' R hst]
          have hsub : ∀ b ∈ r'.dropWhile (fun b => b = (48 : UInt8)), b ≠ semi ∧ b ≠ comma :=
            fun b hb => hrest b (by simp [(List.dropWhile_suffix _).subset hb])
          rcases hr : r'.dropWhile (fun b => b = (48 : UInt8)) with _ | ⟨c, r''⟩
          · rcases hR with rfl | ⟨h, R', rfl, hh⟩
            · simp [q0End]
            · rcases hh with rfl | rfl <;> simp [q0End]
          · have hc' := hsub c (by simp [hr])
            simp [q0End, hc'.1, hc'.2]
        · simp [q0Rest, hdd, q0End, hd.1, hd.2]
    · rw [if_neg hc]
      simp only [Bool.not_eq_true] at hc
      simp [q0Head, hc]

theorem paramIsQ0_eq (p R : Bytes) (hp : ParB p) (hR : PEnd R) :
    qZeroAt ((p ++ R).dropWhile isWs) = paramIsQ0 p := by
  have hst : Stop isWs R := pend_stop _ (by decide) (by decide) R hR
  rw [dropWhile_app _ p R hst, qZeroAt_spec _ R (fun b hb => hp b ((List.dropWhile_suffix _).subset hb)) hR, paramIsQ0_head]

theorem split_at (c : UInt8) (l : Bytes) : ∃ p rest, l = p ++ rest ∧ (∀ b ∈ p, b ≠ c) ∧
    (rest = [] ∨ ∃ r', rest = c :: r') := by
  obtain ⟨p, hp, rfl | ⟨r, rfl⟩⟩ := first_seg c l
  · exact ⟨l, [], by simp, fun b hb e => hp (e ▸ hb), Or.inl rfl⟩
  · exact ⟨p, c :: r, rfl, fun b hb e => hp (e ▸ hb), Or.inr ⟨r, rfl⟩⟩

/-- what follows an element: the end or ',' -/
def CTail (tail : Bytes) : Prop := tail = [] ∨ ∃ s', tail = comma :: s'

theorem paramLoop_done (fuel : Nat) (enc : CSet) (tail : Bytes) (h : CTail tail) :
    paramLoop fuel enc tail = (enc, tail) := by
  rcases h with rfl | ⟨s', rfl⟩
  · cases fuel <;> simp [paramLoop]
  · cases fuel <;> simp [paramLoop, comma, semi]

theorem paramLoop_nosemi (fuel : Nat) (enc : CSet) (c : UInt8) (r : Bytes) (h : c ≠ semi) :
    paramLoop fuel enc (c :: r) = (enc, c :: r) := by
  cases fuel <;> simp [paramLoop, h]

theorem paramLoop_spec : ∀ (fuel : Nat) (ps tail : Bytes) (enc : CSet),
    (∀ b ∈ ps, b ≠ comma) → CTail tail → ps.length < fuel →
    paramLoop fuel enc (semi :: (ps ++ tail)) =
      (if (splitOn semi ps).any paramIsQ0 then {} else enc, tail) := by
  intro fuel
  induction fuel with
  | zero => intro ps tail enc _ _ h; omega
  | succ fuel ih =>
    intro ps tail enc hps htail hlen
    obtain ⟨p, rest, rfl, hp, hrest⟩ := split_at semi ps
    have hpB : ParB p := fun b hb => ⟨hp b hb, hps b (by simp [hb])⟩
    have hR : PEnd (rest ++ tail) := by
      rcases hrest with rfl | ⟨ps', rfl⟩
      · rcases htail with rfl | ⟨s', rfl⟩
        · exact Or.inl rfl
        · exact Or.inr ⟨comma, s', rfl, Or.inr rfl⟩
      · exact Or.inr ⟨semi, ps' ++ tail, rfl, Or.inl rfl⟩
    have hd : ((p ++ (rest ++ tail)).dropWhile isWs).dropWhile (fun b => !isParamEnd b) = rest ++ tail := by
      rw [dropWhile_app _ p _ (pend_stop isWs (by decide) (by decide) _ hR),
          dropWhile_app _ _ _ (pend_stop (fun b => !isParamEnd b) (by decide) (by decide) _ hR)]
      have : (p.dropWhile isWs).dropWhile (fun b => !isParamEnd b) = [] := dropWhile_all fun b hb => by
        have := hpB b ((List.dropWhile_suffix _).subset hb)
        simp [isParamEnd, this.1, this.2]
      simp [this]
    have hstep : paramLoop (fuel + 1) enc (semi :: (p ++ rest ++ tail)) =
        paramLoop fuel (if paramIsQ0 p then {} else enc) (rest ++ tail) := by
      rw [List.append_assoc]
      simp only [paramLoop, if_true, paramIsQ0_eq p _ hpB hR, hd]
    rw [hstep]
    have hns : semi ∉ p := fun hm => hp semi hm rfl
    rcases hrest with rfl | ⟨ps', rfl⟩
    · simp only [List.append_nil, List.nil_append, splitOn_of_not_mem hns, List.any_cons, List.any_nil,
        Bool.or_false]
      exact paramLoop_done fuel _ tail htail
    · have hlen' : ps'.length < fuel := by simp at hlen; omega
      have hps' : ∀ b ∈ ps', b ≠ comma := fun b hb => hps b (by simp [hb])
      rw [List.cons_append, ih ps' tail _ hps' htail hlen', splitOn_at_sep, splitOn_of_not_mem hns]
      simp only [List.cons_append, List.nil_append, List.any_cons]
      by_cases h1 : paramIsQ0 p = true <;> simp [h1]

/-- the tokens and (`q0Of`) the weight verdict of `parseElement` -/
def toksOf (h : Bytes) : List Bytes :=
  (splitOn sp (h.map fun b => if b = B.ht then sp else b)).filter (· ≠ [])

def q0Of (e : Bytes) : Bool :=
  match e.dropWhile (· ≠ semi) with
  | [] => false
  | _ :: ps => (splitOn semi ps).any paramIsQ0

theorem parseElement_eq (e : Bytes) :
    parseElement e = markLast (toksOf (e.takeWhile (· ≠ semi))) (q0Of e) := rfl

/-- bytes the token scan passes -/
def TokB (t : Bytes) : Prop := ∀ b ∈ t, isTokEnd b = false
def WsB (w : Bytes) : Prop := ∀ b ∈ w, isWs b = true

theorem tokEnd_false {b : UInt8} (h : isTokEnd b = false) :
    b ≠ sp ∧ b ≠ B.ht ∧ b ≠ comma ∧ b ≠ semi := by
  refine ⟨?_, ?_, ?_, ?_⟩ <;> (rintro rfl; exact absurd h (by decide))

theorem ws_cases {w : UInt8} (hw : isWs w = true) : w = sp ∨ w = B.ht := by
  simpa [isWs] using hw

theorem ws_ne {w : UInt8} (hw : isWs w = true) : w ≠ semi ∧ w ≠ comma := by
  rcases ws_cases hw with rfl | rfl <;> decide

theorem tabToSp_ws {w : UInt8} (hw : isWs w = true) : (if w = B.ht then sp else w) = sp := by
  rcases ws_cases hw with rfl | rfl
  · decide
  · simp

theorem toksOf_ws (w : UInt8) (h : Bytes) (hw : isWs w = true) : toksOf (w :: h) = toksOf h := by
  simp only [toksOf, List.map_cons, tabToSp_ws hw, splitOn_cons_sep]
  simp

theorem toksOf_wss : ∀ (wss h : Bytes), WsB wss → toksOf (wss ++ h) = toksOf h
  | [], _, _ => rfl
  | w :: wss, h, hw => by
    rw [List.cons_append, toksOf_ws w _ (hw w (by simp))]
    exact toksOf_wss wss h (fun b hb => hw b (by simp [hb]))

theorem map_tok : ∀ (t : Bytes), TokB t → t.map (fun b => if b = B.ht then sp else b) = t
  | [], _ => rfl
  | x :: xs, h => by
    have hx := (tokEnd_false (h x (by simp))).2.1
    simp only [List.map_cons, if_neg hx]
    rw [map_tok xs (fun b hb => h b (by simp [hb]))]

theorem toksOf_nil : toksOf [] = [] := by decide

theorem toksOf_tok (t h : Bytes) (ht' : TokB t) (hne : t ≠ []) (hh : Stop (fun b => !isWs b) h) :
    toksOf (t ++ h) = t :: toksOf h := by
  have hsp : sp ∉ t := fun hm => (tokEnd_false (ht' sp hm)).1 rfl
  rcases hh with rfl | ⟨w, h', rfl, hw⟩
  · simp only [List.append_nil, toksOf, map_tok t ht', List.map_nil]
    rw [splitOn_of_not_mem hsp]
    simp [splitOn, hne]
  · have hw' : isWs w = true := by simpa using hw
    rw [toksOf_ws w h' hw']
    simp only [toksOf, List.map_append, map_tok t ht', List.map_cons, tabToSp_ws hw']
    rw [splitOn_at_sep, splitOn_of_not_mem hsp]
    simp [hne]

theorem toksOf_cons_ne_nil (c : UInt8) (y : Bytes) (hc : isWs c = false) : toksOf (c :: y) ≠ [] := by
  have h1 : c ≠ sp := by rintro rfl; exact absurd hc (by decide)
  have h2 : c ≠ B.ht := by rintro rfl; exact absurd hc (by decide)
  simp only [toksOf, List.map_cons, if_neg h2]
  unfold splitOn
  obtain ⟨p, ps, hm⟩ := splitOn_cons_exists sp (y.map fun b => if b = B.ht then sp else b)
  simp [hm, h1]

theorem markLast_cons_ne (t : Bytes) (l : List Bytes) (q : Bool) (h : l ≠ []) :
    markLast (t :: l) q = ⟨t, false⟩ :: markLast l q := by
  cases l with
  | nil => exact absurd rfl h
  | cons a l => rfl

/-- `hx`: with no white space the token scan itself stopped, at ';' or the end -/
theorem pe_gen (t wss x : Bytes) (ht' : TokB t) (hne : t ≠ []) (hws : WsB wss)
    (hx : wss = [] → Stop (fun b => decide (b ≠ semi)) x) :
    parseElement (t ++ wss ++ x) = markLast (t :: toksOf (x.takeWhile (· ≠ semi))) (q0Of x) := by
  have hpre : ∀ b ∈ t ++ wss, (fun b => decide (b ≠ semi)) b = true := by
    intro b hb
    rcases List.mem_append.1 hb with hb | hb
    · simpa using (tokEnd_false (ht' b hb)).2.2.2
    · simpa using (ws_ne (hws b hb)).1
  rw [parseElement_eq]
  have h1 : (t ++ wss ++ x).takeWhile (· ≠ semi) = t ++ (wss ++ x.takeWhile (· ≠ semi)) := by
    rw [List.takeWhile_append_of_pos hpre, List.append_assoc]
  have h2 : q0Of (t ++ wss ++ x) = q0Of x := by
    unfold q0Of
    rw [List.dropWhile_append_of_pos hpre]
  rw [h1, h2]
  congr 1
  cases wss with
  | nil =>
    have := takeWhile_stop _ x (hx rfl)
    rw [this]
    simpa using toksOf_tok t [] ht' hne (Or.inl rfl)
  | cons w wss' =>
    rw [toksOf_tok t _ ht' hne (Or.inr ⟨w, _, List.cons_append, by simp [hws w (by simp)]⟩)]
    rw [toksOf_wss (w :: wss') _ hws]

theorem parseElement_semi (ps : Bytes) : parseElement (semi :: ps) = [] := by
  rw [parseElement_eq]
  simp [List.takeWhile, toksOf_nil, markLast]

theorem q0Of_semi (ps : Bytes) : q0Of (semi :: ps) = (splitOn semi ps).any paramIsQ0 := by
  simp [q0Of, List.dropWhile]

theorem parseElement_nil : parseElement [] = [] := by decide

theorem parseElement_stop {x : Bytes} (h : Stop (fun b => decide (b ≠ semi)) x) : parseElement x = [] := by
  rcases h with rfl | ⟨c, x', rfl, hc⟩
  · exact parseElement_nil
  · obtain rfl : c = semi := by simpa using hc
    exact parseElement_semi x'

theorem parseElement_ws (w : UInt8) (e : Bytes) (hw : isWs w = true) : parseElement (w :: e) = parseElement e := by
  have hne : decide (w ≠ semi) = true := by simpa using (ws_ne hw).1
  rw [parseElement_eq, parseElement_eq]
  simp only [List.takeWhile, hne, toksOf_ws w _ hw, q0Of, List.dropWhile]

theorem parseElement_wss : ∀ (wss e : Bytes), WsB wss → parseElement (wss ++ e) = parseElement e
  | [], _, _ => rfl
  | w :: wss, e, hw => by
    rw [List.cons_append, parseElement_ws w _ (hw w (by simp))]
    exact parseElement_wss wss e (fun b hb => hw b (by simp [hb]))

/-- `entries` without the cut at NUL (`cstr`) -/
def ents (s : Bytes) : List Entry := (splitOn comma s).flatMap parseElement
/-- the accept set from `acc` on: `acceptSet hdr = G {} (cstr hdr)` -/
def G (acc : CSet) (s : Bytes) : CSet := (ents s).foldl acceptStep acc

theorem ents_nocomma (e : Bytes) (he : ∀ b ∈ e, b ≠ comma) : ents e = parseElement e := by
  have : comma ∉ e := fun hm => he comma hm rfl
  simp [ents, splitOn_of_not_mem this]

theorem ents_comma (e s' : Bytes) (he : ∀ b ∈ e, b ≠ comma) :
    ents (e ++ comma :: s') = parseElement e ++ ents s' := by
  have : comma ∉ e := fun hm => he comma hm rfl
  simp [ents, splitOn_at_sep, splitOn_of_not_mem this]

theorem G_nil (acc : CSet) : G acc [] = acc := by simp [G, ents, splitOn, parseElement_nil]

theorem G_comma (acc : CSet) (s' : Bytes) : G acc (comma :: s') = G acc s' := by
  simp [G, ents, splitOn_cons_sep, parseElement_nil]

theorem G_split (acc : CSet) (e tail : Bytes) (he : ∀ b ∈ e, b ≠ comma) (ht : CTail tail) :
    G acc (e ++ tail) = G ((parseElement e).foldl acceptStep acc) tail := by
  rcases ht with rfl | ⟨s', rfl⟩
  · have h0 : ents [] = [] := by simp [ents, splitOn, parseElement_nil]
    simp [G, ents_nocomma e he, h0]
  · rw [G_comma]; simp [G, ents_comma e s' he, List.foldl_append]

theorem G_ws (acc : CSet) (w : UInt8) (s : Bytes) (hw : isWs w = true) : G acc (w :: s) = G acc s := by
  obtain ⟨p, ps, h⟩ := splitOn_cons_exists comma s
  simp [G, ents, splitOn_cons_ne (ws_ne hw).2 h, h, parseElement_ws w p hw]

theorem G_dropSep (acc : CSet) : ∀ s : Bytes, G acc s = G acc (s.dropWhile isSep)
  | [] => rfl
  | c :: s => by
    by_cases hc : isSep c = true
    · simp only [List.dropWhile, hc]
      rw [← G_dropSep acc s]
      by_cases hcc : c = comma
      · subst hcc; exact G_comma acc s
      · have : isWs c = true := by
          simp only [isSep, Bool.or_eq_true, decide_eq_true_eq] at hc
          rcases hc with (h | h) | h
          · simp [isWs, h]
          · simp [isWs, h]
          · exact absurd h hcc
        exact G_ws acc c s this
    · simp [List.dropWhile, hc]

theorem paramLoop_elem (enc : CSet) (x tail : Bytes) (hx : ∀ b ∈ x, b ≠ comma) (ht : CTail tail)
    (hs : Stop (fun b => decide (b ≠ semi)) x) :
    paramLoop (x ++ tail).length enc (x ++ tail) = (if q0Of x then {} else enc, tail) := by
  rcases hs with rfl | ⟨c, x', rfl, hc⟩
  · exact paramLoop_done _ _ tail ht
  · obtain rfl : c = semi := by simpa using hc
    rw [q0Of_semi]
    exact paramLoop_spec _ x' tail enc (fun b hb => hx b (by simp [hb])) ht (by simp; omega)

/-- one iteration of `scanLoop`; `v2`: where `paramLoop` starts.  Third conjunct: an empty token means the loop
    stands at a ';', and it still moves on (the fuel of `scanLoop_spec` rests on it) -/
theorem iter_core (acc : CSet) (t wss v2 : Bytes) (hTok : TokB t) (hws : WsB wss)
    (hv : Stop isSep (t ++ (wss ++ v2))) (hs2 : Stop (fun b => !isTokEnd b) (wss ++ v2))
    (hv2 : Stop isWs v2) :
    G acc (t ++ (wss ++ v2)) =
        G (cunion acc (paramLoop v2.length (encOf t) v2).1) (paramLoop v2.length (encOf t) v2).2
    ∧ (paramLoop v2.length (encOf t) v2).2.length ≤ v2.length
    ∧ (t = [] → v2 ≠ [] → (paramLoop v2.length (encOf t) v2).2.length < v2.length) := by
  obtain ⟨x, tail, rfl, hxc, htail⟩ := split_at comma v2
  have hwss0 : t = [] → wss = [] := by
    rintro rfl
    cases wss with
    | nil => rfl
    | cons w wss' =>
      have h1 : isSep w = false := stop_head (by simpa using hv)
      rcases ws_cases (hws w (by simp)) with rfl | rfl <;> exact absurd h1 (by decide)
  have e : t ++ (wss ++ (x ++ tail)) = (t ++ wss ++ x) ++ tail := by simp
  have hnc : ∀ b ∈ t ++ wss ++ x, b ≠ comma := by
    intro b hb
    rcases List.mem_append.1 hb with hb | hb
    · rcases List.mem_append.1 hb with hb | hb
      · exact (tokEnd_false (hTok b hb)).2.2.1
      · exact (ws_ne (hws b hb)).2
    · exact hxc b hb
  rw [e, G_split acc _ tail hnc htail]
  by_cases hA : Stop (fun b => decide (b ≠ semi)) x
  · -- the element ends here or goes on with parameters: it lists `t` alone
    rw [paramLoop_elem _ x tail hxc htail hA]
    refine ⟨?_, by simp, fun ht0 hne => ?_⟩
    · by_cases ht0 : t = []
      · obtain rfl := hwss0 ht0
        subst ht0
        simp [parseElement_stop hA, encOf_nil, cunion_empty]
      · rw [pe_gen t wss x hTok ht0 hws (fun _ => hA), takeWhile_stop _ x hA]
        simp [toksOf_nil, markLast, acceptStep_eq]
    · obtain rfl := hwss0 ht0
      subst ht0
      cases x with
      | cons _ _ => simp; omega
      | nil =>
        rcases htail with rfl | ⟨s', rfl⟩
        · exact absurd rfl hne
        · exact absurd (stop_head (by simpa using hv)) (by decide)
  · -- a further token follows the white space: `t` is listed without a weight, the loop comes round again
    obtain ⟨c0, x', rfl⟩ : ∃ c0 x', x = c0 :: x' := by
      cases x with
      | nil => exact absurd (Or.inl rfl) hA
      | cons c0 x' => exact ⟨c0, x', rfl⟩
    have hc0 : c0 ≠ semi := fun h => hA (Or.inr ⟨c0, x', rfl, by simp [h]⟩)
    have hc0ws : isWs c0 = false := stop_head (by simpa using hv2)
    have hwne : wss ≠ [] := by
      rintro rfl
      have h2 : (!isTokEnd c0) = false := stop_head (by simpa using hs2)
      have := hxc c0 (by simp)
      simp_all [isWs, isTokEnd]
    have ht0 : t ≠ [] := fun h => hwne (hwss0 h)
    have htk : toksOf ((c0 :: x').takeWhile (· ≠ semi)) ≠ [] := by
      rw [List.takeWhile_cons_of_pos (by simpa using hc0)]
      exact toksOf_cons_ne_nil c0 _ hc0ws
    rw [List.cons_append, paramLoop_nosemi _ _ c0 _ hc0]
    refine ⟨?_, Nat.le_refl _, fun h => absurd h ht0⟩
    rw [pe_gen t wss (c0 :: x') hTok ht0 hws (fun h => absurd h hwne), markLast_cons_ne _ _ _ htk,
      ← parseElement_eq, List.foldl_cons, ← G_split _ (c0 :: x') tail hxc htail, acceptStep_eq]
    simp

/-- length + 1 fuel suffices by the third conjunct of `iter_core`: an iteration that reads no token still consumes a byte -/
theorem scanLoop_spec : ∀ (fuel : Nat) (s : Bytes) (acc : CSet), s.length ≤ fuel →
    scanLoop fuel acc s = G acc s := by
  intro fuel
  induction fuel with
  | zero =>
    intro s acc h
    have : s = [] := List.length_eq_zero_iff.1 (by omega)
    subst this; simp [scanLoop, G_nil]
  | succ fuel ih =>
    intro s acc h
    cases s with
    | nil => simp [scanLoop, G_nil]
    | cons c rest =>
      simp only [scanLoop]
      generalize hvdef : (c :: rest).dropWhile isSep = v
      have hvstop : Stop isSep v := hvdef ▸ stop_dropWhile isSep (c :: rest)
      have hvlen : v.length ≤ (c :: rest).length := hvdef ▸ (List.dropWhile_suffix isSep).length_le
      rw [G_dropSep acc (c :: rest), hvdef]
      generalize htdef : v.takeWhile (fun b => !isTokEnd b) = t
      generalize hs2def : v.dropWhile (fun b => !isTokEnd b) = s2
      generalize hv2def : s2.dropWhile isWs = v2
      have e1 : v = t ++ (s2.takeWhile isWs ++ v2) := by
        rw [← htdef, ← hv2def, List.takeWhile_append_dropWhile, ← hs2def, List.takeWhile_append_dropWhile]
      have hTok : TokB t := fun b hb => by
        rw [← htdef] at hb
        simpa using List.all_eq_true.mp List.all_takeWhile b hb
      have hws : WsB (s2.takeWhile isWs) := List.all_eq_true.mp List.all_takeWhile
      have hs2 : Stop (fun b => !isTokEnd b) (s2.takeWhile isWs ++ v2) := by
        rw [← hv2def, List.takeWhile_append_dropWhile, ← hs2def]; exact stop_dropWhile _ v
      have hv2 : Stop isWs v2 := hv2def ▸ stop_dropWhile _ s2
      obtain ⟨h1, h2, h3⟩ := iter_core acc t (s2.takeWhile isWs) v2 hTok hws (e1 ▸ hvstop) hs2 hv2
      rw [← e1] at h1
      have hl : v.length = t.length + ((s2.takeWhile isWs).length + v2.length) := by
        have := congrArg List.length e1
        simpa using this
      have hlen : (paramLoop v2.length (encOf t) v2).2.length ≤ fuel := by
        simp only [List.length_cons] at hvlen h
        by_cases ht0 : t = []
        · by_cases hv20 : v2 = []
          · have : v2.length = 0 := congrArg List.length hv20
            omega
          · have := h3 ht0 hv20; omega
        · have : 0 < t.length := List.length_pos_iff.2 ht0
          omega
      rw [ih _ _ hlen, h1]

theorem scanC_eq_acceptSet (hdr : Bytes) : scanC hdr = acceptSet hdr := by
  unfold scanC acceptSet
  exact scanLoop_spec _ _ _ (Nat.le_succ _)

theorem chooseEncodingC_eq (allowed : List CSet) (hdr : Bytes) :
    chooseEncodingC allowed hdr = chooseEncoding allowed hdr := by
  unfold chooseEncodingC chooseEncoding
  rw [scanC_eq_acceptSet]

end Scan
end LtVerif.Deflate
