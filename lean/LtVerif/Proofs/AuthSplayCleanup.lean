/-
  mod_auth_tag_old_entries + mod_auth_periodic_cleanup on a search tree
  remove exactly the expired entries (helper lemmas; theorems in Props/C16.lean).
-/
import LtVerif.Proofs.AuthSplay
import LtVerif.Proofs.Bytes
namespace LtVerif.AuthSplay

variable {α : Type}

/-- keys of the expired entries in the order mod_auth_tag_old_entries() visits them (post-order) -/
def post (old : α → Bool) : Tree α → List Int
  | .nil => []
  | .node l k v r => post old l ++ post old r ++ (if old v then [k] else [])

/-- `keys ++ take (cap - |keys|) xs` fills `keys` up to `cap` from `xs`; filling from `xs`, then from `ys` = filling once from `xs ++ ys` -/
theorem take_fill (cap : Nat) (keys xs ys : List Int) :
    (keys ++ xs.take (cap - keys.length)) ++ ys.take (cap - (keys ++ xs.take (cap - keys.length)).length)
      = keys ++ (xs ++ ys).take (cap - keys.length) := by
  rw [List.take_append, List.append_assoc, List.length_append, List.length_take]
  congr 3
  omega

theorem tagOld_eq (old : α → Bool) (cap : Nat) (t : Tree α) (keys : List Int) (h : keys.length ≤ cap) :
    tagOld old cap t keys = keys ++ (post old t).take (cap - keys.length) := by
  induction t generalizing keys with
  | nil => simp [tagOld, post]
  | node l k v r ihl ihr =>
    unfold tagOld
    by_cases hc : keys.length = cap
    · rw [if_pos hc, hc, Nat.sub_self, List.take_zero, List.append_nil]
    · have hl1 : (keys ++ (post old l).take (cap - keys.length)).length ≤ cap := by
        simp only [List.length_append, List.length_take]; omega
      rw [if_neg hc]
      dsimp only
      -- both subtrees, then the node's own key: three fillings of the same list
      rw [ihl keys h, ihr _ hl1, take_fill, post, ← take_fill cap keys _ (if old v then [k] else [])]
      generalize hK : keys ++ List.take (cap - keys.length) (post old l ++ post old r) = K
      have hKle : K.length ≤ cap := by
        subst hK; simp only [List.length_append, List.length_take]; omega
      by_cases hk : K.length = cap
      · rw [if_pos hk, hk, Nat.sub_self, List.take_zero, List.append_nil]
      · rw [if_neg hk, List.take_of_length_le (by split <;> simp <;> omega)]
        split <;> simp

theorem mem_post (old : α → Bool) (t : Tree α) (x : Int) :
    x ∈ post old t ↔ ∃ v, (x, v) ∈ t.inorder ∧ old v = true := by
  induction t with
  | nil => simp [post, Tree.inorder]
  | node l k v r ihl ihr =>
    simp only [post, Tree.inorder, List.mem_append, List.mem_cons, ihl, ihr, Prod.mk.injEq]
    constructor
    · rintro ((⟨w, hw, ho⟩ | ⟨w, hw, ho⟩) | hx)
      · exact ⟨w, Or.inl hw, ho⟩
      · exact ⟨w, Or.inr (Or.inr hw), ho⟩
      · split at hx
        · rename_i ho; simp at hx; exact ⟨v, Or.inr (Or.inl ⟨hx, rfl⟩), ho⟩
        · simp at hx
    · rintro ⟨w, hw | ⟨rfl, rfl⟩ | hw, ho⟩
      · exact Or.inl (Or.inl ⟨w, hw, ho⟩)
      · right; simp [ho]
      · exact Or.inl (Or.inr ⟨w, hw, ho⟩)

theorem key_unique {t : Tree α} (hs : Sorted t) {k : Int} {v w : α}
    (h1 : (k, v) ∈ t.inorder) (h2 : (k, w) ∈ t.inorder) : v = w := by
  have hp : t.inorder.Pairwise (fun a b => a.1 ≠ b.1) := hs.imp (fun h => by omega)
  have e1 := (lookup_iff_mem _ hp k v).2 h1
  have e2 := (lookup_iff_mem _ hp k w).2 h2
  rw [e1] at e2; exact Option.some.inj e2

theorem post_nodup (old : α → Bool) (t : Tree α) (hs : Sorted t) : (post old t).Nodup := by
  induction t with
  | nil => simp [post]
  | node l k v r ihl ihr =>
    obtain ⟨hsl, hsr, hlk, hrk⟩ := sorted_node.1 hs
    simp only [post]
    rw [List.nodup_append, List.nodup_append]
    refine ⟨⟨ihl hsl, ihr hsr, ?_⟩, ?_, ?_⟩
    · intro a ha b hb
      obtain ⟨_, h1, _⟩ := (mem_post old l a).1 ha
      obtain ⟨_, h2, _⟩ := (mem_post old r b).1 hb
      have h3 : a < k := hlk _ h1
      have h4 : k < b := hrk _ h2
      omega
    · split <;> simp
    · intro a ha b hb
      split at hb
      · simp at hb; subst hb
        rcases List.mem_append.1 ha with ha | ha
        · obtain ⟨_, h1, _⟩ := (mem_post old l a).1 ha
          have := hlk _ h1; simp at this; omega
        · obtain ⟨_, h1, _⟩ := (mem_post old r a).1 ha
          have := hrk _ h1; simp at this; omega
      · simp at hb

theorem deleteKeys_inorder (ks : List Int) (t : Tree α) (hs : Sorted t) (hn : ks.Nodup)
    (hm : ∀ k ∈ ks, ∃ w, (k, w) ∈ t.inorder) :
    (deleteKeys t ks).inorder = t.inorder.filter (fun p => decide (p.1 ∉ ks)) ∧ Sorted (deleteKeys t ks) := by
  induction ks generalizing t with
  | nil =>
    refine ⟨?_, hs⟩
    simp only [deleteKeys]; symm; apply List.filter_eq_self.2; intro _ _; simp
  | cons k ks ih =>
    obtain ⟨w, hw⟩ := hm k (by simp)
    rw [List.nodup_cons] at hn
    cases t with
    | nil => simp [Tree.inorder] at hw
    | node a b c d =>
      simp only [deleteKeys]
      have h1 := deleteKey_inorder _ k w hs hw
      have hs1 := deleteKey_sorted _ k w hs hw
      have hm1 : ∀ k' ∈ ks, ∃ w', (k', w') ∈ (deleteSplayedNode (splayNonnull (Tree.node a b c d) k)).inorder := by
        intro k' hk'
        obtain ⟨w', hw'⟩ := hm k' (by simp [hk'])
        refine ⟨w', ?_⟩
        rw [h1, List.mem_filter]
        refine ⟨hw', ?_⟩
        simp only [ne_eq, decide_not, Bool.not_eq_eq_eq_not, Bool.not_true, decide_eq_false_iff_not]
        intro e; subst e; exact hn.1 hk'
      obtain ⟨e, s⟩ := ih _ hs1 hn.2 hm1
      refine ⟨?_, s⟩
      rw [e, h1, List.filter_filter]
      apply List.filter_congr
      intro p _
      simp only [List.mem_cons, not_or, ne_eq, decide_not, Bool.decide_and]
      rw [Bool.and_comm]

theorem periodicCleanupGo_inorder (old : α → Bool) (cap : Nat) (hcap : 0 < cap) (fuel : Nat) (t : Tree α)
    (hs : Sorted t) (hf : t.size < fuel) :
    (periodicCleanupGo old cap fuel t).inorder = t.inorder.filter (fun p => !old p.2) ∧
    Sorted (periodicCleanupGo old cap fuel t) := by
  induction fuel generalizing t with
  | zero => omega
  | succ n ih =>
    cases t with
    | nil => simp [periodicCleanupGo, Tree.inorder, Sorted]
    | node a b c d =>
      simp only [periodicCleanupGo]
      generalize Tree.node a b c d = t at hs hf ⊢
      have hk : tagOld old cap t [] = (post old t).take cap := by
        rw [tagOld_eq _ _ _ _ (Nat.zero_le _)]; simp
      rw [hk]
      have hn : ((post old t).take cap).Nodup :=
        List.Nodup.sublist (List.take_sublist _ _) (post_nodup old _ hs)
      have hsub : ∀ k ∈ (post old t).take cap,
          ∃ w, (k, w) ∈ t.inorder ∧ old w = true :=
        fun k hk' => (mem_post old _ k).1 (List.mem_of_mem_take hk')
      have hm : ∀ k ∈ (post old t).take cap, ∃ w, (k, w) ∈ t.inorder :=
        fun k hk' => let ⟨w, h1, _⟩ := hsub k hk'; ⟨w, h1⟩
      have hold : ∀ p ∈ t.inorder, p.1 ∈ (post old t).take cap →
          old p.2 = true := by
        intro p hp hpk
        obtain ⟨w, h1, h2⟩ := hsub p.1 hpk
        have : w = p.2 := key_unique hs h1 hp
        rw [← this]; exact h2
      obtain ⟨e, s⟩ := deleteKeys_inorder _ _ hs hn hm
      split
      · rename_i hfull  -- a full batch removed at least one node: the smaller tree fits the remaining fuel
        have hlt : (deleteKeys t ((post old t).take cap)).size < n := by
          rw [size_eq_length, e]
          have h1 : t.inorder.length ≤ n := by rw [← size_eq_length]; omega
          have h2 : (List.filter (fun p => decide (p.1 ∉ (post old t).take cap))
              t.inorder).length < t.inorder.length := by
            apply List.length_filter_lt_length_iff_exists.2
            obtain ⟨k0, hk0⟩ := List.exists_mem_of_length_pos (l := (post old t).take cap)
              (by omega)
            obtain ⟨w, h1⟩ := hm k0 hk0
            exact ⟨(k0, w), h1, by simpa using hk0⟩
          omega
        obtain ⟨e2, s2⟩ := ih _ s hlt
        refine ⟨?_, s2⟩
        rw [e2, e, List.filter_filter]
        apply List.filter_congr
        intro p hp
        by_cases hpk : p.1 ∈ (post old t).take cap
        · simp [hpk, hold p hp hpk]
        · simp [hpk]
      · rename_i hfull  -- a short batch: every expired key was tagged
        refine ⟨?_, s⟩
        have hall : (post old t).take cap = post old t := by
          apply List.take_of_length_le
          simp only [List.length_take] at hfull; omega
        rw [e]
        apply List.filter_congr
        intro p hp
        by_cases ho : old p.2 = true
        · have : p.1 ∈ (post old t).take cap := by
            rw [hall]; exact (mem_post old _ p.1).2 ⟨p.2, hp, ho⟩
          simp [this, ho]
        · have : p.1 ∉ (post old t).take cap := fun h => ho (hold p hp h)
          simp [this, ho]

theorem periodicCleanup_inorder (old : α → Bool) (cap : Nat) (hcap : 0 < cap) (t : Tree α) (hs : Sorted t) :
    (periodicCleanup old cap t).inorder = t.inorder.filter (fun p => !old p.2) ∧
    Sorted (periodicCleanup old cap t) :=
  periodicCleanupGo_inorder old cap hcap _ t hs (Nat.lt_succ_self _)

end LtVerif.AuthSplay
