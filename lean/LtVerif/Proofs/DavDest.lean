/-
  C18 — the Destination header: whatever mod_webdav_copymove_b accepts is a canonical absolute path
  (no empty, "." or ".." segment), so the physical destination is the document root followed by clean
  segments.
-/
import LtVerif.Proofs.Path
import LtVerif.Model.Dav

namespace LtVerif.Dav
open LtVerif LtVerif.B

theorem urldecodePath_head {b : UInt8} (hb : b ≠ pct) (rest : Bytes) :
    (urldecodePath (b :: rest)).head? = some b := by
  match rest with
  | [] => simp [urldecodePath]
  | [x] => simp [urldecodePath]
  | h :: l :: r => simp [urldecodePath, hb]

theorem idxOf_drop_head {b : UInt8} : ∀ {l : Bytes} {i : Nat}, idxOf b l = some i → (l.drop i).head? = some b
  | [], _, h => by simp [idxOf] at h
  | x :: xs, i, h => by
    simp only [idxOf] at h
    split at h
    · rename_i hx
      simp only [Option.some.injEq] at h
      subst h
      simp [hx]
    · cases hr : idxOf b xs with
      | none => simp [hr] at h
      | some j =>
        simp only [hr, Option.map_some, Option.some.injEq] at h
        subst h
        simpa using idxOf_drop_head hr

theorem pathSimplify_canonical (s : Bytes) (h : s.head? = some slash) : CanonicalAbs (pathSimplify s) := by
  cases s with
  | nil => cases h
  | cons x t => cases h; exact pathSimplify_abs_canonical t

theorem destPath_canonical {start p : Bytes} (hs : start.head? = some slash) (h : destPath start = .ok p) :
    CanonicalAbs p := by
  unfold destPath at h
  dsimp only at h
  split at h
  · simp at h
  split at h
  · simp at h
  simp only [Except.ok.injEq] at h
  subst h
  apply pathSimplify_canonical
  cases start with
  | nil => simp at hs
  | cons x t =>
    simp only [List.head?_cons, Option.some.injEq] at hs
    subst hs
    have : (slash != qmark) = true := by decide
    rw [List.takeWhile_cons, if_pos this]
    exact urldecodePath_head (by decide) _

theorem parseDest_canonical {scheme authority raw p : Bytes} (h : parseDest scheme authority raw = .ok p) :
    CanonicalAbs p := by
  unfold parseDest at h
  split at h
  · rename_i hh                                    -- a path only
    exact destPath_canonical (by simpa using hh) h
  dsimp only at h
  split at h
  · simp at h                                      -- another scheme
  split at h
  · simp at h                                      -- no '/' after the authority
  rename_i i hi
  have hhead := idxOf_drop_head hi
  split at h
  · exact destPath_canonical hhead h               -- host = authority
  split at h
  · simp at h                                      -- another host, no userinfo
  split at h
  · exact destPath_canonical hhead h               -- userinfo@authority
  · simp at h

theorem toRPath_clean {p : Bytes} (h : CanonicalAbs p) : AllClean (toRPath p).segs := by
  obtain ⟨stack, hc, hs⟩ := canonical_split h
  unfold toRPath
  rcases hs with hs | ⟨hne, hs⟩
  · simp only [hs, List.cons_append, List.drop_succ_cons, List.drop_zero]
    simp only [List.getLast?_append, List.getLast?_singleton, Option.some_or]
    simpa using hc
  · simp only [hs, List.drop_succ_cons, List.drop_zero]
    cases hl : stack.getLast? with
    | none =>
      simp [List.getLast?_eq_none_iff] at hl
      exact absurd hl hne
    | some x =>
      have hcl := (hc _ (List.mem_of_getLast? hl)).1
      split
      · rename_i heq
        simp only [Option.some.injEq] at heq
        exact absurd heq hcl
      · exact hc
      · rename_i heq; simp at heq

theorem mkDest_ok {root : Path} {scheme authority : Bytes} {raw : Option Bytes} {d : RPath}
    (h : mkDest root scheme authority raw = .ok d) :
    ∃ v p, raw = some v ∧ parseDest scheme authority v = .ok p ∧
      d = ⟨root ++ (toRPath p).segs, (toRPath p).slash⟩ := by
  unfold mkDest at h
  split at h
  · cases h
  split at h
  · cases h
  · cases h
    exact ⟨_, _, rfl, ‹_›, rfl⟩

end LtVerif.Dav
