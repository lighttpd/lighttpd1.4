/-
  The server's state in the connection-lifetime model (C13): the connection table (`keys`, `Sys.WF`), the
  accounting (`Sys.total`, `Sys.fdsBase`, `Neutral`, `Tame`, `Calm`), one connection among the others
  (`Sys.AllRest`), and `Sim`, what a phase of a step does to a consistent state.
-/
import LtVerif.Proofs.LifeConn
namespace LtVerif.Lifecycle

/-! ## the connection table -/

def keys (l : List (Nat × Conn)) : List Nat := l.map Prod.fst

theorem lookup_none_iff (l : List (Nat × Conn)) (i : Nat) : lookupConn l i = none ↔ i ∉ keys l := by
  induction l with
  | nil => simp [lookupConn, keys]
  | cons p rest ih =>
    by_cases h : p.1 = i
    · simp [lookupConn, keys, h]
    · simp [lookupConn, keys, h, ih, Ne.symm h]

theorem lookup_setConn_ne (l : List (Nat × Conn)) (i j : Nat) (c : Conn) (h : j ≠ i) :
    lookupConn (setConn l j c) i = lookupConn l i := by
  induction l with
  | nil => rfl
  | cons p rest ih =>
    by_cases hk : p.1 = j
    · simp [setConn, lookupConn, hk, h]
    · simp [setConn, lookupConn, hk, ih]

theorem lookup_setConn_self (l : List (Nat × Conn)) (i : Nat) (c c0 : Conn) (h : lookupConn l i = some c0) :
    lookupConn (setConn l i c) i = some c := by
  induction l with
  | nil => simp [lookupConn] at h
  | cons p rest ih =>
    by_cases hk : p.1 = i
    · simp [setConn, lookupConn, hk]
    · simp only [lookupConn, hk, if_false] at h
      simp [setConn, lookupConn, hk, ih h]

theorem keys_setConn (l : List (Nat × Conn)) (i : Nat) (c : Conn) : keys (setConn l i c) = keys l := by
  induction l with
  | nil => rfl
  | cons p rest ih =>
    by_cases hk : p.1 = i
    · simp [setConn, keys, hk]
    · simp only [keys] at ih
      simp [setConn, keys, hk, ih]

theorem lookup_eraseConn_ne (l : List (Nat × Conn)) (i j : Nat) (h : j ≠ i) :
    lookupConn (eraseConn l j) i = lookupConn l i := by
  induction l with
  | nil => rfl
  | cons p rest ih =>
    by_cases hk : p.1 = j
    · simp [eraseConn, lookupConn, hk, h]
    · simp [eraseConn, lookupConn, hk, ih]

theorem keys_eraseConn_sublist (l : List (Nat × Conn)) (i : Nat) : (keys (eraseConn l i)).Sublist (keys l) := by
  induction l with
  | nil => exact List.Sublist.refl _
  | cons p rest ih =>
    by_cases hk : p.1 = i
    · simp [eraseConn, keys, hk]
    · simpa [eraseConn, keys, hk] using ih

theorem lookup_eraseConn_self (l : List (Nat × Conn)) (i : Nat) (hn : (keys l).Nodup) :
    lookupConn (eraseConn l i) i = none := by
  induction l with
  | nil => rfl
  | cons p rest ih =>
    simp only [keys, List.map_cons, List.nodup_cons] at hn
    by_cases hk : p.1 = i
    · simp only [eraseConn, hk, if_true]
      exact (lookup_none_iff rest i).mpr (hk ▸ hn.1)
    · simp only [eraseConn, hk, if_false, lookupConn]
      exact ih hn.2

theorem setConn_length (l : List (Nat × Conn)) (i : Nat) (c : Conn) :
    (setConn l i c).length = l.length := by
  simpa [keys] using congrArg List.length (keys_setConn l i c)

theorem eraseConn_length (l : List (Nat × Conn)) (i : Nat) (c : Conn) (h : lookupConn l i = some c) :
    (eraseConn l i).length + 1 = l.length := by
  induction l with
  | nil => simp [lookupConn] at h
  | cons p rest ih =>
    by_cases hk : p.1 = i
    · simp [eraseConn, hk]
    · simp only [lookupConn, hk, if_false] at h
      simp [eraseConn, hk, ih h]

structure Sys.WF (s : Sys) : Prop where
  keysNodup : (keys s.conns).Nodup
  backlogNodup : s.backlog.Nodup
  disjoint : ∀ j, j ∈ s.backlog → lookupConn s.conns j = none

@[simp] theorem modClient_conn (s : Sys) (j i : Nat) (f : Client → Client) : (s.modClient j f).conn i = s.conn i := rfl

/-! ## slot-neutral operations -/

/-- slots in use + slots free -/
def Sys.total (s : Sys) : Nat := s.conns.length + s.lim

/-- `s'` differs from `s` only by connections that changed or ended -/
structure Neutral (s s' : Sys) : Prop where
  total : s'.total = s.total
  lim : s.lim ≤ s'.lim
  backlog : s'.backlog = s.backlog
  disabled : s'.disabled = s.disabled
  graceful : s'.graceful = s.graceful
  exited : s'.exited = s.exited
  now : s'.now = s.now
  expireTs : s'.expireTs = s.expireTs

/-- descriptors in use that are not client connections -/
def Sys.fdsBase (s : Sys) : Int := s.curFds - s.conns.length

/-- what the slot-neutral operations also keep -/
structure Tame (s s' : Sys) : Prop where
  fds : s'.fdsBase = s.fdsBase
  keysSub : ∀ k, k ∈ keys s'.conns → k ∈ keys s.conns

/-- what release, putConn, onConn, sweep and writes to client records do: connections change or end, none
    is added; accounting, listen queue, flags and clock stay (so `Neutral`, `Tame`; WF is kept) -/
structure Calm (s s' : Sys) : Prop where
  sub : (keys s'.conns).Sublist (keys s.conns)
  total : s'.total = s.total
  fds : s'.fdsBase = s.fdsBase
  backlog : s'.backlog = s.backlog
  disabled : s'.disabled = s.disabled
  graceful : s'.graceful = s.graceful
  exited : s'.exited = s.exited
  now : s'.now = s.now
  expireTs : s'.expireTs = s.expireTs

theorem calm_clients (s : Sys) (cls : List Client) : Calm s { s with clients := cls } :=
  ⟨List.Sublist.refl _, rfl, rfl, rfl, rfl, rfl, rfl, rfl, rfl⟩

theorem Calm.refl (s : Sys) : Calm s s := calm_clients s s.clients

theorem Calm.trans {a b c : Sys} (h1 : Calm a b) (h2 : Calm b c) : Calm a c :=
  ⟨h2.sub.trans h1.sub, h2.total.trans h1.total, h2.fds.trans h1.fds, h2.backlog.trans h1.backlog,
   h2.disabled.trans h1.disabled, h2.graceful.trans h1.graceful, h2.exited.trans h1.exited,
   h2.now.trans h1.now, h2.expireTs.trans h1.expireTs⟩

theorem Calm.conns_le {s s' : Sys} (h : Calm s s') : s'.conns.length ≤ s.conns.length := by
  simpa [keys] using h.sub.length_le

theorem Calm.neutral {s s' : Sys} (h : Calm s s') : Neutral s s' :=
  ⟨h.total, by have := h.total; have := h.conns_le; simp only [Sys.total] at *; omega,
   h.backlog, h.disabled, h.graceful, h.exited, h.now, h.expireTs⟩

theorem Calm.tame {s s' : Sys} (h : Calm s s') : Tame s s' := ⟨h.fds, fun _ hk => h.sub.subset hk⟩

theorem Calm.wf {s s' : Sys} (h : Calm s s') (hw : s.WF) : s'.WF :=
  ⟨h.sub.nodup hw.keysNodup, h.backlog ▸ hw.backlogNodup, fun j hj => by
    rw [lookup_none_iff]
    exact fun hm => (lookup_none_iff _ _).mp (hw.disjoint j (h.backlog ▸ hj)) (h.sub.subset hm)⟩

theorem calm_setClient (s : Sys) (i : Nat) (c : Client) : Calm s (s.setClient i c) := calm_clients s _

theorem calm_modClient (s : Sys) (i : Nat) (f : Client → Client) : Calm s (s.modClient i f) :=
  calm_setClient s i _

theorem calm_release (s : Sys) (i : Nat) : Calm s (s.release i) := by
  unfold Sys.release
  split
  · exact Calm.refl s
  · rename_i c h
    have := eraseConn_length s.conns i c h
    refine ⟨keys_eraseConn_sublist s.conns i, ?_, ?_, rfl, rfl, rfl, rfl, rfl, rfl⟩
    · simp only [Sys.total]; omega
    · simp only [Sys.fdsBase]; omega

theorem calm_setConn (s : Sys) (i : Nat) (c : Conn) : Calm s { s with conns := setConn s.conns i c } :=
  ⟨by rw [keys_setConn]; exact List.Sublist.refl _, by simp [Sys.total, setConn_length],
   by simp [Sys.fdsBase, setConn_length], rfl, rfl, rfl, rfl, rfl, rfl⟩

theorem calm_putConn (s : Sys) (i : Nat) (r : CRes) : Calm s (s.putConn i r) := by
  unfold Sys.putConn
  split
  · exact (calm_modClient s i _).trans ((calm_release _ i).trans (calm_modClient _ i _))
  · have h := (calm_modClient s i _).trans
      (calm_setConn (s.modClient i fun cl => { cl with inbox := cl.inbox ++ r.2 }) i ‹Conn›)
    split
    · exact h.trans (calm_modClient _ i _)
    · exact h

theorem calm_onConn (s : Sys) (i : Nat) (f : Conn → CRes) : Calm s (s.onConn i f) := by
  unfold Sys.onConn
  split
  · exact Calm.refl s
  · exact calm_putConn s i _

theorem calm_foldl {α : Type} (f : Sys → α → Sys) (hf : ∀ s x, Calm s (f s x)) (l : List α) (s : Sys) :
    Calm s (l.foldl f s) := by
  induction l generalizing s with
  | nil => exact Calm.refl s
  | cons x xs ih => exact (hf s x).trans (ih (f s x))

theorem calm_sweep (s : Sys) (f : Conn → Option Conn) : Calm s (s.sweep f) :=
  calm_foldl _ (fun s p => by split <;> exact calm_putConn s _ _) _ s

theorem foldl_modClient_eq {α : Type} (g : α → Nat) (f : α → Client → Client) (l : List α) (s : Sys) :
    ∃ cls, l.foldl (fun s x => s.modClient (g x) (f x)) s = { s with clients := cls } := by
  induction l generalizing s with
  | nil => exact ⟨s.clients, rfl⟩
  | cons x xs ih => exact ih (s.modClient (g x) (f x))

theorem markAccepted_eq (s : Sys) : ∃ cls, s.markAccepted = { s with clients := cls } :=
  foldl_modClient_eq (fun p : Nat × Conn => p.1) (fun _ cl => { cl with accepted := true }) s.conns s

theorem resetBacklog_eq (s : Sys) : ∃ cls, s.resetBacklog = { s with clients := cls } :=
  foldl_modClient_eq (fun j : Nat => j) (fun _ cl => { cl with srvFin := true, reset := 1 }) s.backlog s

theorem calm_markAccepted (s : Sys) : Calm s s.markAccepted := by
  obtain ⟨cls, h⟩ := markAccepted_eq s
  rw [h]; exact calm_clients s cls

theorem tame_resetBacklog (s : Sys) : Tame s s.resetBacklog := by
  obtain ⟨cls, h⟩ := resetBacklog_eq s
  rw [h]; exact (calm_clients s cls).tame

/-! ## one connection among the others -/

theorem release_conn_ne (s : Sys) (i j : Nat) (h : j ≠ i) : (s.release j).conn i = s.conn i := by
  unfold Sys.release
  split
  · rfl
  · exact lookup_eraseConn_ne s.conns i j h

theorem release_conn_self (s : Sys) (i : Nat) (h : s.WF) : (s.release i).conn i = none := by
  unfold Sys.release
  split
  · rename_i hn; exact hn
  · exact lookup_eraseConn_self s.conns i h.keysNodup

theorem putConn_conn_ne (s : Sys) (i j : Nat) (r : CRes) (h : j ≠ i) : (s.putConn j r).conn i = s.conn i := by
  unfold Sys.putConn
  split
  · simp only [modClient_conn]; exact release_conn_ne _ i j h
  · split
    · simp only [modClient_conn]; exact lookup_setConn_ne s.conns i j _ h
    · exact lookup_setConn_ne s.conns i j _ h

theorem putConn_conn_self (s : Sys) (i : Nat) (r : CRes) (c0 : Conn) (h : s.WF) (hc : s.conn i = some c0) :
    (s.putConn i r).conn i = r.1 := by
  unfold Sys.putConn
  split
  · rename_i hr
    simp only [modClient_conn]
    rw [hr]
    exact release_conn_self _ i ((calm_modClient _ _ _).wf h)
  · rename_i c hr
    rw [hr]
    split
    · simp only [modClient_conn]; exact lookup_setConn_self s.conns i c c0 hc
    · exact lookup_setConn_self s.conns i c c0 hc

theorem onConn_conn_ne (s : Sys) (i j : Nat) (f : Conn → CRes) (h : j ≠ i) : (s.onConn j f).conn i = s.conn i := by
  unfold Sys.onConn
  split
  · rfl
  · exact putConn_conn_ne s i j _ h

theorem putConn_head (s : Sys) (j : Nat) (c : Conn) (l : List (Nat × Conn)) (h : s.conns = (j, c) :: l)
    (r : CRes) : (s.putConn j r).conns = match r.1 with | none => l | some c' => (j, c') :: l := by
  obtain ⟨o, out⟩ := r
  cases o with
  | none => simp [Sys.putConn, Sys.release, Sys.modClient, Sys.setClient, h, lookupConn, eraseConn]
  | some c' =>
    simp only [Sys.putConn]
    split <;> simp [Sys.modClient, Sys.setClient, h, setConn]

theorem onConn_head (s : Sys) (j : Nat) (c : Conn) (l : List (Nat × Conn)) (h : s.conns = (j, c) :: l)
    (g : Conn → CRes) : (s.onConn j g).conns = match (g c).1 with | none => l | some c' => (j, c') :: l := by
  have : s.conn j = some c := by simp [Sys.conn, h, lookupConn]
  unfold Sys.onConn
  rw [this]
  exact putConn_head s j c l h _

theorem lookup_of_mem (l : List (Nat × Conn)) (hn : (keys l).Nodup) : ∀ p ∈ l, lookupConn l p.1 = some p.2 := by
  induction l with
  | nil => intro p hp; cases hp
  | cons q rest ih =>
    intro p hp
    obtain ⟨k, d⟩ := q
    simp only [keys, List.map_cons, List.nodup_cons] at hn
    rcases List.mem_cons.mp hp with rfl | hp
    · simp [lookupConn]
    · have hne : k ≠ p.1 := fun he => hn.1 (by rw [he]; exact List.mem_map_of_mem hp)
      simp only [lookupConn, hne, if_false]
      exact ih hn.2 p hp

theorem sweep_eq (s : Sys) (f : Conn → Option Conn) :
    s.sweep f = s.conns.foldl (fun s p => s.putConn p.1 (f p.2, [])) s := by
  unfold Sys.sweep
  congr 1

theorem sweep_conn (s : Sys) (f : Conn → Option Conn) (i : Nat) (h : s.WF) :
    (s.sweep f).conn i = (s.conn i).bind f := by
  -- along the table: the entries still to come are untouched, the one for `i` is written once
  have key : ∀ (l : List (Nat × Conn)) (s : Sys), s.WF → (keys l).Nodup →
      (∀ p ∈ l, s.conn p.1 = some p.2) →
      (l.foldl (fun s p => s.putConn p.1 (f p.2, [])) s).conn i =
        (match lookupConn l i with | some c => f c | none => s.conn i) := by
    intro l
    induction l with
    | nil => intro s _ _ _; rfl
    | cons p rest ih =>
      intro s hs hn hl
      obtain ⟨j, d⟩ := p
      simp only [keys, List.map_cons, List.nodup_cons] at hn
      have hjd : s.conn j = some d := hl (j, d) List.mem_cons_self
      have hrest : ∀ q ∈ rest, (s.putConn j (f d, [])).conn q.1 = some q.2 := fun q hq => by
        have hne : j ≠ q.1 := fun he => hn.1 (by rw [he]; exact List.mem_map_of_mem hq)
        rw [putConn_conn_ne s q.1 j _ hne]
        exact hl q (List.mem_cons_of_mem _ hq)
      rw [List.foldl_cons, ih _ ((calm_putConn s j _).wf hs) hn.2 hrest]
      by_cases hji : j = i
      · subst hji
        rw [(lookup_none_iff rest j).mpr hn.1]
        simp only [lookupConn, if_true]
        exact putConn_conn_self s j _ d hs hjd
      · simp only [lookupConn, hji, if_false]
        rw [putConn_conn_ne s i j _ hji]
  rw [sweep_eq, key s.conns s h h.keysNodup (lookup_of_mem s.conns h.keysNodup)]
  simp only [Sys.conn]
  cases lookupConn s.conns i <;> rfl

def Sys.AllRest (s : Sys) : Prop := ∀ j c, s.conn j = some c → c.Rest

/-! ## what a phase of a step does to a consistent state -/

theorem eq_false_of_imp {a b : Bool} (h : a = true → b = true) (hb : b = false) : a = false := by
  cases a
  · rfl
  · rw [h rfl] at hb; cases hb

/-- from a consistent state: consistency and rest are kept, and for every client other than `own` that was not
    waiting, its connection has run through the events `tr` (unless the main loop has returned) -/
structure Sim (cfg : Cfg) (own : Option Nat) (tr : List IdleEv) (s t : Sys) : Prop where
  now : 0 < s.now → 0 < t.now
  exited : s.exited = true → t.exited = true
  wf : s.WF → t.WF
  rest : s.WF → 0 < s.now → s.AllRest → t.AllRest
  frame : s.WF → ∀ i, own ≠ some i → i ∉ s.backlog →
    i ∉ t.backlog ∧ (t.exited = false → t.conn i = runIdle cfg (s.conn i) tr)

theorem Sim.trans {cfg : Cfg} {own : Option Nat} {tr1 tr2 : List IdleEv} {a b c : Sys}
    (h1 : Sim cfg own tr1 a b) (h2 : Sim cfg own tr2 b c) : Sim cfg own (tr1 ++ tr2) a c :=
  ⟨fun hn => h2.now (h1.now hn), fun he => h2.exited (h1.exited he), fun hw => h2.wf (h1.wf hw),
   fun hw hn hr => h2.rest (h1.wf hw) (h1.now hn) (h1.rest hw hn hr),
   fun hw i ho hi =>
    have f1 := h1.frame hw i ho hi
    have f2 := h2.frame (h1.wf hw) i ho f1.1
    ⟨f2.1, fun he => by rw [f2.2 he, f1.2 (eq_false_of_imp h2.exited he), runIdle_append]⟩⟩

theorem Sim.mono {cfg : Cfg} {own : Option Nat} {tr : List IdleEv} {s t : Sys} (h : Sim cfg none tr s t) :
    Sim cfg own tr s t :=
  ⟨h.now, h.exited, h.wf, h.rest, fun hw i _ hi => h.frame hw i (fun e => by cases e) hi⟩

theorem sim_same (cfg : Cfg) {own : Option Nat} {s t : Sys} (hc : t.conns = s.conns) (hb : t.backlog = s.backlog)
    (hn : s.now ≤ t.now) (he : s.exited = true → t.exited = true) : Sim cfg own [] s t :=
  ⟨fun h => by omega, he, fun hw => ⟨hc ▸ hw.keysNodup, hb ▸ hw.backlogNodup, by rw [hb, hc]; exact hw.disjoint⟩,
   fun _ _ hr k c hk => hr k c (by rwa [Sys.conn, hc] at hk),
   fun _ i _ hi => ⟨hb ▸ hi, fun _ => by rw [Sys.conn, hc, runIdle_nil]; rfl⟩⟩

theorem sim_onConn (cfg : Cfg) (s : Sys) (j : Nat) (f : Conn → CRes)
    (hf : 0 < s.now → ∀ c, c.Rest → ∀ c', (f c).1 = some c' → c'.Rest) : Sim cfg (some j) [] s (s.onConn j f) := by
  have hc := calm_onConn s j f
  refine ⟨fun h => hc.now ▸ h, fun h => hc.exited.trans h, hc.wf, fun hw hn h => ?_, fun _ i ho hi =>
    ⟨hc.backlog ▸ hi, fun _ => by rw [onConn_conn_ne s i j f (fun e => ho (e ▸ rfl)), runIdle_nil]⟩⟩
  unfold Sys.onConn
  split
  · exact h
  · rename_i c0 hc0
    intro k c hk
    by_cases hkj : j = k
    · subst hkj
      rw [putConn_conn_self s j _ c0 hw hc0] at hk
      exact hf hn c0 (h j c0 hc0) c hk
    · rw [putConn_conn_ne s k j _ hkj] at hk
      exact h k c hk

/-- a sweep is, for every connection, one idle event -/
theorem sim_sweep (cfg : Cfg) (s : Sys) (f : Conn → Option Conn) (ev : IdleEv) (hf : ∀ c, f c = idleStep cfg c ev)
    (hr : ∀ c, c.Rest → ∀ c', f c = some c' → c'.Rest) : Sim cfg none [ev] s (s.sweep f) :=
  have hc := calm_sweep s f
  ⟨fun h => hc.now ▸ h, fun h => hc.exited.trans h, hc.wf,
   fun hw _ h k c hk => by
    rw [sweep_conn s f k hw] at hk
    cases hc0 : s.conn k with
    | none => rw [hc0] at hk; cases hk
    | some c0 => rw [hc0] at hk; exact hr c0 (h k c0 hc0) c hk,
   fun hw i _ hi => ⟨hc.backlog ▸ hi, fun _ => by
    rw [sweep_conn s f i hw]
    cases s.conn i with
    | none => rfl
    | some c => simp only [Option.bind, runIdle, hf]; cases idleStep cfg c ev <;> rfl⟩⟩

end LtVerif.Lifecycle
