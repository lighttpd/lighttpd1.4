/-
  mod_evhost (Model/Docroot.lean): the "%n" table of mod_evhost_parse_host() and what a pattern piece can
  contribute to the doc root - no '/', never ".."; `litSlashes` counts the '/' of the pattern text.
-/
import LtVerif.Proofs.DocrootHost
namespace LtVerif
open B

theorem slice_subset {a : Bytes} {i j : Nat} {b : UInt8} (h : b ∈ slice a i j) : b ∈ a := by
  unfold slice at h
  exact (List.take_sublist _ _).subset ((List.drop_sublist _ _).subset h)

theorem mem_slice {a : Bytes} {i j : Nat} {b : UInt8} (h : b ∈ slice a i j) :
    ∃ k, i ≤ k ∧ k < j ∧ a.getD k 0 = b := by
  unfold slice at h
  obtain ⟨m, hm⟩ := List.mem_iff_getElem?.mp h
  rw [List.getElem?_drop, List.getElem?_take] at hm
  split at hm
  · rename_i hlt
    exact ⟨i + m, by omega, hlt, by simp [List.getD_eq_getElem?_getD, hm]⟩
  · simp at hm

theorem slice_ne_nil {a : Bytes} {i j : Nat} (h1 : i < j) (h2 : j ≤ a.length) : slice a i j ≠ [] := by
  intro e
  have := congrArg List.length e
  simp only [slice, List.length_drop, List.length_take, List.length_nil] at this
  omega

theorem slice_cons {a : Bytes} {i j : Nat} (h1 : i < j) (h2 : j ≤ a.length) :
    slice a i j = a.getD i 0 :: slice a (i + 1) j := by
  unfold slice
  have hi : i < (a.take j).length := by simp [List.length_take]; omega
  rw [List.drop_eq_getElem_cons hi]
  congr 1
  simp [List.getD_eq_getElem?_getD, List.getElem_take, List.getElem?_eq_getElem (show i < a.length by omega)]

theorem slice_empty {a : Bytes} {i j : Nat} (h : j ≤ i) : slice a i j = [] := by
  unfold slice
  apply List.drop_eq_nil_of_le
  simp [List.length_take]; omega

/-- first loop of mod_evhost_parse_host(): `a[q+1..col)` holds no '.' while `first`, one afterwards; so %0,
    cut at the second '.', holds at most one -/
theorem evLoop1_count (a : Bytes) : ∀ (q col : Nat) (first : Bool), col ≤ a.length → q ≤ col →
    (q = col → q = a.length ∧ first = true) →
    (slice a (q + 1) col).count dot = (if first then 0 else 1) →
    ∀ ptr c, evLoop1 a q col first = (ptr, c) →
      (slice a (if a.getD ptr 0 = dot then ptr + 1 else ptr) c).count dot ≤ 1 ∧ c ≤ a.length := by
  intro q
  induction q with
  | zero =>
    intro col first hc _ _ hcnt ptr c he
    cases he
    refine ⟨?_, hc⟩
    by_cases h0 : a.getD 0 0 = dot
    · rw [if_pos h0, hcnt]; split <;> omega
    · rw [if_neg h0]
      by_cases hcol : 0 < col
      · rw [slice_cons hcol hc, List.count_cons]
        simp only [beq_iff_eq, h0, if_false, Nat.add_zero]
        rw [hcnt]; split <;> omega
      · rw [slice_empty (by omega)]; simp
  | succ p ih =>
    intro col first hc hq hqc hcnt ptr c he
    -- the byte examined: a[p+1]; if p+1 = col it is the terminating NUL
    have hstep : p + 1 < col ∨ (p + 1 = col ∧ a.getD (p + 1) 0 = 0 ∧ first = true) := by
      by_cases e : p + 1 = col
      · right
        obtain ⟨e1, e2⟩ := hqc e
        exact ⟨e, by rw [e1]; simp [List.getD_eq_getElem?_getD], e2⟩
      · left; omega
    rw [evLoop1] at he
    by_cases hd : a.getD (p + 1) 0 = dot
    · have hlt : p + 1 < col := by
        rcases hstep with h | ⟨_, h0, _⟩
        · exact h
        · rw [h0] at hd; exact absurd hd (by decide)
      simp only [hd, if_true] at he
      cases first with
      | true =>   -- the first '.': go on
        refine ih col false hc (by omega) (by intro e; omega) ?_ ptr c he
        rw [slice_cons hlt hc, hd, List.count_cons_self, hcnt]; simp
      | false =>   -- the second '.': stop behind it
        cases he
        rw [if_pos hd, hcnt]; exact ⟨by simp, hc⟩
    · simp only [hd, if_false] at he
      by_cases hco : a.getD (p + 1) 0 = colon
      · simp only [hco, if_true] at he   -- ':' : the value ends here, count afresh
        refine ih (p + 1) true (by omega) (by omega) (by intro e; omega) ?_ ptr c he
        rw [slice_empty (Nat.le_refl _)]; simp
      · simp only [hco, if_false] at he
        refine ih col first hc (by omega) (by intro e; omega) ?_ ptr c he
        rcases hstep with hlt | ⟨e, _, hf⟩
        · rw [slice_cons hlt hc, List.count_cons]
          simp only [beq_iff_eq, hd, if_false, Nat.add_zero]; exact hcnt
        · rw [slice_empty (by omega), hf]; simp

/-- a label %1, %2, ... of the "%n" table -/
def EvLabel (a : Bytes) (e : Nat × Bytes) : Prop :=
  1 ≤ e.1 ∧ ∃ s t, e.2 = slice a s t ∧ s < t ∧ t ≤ a.length ∧ ∀ k, s ≤ k → k < t → a.getD k 0 ≠ dot

theorem EvLabel.spec {a : Bytes} {e : Nat × Bytes} (h : EvLabel a e) :
    1 ≤ e.1 ∧ (∃ s t, e.2 = slice a s t) ∧ e.2 ≠ [] ∧ dot ∉ e.2 := by
  obtain ⟨h1, s, t, he, hst, ht, hnd⟩ := h
  refine ⟨h1, ⟨s, t, he⟩, he ▸ slice_ne_nil hst ht, fun hm => ?_⟩
  obtain ⟨k, hk1, hk2, hk3⟩ := mem_slice (he ▸ hm)
  exact hnd k hk1 hk2 hk3

/-- second loop of mod_evhost_parse_host() (index 0 is never examined): `acc` grows by `EvLabel`s,
    `a[1..col)` holds no '.' -/
theorem evLoop2_spec (a : Bytes) : ∀ (p col i : Nat) (acc : List (Nat × Bytes)),
    p < col → col ≤ a.length → (∀ j, p < j → j < col → a.getD j 0 ≠ dot) → 1 ≤ i →
    ∃ more, (evLoop2 a p col i acc).2.2 = acc ++ more ∧ (∀ e ∈ more, EvLabel a e) ∧
      1 ≤ (evLoop2 a p col i acc).2.1 ∧ 0 < (evLoop2 a p col i acc).1 ∧
      (evLoop2 a p col i acc).1 ≤ a.length ∧
      ∀ j, 0 < j → j < (evLoop2 a p col i acc).1 → a.getD j 0 ≠ dot := by
  intro p
  induction p with
  | zero =>
    intro col i acc hpc hcl hnd hi
    exact ⟨[], by simp [evLoop2], by simp, hi, hpc, hcl, fun j h1 h2 => hnd j h1 h2⟩
  | succ q ih =>
    intro col i acc hpc hcl hnd hi
    rw [evLoop2]
    by_cases hdot : a.getD (q + 1) 0 = dot
    · rw [if_pos hdot]
      by_cases hne : q + 1 ≠ col - 1
      · rw [if_pos hne]
        obtain ⟨more, h1, h2, h3⟩ := ih (q + 1) (i + 1) (acc ++ [(i, slice a (q + 2) col)]) (by omega)
          (by omega) (by intro j h1 h2; omega) (by omega)
        refine ⟨(i, slice a (q + 2) col) :: more, by rw [h1]; simp, ?_, h3⟩
        intro e he
        rcases List.mem_cons.mp he with rfl | he
        · exact ⟨hi, _, _, rfl, by omega, hcl, fun k hk1 hk2 => hnd k (by omega) hk2⟩
        · exact h2 e he
      · rw [if_neg hne]
        exact ih (q + 1) i acc (by omega) (by omega) (by intro j h1 h2; omega) hi
    · rw [if_neg hdot]
      apply ih col i acc (by omega) hcl _ hi
      intro j h1 h2
      by_cases e : j = q + 1
      · subst e; exact hdot
      · exact hnd j (by omega) h2

/-- the "%n" table of mod_evhost_parse_host(): for a "[...]" literal nothing or %0 alone; else %0 with at most
    one '.', and labels cut from the authority that are clean unless it starts with '.' -/
inductive EvTable (a : Bytes) : List (Nat × Bytes) → Prop
  | noPort : a.head? = some 91 → EvTable a []
  | literal (n : Nat) : a.head? = some 91 → EvTable a [(0, a.take n)]
  | labels (s t : Nat) (more : List (Nat × Bytes)) : (slice a s t).count dot ≤ 1 →
      (∀ e ∈ more, 1 ≤ e.1 ∧ (∃ s t, e.2 = slice a s t) ∧ (a.getD 0 0 ≠ dot → e.2 ≠ [] ∧ dot ∉ e.2)) →
      EvTable a ((0, slice a s t) :: more)

theorem evParseHost_shape (a : Bytes) : EvTable a (evParseHost a) := by
  unfold evParseHost
  dsimp only
  by_cases hb : a.head? = some 91
  · rw [if_pos hb]
    split
    · split
      · exact .noPort hb
      · exact .literal _ hb
    · simpa using EvTable.literal a.length hb
  · rw [if_neg hb]
    generalize hpc : evLoop1 a a.length a.length true = pc
    obtain ⟨ptr, col⟩ := pc
    obtain ⟨hcnt, hcol⟩ := evLoop1_count a a.length a.length true (Nat.le_refl _) (Nat.le_refl _)
      (fun _ => ⟨rfl, rfl⟩) (by rw [slice_empty (by omega)]; simp) ptr col hpc
    dsimp only
    generalize (if a.getD ptr 0 = dot then ptr + 1 else ptr) = s0 at hcnt ⊢
    by_cases hc0 : col ≠ 0
    · rw [if_pos hc0]
      obtain ⟨more, h1, h2, h3, h4, h5, h6⟩ := evLoop2_spec a (col - 1) col 1
        [(0, slice a s0 col)] (by omega) hcol (by intro j h1 h2; omega) (Nat.le_refl _)
      generalize evLoop2 a (col - 1) col 1 _ = r at h1 h3 h4 h5 h6
      obtain ⟨col2, i, acc⟩ := r
      dsimp only at h1 h3 h4 h5 h6 ⊢
      subst h1
      have hmore : ∀ e ∈ more, 1 ≤ e.1 ∧ (∃ s t, e.2 = slice a s t) ∧
          (a.getD 0 0 ≠ dot → e.2 ≠ [] ∧ dot ∉ e.2) :=
        fun e he => let ⟨g1, g2, g3⟩ := (h2 e he).spec; ⟨g1, g2, fun _ => g3⟩
      by_cases hc2 : col2 ≠ 0
      · rw [if_pos hc2]
        refine .labels _ _ (more ++ [(i, slice a 0 col2)]) hcnt ?_
        intro e he
        rcases List.mem_append.mp he with he | he
        · exact hmore e he
        · rw [List.mem_singleton.mp he]
          refine ⟨h3, ⟨_, _, rfl⟩, fun h0 => ⟨slice_ne_nil h4 h5, fun hm => ?_⟩⟩
          obtain ⟨k, _, hk2, hk3⟩ := mem_slice hm
          by_cases e0 : k = 0
          · exact h0 (e0 ▸ hk3)
          · exact h6 k (by omega) hk2 hk3
      · rw [if_neg hc2]; exact .labels _ _ more hcnt hmore
    · rw [if_neg hc0]; exact .labels _ _ [] hcnt (by simp)

theorem evParseHost_subset (a : Bytes) : ∀ e ∈ evParseHost a, ∀ b ∈ e.2, b ∈ a := by
  intro e he b hb
  have hT := evParseHost_shape a
  generalize evParseHost a = tbl at hT he
  cases hT with
  | noPort => simp at he
  | literal n =>
    rw [List.mem_singleton.mp he] at hb
    exact (List.take_sublist _ _).subset hb
  | labels s t more _ hmore =>
    rcases List.mem_cons.mp he with rfl | he
    · exact slice_subset hb
    · obtain ⟨_, ⟨s', t', e2⟩, _⟩ := hmore e he
      exact slice_subset (e2 ▸ hb)

theorem evParseHost_labels (a : Bytes) (hd : a.head? ≠ some dot) :
    ∀ e ∈ evParseHost a, 1 ≤ e.1 → e.2 ≠ [] ∧ dot ∉ e.2 := by
  have h0 : a.getD 0 0 ≠ dot := by
    cases a with
    | nil => simp [dot]
    | cons x xs => simpa using hd
  intro e he h1
  have hT := evParseHost_shape a
  generalize evParseHost a = tbl at hT he
  cases hT with
  | noPort => simp at he
  | literal n => rw [List.mem_singleton.mp he] at h1; simp at h1
  | labels s t more _ hmore =>
    rcases List.mem_cons.mp he with rfl | he
    · simp at h1
    · exact (hmore e he).2.2 h0

theorem evParseHost_zero_not_dotdot (a : Bytes) (v : Bytes) (h : evLookup (evParseHost a) 0 = some v) :
    v ≠ segDotDot := by
  have hT := evParseHost_shape a
  generalize evParseHost a = tbl at hT h
  cases hT with
  | noPort => simp [evLookup] at h
  | literal n hb =>   -- the value starts with '[' or is empty
    simp only [evLookup, List.find?_cons_of_pos, decide_true, Option.map_some, Option.some.injEq] at h
    subst h
    intro e'
    cases a with
    | nil => simp at hb
    | cons x xs => cases n <;> simp [segDotDot] at e' hb; rw [hb] at e'; exact absurd e'.1 (by decide)
  | labels s t more hcnt =>
    simp only [evLookup, List.find?_cons_of_pos, decide_true, Option.map_some, Option.some.injEq] at h
    subst h
    intro e'
    rw [e'] at hcnt
    simp [segDotDot] at hcnt

theorem evLookup_mem {tbl : List (Nat × Bytes)} {n : Nat} {v : Bytes} (h : evLookup tbl n = some v) :
    (n, v) ∈ tbl := by
  unfold evLookup at h
  simp only [Option.map_eq_some_iff] at h
  obtain ⟨⟨e1, e2⟩, he, rfl⟩ := h
  have hp := List.find?_some he
  simp only [decide_eq_true_eq] at hp
  exact hp ▸ List.mem_of_find?_eq_some he

theorem evPieceValue_bytes (a : Bytes) (p : EvPiece) (hp : ∀ s, p ≠ .lit s) :
    ∀ b ∈ evPieceValue (evParseHost a) a p, b ∈ a ∨ b = pct := by
  intro b hb
  cases p with
  | lit s => exact absurd rfl (hp s)
  | pct => right; simpa [evPieceValue] using hb
  | fqdn => left; exact hostPart_subset a b (by simpa [evPieceValue] using hb)
  | idx n =>
    left
    simp only [evPieceValue] at hb
    cases hl : evLookup (evParseHost a) n with
    | none => simp [hl] at hb
    | some v =>
      simp only [hl, Option.getD_some] at hb
      exact evParseHost_subset a _ (evLookup_mem hl) b hb
  | sub n m =>
    left
    simp only [evPieceValue] at hb
    cases hl : evLookup (evParseHost a) n with
    | none => simp [hl] at hb
    | some v =>
      have hv := evParseHost_subset a _ (evLookup_mem hl)
      simp only [hl] at hb
      cases m with
      | none => exact hv b hb
      | some k =>
        cases k with
        | zero => exact hv b hb
        | succ k =>
          simp only at hb
          split at hb
          · rename_i hk
            simp only [List.mem_singleton] at hb
            subst hb
            have : k < v.length := by omega
            simp only [List.getD_eq_getElem?_getD, List.getElem?_eq_getElem this, Option.getD_some]
            exact hv _ (List.getElem_mem this)
          · simp at hb

theorem evPieceValue_no_slash {a : Bytes} (ha : slash ∉ a) (p : EvPiece) (hp : ∀ s, p ≠ .lit s) :
    slash ∉ evPieceValue (evParseHost a) a p := by
  intro hm
  rcases evPieceValue_bytes a p hp slash hm with e | e
  · exact ha e
  · exact absurd e (by decide)

theorem evPieceValue_safe (a : Bytes) (hd : a.head? ≠ some dot) (hs : slash ∉ a) (p : EvPiece)
    (hp : ∀ s, p ≠ .lit s) :
    evPieceValue (evParseHost a) a p ≠ segDotDot ∧ slash ∉ evPieceValue (evParseHost a) a p := by
  refine ⟨?_, evPieceValue_no_slash hs p hp⟩
  · have hlabel : ∀ n v, evLookup (evParseHost a) n = some v → v ≠ segDotDot := by
      intro n v hl
      cases n with
      | zero => exact evParseHost_zero_not_dotdot a v hl
      | succ k =>
        have := (evParseHost_labels a hd _ (evLookup_mem hl) (by simp)).2
        intro e; exact this (by simp [e, segDotDot])
    cases p with
    | lit s => exact absurd rfl (hp s)
    | pct => simp [evPieceValue, segDotDot, pct, dot]
    | fqdn => exact (hostPart_of_guard hd hs).2.2
    | idx n =>
      simp only [evPieceValue]
      cases hl : evLookup (evParseHost a) n with
      | none => simp [segDotDot]
      | some v => simpa using hlabel n v hl
    | sub n m =>
      simp only [evPieceValue]
      cases hl : evLookup (evParseHost a) n with
      | none => simp [segDotDot]
      | some v =>
        simp only
        cases m with
        | none => exact hlabel n v hl
        | some k =>
          cases k with
          | zero => exact hlabel n v hl
          | succ k => simp only; split <;> simp [segDotDot]

def litSlashes (pieces : List EvPiece) : Nat :=
  (pieces.map fun p => match p with | .lit s => s.count slash | _ => 0).sum

theorem evBuildPath_count_slash (pieces : List EvPiece) (a : Bytes) (ha : slash ∉ a) :
    (evBuildPath pieces a).count slash ≤ litSlashes pieces + 1 := by
  have hpiece := evPieceValue_no_slash ha
  have hflat : ((pieces.map (evPieceValue (evParseHost a) a)).flatten).count slash = litSlashes pieces := by
    unfold litSlashes
    rw [List.count_flatten, List.map_map]
    congr 1
    apply List.map_congr_left
    intro p _
    cases p with
    | lit s => simp [evPieceValue]
    | _ => exact List.count_eq_zero.mpr (hpiece _ (by simp))
  unfold evBuildPath appendSlash
  simp only
  split
  · rw [List.count_append, hflat]; simp
  · rw [hflat]; omega

end LtVerif
