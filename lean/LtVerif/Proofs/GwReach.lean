/-
  C11, part 2c: invariants of the primitive steps of GwPrim.lean (availability; the disable window `WInv`, `Win`;
  statistics entries; dispatch history) and, per call, `pickProc_complete`, the re-enable pass, counts, `compact_eq`.
-/
import LtVerif.Proofs.GwPrim
namespace LtVerif.Gw

/-! ### active_procs = number of RUNNING procs -/

theorem setPState_active (w : World) (h p : Nat) (st : PState) (h' : Nat) :
    ((setPState w h p st).host h').active = (w.host h').active +
      (if h' = h ∧ (w.proc h p).state ≠ st then
        (if (w.proc h p).state = .running then -1 else if st = .running then 1 else 0) else 0) := by
  rw [setPState_eq]
  simp only [World.updProc, World.updHost]
  by_cases e : h' = h
  · subst e; by_cases e1 : (w.proc h' p).state = st <;> simp [e1]
  · simp [e]

theorem avail_setPState {w : World} (h p : Nat) (st : PState) (hp : p < (w.host h).nprocs) (hA : Avail w) :
    Avail (setPState w h p st) := by
  intro h'
  rw [setPState_active, hA h']
  unfold runningCnt
  rw [setPState_nprocs w h p st h']
  by_cases e : h' = h
  · subst e
    have key := sumTo_update (w.host h').nprocs p
      (fun q => if (w.proc h' q).state = .running then (1 : Int) else 0)
      (fun q => if ((setPState w h' p st).proc h' q).state = .running then (1 : Int) else 0) hp
      (by intro q hq; simp only [setPState_state w h' p st h' q]; simp [hq])
    rw [key]
    simp only [setPState_state w h' p st h' p, and_self, if_true, true_and]
    by_cases e1 : (w.proc h' p).state = st
    · simp [e1]
    · simp only [ne_eq, e1, not_false_eq_true, if_true]
      by_cases e2 : (w.proc h' p).state = .running
      · have : st ≠ .running := fun e3 => e1 (e2.trans e3.symm)
        simp [e2, this]; omega
      · by_cases e3 : st = .running <;> simp [e2, e3]
  · simp only [e, false_and, if_false, Int.add_zero]
    apply sumTo_congr
    intro q _
    simp only [setPState_state w h p st h' q]
    simp [e]

theorem avail_congr {a b : World} (hh : ∀ h, (b.host h).active = (a.host h).active ∧ (b.host h).nprocs = (a.host h).nprocs)
    (hp : ∀ h p, (b.proc h p).state = (a.proc h p).state) (hA : Avail a) : Avail b := by
  intro h
  rw [(hh h).1, hA h]
  unfold runningCnt
  rw [(hh h).2]
  apply sumTo_congr
  intro q _; rw [hp]

theorem avail_host {a : World} (h : Nat) (f : Host → Host) (hf : HostKeep f) (hA : Avail a) :
    Avail (a.updHost h f) := by
  refine avail_congr (a := a) ?_ (fun _ _ => rfl) hA
  intro h'; simp only [World.updHost]; by_cases e : h' = h <;> simp [e, (hf _).1, (hf _).2.1]

theorem avail_proc {a : World} (h p : Nat) (f : Proc → Proc) (hf : ProcKeep f) (hA : Avail a) :
    Avail (a.updProc h p f) := by
  refine avail_congr (a := a) (fun _ => ⟨rfl, rfl⟩) ?_ hA
  intro h' p'; simp only [World.updProc]; by_cases e : h' = h ∧ p' = p <;> simp [e, (hf _).1]

theorem avail_prim {a b : World} (p : Prim a b) (hA : Avail a) : Avail b := by
  cases p with
  | hostLoad h v => exact fun h' => avail_host h _ (hostKeep_load v) hA h'
  | procLoad h p v => exact fun h' => avail_proc h p _ (procKeep_load v) hA h'
  | host h f hf hl => exact avail_host h f hf hA
  | proc h p f hf hl => exact avail_proc h p f hf hA
  | disable h p hp =>
    refine avail_setPState (w := a.updProc h p _) h p .overloaded hp ?_
    refine avail_congr (a := a) (fun _ => ⟨rfl, rfl⟩) ?_ hA
    intro h' p'; simp only [World.updProc]; by_cases e : h' = h ∧ p' = p <;> simp [e]
  | enable h p hp hs ht => exact avail_setPState _ _ _ hp hA
  | killedTick h p hs =>
    refine avail_congr (a := a) (fun _ => ⟨rfl, rfl⟩) ?_ hA
    intro h' p'; simp only [World.updProc]; by_cases e : h' = h ∧ p' = p <;> simp [e]
  | misc | emit | dispatch | tick => exact hA

theorem avail_reach {a b : World} (h : Reach a b) : Avail a → Avail b :=
  Reach.inv (fun _ _ => avail_prim) h

theorem avail_pos_iff {w : World} (hA : Avail w) (h : Nat) :
    (w.host h).active ≠ 0 ↔ ∃ p, p < (w.host h).nprocs ∧ (w.proc h p).state = .running := by
  rw [hA h]
  unfold runningCnt
  rw [sumTo_pos_iff _ _ (by intro i _; split <;> simp)]
  constructor
  · rintro ⟨i, hi, hf⟩
    refine ⟨i, hi, ?_⟩
    by_cases e : (w.proc h i).state = .running
    · exact e
    · simp [e] at hf
  · rintro ⟨i, hi, hf⟩
    exact ⟨i, hi, by simp [hf]⟩

theorem pickProc_fold_some (w : World) (h : Nat) (l : List Nat) (acc : Option Nat) (ha : acc.isSome) :
    (l.foldl (pickStep w h) acc).isSome := by
  induction l generalizing acc with
  | nil => exact ha
  | cons q l ih =>
    simp only [List.foldl_cons]
    apply ih
    unfold pickStep
    split
    · exact ha
    · split
      · simp
      · split <;> simp

theorem pickProc_fold_complete (w : World) (h : Nat) (l : List Nat) (acc : Option Nat) (p : Nat)
    (hp : p ∈ l) (hr : (w.proc h p).state = .running) : (l.foldl (pickStep w h) acc).isSome := by
  induction l generalizing acc with
  | nil => simp at hp
  | cons q l ih =>
    simp only [List.foldl_cons]
    rcases List.mem_cons.mp hp with rfl | hp
    · apply pickProc_fold_some
      unfold pickStep
      rw [if_neg (by simp [hr])]
      split
      · simp
      · split <;> simp
    · exact ih _ hp

/-- a host with an active proc always yields a proc in GW_STATE_INIT -/
theorem pickProc_complete {w : World} (hA : Avail w) (h : Nat) (hact : (w.host h).active ≠ 0) :
    ∃ p, pickProc w h = some p := by
  obtain ⟨p, hp, hr⟩ := (avail_pos_iff hA h).mp hact
  have := pickProc_fold_complete w h (List.range (w.host h).nprocs) none p (by simpa using hp) hr
  unfold pickProc
  cases hq : (List.range (w.host h).nprocs).foldl (pickStep w h) none with
  | none => simp [hq] at this
  | some q => exact ⟨q, rfl⟩

theorem avail_init (balance : Nat) (wkr : Bool) (nslots : Nat) (specs : List HostSpec) :
    Avail (initWorld balance wkr nslots specs) := by
  intro h
  unfold runningCnt
  simp only [initWorld]
  have key : ∀ o : Option HostSpec, (specHost h o).active =
      sumTo (specHost h o).nprocs (fun p => if (specProc h p o).state = .running then 1 else 0) := by
    intro o
    cases o with
    | none => simp [specHost, specProc, sumTo]
    | some sp => simp [specHost, specProc, sumTo_one]
  exact key _

/-! ### the disable window -/

/-- an OVERLOADED proc's `disabled_until` is at most now + disable-time: disabling it again only pushes the window out -/
def WInv (w : World) : Prop :=
  ∀ h p, (w.proc h p).state = .overloaded → (w.proc h p).disabledUntil ≤ w.now + (w.host h).disableTime

def Win (h p : Nat) (D : Int) (w : World) : Prop :=
  (w.proc h p).state = .overloaded ∧ D ≤ (w.proc h p).disabledUntil

theorem disable_proc (a : World) (h p h' p' : Nat) :
    let b := setPState (a.updProc h p fun P => { P with disabledUntil := a.now + (a.host h).disableTime }) h p .overloaded
    (b.proc h' p').state = (if h' = h ∧ p' = p then .overloaded else (a.proc h' p').state) ∧
    (b.proc h' p').disabledUntil =
      (if h' = h ∧ p' = p then a.now + (a.host h).disableTime else (a.proc h' p').disabledUntil) := by
  intro b
  refine ⟨?_, ?_⟩
  · rw [setPState_state]; simp only [World.updProc]; by_cases e : h' = h ∧ p' = p <;> simp [e]
  · rw [setPState_disabledUntil]; simp only [World.updProc]; by_cases e : h' = h ∧ p' = p <;> simp [e]

theorem winv_host {a : World} (h : Nat) (f : Host → Host) (hf : HostKeep f) (hW : WInv a) :
    WInv (a.updHost h f) := by
  intro h' p' hs
  have := hW h' p' hs
  rw [(static_host a h f hf).disableTime]; exact this

theorem winv_proc {a : World} (h p : Nat) (f : Proc → Proc) (hf : ProcKeep f) (hW : WInv a) :
    WInv (a.updProc h p f) := by
  intro h' p' hs
  simp only [World.updProc] at hs ⊢
  by_cases e : h' = h ∧ p' = p
  · simp only [e, and_self, if_true] at hs ⊢
    rw [(hf _).1] at hs; rw [(hf _).2.1]
    obtain ⟨rfl, rfl⟩ := e; exact hW _ _ hs
  · simp only [e, if_false] at hs ⊢; exact hW _ _ hs

theorem winv_prim {a b : World} (pr : Prim a b) (hW : WInv a) : WInv b := by
  have S := static_prim pr
  cases pr with
  | hostLoad h v => exact fun h' p' hs => winv_host h _ (hostKeep_load v) hW h' p' hs
  | procLoad h p v => exact fun h' p' hs => winv_proc h p _ (procKeep_load v) hW h' p' hs
  | misc => exact hW
  | host h f hf hl => exact winv_host h f hf hW
  | proc h p f hf hl => exact winv_proc h p f hf hW
  | disable h p hp =>
    intro h' p' hs
    have D := disable_proc a h p h' p'
    simp only at D
    rw [D.1] at hs; rw [D.2, S.disableTime]
    have hn : (setPState (a.updProc h p fun P => { P with disabledUntil := a.now + (a.host h).disableTime }) h p .overloaded).now = a.now :=
      setPState_now _ h p .overloaded
    rw [hn]
    by_cases e : h' = h ∧ p' = p
    · obtain ⟨rfl, rfl⟩ := e; simp
    · simp only [e, if_false] at hs ⊢; exact hW _ _ hs
  | enable h p hp hs' ht =>
    intro h' p' hs
    have hn : (setPState a h p .running).now = a.now := setPState_now _ h p .running
    rw [setPState_state] at hs; rw [setPState_disabledUntil, S.disableTime, hn]
    by_cases e : h' = h ∧ p' = p
    · simp [e] at hs
    · simp only [e, if_false] at hs; exact hW _ _ hs
  | killedTick h p hk =>
    intro h' p' hs
    simp only [World.updProc] at hs ⊢
    by_cases e : h' = h ∧ p' = p
    · obtain ⟨rfl, rfl⟩ := e
      simp at hs; rw [hk] at hs; cases hs
    · simp only [e, if_false] at hs ⊢; exact hW _ _ hs
  | emit => exact hW
  | dispatch => exact hW
  | tick dt =>
    intro h' p' hs
    have := hW h' p' hs
    show (a.proc h' p').disabledUntil ≤ a.now + (dt : Int) + (a.host h').disableTime
    omega

theorem win_proc {a : World} {h p : Nat} {D : Int} (h' p' : Nat) (f : Proc → Proc) (hf : ProcKeep f)
    (hwin : Win h p D a) : Win h p D (a.updProc h' p' f) := by
  obtain ⟨hst, hD⟩ := hwin
  unfold Win
  simp only [World.updProc]
  by_cases e : h = h' ∧ p = p'
  · obtain ⟨rfl, rfl⟩ := e
    simp only [and_self, if_true, (hf _).1, (hf _).2.1]; exact ⟨hst, hD⟩
  · simp only [e, if_false]; exact ⟨hst, hD⟩

theorem prim_log {a b : World} (pr : Prim a b) :
    b.log = a.log ∨ ∃ e, b.log = e :: a.log ∧
      (isDispatch e = false ∨ ∃ s h p, e = .dispatch s h p ∧ p < (a.host h).nprocs ∧ (a.proc h p).state = .running) := by
  cases pr with
  | misc => exact Or.inl rfl
  | host => exact Or.inl rfl
  | proc => exact Or.inl rfl
  | hostLoad => exact Or.inl rfl
  | procLoad => exact Or.inl rfl
  | disable h p hp => exact Or.inl (setPState_log _ h p .overloaded)
  | enable h p hp hs ht => exact Or.inl (setPState_log _ h p .running)
  | killedTick => exact Or.inl rfl
  | emit e he => exact Or.inr ⟨e, rfl, Or.inl he⟩
  | dispatch s h p hp hs => exact Or.inr ⟨_, rfl, Or.inr ⟨s, h, p, rfl, hp, hs⟩⟩
  | tick => exact Or.inl rfl

theorem win_prim {a b : World} {h p : Nat} {D : Int} (pr : Prim a b) (hW : WInv a) (hnow : b.now ≤ D)
    (hwin : Win h p D a) : Win h p D b := by
  obtain ⟨hst, hD⟩ := hwin
  cases pr with
  | misc | host | hostLoad | emit | dispatch | tick => exact ⟨hst, hD⟩
  | proc h' p' f hf hl => exact win_proc h' p' f hf ⟨hst, hD⟩
  | procLoad h' p' v => exact win_proc h' p' _ (procKeep_load v) ⟨hst, hD⟩
  | disable h' p' hp =>
    have Dp := disable_proc a h' p' h p
    simp only at Dp
    unfold Win
    rw [Dp.1, Dp.2]
    by_cases e : h = h' ∧ p = p'
    · obtain ⟨rfl, rfl⟩ := e
      have := hW h p hst
      simp; omega
    · simp only [e, if_false]; exact ⟨hst, hD⟩
  | enable h' p' hp hs' ht =>
    rw [setPState_now] at hnow
    unfold Win
    rw [setPState_state, setPState_disabledUntil]
    by_cases e : h = h' ∧ p = p'
    · obtain ⟨rfl, rfl⟩ := e; omega
    · simp only [e, if_false]; exact ⟨hst, hD⟩
  | killedTick h' p' hk =>
    unfold Win
    simp only [World.updProc]
    by_cases e : h = h' ∧ p = p'
    · obtain ⟨rfl, rfl⟩ := e; rw [hk] at hst; cases hst
    · simp only [e, if_false]; exact ⟨hst, hD⟩

theorem winv_reach {a b : World} (h : Reach a b) : WInv a → WInv b :=
  Reach.inv (fun _ _ => winv_prim) h

theorem window_reach {a b : World} {h p : Nat} {D : Int} (hr : Reach a b) (hW : WInv a)
    (hwin : Win h p D a) (hnow : b.now ≤ D) :
    Win h p D b ∧ ∃ new, b.log = new ++ a.log ∧ ∀ e, e ∈ new → ∀ s, e ≠ .dispatch s h p := by
  induction hr with
  | refl => exact ⟨hwin, [], rfl, by simp⟩
  | step hr' pr ih =>
    rename_i w' w''
    have hn' : w'.now ≤ D := Int.le_trans (static_prim pr).now hnow
    obtain ⟨hw', new, hlog, hnew⟩ := ih hn'
    refine ⟨win_prim pr (winv_reach hr' hW) hnow hw', ?_⟩
    rcases prim_log pr with hl | ⟨e, hl, he⟩
    · exact ⟨new, by rw [hl, hlog], hnew⟩
    · refine ⟨e :: new, by rw [hl, hlog]; rfl, ?_⟩
      intro e' he' s
      rcases List.mem_cons.mp he' with rfl | h2
      · rintro rfl
        rcases he with he | ⟨_, _, _, e1, _, c2⟩
        · cases he
        · -- dispatched procs are RUNNING, this one is not
          cases e1; rw [hw'.1] at c2; cases c2
      · exact hnew e' h2 s

theorem winv_init (balance : Nat) (wkr : Bool) (nslots : Nat) (specs : List HostSpec) :
    WInv (initWorld balance wkr nslots specs) := by
  intro h p hs
  simp only [initWorld] at hs
  have : ∀ o : Option HostSpec, (specProc h p o).state ≠ .overloaded := by
    intro o; cases o <;> simp [specProc]
  exact absurd hs (this _)

/-! ### disable, re-enable -/

theorem connectError_disables (w : World) (h p pid : Nat)
    (hc : (w.proc h p).isLocal = false ∨ ((w.proc h p).pid = pid ∧ (w.proc h p).state = .running)) :
    ((connectError w h p pid).proc h p).state = .overloaded ∧
    ((connectError w h p pid).proc h p).disabledUntil = w.now + (w.host h).disableTime := by
  have D := disable_proc w h p h p
  simp only [and_self, if_true] at D
  unfold connectError
  have : (!(w.proc h p).isLocal || ((w.proc h p).pid == pid && (w.proc h p).state == .running)) = true := by
    rcases hc with hc | ⟨h1, h2⟩
    · simp [hc]
    · simp [h1, h2]
  rw [if_pos this]
  exact D

theorem checkEnable_other (w : World) (h q : Nat) (h' p' : Nat) (hne : ¬(h' = h ∧ p' = q)) :
    ((checkEnable w h q).proc h' p').state = (w.proc h' p').state ∧
    ((checkEnable w h q).proc h' p').disabledUntil = (w.proc h' p').disabledUntil := by
  unfold checkEnable
  split
  · exact ⟨rfl, rfl⟩
  · split
    · exact ⟨rfl, rfl⟩
    · rw [setPState_state, setPState_disabledUntil]
      simp [hne]

theorem checkEnable_now (w : World) (h q : Nat) : (checkEnable w h q).now = w.now := by
  unfold checkEnable
  split
  · rfl
  · split
    · rfl
    · exact setPState_now w h q .running

theorem checkEnable_enables (w : World) (h p : Nat) (hs : (w.proc h p).state = .overloaded)
    (ht : (w.proc h p).disabledUntil < w.now) : ((checkEnable w h p).proc h p).state = .running := by
  unfold checkEnable
  rw [if_neg (by omega), if_neg (by simp [hs])]
  rw [setPState_state]; simp

theorem restartDeadProc_other (w : World) (h : Nat) (tr : Bool) (q p : Nat) (hne : q ≠ p) :
    ((restartDeadProc w h tr q).proc h p).state = (w.proc h p).state ∧
    ((restartDeadProc w h tr q).proc h p).disabledUntil = (w.proc h p).disabledUntil ∧
    (restartDeadProc w h tr q).now = w.now := by
  have hne' : ¬(h = h ∧ p = q) := fun ⟨_, h2⟩ => hne h2.symm
  unfold restartDeadProc
  split
  · exact ⟨rfl, rfl, rfl⟩
  · exact ⟨(checkEnable_other w h q h p hne').1, (checkEnable_other w h q h p hne').2, checkEnable_now w h q⟩
  · split
    · have hpq : p ≠ q := fun h2 => hne h2.symm
      simp [World.updProc, hpq]
    · exact ⟨rfl, rfl, rfl⟩
  · exact ⟨rfl, rfl, rfl⟩
  · exact ⟨rfl, rfl, rfl⟩

/-- a pass over the procs of host `h` visits proc `p` once and leaves it alone otherwise (`Pre`, `Q`: of the clock,
    the state and `disabled_until` of `p`, before and after the visit) -/
theorem pass_visit (h p : Nat) (tr : Bool) (Pre Q : Int → PState → Int → Prop)
    (hvis : ∀ w : World, Pre w.now (w.proc h p).state (w.proc h p).disabledUntil →
      Q (restartDeadProc w h tr p).now ((restartDeadProc w h tr p).proc h p).state
        ((restartDeadProc w h tr p).proc h p).disabledUntil)
    (w : World) (hp : p < (w.host h).nprocs) (h0 : Pre w.now (w.proc h p).state (w.proc h p).disabledUntil) :
    Q (restartDeadProcs w h tr).now ((restartDeadProcs w h tr).proc h p).state
      ((restartDeadProcs w h tr).proc h p).disabledUntil := by
  have other : ∀ (F : Int → PState → Int → Prop) (w : World) (q : Nat), q ≠ p →
      F w.now (w.proc h p).state (w.proc h p).disabledUntil →
      F (restartDeadProc w h tr q).now ((restartDeadProc w h tr q).proc h p).state
        ((restartDeadProc w h tr q).proc h p).disabledUntil := by
    intro F w q hne hF
    have K := restartDeadProc_other w h tr q p hne
    rw [K.1, K.2.1, K.2.2]; exact hF
  unfold restartDeadProcs
  generalize (w.host h).nprocs = n at hp
  have pre : ∀ m, m ≤ p → Pre ((List.range m).foldl (fun w p => restartDeadProc w h tr p) w).now
      (((List.range m).foldl (fun w p => restartDeadProc w h tr p) w).proc h p).state
      (((List.range m).foldl (fun w p => restartDeadProc w h tr p) w).proc h p).disabledUntil := by
    intro m
    induction m with
    | zero => exact fun _ => h0
    | succ m ih => intro hm; rw [foldl_range_succ]; exact other Pre _ m (by omega) (ih (by omega))
  induction n with
  | zero => omega
  | succ n ih =>
    rw [foldl_range_succ]
    by_cases e : p = n
    · subst e; exact hvis _ (pre p (Nat.le_refl _))
    · exact other Q _ n (fun x => e x.symm) (ih (by omega))

/-- gw_restart_dead_procs() brings every proc back whose disable time is over -/
theorem restartDeadProcs_enables (w : World) (h : Nat) (tr : Bool) (p : Nat) (hp : p < (w.host h).nprocs)
    (hs : (w.proc h p).state = .overloaded) (ht : (w.proc h p).disabledUntil < w.now) :
    ((restartDeadProcs w h tr).proc h p).state = .running := by
  refine pass_visit h p tr (fun now st du => st = .overloaded ∧ du < now) (fun _ st _ => st = .running) ?_ w hp ⟨hs, ht⟩
  intro w ⟨hs, ht⟩
  have e : restartDeadProc w h tr p = checkEnable w h p := by unfold restartDeadProc; simp [hs]
  rw [e]; exact checkEnable_enables w h p hs ht

theorem hostTimeouts_idle (w : World) (h : Nat) (he : (w.host h).hctxs = []) : hostTimeouts w h = w := by
  unfold hostTimeouts; simp [he]

theorem triggerHost_enables (w : World) (h p : Nat) (he : (w.host h).hctxs = []) (hp : p < (w.host h).nprocs)
    (hs : (w.proc h p).state = .overloaded) (ht : (w.proc h p).disabledUntil < w.now) :
    ((triggerHost w h).proc h p).state = .running := by
  unfold triggerHost
  rw [hostTimeouts_idle w h he]
  dsimp only
  split
  · rw [checkOverloaded_eq]; exact restartDeadProcs_enables w h false p hp hs ht
  · exact restartDeadProcs_enables w h true p hp hs ht

/-! ### statistics entries -/

/-- no two hosts share a config label (`host->id`) -/
def LabelInj (w : World) : Prop := ∀ h h', (w.host h).label = (w.host h').label → h = h'

/-- the entries "gw.backend.<label>[.<proc>].load" hold the struct fields -/
def StatExact (w : World) : Prop :=
  (∀ h, w.hstat (w.host h).label = (w.host h).load) ∧
  (∀ h p, w.pstat (w.host h).label p = (w.proc h p).load)

theorem label_prim {a b : World} (pr : Prim a b) (h : Nat) : (b.host h).label = (a.host h).label := by
  cases pr with
  | misc => rfl
  | host h' f hf hl => simp only [World.updHost]; by_cases e : h = h' <;> simp [e, (hl _).2]
  | proc => rfl
  | hostLoad h' v => simp only [setHostLoad, World.updHost]; by_cases e : h = h' <;> simp [e]
  | procLoad => rfl
  | disable h' p hp => rw [setPState_eq]; simp only [World.updProc, World.updHost]; by_cases e : h = h' <;> simp [e]
  | enable h' p hp hs ht => rw [setPState_eq]; simp only [World.updProc, World.updHost]; by_cases e : h = h' <;> simp [e]
  | killedTick => rfl
  | emit => rfl
  | dispatch => rfl
  | tick => rfl

theorem labelInj_prim {a b : World} (pr : Prim a b) : LabelInj b ↔ LabelInj a := by
  unfold LabelInj
  constructor
  · intro hb h h' e; exact hb h h' (by rw [label_prim pr, label_prim pr]; exact e)
  · intro ha h h' e; exact ha h h' (by rw [← label_prim pr h, ← label_prim pr h']; exact e)

theorem labelInj_reach {a b : World} (hr : Reach a b) : LabelInj b ↔ LabelInj a := by
  induction hr with
  | refl => exact Iff.rfl
  | step _ pr ih => exact (labelInj_prim pr).trans ih

theorem stat_updHost {a : World} (h : Nat) (f : Host → Host) (hl : ∀ H, (f H).load = H.load ∧ (f H).label = H.label)
    (hS : StatExact a) : StatExact (a.updHost h f) := by
  refine ⟨fun h' => ?_, fun h' p' => ?_⟩
  · have := hS.1 h'
    simp only [World.updHost]
    by_cases e : h' = h
    · subst e; simp [(hl _).1, (hl _).2]; exact this
    · simp [e]; exact this
  · have := hS.2 h' p'
    simp only [World.updHost]
    by_cases e : h' = h
    · subst e; simp [(hl _).2]; exact this
    · simp [e]; exact this

theorem stat_updProc {a : World} (h p : Nat) (f : Proc → Proc) (hl : ∀ P, (f P).load = P.load)
    (hS : StatExact a) : StatExact (a.updProc h p f) := by
  refine ⟨hS.1, fun h' p' => ?_⟩
  have := hS.2 h' p'
  simp only [World.updProc]
  by_cases e : h' = h ∧ p' = p
  · obtain ⟨rfl, rfl⟩ := e; simp [hl]; exact this
  · simp [e]; exact this

theorem stat_prim {a b : World} (pr : Prim a b) (hi : LabelInj a) (hS : StatExact a) : StatExact b := by
  cases pr with
  | misc => exact hS
  | emit => exact hS
  | dispatch => exact hS
  | tick => exact hS
  | host h f hf hl => exact stat_updHost h f hl hS
  | proc h p f hf hl => exact stat_updProc h p f hl hS
  | killedTick h p hs => exact stat_updProc h p _ (fun _ => rfl) hS
  | disable h p hp' =>
    rw [setPState_eq]
    refine stat_updProc h p _ (fun _ => rfl) (stat_updHost h _ (fun _ => ⟨rfl, rfl⟩) ?_)
    exact stat_updProc h p _ (fun _ => rfl) hS
  | enable h p hp' hs ht =>
    rw [setPState_eq]
    exact stat_updProc h p _ (fun _ => rfl) (stat_updHost h _ (fun _ => ⟨rfl, rfl⟩) hS)
  | hostLoad h v =>
    obtain ⟨hh, hp⟩ := hS
    refine ⟨fun h' => ?_, fun h' p' => ?_⟩
    · simp only [setHostLoad, World.updHost]
      by_cases e : h' = h
      · subst e; simp
      · have hne : (a.host h').label ≠ (a.host h).label := fun e2 => e (hi h' h e2)
        simp [e, hne]; exact hh h'
    · have := hp h' p'
      simp only [setHostLoad, World.updHost]
      by_cases e : h' = h
      · subst e; simp; exact this
      · simp [e]; exact this
  | procLoad h p v =>
    obtain ⟨hh, hp⟩ := hS
    refine ⟨hh, fun h' p' => ?_⟩
    simp only [setProcLoad, World.updProc]
    by_cases e : h' = h ∧ p' = p
    · obtain ⟨rfl, rfl⟩ := e; simp
    · have hne : ¬((a.host h').label = (a.host h).label ∧ p' = p) := by
        rintro ⟨e1, e2⟩; exact e ⟨hi h' h e1, e2⟩
      simp [e, hne]; exact hp h' p'

theorem stat_reach {a b : World} (hr : Reach a b) (hi : LabelInj a) (hS : StatExact a) : StatExact b := by
  induction hr with
  | refl => exact hS
  | step hr' pr ih => exact stat_prim pr ((labelInj_reach hr').mpr hi) ih

theorem labelInj_init (balance : Nat) (wkr : Bool) (nslots : Nat) (specs : List HostSpec) :
    LabelInj (initWorld balance wkr nslots specs) := by
  intro h h' e
  simp only [initWorld] at e
  omega

theorem stat_init (balance : Nat) (wkr : Bool) (nslots : Nat) (specs : List HostSpec) :
    StatExact (initWorld balance wkr nslots specs) := by
  refine ⟨fun h => ?_, fun h p => ?_⟩
  · simp only [initWorld]
    have : ∀ o : Option HostSpec, (specHost h o).load = 0 := by intro o; cases o <;> rfl
    exact (this _).symm
  · simp only [initWorld]
    have : ∀ o : Option HostSpec, (specProc h p o).load = 0 := by intro o; cases o <;> rfl
    exact (this _).symm

/-! ### dispatch history -/

/-- every connect() logged on the way was issued from a world in which the proc was RUNNING -/
theorem reach_dispatch_running {a b : World} (hr : Reach a b) :
    ∃ new, b.log = new ++ a.log ∧ ∀ post pre s h p, new = post ++ Ev.dispatch s h p :: pre →
      ∃ w', Reach a w' ∧ Reach w' b ∧ w'.log = pre ++ a.log ∧
        p < (w'.host h).nprocs ∧ (w'.proc h p).state = .running := by
  induction hr with
  | refl => exact ⟨[], rfl, by intro post pre s h p e; cases post <;> cases e⟩
  | step hr' pr ih =>
    rename_i w' w''
    obtain ⟨new, hlog, hnew⟩ := ih
    rcases prim_log pr with hl | ⟨e, hl, he⟩
    · refine ⟨new, by rw [hl, hlog], ?_⟩
      intro post pre s h p hm
      obtain ⟨v, r1, r2, c0, c1, c2⟩ := hnew post pre s h p hm
      exact ⟨v, r1, Reach.step r2 pr, c0, c1, c2⟩
    · refine ⟨e :: new, by rw [hl, hlog]; rfl, ?_⟩
      intro post pre s h p hm
      cases post with
      | nil =>
        simp only [List.nil_append, List.cons.injEq] at hm
        obtain ⟨rfl, rfl⟩ := hm
        rcases he with he | ⟨s', h', p', e1, c1, c2⟩
        · simp [isDispatch] at he
        · cases e1
          exact ⟨w', hr', Reach.one pr, hlog, c1, c2⟩
      | cons x post' =>
        simp only [List.cons_append, List.cons.injEq] at hm
        obtain ⟨v, r1, r2, c0, c1, c2⟩ := hnew post' pre s h p hm.2
        exact ⟨v, r1, Reach.step r2 pr, c0, c1, c2⟩

/-! ### counts, pending closes, `compact` -/

theorem sumTo_idle {w : World} (hidle : ∀ s, w.slot s = none) (f : Option Ctx → Int) (hf : f none = 0) :
    sumTo w.nslots (fun s => f (w.slot s)) = 0 :=
  sumTo_eq_zero _ _ fun i _ => by rw [hidle i, hf]

theorem hostC_nonneg (h : Nat) (c : Option Ctx) : 0 ≤ hostC h c := by
  unfold hostC; split
  · split <;> omega
  · omega
theorem procC_nonneg (h p : Nat) (c : Option Ctx) : 0 ≤ procC h p c := by
  unfold procC; split
  · split <;> omega
  · omega
theorem anyProcC_nonneg (c : Option Ctx) : 0 ≤ anyProcC c := by
  unfold anyProcC; split
  · split <;> omega
  · omega
theorem fdC_nonneg (c : Option Ctx) : 0 ≤ fdC c := by
  unfold fdC; split
  · split <;> omega
  · omega

theorem step_pendClose (w : World) (op : Op) : (step w op).pendClose = 0 := by
  unfold step schedRun; rfl

theorem run_pendClose (w : World) (ops : List Op) (h0 : w.pendClose = 0) : (run w ops).pendClose = 0 := by
  unfold run
  exact foldl_inv (fun w : World => w.pendClose = 0) _ _ _ h0 (fun _ _ _ => step_pendClose _ _)

theorem tab_eq {α : Type} (n : Nat) (f : Nat → α) : tab (Array.ofFn (n := n) fun i => f i.val) f = f := by
  funext i
  unfold tab
  split
  · simp
  · rfl

theorem compact_eq (w : World) : compact w = w := by
  unfold compact
  dsimp only
  rw [tab_eq, tab_eq]
  have : tab2 (Array.ofFn (n := w.nhosts) fun h => Array.ofFn
      (n := (List.range w.nhosts).foldl (fun m h => max m (w.host h).nprocs) 0) fun p => w.proc h.val p.val) w.proc
      = w.proc := by
    funext i j
    unfold tab2
    split
    · split
      · simp
      · rfl
    · rfl
  rw [this]

end LtVerif.Gw
