/-
  Lemmas for the socket-writer model (Model/NetWrite.lean).  `Eff` lists what one step of the writer
  can do; each backend function is shown once to do one of these; `NwInv` (accepted ++ queued is
  constant), `StepProg` and `StepAgain` are read off `Eff` and carried through `nwLoop` and `driveGo`.
-/
import LtVerif.Model.NetWrite
import LtVerif.Proofs.Bytes
namespace LtVerif
open B

theorem Chunk.rem_length {c : Chunk} (h : c.WF) : c.rem.length = c.remLen := by
  cases c with
  | mem d o => simp [Chunk.rem, Chunk.remLen]
  | file ct o e =>
    simp only [Chunk.WF] at h
    simp only [Chunk.rem, Chunk.remLen, List.length_drop, List.length_take]
    omega

theorem Chunk.rem_advance (c : Chunk) (n : Nat) : (c.advance n).rem = c.rem.drop n := by
  cases c <;> simp [Chunk.rem, Chunk.advance, Nat.add_comm]

theorem Chunk.advance_WF {c : Chunk} {n : Nat} (h : c.WF) (hn : n < c.remLen) : (c.advance n).WF := by
  cases c <;>
  · simp only [Chunk.WF, Chunk.remLen, Chunk.advance] at *
    omega

theorem cqFlat_cons (c : Chunk) (q : Cq) : cqFlat (c :: q) = c.rem ++ cqFlat q := by
  simp [cqFlat]

theorem CqWF.tail {c : Chunk} {q : Cq} (h : CqWF (c :: q)) : CqWF q :=
  fun x hx => h x (List.mem_cons_of_mem _ hx)

theorem CqWF.head {c : Chunk} {q : Cq} (h : CqWF (c :: q)) : c.WF := h c (by simp)

/-- chunkqueue_mark_written() -/
theorem markWritten_flat : ∀ (q : Cq) (n : Nat), CqWF q → cqFlat (markWritten q n) = (cqFlat q).drop n
  | [], n, _ => by simp [markWritten, cqFlat]
  | c :: rest, n, h => by
    have hl := Chunk.rem_length h.head
    unfold markWritten
    split
    · rename_i hge
      rw [markWritten_flat rest (n - c.remLen) h.tail, cqFlat_cons, List.drop_append]
      have : c.rem.drop n = [] := by
        apply List.drop_eq_nil_of_le
        omega
      rw [this, hl]
      simp
    · rename_i hlt
      rw [cqFlat_cons, cqFlat_cons, Chunk.rem_advance, List.drop_append_of_le_length (by omega)]

theorem markWritten_WF : ∀ (q : Cq) (n : Nat), CqWF q → CqWF (markWritten q n)
  | [], _, _ => by simp [markWritten, CqWF]
  | c :: rest, n, h => by
    unfold markWritten
    split
    · exact markWritten_WF rest _ h.tail
    · rename_i hlt
      intro x hx
      rcases List.mem_cons.mp hx with e | e
      · subst e; exact Chunk.advance_WF h.head (by omega)
      · exact h.tail x e

theorem removeFinished_flat : ∀ (q : Cq), CqWF q → cqFlat (removeFinished q) = cqFlat q
  | [], _ => rfl
  | c :: rest, h => by
    unfold removeFinished
    split
    · rename_i h0
      have hl := Chunk.rem_length h.head
      have : c.rem = [] := List.eq_nil_of_length_eq_zero (by omega)
      rw [removeFinished_flat rest h.tail, cqFlat_cons, this]
      simp
    · rfl

theorem removeFinished_WF : ∀ (q : Cq), CqWF q → CqWF (removeFinished q)
  | [], _ => by simp [removeFinished, CqWF]
  | c :: rest, h => by
    unfold removeFinished
    split
    · exact removeFinished_WF rest h.tail
    · exact h

theorem gatherIov_prefix (maxBytes : Nat) : ∀ (q : Cq) (toSend num : Nat),
    ∃ t, cqFlat q = (gatherIov maxBytes q toSend num).flatten ++ t
  | [], _, _ => ⟨[], by simp [gatherIov, cqFlat]⟩
  | .file ct o e :: rest, _, _ => ⟨cqFlat (.file ct o e :: rest), by simp [gatherIov]⟩
  | .mem d o :: rest, toSend, num => by
    unfold gatherIov
    split
    · rename_i hpos
      simp only []
      split
      · refine ⟨(d.drop o).drop (min (d.length - o) (maxBytes - toSend)) ++ cqFlat rest, ?_⟩
        simp only [cqFlat_cons, Chunk.rem, List.flatten_cons, List.flatten_nil, List.append_nil]
        rw [← List.append_assoc, List.take_append_drop]
      · rename_i hcont
        obtain ⟨t, ht⟩ := gatherIov_prefix maxBytes rest
          (toSend + min (d.length - o) (maxBytes - toSend)) (num + 1)
        refine ⟨t, ?_⟩
        have hfull : min (d.length - o) (maxBytes - toSend) = d.length - o := by omega
        have htake : (d.drop o).take (d.length - o) = d.drop o :=
          List.take_of_length_le (by simp)
        simp only [List.flatten_cons]
        rw [cqFlat_cons, ht, hfull, htake]
        simp [Chunk.rem]
    · rename_i hz
      obtain ⟨t, ht⟩ := gatherIov_prefix maxBytes rest toSend num
      refine ⟨t, ?_⟩
      have : d.drop o = [] := List.drop_eq_nil_of_le (by omega)
      rw [cqFlat_cons, ht]
      simp [Chunk.rem, this]

structure NwInv (a b : NwSt) : Prop where
  bytes : b.acc ++ cqFlat b.q = a.acc ++ cqFlat a.q
  out : b.out + a.acc.length = a.out + b.acc.length
  ext : ∃ t, b.acc = a.acc ++ t
  wf : CqWF b.q

theorem NwInv.refl {a : NwSt} (h : CqWF a.q) : NwInv a a :=
  ⟨rfl, rfl, ⟨[], by simp⟩, h⟩

theorem NwInv.trans {a b c : NwSt} (h1 : NwInv a b) (h2 : NwInv b c) : NwInv a c := by
  obtain ⟨t1, ht1⟩ := h1.ext
  obtain ⟨t2, ht2⟩ := h2.ext
  refine ⟨h2.bytes.trans h1.bytes, ?_, ⟨t1 ++ t2, by rw [ht2, ht1]; simp⟩, h2.wf⟩
  have := h1.out
  have := h2.out
  omega

/-- `b` differs from `a` in schedule, trace and fault counter only -/
structure SameQueue (a b : NwSt) : Prop where
  q : b.q = a.q
  acc : b.acc = a.acc
  out : b.out = a.out

theorem NwInv.of_same {a b : NwSt} (hs : SameQueue a b) (h : CqWF a.q) : NwInv a b :=
  ⟨by rw [hs.q, hs.acc], by rw [hs.out, hs.acc], ⟨[], by simp [hs.acc]⟩, by rw [hs.q]; exact h⟩

theorem removeFinished_inv {st : NwSt} (h : CqWF st.q) : NwInv st { st with q := removeFinished st.q } :=
  ⟨by simp [removeFinished_flat _ h], rfl, ⟨[], by simp⟩, removeFinished_WF _ h⟩

theorem file_read_prefix (ct : Bytes) (o e m : Nat) (hm : m ≤ e - o) :
    ∃ t, (Chunk.file ct o e).rem = (ct.drop o).take m ++ t := by
  refine ⟨((ct.take e).drop o).drop m, ?_⟩
  have : (ct.drop o).take m = ((ct.take e).drop o).take m := by
    rw [List.drop_take, List.take_take, Nat.min_eq_left hm]
  rw [this, List.take_append_drop]
  rfl

/-! ### the measure of progress; what a step guarantees -/

/-- what the fuel of `networkWrite` bounds -/
def meas (q : Cq) : Nat := cqLen q + q.length

theorem cqLen_cons (c : Chunk) (q : Cq) : cqLen (c :: q) = c.remLen + cqLen q := by
  simp [cqLen]

theorem cqFlat_length : ∀ (q : Cq), CqWF q → (cqFlat q).length = cqLen q
  | [], _ => rfl
  | c :: rest, h => by
    rw [cqFlat_cons, cqLen_cons, List.length_append, Chunk.rem_length h.head, cqFlat_length rest h.tail]

theorem Chunk.remLen_advance (c : Chunk) (n : Nat) : (c.advance n).remLen = c.remLen - n := by
  cases c <;> simp [Chunk.advance, Chunk.remLen] <;> omega

theorem markWritten_meas : ∀ (q : Cq) (n : Nat), n ≤ cqLen q →
    cqLen (markWritten q n) = cqLen q - n ∧ (markWritten q n).length ≤ q.length
  | [], n, _ => by simp [markWritten, cqLen]
  | c :: rest, n, h => by
    rw [cqLen_cons] at h
    unfold markWritten
    split
    · rename_i hge
      have := markWritten_meas rest (n - c.remLen) (by omega)
      rw [cqLen_cons]
      exact ⟨by omega, by simp; omega⟩
    · rename_i hlt
      rw [cqLen_cons, cqLen_cons, Chunk.remLen_advance]
      exact ⟨by omega, by simp⟩

theorem removeFinished_meas : ∀ (q : Cq), cqLen (removeFinished q) = cqLen q ∧ (removeFinished q).length ≤ q.length
  | [] => by simp [removeFinished]
  | c :: rest => by
    unfold removeFinished
    split
    · rename_i h0
      have := removeFinished_meas rest
      rw [cqLen_cons, h0]
      exact ⟨by omega, by simp; omega⟩
    · exact ⟨rfl, Nat.le_refl _⟩

theorem gatherIov_nil_head (maxBytes : Nat) (d : Bytes) (o : Nat) (rest : Cq) (ts num : Nat)
    (h : gatherIov maxBytes (.mem d o :: rest) ts num = []) : d.length - o = 0 := by
  unfold gatherIov at h
  split at h
  · simp only [] at h
    split at h <;> simp at h
  · omega

theorem gatherIov_pos (maxBytes : Nat) : ∀ (q : Cq) (ts num : Nat), ts < maxBytes →
    gatherIov maxBytes q ts num ≠ [] → 0 < (gatherIov maxBytes q ts num).flatten.length
  | [], _, _, _, h => by simp [gatherIov] at h
  | .file .. :: _, _, _, _, h => by simp [gatherIov] at h
  | .mem d o :: rest, ts, num, hts, h => by
    unfold gatherIov at h ⊢
    split
    · rename_i hpos
      simp only []
      have hl : ((d.drop o).take (min (d.length - o) (maxBytes - ts))).length > 0 := by
        simp only [List.length_take, List.length_drop]; omega
      split
      · simp only [List.flatten_cons, List.flatten_nil, List.append_nil]; exact hl
      · simp only [List.flatten_cons, List.length_append]; omega
    · rename_i hz
      simp only [hz, if_false] at h
      exact gatherIov_pos maxBytes rest ts num hts h

/-- what a step guarantees when every socket answer is a non-empty acceptance; `budget`: every
    answer the step consumes pays for at least one unit of `meas` -/
structure StepProg (st st' : NwSt) (rc : Int) (max' : Nat) : Prop where
  rcOk : rc = 0 ∨ rc = -3
  dec : meas st'.q < meas st.q
  budget : meas st'.q + st.sched.length ≤ meas st.q + st'.sched.length
  sub : ∀ r ∈ st'.sched, r ∈ st.sched
  maxpos : rc = 0 → max' > 0

theorem removeFinished_prog (st : NwSt) (maxBytes : Nat) (c : Chunk) (rest : Cq) (hq : st.q = c :: rest)
    (h0 : c.remLen = 0) (hmax : 0 < maxBytes) :
    StepProg st { st with q := removeFinished st.q } 0 maxBytes := by
  have hdec : meas (removeFinished st.q) < meas st.q := by
    have := removeFinished_meas rest
    simp only [hq, removeFinished, h0, if_true, meas, cqLen_cons, List.length_cons]; omega
  exact ⟨Or.inl rfl, hdec, Nat.add_le_add_right (Nat.le_of_lt hdec) _, fun r hr => hr, fun _ => hmax⟩

theorem bufsize_pos : 0 < Extracted.noMmapBufSize := by decide

theorem popRes_mem (s : List WrRes) : ∀ r ∈ (popRes s).2, r ∈ s := by
  cases s with
  | nil => intro r hr; simp [popRes] at hr
  | cons a t => intro r hr; simp only [popRes] at hr; exact List.mem_cons_of_mem _ hr

/-- what a step guarantees when its answer is retried -/
structure StepAgain (st : NwSt) (r : Int × NwSt × Nat) : Prop where
  rc : r.1 = 0 ∨ r.1 = -3
  sub : ∀ x ∈ r.2.1.sched, x ∈ st.sched
  maxpos : r.1 = 0 → 0 < r.2.2

/-! ### what a step does -/

/-- the socket answered `ok n` and took the `wr` bytes `a` from the front of the queue: what the
    step returns as state `st'` and code `rc` (`maxBytes - wr` is left of max_bytes) -/
structure Sent (maxBytes : Nat) (st : NwSt) (n : Nat) (a : Bytes) (wr : Nat) (rc : Int) (st' : NwSt) : Prop where
  sched : st.sched = .ok n :: st'.sched
  front : ∃ t, cqFlat st.q = a ++ t
  len : a.length = wr
  q : st'.q = markWritten st.q wr
  acc : st'.acc = st.acc ++ a
  out : st'.out = st.out + wr
  pos : 0 < maxBytes → 0 < n → 0 < wr
  code : rc = 0 ∨ rc = -3
  maxpos : rc = 0 → 0 < maxBytes - wr

theorem Sent.inv {maxBytes : Nat} {st : NwSt} {n : Nat} {a : Bytes} {wr : Nat} {rc : Int} {st' : NwSt}
    (s : Sent maxBytes st n a wr rc st') (h : CqWF st.q) : NwInv st st' := by
  obtain ⟨t, ht⟩ := s.front
  refine ⟨?_, ?_, ⟨a, s.acc⟩, by rw [s.q]; exact markWritten_WF _ _ h⟩
  · rw [s.q, s.acc, markWritten_flat _ _ h, ht, ← s.len]
    simp
  · rw [s.acc, s.out, ← s.len]
    simp only [List.length_append]
    omega

/-- what one step of the writer does to a well-formed queue, whatever the backend;
    the result is (rc, state, max_bytes left) -/
inductive Eff (maxBytes : Nat) : NwSt → Int × NwSt × Nat → Prop
  | idle {st} : st.q = [] → Eff maxBytes st (0, st, maxBytes)
  /-- nothing to send at the head of the queue: finished chunks are removed.  With max_bytes = 0 the
      C lands here too, bytes pending, and removes nothing: hence the premise -/
  | drop {st} (c : Chunk) (rest : Cq) : st.q = c :: rest → (0 < maxBytes → c.remLen = 0) →
      Eff maxBytes st (0, { st with q := removeFinished st.q }, maxBytes)
  | sent {st n a wr rc st'} : Sent maxBytes st n a wr rc st' → Eff maxBytes st (rc, st', maxBytes - wr)
  /-- the call failed: nothing moves; EAGAIN / EINTR are reported as "try again" (-3) -/
  | err {st} (e : WrRes) (rc : Int) (st' : NwSt) : popRes st.sched = (e, st'.sched) → (∀ n, e ≠ .ok n) →
      SameQueue st st' → (e = .eagain ∨ e = .eintr → rc = -3) → Eff maxBytes st (rc, st', maxBytes)
  /-- sendfile() answered EINVAL: the chunk goes through the read buffer instead -/
  | fallback {st} (st1 : NwSt) (r : Int × NwSt × Nat) : popRes st.sched = (.einval, st1.sched) →
      SameQueue st st1 → Eff maxBytes st1 r → Eff maxBytes st r
  /-- sendfile() accepted nothing -/
  | stuck {st} (st' : NwSt) : st.sched = .ok 0 :: st'.sched → SameQueue st st' →
      Eff maxBytes st (-1, st', maxBytes)

theorem popRes_ok {s : List WrRes} {n : Nat} {t : List WrRes} (h : popRes s = (.ok n, t)) : s = .ok n :: t := by
  cases s with
  | nil => simp [popRes] at h
  | cons a r => simpa [popRes] using h

theorem Eff.inv {maxBytes : Nat} {st : NwSt} {r : Int × NwSt × Nat} (e : Eff maxBytes st r) (h : CqWF st.q) :
    NwInv st r.2.1 := by
  induction e with
  | idle => exact NwInv.refl h
  | drop => exact removeFinished_inv h
  | sent s => exact s.inv h
  | err _ _ _ _ _ hs => exact NwInv.of_same hs h
  | fallback st1 r _ hs _ ih => exact (NwInv.of_same hs h).trans (ih (hs.q ▸ h))
  | stuck _ _ hs => exact NwInv.of_same hs h

theorem Eff.prog {maxBytes : Nat} {st : NwSt} {r : Int × NwSt × Nat} (e : Eff maxBytes st r) (hwf : CqWF st.q)
    (hmax : 0 < maxBytes) {k : Nat} {t : List WrRes} (hs : st.sched = .ok k :: t) (hk : 0 < k) (hne : st.q ≠ []) :
    StepProg st r.2.1 r.1 r.2.2 := by
  cases e with
  | idle hq => exact absurd hq hne
  | drop c rest hq h0 => exact removeFinished_prog st maxBytes c rest hq (h0 hmax) hmax
  | @sent _ n a wr rc st' s =>
    obtain ⟨rfl, rfl⟩ : k = n ∧ t = st'.sched := by simpa [hs] using s.sched
    obtain ⟨tl, htl⟩ := s.front
    have hle : wr ≤ cqLen st.q := by rw [← cqFlat_length st.q hwf, htl, ← s.len]; simp
    have hm' := markWritten_meas st.q wr hle
    have hap := s.pos hmax hk
    refine ⟨s.code, ?_, ?_, fun r hr => hs ▸ List.mem_cons_of_mem _ hr, s.maxpos⟩
    · simp only [s.q]; unfold meas; omega
    · simp only [s.q, hs, List.length_cons]; unfold meas; omega
  | err e rc st' hp hno =>
    rw [hs] at hp
    exact absurd (congrArg Prod.fst hp).symm (hno k)
  | fallback st1 r hp => rw [hs] at hp; simp [popRes] at hp
  | stuck st' hsched => rw [hs] at hsched; simp at hsched; omega

theorem popRes_retryable {s : List WrRes} (h : ∀ r ∈ s, Retryable r) : Retryable (popRes s).1 := by
  cases s with
  | nil => trivial
  | cons a t => exact h a (by simp)

theorem Eff.retry {maxBytes : Nat} {st : NwSt} {r : Int × NwSt × Nat} (e : Eff maxBytes st r) (hmax : 0 < maxBytes)
    (hr : ∀ x ∈ st.sched, Retryable x) : StepAgain st r := by
  have hhd := popRes_retryable hr
  cases e with
  | idle => exact ⟨Or.inl rfl, fun _ h => h, fun _ => hmax⟩
  | drop => exact ⟨Or.inl rfl, fun _ h => h, fun _ => hmax⟩
  | sent s => exact ⟨s.code, fun x hx => s.sched ▸ List.mem_cons_of_mem _ hx, s.maxpos⟩
  | err e rc st' hp hno _ hrc =>
    rw [hp] at hhd
    have he : e = .eagain ∨ e = .eintr := by
      cases e with
      | ok n => exact absurd rfl (hno n)
      | eagain => exact Or.inl rfl
      | eintr => exact Or.inr rfl
      | _ => exact hhd.elim
    refine ⟨Or.inr (hrc he), ?_, fun h => ?_⟩
    · have := popRes_mem st.sched; rw [hp] at this; exact this
    · rw [hrc he] at h; cases h
  | fallback st1 r hp => rw [hp] at hhd; exact hhd.elim
  | stuck st' hsched => rw [hsched] at hhd; exact absurd hhd (Nat.lt_irrefl 0)

/-- network_write_accounting() -/
theorem account_eff {maxBytes : Nat} {st st1 : NwSt} {n : Nat} (data : Bytes) (hs : SameQueue st st1)
    (hsched : st.sched = .ok n :: st1.sched) (hpre : ∃ t, cqFlat st.q = data ++ t)
    (hpos : 0 < maxBytes → data ≠ []) :
    Eff maxBytes st (account st1 maxBytes (min n data.length) data.length data) := by
  obtain ⟨t, ht⟩ := hpre
  refine .sent (a := data.take (min n data.length)) {
    sched := hsched
    front := ⟨data.drop (min n data.length) ++ t, by rw [← List.append_assoc, List.take_append_drop]; exact ht⟩
    len := by rw [List.length_take]; omega
    q := by simp only [hs.q]
    acc := by simp only [hs.acc]
    out := by simp only [hs.out]
    pos := fun hm hn => by have := List.length_pos_iff.mpr (hpos hm); omega
    code := ?_, maxpos := ?_ }
  · split <;> simp
  · intro h
    split at h
    · rename_i hc; exact hc.2
    · cases h

theorem writevMem_eff {maxBytes : Nat} {st : NwSt} {d : Bytes} {o : Nat} {rest : Cq}
    (hq : st.q = .mem d o :: rest) : Eff maxBytes st (writevMem st maxBytes) := by
  unfold writevMem
  simp only []
  refine ite_ind (fun hemp => ?_) (fun hne => ?_)
  · refine .drop _ rest hq fun _ => ?_
    have hnil : gatherIov maxBytes st.q 0 0 = [] := by simpa using hemp
    rw [hq] at hnil
    simpa [Chunk.remLen] using gatherIov_nil_head _ _ _ _ _ _ hnil
  · have hne' : gatherIov maxBytes st.q 0 0 ≠ [] := by simpa using hne
    rcases hp : popRes st.sched with ⟨res, sched'⟩
    cases res with
    | ok n =>
      exact account_eff _ ⟨rfl, rfl, rfl⟩ (popRes_ok hp) (gatherIov_prefix maxBytes st.q 0 0)
        (fun hm => List.ne_nil_of_length_pos (gatherIov_pos maxBytes st.q 0 0 hm hne'))
    | _ => exact .err _ _ ⟨_, sched', _, _, _, _⟩ hp (fun n h => by cases h) ⟨rfl, rfl, rfl⟩ (by simp [writeErrRc])

theorem fileNoMmap_eff {maxBytes : Nat} {st : NwSt} {ct : Bytes} {o e : Nat} {rest : Cq} (hwf : CqWF st.q)
    (hq : st.q = .file ct o e :: rest) : Eff maxBytes st (fileNoMmap st maxBytes) := by
  have hc : (Chunk.file ct o e).WF := hwf _ (by rw [hq]; simp)
  simp only [Chunk.WF] at hc
  have hb := bufsize_pos
  obtain ⟨q, sched, acc, out, faults, trace⟩ := st
  cases hq
  simp only [fileNoMmap]
  refine ite_ind (fun hz => ?_) (fun hz => ?_)
  · exact .drop _ rest rfl fun hm => by simp only [Chunk.remLen]; omega
  · have hlen : ((ct.drop o).take (min (min (e - o) maxBytes) Extracted.noMmapBufSize)).length
        = min (min (e - o) maxBytes) Extracted.noMmapBufSize := by
      simp only [List.length_take, List.length_drop]; omega
    obtain ⟨t, ht⟩ := file_read_prefix ct o e (min (min (e - o) maxBytes) Extracted.noMmapBufSize) (by omega)
    have hpre : ∃ t', cqFlat (.file ct o e :: rest)
        = (ct.drop o).take (min (min (e - o) maxBytes) Extracted.noMmapBufSize) ++ t' :=
      ⟨t ++ cqFlat rest, by rw [cqFlat_cons, ht, List.append_assoc]⟩
    generalize (ct.drop o).take (min (min (e - o) maxBytes) Extracted.noMmapBufSize) = buf at hlen hpre ⊢
    have hbne : buf ≠ [] := fun h => by rw [h] at hlen; simp at hlen; omega
    rw [if_neg (by simpa using hbne)]
    rcases hp : popRes sched with ⟨res, sched'⟩
    cases res with
    | ok n => exact account_eff buf ⟨rfl, rfl, rfl⟩ (popRes_ok hp) hpre (fun _ => hbne)
    | _ => exact .err _ _ ⟨_, sched', _, _, _, _⟩ hp (fun n h => by cases h) ⟨rfl, rfl, rfl⟩ (by simp [writeErrRc])

theorem fileSendfile_eff {maxBytes : Nat} {st : NwSt} {ct : Bytes} {o e : Nat} {rest : Cq} (hwf : CqWF st.q)
    (hq : st.q = .file ct o e :: rest) : Eff maxBytes st (fileSendfile st maxBytes) := by
  have hc : (Chunk.file ct o e).WF := hwf _ (by rw [hq]; simp)
  simp only [Chunk.WF] at hc
  have hno := @fileNoMmap_eff maxBytes
  obtain ⟨q, sched, acc, out, faults, trace⟩ := st
  cases hq
  simp only [fileSendfile]
  refine ite_ind (fun hz => ?_) (fun hz => ?_)
  · exact .drop _ rest rfl fun hm => by simp only [Chunk.remLen]; omega
  · rcases hp : popRes sched with ⟨res, sched'⟩
    cases res with
    | ok n =>
      dsimp only
      refine ite_ind (fun hpos => ?_) (fun hz' => ?_)
      · obtain ⟨t, ht⟩ := file_read_prefix ct o e (min (min n (min (e - o) maxBytes)) (ct.length - o)) (by omega)
        refine .sent (st' := ⟨_, sched', _, _, _, _⟩) {
          sched := popRes_ok hp
          front := ⟨t ++ cqFlat rest, by rw [cqFlat_cons, ht, List.append_assoc]⟩
          len := by simp only [List.length_take, List.length_drop]; omega
          q := rfl, acc := rfl, out := rfl
          pos := fun _ _ => hpos
          code := ?_, maxpos := ?_ }
        · split
          · exact Or.inr rfl
          · split
            · exact Or.inl rfl
            · exact Or.inr rfl
        · intro h
          split at h
          · cases h
          · omega
      · -- the file is as long as the chunk says, so only the answer 0 sends nothing
        have h0 : n = 0 := by omega
        exact .stuck ⟨_, sched', _, _, _, _⟩ (h0 ▸ popRes_ok hp) ⟨rfl, rfl, rfl⟩
    | einval => exact .fallback ⟨_, sched', _, _, _, _⟩ _ hp ⟨rfl, rfl, rfl⟩ (hno hwf rfl)
    | _ => exact .err _ _ ⟨_, sched', _, _, _, _⟩ hp (fun n h => by cases h) ⟨rfl, rfl, rfl⟩ (by simp)

theorem nwStep_eff (b : Backend) (st : NwSt) (maxBytes : Nat) (hwf : CqWF st.q) :
    Eff maxBytes st (nwStep b st maxBytes) := by
  unfold nwStep
  split
  · rename_i hq; exact .idle hq
  · rename_i hq; exact writevMem_eff hq
  · rename_i hq
    cases b with
    | writev => exact fileNoMmap_eff hwf hq
    | sendfile => exact fileSendfile_eff hwf hq

/-! ### the loops -/

theorem nwLoop_inv (b : Backend) : ∀ (fuel : Nat) (st : NwSt) (maxBytes : Nat), CqWF st.q →
    NwInv st (nwLoop b fuel st maxBytes).2
  | 0, st, _, h => NwInv.refl h
  | fuel + 1, st, maxBytes, h => by
    unfold nwLoop
    by_cases hemp : st.q.isEmpty = true
    · rw [if_pos hemp]; exact NwInv.refl h
    · rw [if_neg hemp]
      have hs := (nwStep_eff b st maxBytes h).inv h
      rcases hstep : nwStep b st maxBytes with ⟨rc, st', max'⟩
      rw [hstep] at hs
      simp only []
      by_cases hrc : rc ≠ 0
      · rw [if_pos hrc]; exact hs
      · rw [if_neg hrc]; exact hs.trans (nwLoop_inv b fuel st' max' hs.wf)

theorem networkWrite_inv (b : Backend) (st : NwSt) (maxBytes : Nat) (h : CqWF st.q) :
    NwInv st (networkWrite b st maxBytes).2 :=
  nwLoop_inv b _ st maxBytes h

theorem driveGo_inv (b : Backend) (maxBytes : Nat) : ∀ (fuel : Nat) (rc : Int) (calls : Nat) (st : NwSt),
    CqWF st.q → NwInv st (driveGo b maxBytes fuel rc calls st).2.2
  | 0, _, _, st, h => NwInv.refl h
  | fuel + 1, rc, calls, st, h => by
    unfold driveGo
    by_cases hend : (st.q.isEmpty || st.sched.isEmpty) = true
    · rw [if_pos hend]; exact NwInv.refl h
    · rw [if_neg hend]
      have hs := networkWrite_inv b st maxBytes h
      rcases hnw : networkWrite b st maxBytes with ⟨rc', st'⟩
      rw [hnw] at hs
      simp only []
      by_cases hrc : rc' < 0
      · rw [if_pos hrc]; exact hs
      · rw [if_neg hrc]; exact hs.trans (driveGo_inv b maxBytes fuel rc' (calls + 1) st' hs.wf)

/-- the hypothesis of `c04_write_progress` as a loop invariant: one `ok k`, k > 0, left per unit of `meas` -/
structure ProgInv (st : NwSt) : Prop where
  wf : CqWF st.q
  ok : AllOkPos st.sched
  enough : meas st.q ≤ st.sched.length

theorem meas_pos {q : Cq} (h : q ≠ []) : 0 < meas q := by
  cases q with
  | nil => exact absurd rfl h
  | cons c r => unfold meas; simp only [List.length_cons]; omega

theorem ProgInv.sched_cons {st : NwSt} (h : ProgInv st) (hne : st.q ≠ []) :
    ∃ k t, st.sched = .ok k :: t ∧ 0 < k := by
  have := meas_pos hne
  have hl := h.enough
  cases hs : st.sched with
  | nil => rw [hs] at hl; simp at hl; omega
  | cons r t =>
    obtain ⟨k, rfl, hk⟩ := h.ok r (by rw [hs]; simp)
    exact ⟨k, t, rfl, hk⟩

theorem nwLoop_prog (b : Backend) : ∀ (fuel : Nat) (st : NwSt) (maxBytes : Nat), ProgInv st → 0 < maxBytes →
    (nwLoop b fuel st maxBytes).1 = 0 ∧ ProgInv (nwLoop b fuel st maxBytes).2 ∧
    meas (nwLoop b fuel st maxBytes).2.q ≤ meas st.q ∧
    (0 < fuel → st.q ≠ [] → meas (nwLoop b fuel st maxBytes).2.q < meas st.q)
  | 0, st, _, h, _ => ⟨rfl, h, Nat.le_refl _, fun h0 => absurd h0 (Nat.lt_irrefl 0)⟩
  | fuel + 1, st, maxBytes, h, hmax => by
    unfold nwLoop
    by_cases hemp : st.q.isEmpty = true
    · rw [if_pos hemp]
      have : st.q = [] := by simpa using hemp
      exact ⟨rfl, h, Nat.le_refl _, fun _ hne => absurd this hne⟩
    · rw [if_neg hemp]
      have hne : st.q ≠ [] := by simpa using hemp
      obtain ⟨k, t, hs, hk⟩ := h.sched_cons hne
      have he := nwStep_eff b st maxBytes h.wf
      have hp := he.prog h.wf hmax hs hk hne
      have hinv := he.inv h.wf
      rcases hstep : nwStep b st maxBytes with ⟨rc, st', max'⟩
      rw [hstep] at hp hinv
      simp only [] at hp hinv ⊢
      have hpi : ProgInv st' := ⟨hinv.wf, fun r hr => h.ok r (hp.sub r hr), by have := hp.budget; have := h.enough; omega⟩
      by_cases hrc : rc ≠ 0
      · rw [if_pos hrc]
        refine ⟨?_, hpi, Nat.le_of_lt hp.dec, fun _ _ => hp.dec⟩
        rcases hp.rcOk with e | e
        · exact absurd e hrc
        · simp [e]
      · rw [if_neg hrc]
        have hrc0 : rc = 0 := by simpa using hrc
        obtain ⟨hrc', hpi', hle, _⟩ := nwLoop_prog b fuel st' max' hpi (hp.maxpos hrc0)
        have := hp.dec
        exact ⟨hrc', hpi', by omega, fun _ _ => by omega⟩

theorem networkWrite_prog (b : Backend) (st : NwSt) (maxBytes : Nat) (h : ProgInv st) (hmax : 0 < maxBytes) :
    (networkWrite b st maxBytes).1 = 0 ∧ ProgInv (networkWrite b st maxBytes).2 ∧
    (st.q ≠ [] → meas (networkWrite b st maxBytes).2.q < meas st.q) := by
  obtain ⟨hrc, hpi, _, hdec⟩ := nwLoop_prog b (cqLen st.q + st.q.length + 1) st maxBytes h hmax
  exact ⟨hrc, hpi, hdec (by omega)⟩

theorem driveGo_prog (b : Backend) (maxBytes : Nat) (hmax : 0 < maxBytes) : ∀ (fuel : Nat) (calls : Nat) (st : NwSt),
    ProgInv st → meas st.q < fuel →
    (driveGo b maxBytes fuel 0 calls st).1 = 0 ∧ (driveGo b maxBytes fuel 0 calls st).2.2.q = []
  | 0, _, st, _, hf => by omega
  | fuel + 1, calls, st, h, hf => by
    unfold driveGo
    by_cases hq : st.q = []
    · simp [hq]
    · obtain ⟨k, t, hs, _⟩ := h.sched_cons hq
      have hqe : st.q.isEmpty = false := List.isEmpty_eq_false_iff.mpr hq
      simp only [hqe, hs, List.isEmpty_cons, Bool.or_self, Bool.false_eq_true, if_false]
      obtain ⟨hrc, hpi, hdec⟩ := networkWrite_prog b st maxBytes h hmax
      rw [hrc]
      simp only [Int.lt_irrefl, if_false]
      exact driveGo_prog b maxBytes hmax fuel (calls + 1) _ hpi (by have := hdec hq; omega)

theorem nwLoop_retry (b : Backend) : ∀ (fuel : Nat) (st : NwSt) (maxBytes : Nat), CqWF st.q → 0 < maxBytes →
    (∀ r ∈ st.sched, Retryable r) →
    (nwLoop b fuel st maxBytes).1 = 0 ∧ (∀ r ∈ (nwLoop b fuel st maxBytes).2.sched, Retryable r)
  | 0, st, _, _, _, hr => ⟨rfl, hr⟩
  | fuel + 1, st, maxBytes, hwf, hmax, hr => by
    unfold nwLoop
    by_cases hemp : st.q.isEmpty = true
    · rw [if_pos hemp]; exact ⟨rfl, hr⟩
    · rw [if_neg hemp]
      have he := nwStep_eff b st maxBytes hwf
      have hp := he.retry hmax hr
      have hinv := he.inv hwf
      rcases hstep : nwStep b st maxBytes with ⟨rc, st', max'⟩
      rw [hstep] at hp hinv
      simp only [] at hp hinv ⊢
      have hr' : ∀ r ∈ st'.sched, Retryable r := fun r h => hr r (hp.sub r h)
      by_cases hrc : rc ≠ 0
      · rw [if_pos hrc]
        refine ⟨?_, hr'⟩
        rcases hp.rc with e | e
        · exact absurd e hrc
        · simp only [] at e; simp [e]
      · rw [if_neg hrc]
        have hrc0 : rc = 0 := by simpa using hrc
        exact nwLoop_retry b fuel st' max' hinv.wf (hp.maxpos hrc0) hr'

theorem driveGo_retry (b : Backend) (maxBytes : Nat) (hmax : 0 < maxBytes) : ∀ (fuel : Nat) (calls : Nat) (st : NwSt),
    CqWF st.q → (∀ r ∈ st.sched, Retryable r) → (driveGo b maxBytes fuel 0 calls st).1 = 0
  | 0, _, _, _, _ => rfl
  | fuel + 1, calls, st, hwf, hr => by
    unfold driveGo
    by_cases hend : (st.q.isEmpty || st.sched.isEmpty) = true
    · rw [if_pos hend]
    · rw [if_neg hend]
      have hp := nwLoop_retry b (cqLen st.q + st.q.length + 1) st maxBytes hwf hmax hr
      have hinv := networkWrite_inv b st maxBytes hwf
      have e : networkWrite b st maxBytes = nwLoop b (cqLen st.q + st.q.length + 1) st maxBytes := rfl
      rw [e] at hinv ⊢
      rcases hl : nwLoop b (cqLen st.q + st.q.length + 1) st maxBytes with ⟨rc', st'⟩
      rw [hl] at hp hinv
      simp only [] at hp hinv ⊢
      rw [hp.1]
      simp only [Int.lt_irrefl, if_false]
      exact driveGo_retry b maxBytes hmax fuel (calls + 1) _ hinv.wf hp.2

end LtVerif
