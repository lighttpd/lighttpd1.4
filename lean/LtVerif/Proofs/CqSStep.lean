/-
  C17, chunk queue: one statement per function that writes temp files (`f_sstep`, `f_sout`, `f_sw`).
  Defined here and used by other files: `SStep` (with `SOut`, `SwStep`, `Turn`), `ToTemp`, `Sw`,
  `AppKeep`, `Transfer`.  Every write is an append through the chunk that owns the file (`GI`), so
  spilling is invisible in the queued bytes and a failed spill keeps a prefix.
-/
import LtVerif.Proofs.CqGI
import LtVerif.Proofs.CqTemp
namespace LtVerif.Cq

/-! ## one statement per temp-file function -/

/-- what a temp-file function does to queue `q` in world `w`; `R`: the queued bytes before and
    after, `X`: the chunks of the rest of the system -/
structure SStep (w : World) (q : Cq) (w' : World) (q' : Cq) (R : Bytes → Bytes → Prop) : Prop where
  res : Conserve w q.chunks w' q'.chunks
  nomem : NoMem q.chunks → NoMem q'.chunks
  /-- from `Fresh`, `QV`: both again, files have only grown -/
  acct : TStep w q w' q'
  bytes : ∀ {base X}, QV w q → GI base w (q.chunks ++ X) → WI base w' ∧ Ext w w' ∧ R (q.abs w) (q'.abs w')

theorem SStep.gi {w w' : World} {q q' : Cq} {R : Bytes → Bytes → Prop} (h : SStep w q w' q' R)
    {base : Nat → Int} {X : List Chunk} (hq : QV w q) (hg : GI base w (q.chunks ++ X)) :
    QV w' q' ∧ GI base w' (q'.chunks ++ X) ∧ Ext w w' ∧ R (q.abs w) (q'.abs w') :=
  let ⟨f1, g1, q1⟩ := h.acct hg.fresh hq
  let ⟨a, b, c⟩ := h.bytes hq hg
  ⟨q1, hg.step h.res g1 f1 a q1.valid, b, c⟩

theorem SStep.comp {w w1 w2 : World} {q q1 q2 : Cq} {R1 R2 R : Bytes → Bytes → Prop}
    (h1 : SStep w q w1 q1 R1) (h2 : SStep w1 q1 w2 q2 R2)
    (hr : ∀ a a' a'', R1 a a' → R2 a' a'' → R a a'') : SStep w q w2 q2 R :=
  ⟨h1.res.trans h2.res, fun h => h2.nomem (h1.nomem h), h1.acct.trans h2.acct, fun hq hg => by
    obtain ⟨q1', g1, e1, r1⟩ := h1.gi hq hg
    obtain ⟨a, b, c⟩ := h2.bytes q1' g1
    exact ⟨a, e1.trans b, hr _ _ _ r1 c⟩⟩

theorem SStep.mono {w w' : World} {q q' : Cq} {R R' : Bytes → Bytes → Prop} (h : SStep w q w' q' R)
    (hr : ∀ a a', R a a' → R' a a') : SStep w q w' q' R' :=
  ⟨h.res, h.nomem, h.acct, fun hq hg => let ⟨a, b, c⟩ := h.bytes hq hg; ⟨a, b, hr _ _ c⟩⟩

def Same (a a' : Bytes) : Prop := a' = a

theorem SStep.same_then {w w1 w2 : World} {q q1 q2 : Cq} {R : Bytes → Bytes → Prop}
    (h1 : SStep w q w1 q1 Same) (h2 : SStep w1 q1 w2 q2 R) : SStep w q w2 q2 R :=
  h1.comp h2 fun a a' a'' (e : a' = a) r => by rw [← e]; exact r

theorem QStep.sstep {w w' : World} {q q' : Cq} (hs : QStep w q (w', q') (q.abs w))
    (hn : NoMem q.chunks → NoMem q'.chunks) : SStep w q w' q' Same :=
  ⟨hs.res, hn, hs.tstep, fun hq hg => ⟨hs.1.wi hg.wi, hs.1.ext, (absChunks_same hs.1 _).trans (hs.qv hq).2⟩⟩

theorem SStep.refl (w : World) (q : Cq) : SStep w q w q Same := (QStep.refl w q).sstep id

theorem popW_sstep (w : World) (q : Cq) : SStep w q (popW w).1 q Same :=
  (QStep.world (popW_quiet w)).sstep id

/-! ### creating temp files -/

theorem createTemp_ext {w : World} (dir : Nat) (hf : Fresh w) : Ext w (createTemp w dir).1 := by
  intro f
  by_cases h : f = w.nfiles
  · subst h
    have : (w.files w.nfiles).content = [] := List.eq_nil_of_length_eq_zero (hf _ (Nat.le_refl _))
    rw [this]; exact List.nil_prefix
  · simp [createTemp, World.addFile, h]

theorem newTempfile_sstep {w : World} {q : Cq} {w' : World} {q' : Cq} {ok : Bool}
    (h : newTempfile w q = (w', q', ok)) : SStep w q w' q' Same := by
  obtain ⟨w1, idx, hp, e | ⟨dir, e⟩⟩ := newTempfile_cases w q <;> rw [e] at h <;> cases h
  · exact ⟨hp.res.conserve _, id,
      fun hf hq => ⟨hp.same.fresh hf, hp.same.grows, ⟨(hq.mono hp.same.grows).valid, hq.len⟩⟩,
      fun hq hg => ⟨hp.same.wi hg.wi, hp.same.ext, absChunks_same hp.same _⟩⟩
  · refine ⟨(hp.res.conserve _).trans (createTemp_res w1 dir q.chunks), fun hn => hn.append (NoMem.single rfl),
      fun hf hq => ?_, fun {base X} hq hg => ?_⟩
    · obtain ⟨a, b, c, _⟩ := createTemp_spec w1 dir (hp.same.fresh hf)
      have hq' := hq.mono (hp.same.grows.trans b)
      refine ⟨a, hp.same.grows.trans b, hq'.valid.append (.single ⟨c, Nat.le_refl _, Nat.zero_le _, Or.inr (Or.inl rfl)⟩), ?_⟩
      have := hq'.len
      simp [Chunk.rem, this]
    · -- a new temp chunk is empty: the same bytes
      have e1 := hp.same.ext.trans (createTemp_ext dir (hp.same.fresh hg.fresh))
      refine ⟨createTemp_wi dir (hp.same.fresh hg.fresh) (hp.same.wi hg.wi), e1, ?_⟩
      simp only [Same, Cq.abs]
      rw [← absChunks_ext hq.valid e1]
      simp [Chunk.content]

/-- chunkqueue_get_append_tempfile(): keep the last temp chunk, close it and renew, or renew -/
theorem getAppendTempfile_sstep {w : World} {q : Cq} {w' : World} {q' : Cq} {ok : Bool}
    (h : getAppendTempfile w q = (w', q', ok)) : SStep w q w' q' Same := by
  unfold getAppendTempfile at h
  split at h
  · rename_i fid off len fd hl
    split at h
    · rename_i ho
      split at h
      · cases h
        exact SStep.refl w q
      · exact ((closeLast_step hl ho).sstep fun h => h.setLast rfl).same_then (newTempfile_sstep h)
    · exact newTempfile_sstep h
  · exact newTempfile_sstep h

/-! ### the write itself -/

def App (d : Bytes) (a a' : Bytes) : Prop := a' = a ++ d

theorem writeGrow_sstep {w : World} {q : Cq} (d : Bytes) {fid off len : Nat} {fd : Fd}
    (hl : q.chunks.getLast? = some (.file fid off len true fd)) :
    SStep w q (writeLast w q d) (growLast q d.length) (App d) := by
  refine ⟨writeGrow_res w q d, fun hn => by rw [(growLast_file d.length hl).1]; exact hn.setLast rfl,
    writeGrow_tstep w q d, fun {base X} hq hg => ?_⟩
  -- the owning temp chunk spans its whole file (`GI.full_of_mem`): the pwrite is an append
  have hmem : Chunk.file fid off len true fd ∈ q.chunks ++ X :=
    List.mem_append_left _ (List.mem_of_getLast? hl)
  have hfull := hg.full_of_mem hmem
  have hv := valid_last hq.valid hl
  simp only [Chunk.Valid] at hv
  have hw' : writeLast w q d = (w.pwrite fid len d).addTl fid d.length := by
    simp [writeLast, hl]
  have hcont : ∀ f, ((writeLast w q d).files f).content =
      if f = fid then (w.files fid).content ++ d else (w.files f).content := by
    intro f
    rw [hw']
    by_cases hf : f = fid
    · subst hf
      simp only [World.addTl, World.pwrite, setFile_files_same, if_true]
      rw [hfull]; exact writeAt_end _ _
    · simp [World.addTl, World.pwrite, setFile_files_other _ _ hf, hf]
  have hext : Ext w (writeLast w q d) := by
    intro f
    rw [hcont f]
    split
    · rename_i h; subst h; exact List.prefix_append _ _
    · exact List.prefix_refl _
  have hres : ∀ f, ((writeLast w q d).files f).nlink = (w.files f).nlink ∧
      ((writeLast w q d).files f).tl = (w.files f).tl + (if f = fid then (d.length : Int) else 0) := by
    intro f
    rw [hw']
    by_cases hf : f = fid
    · subst hf; simp [World.addTl, World.pwrite]
    · simp [World.addTl, World.pwrite, setFile_files_other _ _ hf, hf]
  have hsz : ∀ f, sz (writeLast w q d) f = sz w f + (if f = fid then d.length else 0) := by
    intro f
    simp only [sz, hcont f]
    split <;> simp_all
  have hwi : WI base (writeLast w q d) := by
    have hnf : (writeLast w q d).nfiles = w.nfiles := by rw [hw']; rfl
    refine ⟨fun f => by rw [(hres f).1]; exact hg.wi.nb f, fun f hle => ?_, fun f hge => ?_⟩
    · rw [hnf] at hle
      have hne : f ≠ fid := by omega
      rw [(hres f).1, (hres f).2]
      simp only [hne, if_false, Int.add_zero]
      exact hg.wi.unused f hle
    · rw [(hres f).1] at hge
      rw [(hres f).2, hsz f, hg.wi.full f hge]
      split <;> simp
  refine ⟨hwi, hext, ?_⟩
  simp only [App, Cq.abs]
  rw [(growLast_file d.length hl).1]
  have hpre : absChunks (writeLast w q d) q.chunks.dropLast = absChunks w q.chunks.dropLast :=
    absChunks_ext hq.valid.dropLast hext
  conv => rhs; rw [split_last hl]
  simp only [setLast, absChunks_append, absChunks_cons, absChunks_nil, List.append_nil, hpre,
    List.append_assoc]
  congr 1
  simp only [Chunk.content, hcont fid, if_true]
  have hlen : (w.files fid).content.length = len := by simp only [sz] at hfull; omega
  rw [List.drop_append_of_le_length (by omega), List.take_append]
  simp only [List.length_drop, hlen]
  have e1 : len + d.length - off - (len - off) = d.length := by omega
  rw [e1, List.take_of_length_le (l := List.drop off _) (by simp [hlen]; omega),
    List.take_of_length_le (Nat.le_refl _), List.take_of_length_le (by simp [hlen])]

/-! ### chunkqueue_append_mem_to_tempfile() -/

/-- success: `d` is appended; failure: a prefix of that is left, and what the queue held is
    still there unless chunkqueue_to_tempfiles() was entered (`nm`: it held no MEM chunk) -/
def AppKeep (nm : Prop) : Bool → Bytes → Bytes → Bytes → Prop
  | true, d, a, a' => a' = a ++ d
  | false, d, a, a' => a' <+: a ++ d ∧ (nm → a <+: a')

theorem AppKeep.safe {nm : Prop} {ok : Bool} {d a a' : Bytes} (h : AppKeep nm ok d a a') :
    if ok then a' = a ++ d else a' <+: a ++ d := by
  cases ok
  · exact h.1
  · exact h

theorem AppKeep.keeps {nm : Prop} {d a a' : Bytes} (h : AppKeep nm false d a a') (hn : nm) : a <+: a' :=
  h.2 hn

theorem mtLoop_sstep (fuel : Nat) (w : World) (q : Cq) (d : Bytes) (nm : Prop) :
    SStep w q (mtLoop fuel w q d).1 (mtLoop fuel w q d).2.1 (AppKeep nm (mtLoop fuel w q d).2.2 d) := by
  -- the loop chains four kinds of steps; `App x`: the prefix `x` of `d` its writes carry
  have nil : ∀ {w q w' q'}, SStep w q w' q' Same → SStep w q w' q' (App []) := fun h =>
    h.mono fun a a' (e : a' = a) => show a' = a ++ [] by rw [e, List.append_nil]
  have refl := fun w q => nil (SStep.refl w q)
  have trans : ∀ {x y w q w1 q1 w2 q2}, SStep w q w1 q1 (App x) → SStep w1 q1 w2 q2 (App y) →
      SStep w q w2 q2 (App (x ++ y)) := fun {x y} _ _ _ _ _ _ h1 h2 =>
    h1.comp h2 fun a a' a'' (e1 : a' = a ++ x) (e2 : a'' = a' ++ y) =>
      show a'' = a ++ (x ++ y) by rw [e2, e1, List.append_assoc]
  have gat : ∀ {w q w' q' ok}, getAppendTempfile w q = (w', q', ok) → SStep w q w' q' (App []) :=
    fun hg => nil (getAppendTempfile_sstep hg)
  have pop := fun w q => nil (popW_sstep w q)
  have wr : ∀ {w0 q0 w1 q} (w : World) (d : Bytes), getAppendTempfile w0 q0 = (w1, q, true) →
      SStep w q (writeLast w q d) (growLast q d.length) (App d) := fun w d hg => by
    obtain ⟨fid, off, len, fd, hl⟩ := getAppendTempfile_last hg
    exact writeGrow_sstep d hl
  have err := fun w q e => nil ((tempfileErr_step w q e).sstep (tempfileErr_noMem w q e))
  obtain ⟨x, hx, hp, hok⟩ : ∃ x, SStep w q (mtLoop fuel w q d).1 (mtLoop fuel w q d).2.1 (App x) ∧ x <+: d ∧
      ((mtLoop fuel w q d).2.2 = true → x = d) := by
    fun_induction mtLoop fuel w q d with
    | case1 w q d => exact ⟨[], refl w q, List.nil_prefix, fun h => by cases h⟩  -- out of fuel
    | case2 fuel w q d w1 q1 hg => exact ⟨[], gat hg, List.nil_prefix, fun h => by cases h⟩  -- no temp file
    | case3 fuel w q d w1 q1 hg h0 =>  -- nothing to write
      exact ⟨[], gat hg, List.nil_prefix, fun _ => (List.eq_nil_of_length_eq_zero h0).symm⟩
    | case4 fuel w q d w1 q1 hg h0 p he =>  -- ok
      exact ⟨d, trans (gat hg) (trans (pop w1 q1) (wr p.1 d hg)), List.prefix_refl d, fun _ => rfl⟩
    | case5 fuel w q d w1 q1 hg h0 p a he hge =>  -- short, all of `d`
      exact ⟨d, trans (gat hg) (trans (pop w1 q1) (wr p.1 d hg)), List.prefix_refl d, fun _ => rfl⟩
    | case6 fuel w q d w1 q1 hg h0 p a he hlt ih =>  -- short write
      obtain ⟨y, hy, hp, hok⟩ := ih
      have hw := wr p.1 (d.take a) hg
      have : (d.take a).length = a := by rw [List.length_take]; omega
      rw [this] at hw
      refine ⟨_, trans (gat hg) (trans (trans (pop w1 q1) hw) hy), ?_, fun h => ?_⟩
      · have : d.take a ++ y <+: d.take a ++ d.drop a := (List.prefix_append_right_inj _).mpr hp
        rwa [List.take_append_drop] at this
      · rw [hok h]
        exact List.take_append_drop a d
    | case7 fuel w q d w1 q1 hg h0 p he ih =>  -- EINTR
      obtain ⟨y, hy, hp, hok⟩ := ih
      exact ⟨y, trans (gat hg) (trans (pop w1 q1) hy), hp, hok⟩
    | case8 fuel w q d w1 q1 hg h0 p he w2 q2 ht ih =>  -- ENOSPC, retry
      have herr : SStep p.1 q1 w2 q2 (App []) := by have := err p.1 q1 true; rwa [ht] at this
      obtain ⟨y, hy, hp, hok⟩ := ih
      exact ⟨y, trans (gat hg) (trans (trans (pop w1 q1) herr) hy), hp, hok⟩
    | case9 fuel w q d w1 q1 hg h0 p he w2 q2 ht =>  -- ENOSPC, give up
      have herr : SStep p.1 q1 w2 q2 (App []) := by have := err p.1 q1 true; rwa [ht] at this
      exact ⟨[], trans (gat hg) (trans (pop w1 q1) herr), List.nil_prefix, fun h => by cases h⟩
    | case10 fuel w q d w1 q1 hg h0 p he w2 q2 ht ih =>  -- EIO, retry
      have herr : SStep p.1 q1 w2 q2 (App []) := by have := err p.1 q1 false; rwa [ht] at this
      obtain ⟨y, hy, hp, hok⟩ := ih
      exact ⟨y, trans (gat hg) (trans (trans (pop w1 q1) herr) hy), hp, hok⟩
    | case11 fuel w q d w1 q1 hg h0 p he w2 q2 ht =>  -- EIO, give up
      have herr : SStep p.1 q1 w2 q2 (App []) := by have := err p.1 q1 false; rwa [ht] at this
      exact ⟨[], trans (gat hg) (trans (pop w1 q1) herr), List.nil_prefix, fun h => by cases h⟩
  refine hx.mono fun a a' (e : a' = a ++ x) => ?_
  cases hres : (mtLoop fuel w q d).2.2
  · rw [e]
    exact ⟨(List.prefix_append_right_inj a).mpr hp, fun _ => List.prefix_append a x⟩
  · exact show a' = a ++ d by rw [e, hok hres]

/-! ### chunkqueue_append_cqmem_to_tempfile() -/

def KeepOrPrefix : Bool → Bytes → Bytes → Prop
  | true, a, a' => a' = a
  | false, a, a' => a' <+: a

/-- chunkqueue_to_tempfiles() as a parameter: the real one or the stub -/
def ToTemp (toTemp : World → Cq → World × Cq × Bool) : Prop :=
  ∀ w q, SStep w q (toTemp w q).1 (toTemp w q).2.1 (KeepOrPrefix (toTemp w q).2.2)

/-- `rc >= 0`: the first `rc` bytes of `sb` were added to `B`; `rc < 0`: a prefix of `B` is left
    (`nm`: as in `AppKeep`) -/
def Moved (nm : Prop) (rc : Int) (sb B a' : Bytes) : Prop :=
  if 0 ≤ rc then a' = B ++ sb.take rc.toNat else a' <+: B ∧ (nm → a' = B)

theorem Moved.imp {nm nm' : Prop} {rc : Int} {sb B a' : Bytes} (h : Moved nm rc sb B a') (hn : nm' → nm) :
    Moved nm' rc sb B a' := by
  unfold Moved at *
  split
  · rename_i h0; rw [if_pos h0] at h; exact h
  · rename_i h0; rw [if_neg h0] at h; exact ⟨h.1, fun n => h.2 (hn n)⟩

theorem Moved.same {nm : Prop} {rc : Int} {sb B a' : Bytes} (hrc : rc ≤ 0) (h : a' = B) : Moved nm rc sb B a' := by
  unfold Moved
  split
  · rw [h, show rc.toNat = 0 by omega, List.take_zero, List.append_nil]
  · exact ⟨h ▸ List.prefix_refl _, fun _ => h⟩

/-- `SStep` for a step on dest that reports `r.rc`: `B` = the bytes dest should keep, `sb` = those
    offered from src (`Moved`), `C` = what the caller knows of the chunks' bytes -/
structure SOut (w : World) (dest : Cq) (r : SwOut) (sb B : Bytes) (C : Prop) : Prop where
  res : Conserve w dest.chunks r.w r.dest.chunks
  nomem : NoMem dest.chunks → NoMem r.dest.chunks
  acct : TStep w dest r.w r.dest
  bytes : ∀ {base X}, C → QV w dest → GI base w (dest.chunks ++ X) →
    WI base r.w ∧ Ext w r.w ∧ Moved (NoMem dest.chunks) r.rc sb B (r.dest.abs r.w)

/-- steps in front of the step that reports: what that step must know (`C'`, and dest's bytes
    `B1`) follows from `C` and what the steps in front did -/
theorem SOut.after {w w1 : World} {q q1 : Cq} {r : SwOut} {sb B B1 : Bytes} {C C' : Prop}
    {R : Bytes → Bytes → Prop} (h1 : SStep w q w1 q1 R) (h2 : SOut w1 q1 r sb B1 C')
    (hC : C → QV w q → QV w1 q1 → Ext w w1 → R (q.abs w) (q1.abs w1) → C' ∧ B1 = B) : SOut w q r sb B C :=
  ⟨h1.res.trans h2.res, fun h => h2.nomem (h1.nomem h), h1.acct.trans h2.acct, fun hc hq hg => by
    obtain ⟨q1', g1, e1, r1⟩ := h1.gi hq hg
    obtain ⟨c', rfl⟩ := hC hc hq q1' e1 r1
    obtain ⟨a, b, c⟩ := h2.bytes c' q1' g1
    exact ⟨a, e1.trans b, c.imp h1.nomem⟩⟩

theorem SOut.widen {w : World} {q : Cq} {r : SwOut} {sb sb' B : Bytes} {C : Prop} (h : SOut w q r sb B C)
    (hp : sb <+: sb') (hb : r.rc ≤ sb.length) : SOut w q r sb' B C :=
  ⟨h.res, h.nomem, h.acct, fun hc hq hg => by
    obtain ⟨a, b, c⟩ := h.bytes hc hq hg
    refine ⟨a, b, ?_⟩
    unfold Moved at *
    split
    · rename_i h0
      simp only [h0, if_true] at c
      obtain ⟨t, ht⟩ := hp
      rw [c, ← ht, List.take_append_of_le_length (by omega)]
    · rename_i h0
      simpa [h0] using c⟩

theorem SStep.sout {w w' : World} {q q' : Cq} (h : SStep w q w' q' Same) {rc : Int} (hrc : rc ≤ 0)
    (sb : Bytes) (C : Prop) : SOut w q { w := w', dest := q', rc := rc } sb (q.abs w) C :=
  ⟨h.res, h.nomem, h.acct, fun _ hq hg => let ⟨a, b, c⟩ := h.bytes hq hg; ⟨a, b, Moved.same hrc c⟩⟩

theorem cqmemPartial_sout {toTemp : World → Cq → World × Cq × Bool} (ht : ToTemp toTemp) {w : World}
    {dest : Cq} {wr : Nat} {pre : List Chunk} {c : Chunk} (sb : Bytes) (hc : dest.chunks = pre ++ [c])
    (hwr : wr ≤ remSum pre) (hpm : ¬ NoMem pre) :
    SOut w dest (cqmemPartial toTemp w dest wr) sb (absChunks w pre) (c.content w = (absChunks w pre).take wr) ∧
      (cqmemPartial toTemp w dest wr).rc ≤ 0 := by
  have hl : dest.chunks.getLast? = some c := by rw [hc]; simp
  have hdl : dest.chunks.dropLast = pre := by rw [hc]; simp
  have hm := mwLoop_lstep w pre wr
  -- what `toTemp` is handed: the temp chunk in front of what is left of the MEM chunks (`- wr + wr`: so `hunf` is `rfl`)
  let d2 : Cq := { dest with chunks := c :: (mwLoop w pre wr).2, bytesIn := dest.bytesIn - wr,
                             bytesOut := dest.bytesOut - wr + wr }
  have hunf : cqmemPartial toTemp w dest wr =
      { w := (toTemp (mwLoop w pre wr).1 d2).1, dest := (toTemp (mwLoop w pre wr).1 d2).2.1,
        rc := if (toTemp (mwLoop w pre wr).1 d2).2.2 then 0 else -1 } := by
    unfold cqmemPartial
    rw [hl]
    simp only [markWritten, hdl]
    rfl
  rw [hunf]
  have hcons : Conserve w dest.chunks (mwLoop w pre wr).1 d2.chunks := by
    have h1 := hm.res.frame_right [c]
    rw [← hc] at h1
    refine h1.trans (Conserve.of_csum (SameRes.refl _) fun k f => ?_)
    simp only [d2, csum_cons, csum_append, csum_nil]
    omega
  have hacct : TStep w dest (mwLoop w pre wr).1 d2 := by
    intro hf hq
    have hval := hq.valid
    rw [hc] at hval
    obtain ⟨v1, v2⟩ := mwLoop_rem wr hval.left
    have hlen := hq.len
    rw [hc] at hlen
    simp only [remSum_append, remSum_cons, remSum_nil] at hlen
    refine ⟨hm.1.fresh hf, hm.1.grows, (ValidAll.cons hval.right.head v1).mono hm.1.grows, ?_⟩
    simp only [d2, remSum_cons, v2]
    omega
  have htt := ht (mwLoop w pre wr).1 d2
  have hnn : ¬ NoMem dest.chunks := fun hn => hpm (by rw [hc] at hn; exact (List.forall_mem_append.mp hn).1)
  refine ⟨⟨hcons.trans htt.res, fun hn => absurd hn hnn, hacct.trans htt.acct, fun hcont hq hg => ?_⟩,
    by dsimp only; split <;> omega⟩
  obtain ⟨f1, g1, hq2⟩ := hacct hg.fresh hq
  have hg2 := hg.step hcons g1 f1 (hm.1.wi hg.wi) hq2.valid
  have hval := hq.valid
  rw [hc] at hval
  have habs2 : d2.abs (mwLoop w pre wr).1 = absChunks w pre := by
    simp only [Cq.abs, d2, absChunks_cons]
    rw [absChunks_same hm.1, content_same hm.1, hcont, (hm.valid hval.left).2, List.take_append_drop]
  obtain ⟨wi, ext, hk⟩ := htt.bytes hq2 hg2
  refine ⟨wi, hm.1.ext.trans ext, ?_⟩
  rw [habs2] at hk
  simp only [Moved]
  cases hok : (toTemp (mwLoop w pre wr).1 d2).2.2 <;> rw [hok] at hk
  · exact ⟨by simpa [KeepOrPrefix] using hk, fun hn => absurd hn hnn⟩
  · simp [show _ = absChunks w pre from hk]

theorem cqmemWritten_rc (toTemp : World → Cq → World × Cq × Bool) (w : World) (dest : Cq) (dlen wr : Nat)
    (h : dlen ≤ wr) : (cqmemWritten toTemp w dest dlen wr).rc = ((wr - dlen : Nat) : Int) := by
  unfold cqmemWritten
  split
  · rename_i h0; subst h0; rfl
  · rw [if_neg (by omega)]

theorem cqmemWritten_sout {toTemp : World → Cq → World × Cq × Bool} (ht : ToTemp toTemp) {w : World}
    {dest : Cq} {dlen wr : Nat} (sb B : Bytes)
    (hsh : dlen ≠ 0 → ∃ pre c, dest.chunks = pre ++ [c] ∧ dlen = remSum pre ∧ ¬ NoMem pre) :
    SOut w dest (cqmemWritten toTemp w dest dlen wr) sb B
        ((dlen = 0 → dest.abs w = B ++ sb.take wr) ∧
          (dlen ≠ 0 → ∀ pre c, dest.chunks = pre ++ [c] →
            absChunks w pre = B ∧ c.content w = (B ++ sb).take wr)) ∧
      (cqmemWritten toTemp w dest dlen wr).rc ≤ ((wr - dlen : Nat) : Int) := by
  unfold cqmemWritten
  split
  · rename_i hz
    exact ⟨⟨Conserve.refl w _, id, TStep.refl w dest, fun hC hq hg =>
      ⟨hg.wi, Ext.refl w, by simp [Moved, hC.1 hz]⟩⟩, by subst hz; simp⟩
  · rename_i hz
    obtain ⟨pre, c, hc, hd, hpm⟩ := hsh hz
    -- dest's own bytes `B` are those of `pre`
    have hlB : (absChunks w pre = B ∧ c.content w = (B ++ sb).take wr) → QV w dest → B.length = dlen :=
      fun hB hq => by
        have hval := hq.valid
        rw [hc] at hval
        rw [← hB.1, absChunks_length hval.left, hd]
    split
    · rename_i hlt
      obtain ⟨a, b⟩ := cqmemPartial_sout ht sb hc (by omega : wr ≤ remSum pre) hpm
      refine ⟨⟨a.res, a.nomem, a.acct, fun hC hq hg => ?_⟩, by omega⟩
      have hB := hC.2 hz pre c hc
      have := hlB hB hq
      have := a.bytes (by rw [hB.2, hB.1, List.take_append_of_le_length (by omega)]) hq hg
      rw [hB.1] at this
      exact this
    · rename_i hge
      dsimp only
      have hle : dlen ≤ remSum dest.chunks := by rw [hc]; simp only [remSum_append]; omega
      have hm := markWritten_step w { dest with bytesIn := dest.bytesIn - dlen, bytesOut := dest.bytesOut - dlen }
        dlen fun hq1 => by rw [Cq.abs, absChunks_length hq1.valid]; exact hle
      have hq1 : QV w dest → QV w { dest with bytesIn := dest.bytesIn - dlen, bytesOut := dest.bytesOut - dlen } :=
        fun hq => ⟨hq.valid, by have := hq.len; simp only; omega⟩
      refine ⟨⟨hm.res, mwLoop_all (fun c _ h => by cases c <;> exact h) w _ dlen, fun hf hq => hm.tstep hf (hq1 hq),
        fun hC hq hg => ⟨hm.1.wi hg.wi, hm.1.ext, ?_⟩⟩, by omega⟩
      obtain ⟨hB, hcont⟩ := hC.2 hz pre c hc
      have hlB := hlB ⟨hB, hcont⟩ hq
      simp only [Moved, Int.natCast_nonneg, if_true, Int.toNat_natCast]
      rw [abs_same hm.1, (hm.qv (hq1 hq)).2]
      simp only [Cq.abs, hc, absChunks_append, absChunks_cons, absChunks_nil, List.append_nil, hB, hcont]
      rw [List.drop_append, hlB, Nat.sub_self, List.drop_zero, List.drop_of_length_le (by omega),
        List.nil_append, List.take_append, hlB, List.take_of_length_le (by omega)]

/-- what the pwritev()'s caller knows: `dbytes`, if any, are the bytes of all chunks of dest but
    the last -/
def OwnBytes (w : World) (dest : Cq) (dbytes : Bytes) : Prop :=
  dbytes.length ≠ 0 → ∀ pre c, dest.chunks = pre ++ [c] → absChunks w pre = dbytes

/-- last conjunct: progress, for Proofs/CqFuel.lean (a scripted result consumed, or all of src's part taken) -/
theorem cqmemWrite_sout {toTemp : World → Cq → World × Cq × Bool} (ht : ToTemp toTemp) {w : World}
    {dest : Cq} {dbytes sbytes : Bytes} {r : SwOut} (hr : cqmemWrite toTemp w dest dbytes sbytes = r)
    (hlast : ∃ fid off len fd, dest.chunks.getLast? = some (.file fid off len true fd))
    (hsh : dbytes.length ≠ 0 → ∃ pre fid, dest.chunks = pre ++ [.file fid 0 0 true .rw] ∧
      dbytes.length = remSum pre ∧ ¬ NoMem pre) :
    SOut w dest r sbytes (dest.abs w) (OwnBytes w dest dbytes) ∧ r.rc ≤ sbytes.length ∧
      (0 ≤ r.rc → r.w.wsched.length < w.wsched.length ∨ r.rc = (sbytes.length : Int)) := by
  subst hr
  obtain ⟨fid, off, len, fd, hl⟩ := hlast
  have hp := popW_sstep w dest
  have hpop : ∀ {g : WFault} {w' : World}, effFault dest (popW w).2 = g → g ≠ .ok → g ≠ .eio →
      Calm (popW w).1 w' → w'.wsched.length < w.wsched.length := fun he h1 h2 hc => by
    have := popW_scripted he h1 h2
    have := hc.wlen
    omega
  -- dest's own bytes, if any joined the iovec, are all it holds
  have hB0 : OwnBytes w dest dbytes → dbytes.length ≠ 0 → dest.abs w = dbytes := fun hC hz => by
    obtain ⟨pre, f0, hc, _⟩ := hsh hz
    simp [Cq.abs, hc, Chunk.content, hC hz pre _ hc]
  have written : ∀ (tot : Bytes) (r : SwOut), tot <+: dbytes ++ sbytes →
      cqmemWritten toTemp (writeLast (popW w).1 dest tot) (growLast dest tot.length) dbytes.length tot.length = r →
      SOut w dest r sbytes (dest.abs w) (OwnBytes w dest dbytes) ∧
        r.rc ≤ ((tot.length - dbytes.length : Nat) : Int) ∧ Calm (popW w).1 r.w := by
    intro tot r htot hr
    subst hr
    have htake : tot = (dbytes ++ sbytes).take tot.length := by
      obtain ⟨t, ht'⟩ := htot
      rw [← ht', List.take_append_of_le_length (Nat.le_refl _), List.take_of_length_le (Nat.le_refl _)]
    obtain ⟨a, b⟩ := cqmemWritten_sout ht (w := writeLast (popW w).1 dest tot) (dest := growLast dest tot.length)
      (dlen := dbytes.length) (wr := tot.length) sbytes (dest.abs w) fun h0 => by
        obtain ⟨pre, f0, hc, hd⟩ := hsh h0
        exact ⟨pre, _, growLast_concat dest pre f0 0 0 true .rw tot.length hc, hd⟩
    refine ⟨SOut.after (hp.same_then (writeGrow_sstep tot hl)) a fun hC hq q1 e1 (r1 : _ = _ ++ tot) =>
      ⟨⟨fun hz => ?_, fun hz pre c hc' => ?_⟩, rfl⟩, b, (writeGrow_res _ dest tot).calm.trans a.res.calm⟩
    · rw [r1, htake, List.eq_nil_of_length_eq_zero hz]; simp
    · obtain ⟨pre0, f0, hc, hd⟩ := hsh hz
      have hg := growLast_concat dest pre0 f0 0 0 true .rw tot.length hc
      obtain ⟨rfl, hcc⟩ := List.append_inj' (hc'.symm.trans hg) rfl
      have hv : ValidAll w pre := by have := hq.valid; rw [hc] at this; exact this.left
      have hd0 := hB0 hC hz
      have hpre : absChunks (writeLast (popW w).1 dest tot) pre = dbytes := by
        rw [absChunks_ext hv e1, hC hz pre _ hc]
      refine ⟨by rw [hpre, hd0], ?_⟩
      simp only [Cq.abs, hg, absChunks_append, absChunks_cons, absChunks_nil, List.append_nil] at r1
      rw [hpre, ← Cq.abs, hd0] at r1
      cases hcc
      rw [List.append_cancel_left r1, hd0]
      exact htake
  have errOut : ∀ (e : Bool), SOut w dest
      { w := (tempfileErr (popW w).1 dest e).1, dest := (tempfileErr (popW w).1 dest e).2.1,
        rc := if (tempfileErr (popW w).1 dest e).2.2 = true then 0 else -1 } sbytes (dest.abs w)
        (OwnBytes w dest dbytes) ∧
      (if (tempfileErr (popW w).1 dest e).2.2 = true then (0 : Int) else -1) ≤ sbytes.length := by
    intro e
    exact ⟨(hp.same_then ((tempfileErr_step (popW w).1 dest e).sstep (tempfileErr_noMem _ dest e))).sout
      (by split <;> omega) _ _, by split <;> omega⟩
  unfold cqmemWrite
  dsimp only
  split
  · obtain ⟨a, b, _⟩ := written _ _ (List.prefix_refl _) rfl  -- ok
    refine ⟨a, by simp only [List.length_append] at b ⊢; omega, fun _ => Or.inr ?_⟩
    rw [cqmemWritten_rc _ _ _ _ _ (by simp)]
    simp
  · rename_i n he  -- short write
    obtain ⟨a, b, c⟩ := written _ _ (List.take_prefix _ _) rfl
    exact ⟨a, by simp only [List.length_take, List.length_append] at b ⊢; omega,
      fun _ => Or.inl (hpop he (by simp) (by simp) c)⟩
  · rename_i he  -- EINTR
    exact ⟨hp.sout (Int.le_refl 0) _ _, by simp,
      fun _ => Or.inl (hpop he (by simp) (by simp) (Calm.refl _))⟩
  · rename_i he  -- ENOSPC
    obtain ⟨a, b⟩ := errOut true
    exact ⟨a, b, fun _ => Or.inl (hpop he (by simp) (by simp) (tempfileErr_step (popW w).1 dest true).res.calm)⟩
  · obtain ⟨a, b⟩ := errOut false
    refine ⟨a, b, fun h => ?_⟩
    -- EIO / EBADF: chunkqueue_append_tempfile_err() does not say retry
    rw [tempfileErr_noretry] at h
    simp at h

theorem cqmemPre_sstep {toTemp : World → Cq → World × Cq × Bool} (ht : ToTemp toTemp) {w w1 : World}
    {dest dest1 : Cq} {ok : Bool} {dbytes : Bytes} {iov0 : Nat}
    (h : cqmemPre toTemp w dest = (w1, dest1, ok, dbytes, iov0)) :
    SStep w dest w1 dest1 (KeepOrPrefix ok) ∧ iov0 < 16 ∧ (ok = false → ¬ NoMem dest.chunks) ∧
      (dbytes.length ≠ 0 →
        w1 = w ∧ dest1 = dest ∧ (∀ c ∈ dest.chunks, c.isMem = true) ∧ dbytes = absChunks w dest.chunks) := by
  rcases cqmemPre_cases toTemp w dest with ⟨h1, e⟩ | ⟨hm, h16, e⟩ <;> rw [e] at h <;> cases h
  · exact ⟨ht w dest, Nat.zero_lt_succ _, fun _ hn => (by rw [leadingMem_noMem hn] at h1; cases h1),
      fun h => absurd rfl h⟩
  · refine ⟨(SStep.refl w dest).mono fun a a' h => h, h16, fun h => (by cases h), fun h0 => ?_⟩
    rcases hm with h | ⟨h, hall⟩
    · rw [h] at h0; exact absurd rfl h0
    · exact ⟨rfl, rfl, hall, by rw [h]⟩

/-- last conjunct: as in `cqmemWrite_sout` -/
theorem cqmem_sout {toTemp : World → Cq → World × Cq × Bool} (ht : ToTemp toTemp) (w : World) (dest : Cq)
    (src : List Chunk) (len : Nat) {r : SwOut} (hr : cqmemToTempfile toTemp w dest src len = r) :
    SOut w dest r (absChunks w src) (dest.abs w) True ∧ r.rc ≤ (min len (remSum src) : Nat) ∧
      (firstIsMemL src = true → 0 ≤ r.rc →
        r.w.wsched.length < w.wsched.length ∨ ∃ k, 0 < k ∧ r.rc = ((gatherSrc src k len).length : Int)) := by
  subst hr
  unfold cqmemToTempfile
  split
  · rename_i w1 dest1 dbytes iov0 heq  -- toTemp failed
    obtain ⟨hpre, _, hfail, _⟩ := cqmemPre_sstep ht heq
    refine ⟨⟨hpre.res, hpre.nomem, hpre.acct, fun _ hq hg => ?_⟩, by dsimp only; omega, fun _ h => by simp at h⟩
    obtain ⟨a, b, c⟩ := hpre.bytes hq hg
    exact ⟨a, b, by simpa [KeepOrPrefix, Moved] using c, fun hn => absurd hn (hfail rfl)⟩
  · rename_i w1 dest1 dbytes iov0 heq
    obtain ⟨hpre, hiov, _, hmem⟩ := cqmemPre_sstep ht heq
    have hpre' : SStep w dest w1 dest1 Same := hpre.mono fun a a' h => show a' = a by simpa [KeepOrPrefix] using h
    split
    · rename_i hskip  -- nothing to gather
      exact ⟨hpre'.sout (Int.le_refl 0) _ _, by dsimp only; omega, fun hfm _ => by simp [hfm] at hskip⟩
    · split
      · rename_i w2 dest2 hga  -- no temp file
        have h2 := hpre'.same_then (getAppendTempfile_sstep hga)
        exact ⟨h2.sout (by omega) _ _, by dsimp only; omega, fun _ h => by simp at h⟩
      · rename_i w2 dest2 hga
        have h2 := hpre'.same_then (getAppendTempfile_sstep hga)
        -- dest's chunks in the iovec: all MEM, behind them the new temp chunk
        have hnew : dbytes.length ≠ 0 → w1 = w ∧ dest1 = dest ∧ dbytes = absChunks w dest.chunks ∧
            ∃ fid, dest2.chunks = dest.chunks ++ [.file fid 0 0 true .rw] ∧
              dbytes.length = remSum dest.chunks ∧ ¬ NoMem dest.chunks := by
          intro h0
          obtain ⟨ew, ed, hall, hdb⟩ := hmem h0
          subst ew ed
          rw [getAppendTempfile_of_mem hall] at hga
          obtain ⟨fid, hc, _, _⟩ := newTempfile_chunks hga
          refine ⟨rfl, rfl, hdb, fid, hc, by rw [hdb, absChunks_length_mem _ hall], fun hn => h0 ?_⟩
          rw [hdb, show dest1.chunks = [] from List.eq_nil_iff_forall_not_mem.mpr fun c hc =>
            Bool.noConfusion ((hall c hc).symm.trans (hn c hc))]
          rfl
        obtain ⟨hw, hb, hprog⟩ := cqmemWrite_sout ht (w := w2) (dest := dest2) (dbytes := dbytes)
          (sbytes := gatherSrc src (16 - iov0) len) rfl (getAppendTempfile_last hga) fun h0 => by
            obtain ⟨_, _, _, fid, hc, hl⟩ := hnew h0
            exact ⟨_, fid, hc, hl⟩
        have hgl := gatherSrc_length src (16 - iov0) len
        refine ⟨(SOut.after h2 hw fun _ hq _ ext (r2 : _ = _) => ⟨fun h0 pre c hc' => ?_, r2⟩).widen
          (gatherSrc_prefix src _ len) hb, by omega, fun _ hrc => ?_⟩
        · obtain ⟨ew, ed', hdb, fid, hc, _, _⟩ := hnew h0
          subst ew ed'
          obtain ⟨rfl, _⟩ := List.append_inj' (hc'.symm.trans hc) rfl
          rw [absChunks_ext hq.valid ext, hdb]
        · have := h2.res.calm.wlen
          rcases hprog hrc with e | e
          · exact Or.inl (by omega)
          · exact Or.inr ⟨16 - iov0, by omega, e⟩

/-! ### chunkqueue_steal_with_tempfiles() -/

/-- `k` bytes left src; success: the first min(len, |src|), received by dest in order; failure:
    dest holds a prefix of what it should (`nm`: as in `AppKeep`) -/
def Transfer (nm : Prop) (ok : Bool) (len : Nat) (d s d' s' : Bytes) : Prop :=
  ∃ k, k ≤ len ∧ k ≤ s.length ∧ s' = s.drop k ∧
    match ok with
    | true => k = min len s.length ∧ d' = d ++ s.take k
    | false => d' <+: d ++ s.take k ∧ (nm → d' = d ++ s.take k)

theorem Transfer.safe {nm : Prop} {ok : Bool} {len : Nat} {d s d' s' : Bytes} (h : Transfer nm ok len d s d' s') :
    ∃ k, k ≤ len ∧ k ≤ s.length ∧ s' = s.drop k ∧
      (if ok then k = min len s.length ∧ d' = d ++ s.take k else d' <+: d ++ s.take k) := by
  obtain ⟨k, a, b, c, e⟩ := h
  refine ⟨k, a, b, c, ?_⟩
  cases ok
  · exact e.1
  · exact e

theorem Transfer.keeps {nm : Prop} {len : Nat} {d s d' s' : Bytes} (h : Transfer nm false len d s d' s')
    (hn : nm) : ∃ k, k ≤ len ∧ k ≤ s.length ∧ s' = s.drop k ∧ d' = d ++ s.take k :=
  let ⟨k, a, b, c, e⟩ := h
  ⟨k, a, b, c, e.2 hn⟩

theorem Transfer.imp {nm nm' : Prop} {ok : Bool} {len : Nat} {d s d' s' : Bytes}
    (h : Transfer nm ok len d s d' s') (hn : nm' → nm) : Transfer nm' ok len d s d' s' := by
  obtain ⟨k, a, b, c, e⟩ := h
  refine ⟨k, a, b, c, ?_⟩
  cases ok
  · exact ⟨e.1, fun n => e.2 (hn n)⟩
  · exact e

theorem Transfer.compose {nm : Prop} {ok : Bool} {len k1 : Nat} {d s d1 s1 d2 s2 : Bytes} (hk : k1 ≤ len)
    (hks : k1 ≤ s.length) (h1d : d1 = d ++ s.take k1) (h1s : s1 = s.drop k1)
    (h2 : Transfer nm ok (len - k1) d1 s1 d2 s2) : Transfer nm ok len d s d2 s2 := by
  obtain ⟨k2, a, b, c, e⟩ := h2
  subst h1d h1s
  rw [List.length_drop] at b
  refine ⟨k1 + k2, by omega, by omega, by rw [c, List.drop_drop], ?_⟩
  have htake : (d ++ s.take k1) ++ (s.drop k1).take k2 = d ++ s.take (k1 + k2) := by
    rw [List.append_assoc, List.take_add]
  cases ok
  · rw [← htake]; exact e
  · rw [List.length_drop] at e
    exact ⟨by have := e.1; omega, by rw [e.2, htake]⟩

/-- `SStep` for a transfer of up to `len` bytes from `src` to `dest`; `r`: what it returned -/
structure SwStep (w : World) (dest src : Cq) (len : Nat) (r : World × Cq × Cq × Bool) : Prop where
  res : Conserve w (dest.chunks ++ src.chunks) r.1 (r.2.1.chunks ++ r.2.2.1.chunks)
  nomem : NoMem dest.chunks → NoMem r.2.1.chunks
  acct : Fresh w → QV w dest → QV w src → TPost w r.1 r.2.1 ∧ QV r.1 r.2.2.1
  bytes : ∀ {base X}, QV w dest → QV w src → GI base w (dest.chunks ++ (src.chunks ++ X)) →
    WI base r.1 ∧ Ext w r.1 ∧
      Transfer (NoMem dest.chunks) r.2.2.2 len (dest.abs w) (src.abs w) (r.2.1.abs r.1) (r.2.2.1.abs r.1)

theorem SwStep.gi {w : World} {dest src : Cq} {len : Nat} {r : World × Cq × Cq × Bool}
    (h : SwStep w dest src len r) {base : Nat → Int} {X : List Chunk} (hd : QV w dest) (hs : QV w src)
    (hg : GI base w (dest.chunks ++ (src.chunks ++ X))) :
    QV r.1 r.2.1 ∧ QV r.1 r.2.2.1 ∧ GI base r.1 (r.2.1.chunks ++ (r.2.2.1.chunks ++ X)) ∧ Ext w r.1 ∧
      Transfer (NoMem dest.chunks) r.2.2.2 len (dest.abs w) (src.abs w) (r.2.1.abs r.1) (r.2.2.1.abs r.1) :=
  let ⟨⟨f1, g1, d1⟩, s1⟩ := h.acct hg.fresh hd hs
  let ⟨a, b, c⟩ := h.bytes hd hs hg
  ⟨d1, s1, hg.step2 h.res g1 f1 a d1.valid s1.valid, b, c⟩

/-- `SwStep` of a steal function (outer or nested call) as a parameter -/
def Sw (f : World → Cq → Cq → Nat → World × Cq × Cq × Bool) : Prop :=
  ∀ w dest src len, SwStep w dest src len (f w dest src len)

/-- a turn of the loop that did not fail: `k` bytes went from the head of src to dest's tail -/
structure Turn (w : World) (dest src : Cq) (len : Nat) (w' : World) (dest' src' : Cq) (k : Nat) : Prop where
  res : Conserve w (dest.chunks ++ src.chunks) w' (dest'.chunks ++ src'.chunks)
  nomem : NoMem dest.chunks → NoMem dest'.chunks
  acct : Fresh w → QV w dest → QV w src → TPost w w' dest' ∧ QV w' src'
  bytes : ∀ {base X}, QV w dest → QV w src → GI base w (dest.chunks ++ (src.chunks ++ X)) →
    WI base w' ∧ Ext w w' ∧ k ≤ len ∧ k ≤ (src.abs w).length ∧
      dest'.abs w' = dest.abs w ++ (src.abs w).take k ∧ src'.abs w' = (src.abs w).drop k

theorem Turn.stop {w w' : World} {dest src dest' src' : Cq} {len k : Nat}
    (h : Turn w dest src len w' dest' src' k) (hk : len - k = 0) :
    SwStep w dest src len (w', dest', src', true) :=
  ⟨h.res, h.nomem, h.acct, fun hd hs hg =>
    let ⟨a, b, kl, ks, d, s⟩ := h.bytes hd hs hg
    ⟨a, b, k, kl, ks, s, by omega, d⟩⟩

theorem Turn.next {w w' : World} {dest src dest' src' : Cq} {len k : Nat} {r : World × Cq × Cq × Bool}
    (h : Turn w dest src len w' dest' src' k) (ih : SwStep w' dest' src' (len - k) r) :
    SwStep w dest src len r :=
  ⟨h.res.trans ih.res, fun hn => ih.nomem (h.nomem hn), fun hf hd hs =>
    let ⟨⟨f1, g1, d1⟩, s1⟩ := h.acct hf hd hs
    let ⟨⟨f2, g2, d2⟩, s2⟩ := ih.acct f1 d1 s1
    ⟨⟨f2, g1.trans g2, d2⟩, s2⟩, fun hd hs hg => by
    obtain ⟨⟨f1, g1, d1⟩, s1⟩ := h.acct hg.fresh hd hs
    obtain ⟨a, e1, kl, ks, hd', hs'⟩ := h.bytes hd hs hg
    obtain ⟨a2, e2, t⟩ := ih.bytes d1 s1 (hg.step2 h.res g1 f1 a d1.valid s1.valid)
    exact ⟨a2, e1.trans e2, Transfer.compose kl ks hd' hs' (t.imp h.nomem)⟩⟩

theorem cqmem_turn {toTemp : World → Cq → World × Cq × Bool} (ht : ToTemp toTemp) {w : World} {dest src : Cq}
    {len : Nat} {r : SwOut} (hr : cqmemToTempfile toTemp w dest src.chunks len = r) (hrc : ¬ r.rc < 0) :
    Turn w dest src len (markWritten r.w src r.rc.toNat).1 r.dest (markWritten r.w src r.rc.toNat).2
      r.rc.toNat := by
  subst hr
  obtain ⟨ho, hb, _⟩ := cqmem_sout ht w dest src.chunks len rfl
  have hmw := markWritten_step (cqmemToTempfile toTemp w dest src.chunks len).w src
    (cqmemToTempfile toTemp w dest src.chunks len).rc.toNat fun hq => by
      rw [Cq.abs, absChunks_length hq.valid]; omega
  refine ⟨(ho.res.frame_right src.chunks).trans (hmw.res.frame_left _), ho.nomem, fun hf hd hs => ?_,
    fun hd hs hg => ?_⟩
  · obtain ⟨f1, g1, q1⟩ := ho.acct hf hd
    exact ⟨⟨hmw.1.fresh f1, g1.trans hmw.1.grows, q1.mono hmw.1.grows⟩, (hmw.qv (hs.mono g1)).1⟩
  · obtain ⟨_, g1, _⟩ := ho.acct hg.fresh hd
    obtain ⟨wi, e, mv⟩ := ho.bytes trivial hd hg
    have hl := absChunks_length hs.valid
    unfold Moved at mv
    rw [if_pos (by omega)] at mv
    refine ⟨hmw.1.wi wi, e.trans hmw.1.ext, by omega, by simp only [Cq.abs]; omega,
      (abs_same hmw.1 _).trans mv, ?_⟩
    rw [← show src.abs (cqmemToTempfile toTemp w dest src.chunks len).w = src.abs w from
      absChunks_ext hs.valid e]
    exact (abs_same hmw.1 _).trans (hmw.qv (hs.mono g1)).2

theorem steal_turn {w : World} {dest src : Cq} {len : Nat} {c : Chunk} {cs : List Chunk}
    (hc : src.chunks = c :: cs) (hm : c.isMem = false) :
    Turn w dest src len (steal w dest src (min len c.rem)).1 (steal w dest src (min len c.rem)).2.1
      (steal w dest src (min len c.rem)).2.2 (min len c.rem) := by
  obtain ⟨s1, sr, s2⟩ := steal_step w dest src (min len c.rem)
  refine ⟨sr, (steal_dest len hc hm).nomem, fun hf hd hs => ⟨⟨s1.fresh hf, s1.grows, (s2 hd hs).1⟩, (s2 hd hs).2.1⟩,
    fun hd hs hg => ?_⟩
  obtain ⟨_, _, e1, e2⟩ := s2 hd hs
  have hl := absChunks_length hs.valid
  have hrem : c.rem ≤ remSum src.chunks := by rw [hc]; simp
  exact ⟨s1.wi hg.wi, s1.ext, by omega, by simp only [Cq.abs]; omega, by rw [abs_same s1, e1],
    (abs_same s1 _).trans e2⟩

theorem swLoop_sw {toTemp : World → Cq → World × Cq × Bool} (ht : ToTemp toTemp) (fuel : Nat) :
    Sw (swLoop toTemp fuel) := by
  intro w dest src len
  -- nothing moved: out of fuel, or src is empty
  have none : ∀ (w : World) (dest src : Cq) (len : Nat) (ok : Bool), (ok = true → src.chunks = []) →
      SwStep w dest src len (w, dest, src, ok) := fun w dest src len ok h =>
    ⟨Conserve.refl w _, id, fun hf hd hs => ⟨⟨hf, Grows.refl w, hd⟩, hs⟩, fun _ _ hg =>
      ⟨hg.wi, Ext.refl w, 0, Nat.zero_le _, Nat.zero_le _, rfl, by
        cases ok
        · simp
        · simp [Cq.abs, h rfl]⟩⟩
  fun_induction swLoop toTemp fuel w dest src len with
  | case1 w dest src len => exact none w dest src len false fun h => by cases h  -- out of fuel
  | case2 fuel w dest src len hnil => exact none w dest src len true fun _ => hnil  -- src is empty
  | case3 fuel w dest src len c cs hc hm r hneg =>  -- MEM turn failed
    obtain ⟨ho, _, _⟩ := cqmem_sout ht w dest src.chunks len rfl
    refine ⟨ho.res.frame_right src.chunks, ho.nomem, fun hf hd hs => ?_, fun hd hs hg => ?_⟩
    · obtain ⟨f1, g1, q1⟩ := ho.acct hf hd
      exact ⟨⟨f1, g1, q1⟩, hs.mono g1⟩
    · obtain ⟨wi, e, mv⟩ := ho.bytes trivial hd hg
      refine ⟨wi, e, 0, Nat.zero_le _, Nat.zero_le _, (absChunks_ext hs.valid e).trans (List.drop_zero ..).symm, ?_⟩
      unfold Moved at mv
      rw [if_neg (Int.not_le.mpr hneg)] at mv
      simpa using mv
  | case4 fuel w dest src len c cs hc hm r hneg m h0 => exact (cqmem_turn ht (r := r) rfl hneg).stop h0  -- last MEM turn
  | case5 fuel w dest src len c cs hc hm r hneg m h0 ih => exact (cqmem_turn ht (r := r) rfl hneg).next ih  -- MEM turn, then on
  | case6 fuel w dest src len c cs hc hm clen r h0 => exact (steal_turn hc (Bool.eq_false_iff.mpr hm)).stop h0  -- last FILE turn
  | case7 fuel w dest src len c cs hc hm clen r h0 ih =>  -- FILE turn, then on
    exact (steal_turn (len := len) hc (Bool.eq_false_iff.mpr hm)).next ih

theorem toTempfilesWith_sstep {inner : World → Cq → Cq → Nat → World × Cq × Cq × Bool} (hi : Sw inner) :
    ToTemp (toTempfilesWith inner) := by
  -- `inner` starts from an empty dest, src the whole queue: `Transfer` from [] is `KeepOrPrefix`
  intro w q
  have h := hi w { q with chunks := [], bytesIn := q.bytesIn - q.length.toNat } q q.length.toNat
  have hq0 : QV w q → QV w { q with chunks := [], bytesIn := q.bytesIn - q.length.toNat } := fun hq => by
    have hlen := hq.len
    refine ⟨ValidAll.nil w, ?_⟩
    simp only [Cq.length, remSum_nil]
    omega
  unfold toTempfilesWith
  dsimp only
  generalize inner w { q with chunks := [], bytesIn := q.bytesIn - q.length.toNat } q q.length.toNat = r at h
  obtain ⟨w1, d1, s1, ok⟩ := r
  have hr := releaseAll_same w1 s1.chunks
  refine ⟨?_, fun _ => h.nomem fun _ hc => (nomatch hc), fun hf hq => ?_, fun hq hg => ?_⟩
  · have h2 := (releaseAll_conserve w1 s1.chunks).frame_left d1.chunks
    simpa using h.res.trans h2
  · obtain ⟨⟨a, b, c⟩, _⟩ := h.acct hf (hq0 hq) hq
    exact ⟨hr.fresh a, b.trans hr.grows, c.mono hr.grows⟩
  · obtain ⟨_, _, a3, a4, k, k1, k2, k3, k4⟩ := h.gi (hq0 hq) hq (by simpa using hg)
    refine ⟨hr.wi a3.wi, a4.trans hr.ext, ?_⟩
    have hlen := hq.len
    have habsl := absChunks_length hq.valid
    have hcq : q.length.toNat = (q.abs w).length := by simp only [Cq.abs, Cq.length]; omega
    dsimp only at k3 k4 ⊢
    rw [show d1.abs (releaseAll w1 s1.chunks) = d1.abs w1 from absChunks_same hr _]
    have hd0 : ({ q with chunks := [], bytesIn := q.bytesIn - q.length.toNat } : Cq).abs w = [] := rfl
    rw [hd0] at k4
    simp only [List.nil_append] at k4
    cases ok
    · exact List.IsPrefix.trans k4.1 (List.take_prefix _ _)
    · exact show d1.abs w1 = q.abs w by
        rw [k4.2, k4.1, hcq, Nat.min_self, List.take_of_length_le (Nat.le_refl _)]

theorem toTempStub_sstep : ToTemp toTempStub := fun w q =>
  (SStep.refl w q).mono fun a a' (h : a' = a) => by simp [KeepOrPrefix, toTempStub, h]

theorem swInner_sw : Sw swInner := fun w dest src len => swLoop_sw toTempStub_sstep _ w dest src len

theorem toTempfiles_sstep : ToTemp toTempfiles := toTempfilesWith_sstep swInner_sw

theorem stealWithTempfiles_sw : Sw stealWithTempfiles :=
  fun w dest src len => swLoop_sw toTempfiles_sstep _ w dest src len

theorem appendMemToTempfile_sstep (w : World) (q : Cq) (d : Bytes) :
    SStep w q (appendMemToTempfile w q d).1 (appendMemToTempfile w q d).2.1
      (AppKeep (NoMem q.chunks) (appendMemToTempfile w q d).2.2 d) := by
  unfold appendMemToTempfile
  by_cases hfm : firstIsMem q = true
  · -- chunkqueue_to_tempfiles() is entered: the queue holds a MEM chunk
    have hnn : ¬ NoMem q.chunks := fun h => by rw [firstIsMem_noMem h] at hfm; cases hfm
    rw [if_pos hfm]
    have hpre := toTempfiles_sstep w q
    split
    · rename_i w1 q1 heq
      rw [heq] at hpre
      refine hpre.mono fun a a' h => ?_
      simp only [KeepOrPrefix, AppKeep] at h ⊢
      exact ⟨h.trans (List.prefix_append _ _), fun hn => absurd hn hnn⟩
    · rename_i w1 q1 heq
      rw [heq] at hpre
      exact (hpre.mono fun a a' h => show a' = a by simpa [KeepOrPrefix] using h).same_then
        (mtLoop_sstep _ w1 q1 d _)
  · rw [if_neg hfm]
    exact mtLoop_sstep _ w q d _

end LtVerif.Cq
