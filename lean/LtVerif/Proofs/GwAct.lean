/-
  C11, part 3: every function below gw_handle_subrequest() as a sequence of a few kinds of edit (`Act`,
  `Acts`) of one request slot or the pool, with its return code (`Ret`); an operation as a sequence of big
  steps (`Big`, `Bigs`).  Invariants are checked per kind of edit (`acct_act`, `tr_act`, GwBound's `j_act`)
  and per big step (`acct_big`, `reach_big`); `acct_run`, `reach_run` follow.
-/
import LtVerif.Proofs.GwPrim
namespace LtVerif.Gw

/-- hctx->reconnects++ -/
def recInc (w : World) (s : Nat) : World := w.updAux s fun a => { a with reconnects := a.reconnects + 1 }

/-- GW_STATE_INIT up to the answer of socket(): hctx->proc is overwritten with proc `p` -/
def initTake (w : World) (s h p : Nat) : World :=
  (popSock (procAcquire (w.updLink s fun l => { l with proc := none }) s h p)).2

/-- connect() is issued and counted -/
def dialed (w : World) (s h p : Nat) : World :=
  ((popConn w).2.emit (.dispatch s h p)).updAux s fun a => { a with dispatched := a.dispatched + 1 }

/-- One edit of request slot `s` or of the pool; a constructor's hypotheses are what the code path has tested.
    The two `Option Nat` are a phase of the code (`Acct`'s relaxed mode before and after): `some s` from a connection
    attempt in GW_STATE_INIT until the context leaves that state or is closed.  `dial` and `retry` (`reconnects++ < N
    → gw_reconnect()`) are single edits because the dispatch bound fails inside them. -/
inductive Act (s : Nat) : Option Nat → World → Option Nat → World → Prop
  | quiet {t : Option Nat} {w w' : World} (h : Quiet s w w') : Act s t w t w'
  -- gw_proc_connect_error, gw_restart_dead_procs, joblist_append
  | pool {t : Option Nat} {w w' : World} (hr : Reach w w') (hf : Frame w w') : Act s t w t w'
  | recInc (t : Option Nat) (w : World) : Act s t w t (recInc w s)
  | close (t : Option Nat) (w : World) : Act s t w none (backendClose w s)
  | retry (t : Option Nat) (w : World) (h5 : recOf w s < 5) : Act s t w none (reconnect (recInc w s) s).2
  -- no edit
  | relax (w : World) : Act s none w (some s) w
  -- gw_write_request: hctx->state = st
  | leave (t : Option Nat) (w : World) (st : CState) (hst : st ≠ .init) :
      Act s t w none (w.updLink s fun l => { l with state := st })
  -- no edit: gw_write_error() past GW_STATE_INIT
  | notInit (t : Option Nat) (w : World) (hst : (w.linkOf s).state ≠ .init) : Act s t w none w
  -- GW_STATE_INIT, no proc RUNNING: hctx->proc = NULL
  | drop (w : World) (hst : (w.linkOf s).state = .init) : Act s none w none (w.updLink s fun l => { l with proc := none })
  -- socket() failed
  | sockFail (w : World) (h p : Nat) (hst : (w.linkOf s).state = .init) (hh : (w.linkOf s).host = some h) :
      Act s none w (some s) (initTake w s h p)
  | dial (w : World) (h p : Nat) (hst : (w.linkOf s).state = .init) (hh : (w.linkOf s).host = some h)
      (hp : pickProc w h = some p) : Act s none w (some s) (dialed (wrRegister (initTake w s h p) s h p) s h p)

inductive Acts (s : Nat) (t : Option Nat) (a : World) : Option Nat → World → Prop
  | refl : Acts s t a t a
  | step {t1 t' : Option Nat} {b c : World} : Acts s t a t1 b → Act s t1 b t' c → Acts s t a t' c

theorem Acts.one {s : Nat} {t t' : Option Nat} {a b : World} (p : Act s t a t' b) : Acts s t a t' b :=
  Acts.refl.step p

theorem Acts.trans {s : Nat} {t t1 t' : Option Nat} {a b c : World} (h1 : Acts s t a t1 b) (h2 : Acts s t1 b t' c) :
    Acts s t a t' c := by
  induction h2 with
  | refl => exact h1
  | step _ p ih => exact ih.step p

/-- (an auto-param, so that the side condition is elaborated after `f` is known from the goal) -/
theorem Acts.aux {s : Nat} {t t' : Option Nat} {a b : World} (h : Acts s t a t' b) (f : Aux → Aux)
    (hf : ∀ x, (f x).reconnects = x.reconnects ∧ (f x).dispatched = x.dispatched := by intro; exact ⟨rfl, rfl⟩) :
    Acts s t a t' (b.updAux s f) := h.step (.quiet (quiet_updAux s b f hf))

/-- after gw_write_request() only HANDLER_ERROR can leave the context in the middle of connecting -/
def errPhase (s : Nat) (rc : Rc) : Option Nat := if rc = .error then some s else none

theorem Acts.toErrPhase {s : Nat} {w w' : World} (h : Acts s none w none w') (rc : Rc) : Acts s none w (errPhase s rc) w' := by
  unfold errPhase; split
  · exact h.step (.relax _)
  · exact h

/-! ### `Acct` per edit -/

theorem init_clean {w : World} {s : Nat} (hA : Acct none w) (hst : (w.linkOf s).state = .init) (c : Ctx)
    (hc : w.slot s = some c) : c.link.proc = none ∧ c.link.fd = false :=
  (hA.slots s c hc).3 (by simp) (by simpa [World.linkOf, hc] using hst)

/-- a context in GW_STATE_INIT holds nothing but its host, so overwriting hctx->proc loses nothing -/
theorem drop_id {w : World} {s : Nat} (hA : Acct none w) (hst : (w.linkOf s).state = .init) :
    (w.updLink s fun l => { l with proc := none }) = w := by
  refine updSlot_id _ fun c hc => ?_
  have := (init_clean hA hst c hc).1
  cases c; rename_i l a; cases l; simp_all

/-- the context `c` GW_STATE_INIT starts from (a host, no proc), and what `initTake` makes of it -/
structure InitTake (w : World) (s h p : Nat) (c : Ctx) : Prop where
  slot : w.slot s = some c
  host : c.link.host = some h
  proc : c.link.proc = none
  fd : c.link.fd = false
  state : c.link.state = .init
  eq : initTake w s h p = (popSock (procAcquire w s h p)).2
  lk : lk (initTake w s h p) s = some { c.link with proc := some p }

theorem initTake_lk {w : World} {s h : Nat} (p : Nat) (hA : Acct none w) (hst : (w.linkOf s).state = .init)
    (hh : (w.linkOf s).host = some h) : ∃ c, InitTake w s h p c := by
  cases hs : w.slot s with
  | none => simp [World.linkOf, hs] at hh
  | some c =>
    have hl : w.linkOf s = c.link := by simp [World.linkOf, hs]
    have hcl := init_clean hA hst c hs
    have e : initTake w s h p = (popSock (procAcquire w s h p)).2 := by unfold initTake; rw [drop_id hA hst]
    rw [hl] at hst hh
    refine ⟨c, hs, hh, hcl.1, hcl.2, hst, e, ?_⟩
    obtain ⟨sc, e2⟩ := popSock_eq (procAcquire w s h p)
    rw [e, e2]; show Gw.lk (procAcquire w s h p) s = _
    rw [lk_procAcquire, lk_some hs]; rfl

theorem acct_initTake {w : World} {s h : Nat} (p : Nat) (hA : Acct none w) (hst : (w.linkOf s).state = .init)
    (hh : (w.linkOf s).host = some h) : Acct (some s) (initTake w s h p) := by
  obtain ⟨c, I⟩ := initTake_lk p hA hst hh
  rw [I.eq]
  exact acct_quiet (acct_procAcquire s h p hA (tok_none s) (by intro c' hc'; rw [I.slot] at hc'; cases hc'; exact ⟨I.host, I.proc⟩))
    (tok_some s) (quiet_pop (popSock_eq _))

theorem acct_act {s : Nat} {t t' : Option Nat} {w w' : World} (p : Act s t w t' w') (ht : TOk t s) (hA : Acct t w) :
    TOk t' s ∧ Acct t' w' := by
  cases p with
  | quiet h => exact ⟨ht, acct_quiet hA ht h⟩
  | pool _ hf => exact ⟨ht, acct_frame hA hf⟩
  | recInc => exact ⟨ht, acct_updAux _ _ hA ht⟩
  | close => exact ⟨tok_none s, acct_backendClose s hA ht⟩
  | retry => exact ⟨tok_none s, acct_reconnect s (acct_updAux _ _ hA ht) ht⟩
  | relax => exact ⟨tok_some s, acct_relax s hA ht⟩
  | leave _ _ st hst =>
    refine ⟨tok_none s, acct_tighten_state s (acct_quiet hA ht (quiet_setState s w st hst)) ht fun l hl => ?_⟩
    rw [lk_updLink, if_pos rfl, Option.map_eq_some_iff] at hl
    obtain ⟨a, _, ha⟩ := hl
    rw [← ha]; exact hst
  | notInit _ _ hst => exact ⟨tok_none s, acct_tighten_state s hA ht fun l hl e => hst (by rw [lk_linkOf hl]; exact e)⟩
  | drop _ hst => rw [drop_id hA hst]; exact ⟨ht, hA⟩
  | sockFail _ h p hst hh => exact ⟨tok_some s, acct_initTake p hA hst hh⟩
  | dial _ h p hst hh =>
    obtain ⟨c, I⟩ := initTake_lk p hA hst hh
    obtain ⟨sc, e⟩ := popConn_eq (wrRegister (initTake w s h p) s h p)
    unfold dialed; rw [e]
    refine ⟨tok_some s, acct_updAux _ _ (acct_emit _ (acct_script _ (acct_wrRegister s h p (acct_initTake p hA hst hh) ?_)))
      (tok_some s)⟩
    intro c' hc'
    have := lk_some hc'
    rw [I.lk, Option.some.injEq] at this
    rw [← this]; simp [I.fd]

theorem acct_acts {s : Nat} {t t' : Option Nat} {w w' : World} (h : Acts s t w t' w') (ht : TOk t s) (hA : Acct t w) :
    TOk t' s ∧ Acct t' w' := by
  induction h with
  | refl => exact ⟨ht, hA⟩
  | step _ p ih => exact acct_act p ih.1 ih.2

/-! ### `Reach` and `Mono` per edit -/

theorem tr_initTake (w : World) (s h p : Nat) : Tr w (initTake w s h p) :=
  ((tr_updLink w s _).trans (tr_procAcquire _ s h p)).trans (tr_quiet (s := s) (quiet_pop (popSock_eq _)))

theorem initTake_keeps (w : World) (s h p : Nat) :
    (∀ h', (initTake w s h p).host h' = w.host h') ∧
    (∀ h' p', ((initTake w s h p).proc h' p').state = (w.proc h' p').state) := by
  obtain ⟨sc, e⟩ := popSock_eq (procAcquire (w.updLink s fun l => { l with proc := none }) s h p)
  unfold initTake; rw [e]
  exact procAcquire_keeps (w.updLink s fun l => { l with proc := none }) s h p

theorem tr_act {s : Nat} {t t' : Option Nat} {w w' : World} (p : Act s t w t' w') : Tr w w' := by
  cases p with
  | quiet h => exact tr_quiet h
  | pool hr hf => exact ⟨hr, fun _ => mono_of_slot hf.slot⟩
  | recInc => exact tr_recInc _ _
  | close => exact tr_backendClose _ _
  | retry => exact (tr_recInc _ _).trans (tr_reconnect _ _)
  | relax => exact Tr.refl _
  | leave => exact tr_updLink _ _ _
  | notInit => exact Tr.refl _
  | drop => exact tr_updLink _ _ _
  | sockFail _ h p => exact tr_initTake _ s h p
  | dial _ h p hst hh hp =>
    obtain ⟨hp, hr⟩ := pickProc_running hp
    refine ((tr_initTake _ s h p).trans (tr_wrRegister _ s h p)).trans ?_
    obtain ⟨sc, e⟩ := popConn_eq (wrRegister (initTake w s h p) s h p)
    unfold dialed; rw [e]
    refine ((tr_script _ sc).trans (Tr.one (Prim.dispatch _ s h p ?_ ?_) rfl)).trans (tr_aux _ _ _)
    · show p < ((wrRegister (initTake w s h p) s h p).host h).nprocs
      rw [(wrRegister_keeps _ s h p).1, (initTake_keeps w s h p).1]; exact hp
    · show ((wrRegister (initTake w s h p) s h p).proc h p).state = _
      rw [(wrRegister_keeps _ s h p).2, (initTake_keeps w s h p).2]; exact hr

theorem tr_acts {s : Nat} {t t' : Option Nat} {w w' : World} (h : Acts s t w t' w') : Tr w w' := by
  induction h with
  | refl => exact Tr.refl _
  | step _ p ih => exact ih.trans (tr_act p)

/-! ### what a handler returns -/

theorem recInc_lt (w : World) (s : Nat) (hs : (w.slot s).isSome) (h5 : recOf w s < 5) : mu s (recInc w s) < mu s w := by
  unfold mu
  have : recOf (recInc w s) s = recOf w s + 1 := by
    unfold recInc World.updAux
    rw [recOf_updSlot, if_pos rfl]
    unfold recOf World.auxOf
    cases hc : w.slot s with
    | none => simp [hc] at hs
    | some c => simp
  rw [this]
  omega

/-- the edits of a call together with its return code: HANDLER_COMEBACK has cost a unit of the retry budget `mu` -/
def Ret (s : Nat) (t : Option Nat) (w : World) (t' : Option Nat) (r : Rc × World) : Prop :=
  Acts s t w t' r.2 ∧ (r.1 = .comeback → (w.slot s).isSome → mu s r.2 < mu s w)

theorem Acts.ret {s : Nat} {t t' : Option Nat} {w : World} {r : Rc × World} (h : Acts s t w t' r.2)
    (hne : r.1 ≠ .comeback) : Ret s t w t' r := ⟨h, fun e => absurd e hne⟩

theorem Acts.seq {s : Nat} {t t1 t' : Option Nat} {w w1 : World} {r : Rc × World} (h : Acts s t w t1 w1)
    (h2 : Ret s t1 w1 t' r) : Ret s t w t' r := by
  have M := (tr_acts h).mono s
  exact ⟨h.trans h2.1, fun e hs => Nat.lt_of_lt_of_le (h2.2 e (by rw [M.2]; exact hs)) M.1⟩

theorem ret_retry (s : Nat) (t : Option Nat) (w : World) (h5 : recOf w s < 5) :
    Ret s t w none (reconnect (recInc w s) s) :=
  ⟨Acts.one (.retry t w h5), fun _ hs => Nat.lt_of_le_of_lt ((tr_reconnect _ s).mono s).1 (recInc_lt w s hs h5)⟩

/-! ### the walk -/

theorem doneAux_keep (a : Aux) : (doneAux a).reconnects = a.reconnects ∧ (doneAux a).dispatched = a.dispatched := by
  unfold doneAux incompleteAux; split
  · exact ⟨rfl, rfl⟩
  · split
    · exact ⟨rfl, rfl⟩
    · split <;> exact ⟨rfl, rfl⟩

theorem errAux_keep (a : Aux) : (errAux a).reconnects = a.reconnects ∧ (errAux a).dispatched = a.dispatched := by
  unfold errAux incompleteAux; split
  · exact ⟨rfl, rfl⟩
  · split <;> exact ⟨rfl, rfl⟩

theorem acts_connectionClose (s : Nat) (t : Option Nat) (w : World) : Acts s t w none (connectionClose w s) := by
  have R := (Acts.one (.close t w)).step
    (.quiet (quiet_updLink s _ (fun l => { l with hctx := false }) fun _ => ⟨rfl, rfl, rfl, id⟩))
  unfold connectionClose; dsimp only
  split
  · exact R.aux _ doneAux_keep
  · exact R

theorem acts_backendError (s : Nat) (t : Option Nat) (w : World) : Acts s t w none (backendError w s).2 :=
  ((Acts.refl (s := s)).aux _ errAux_keep).trans (acts_connectionClose s t _)

theorem ret_recvResponseError (s : Nat) (t : Option Nat) (w : World) : Ret s t w none (recvResponseError w s) := by
  unfold recvResponseError; dsimp only
  split
  · split
    · rename_i h5; exact ret_retry s t w h5
    · exact ((Acts.one (.recInc t w)).trans (acts_backendError s t _)).ret nofun
  · exact (acts_backendError s t w).ret nofun

theorem ret_recvResponse (s : Nat) (w : World) : Ret s none w none (recvResponse w s) := by
  have R : Acts s none w none (popRd w).2 := Acts.one (.quiet (quiet_pop (popRd_eq w)))
  unfold recvResponse; dsimp only
  split
  · exact R.ret nofun
  · split
    · refine Acts.ret ?_ nofun; dsimp only; exact R.aux _
    · split
      · exact R.seq (ret_recvResponseError s none _)
      · exact Acts.ret (r := (.finished, _)) (R.trans (acts_connectionClose s none _)) nofun

theorem ret_drain (n : Nat) (s : Nat) (w : World) : Ret s none w none (drain n w s) := by
  induction n generalizing w with
  | zero => exact Acts.ret (r := (.error, w)) Acts.refl nofun
  | succ n ih =>
    unfold drain; dsimp only
    split
    · exact (ret_recvResponse s w).1.seq (ih _)
    · exact ret_recvResponse s w

theorem acts_wrConnected (s : Nat) (t : Option Nat) (w : World) : Acts s t w none (wrConnected w s).2 :=
  (Acts.one (.leave t w .prepareWrite (by decide))).step (.quiet (quiet_wrPrepare _ s).1)

theorem ret_wrInit (s : Nat) (w : World) (hst : (w.linkOf s).state = .init) :
    Ret s none w (errPhase s (wrInit w s).1) (wrInit w s) := by
  unfold wrInit
  split
  · exact Acts.ret (r := (.error, w)) (Acts.refl.toErrPhase _) nofun
  · rename_i h hh
    dsimp only
    split
    · exact ((Acts.one (.drop w hst)).toErrPhase _).ret nofun
    · rename_i p hp
      split
      · exact Acts.ret (r := (.error, _)) (Acts.one (.sockFail w h p hst hh)) nofun
      · have R : Acts s none w (some s) (dialed (wrRegister (initTake w s h p) s h p) s h p) :=
          Acts.one (.dial w h p hst hh hp)
        unfold wrConnect; dsimp only
        split
        · exact ((R.trans (acts_wrConnected s _ _)).toErrPhase _).ret (quiet_wrConnected _ s).2
        · refine Acts.ret (Acts.toErrPhase (Acts.step ?_ (.leave (some s) _ .connectDelayed (by decide))) _) nofun
          exact R.aux _
        · refine Acts.ret (r := (.error, _)) (R.step (.pool (reach_connectError _ _ _ _ ?_) (frame_connectError _ _ _ _))) nofun
          rw [(reach_static (tr_acts R).reach).nprocs]; exact (pickProc_running hp).1

theorem ret_wrDelayed (s : Nat) (w : World) : Ret s none w none (wrDelayed w s) := by
  have R : Acts s none w none (popStat w).2 := Acts.one (.quiet (quiet_pop (popStat_eq w)))
  unfold wrDelayed; dsimp only
  split
  · exact Acts.ret (r := (.waitForEvent, w)) Acts.refl nofun
  · split
    · exact Acts.ret (r := (.error, _)) (R.step (.pool (reach_slotConnectError _ s) (frame_slotConnectError _ s))) nofun
    · exact Acts.ret ((R.aux _).trans (acts_wrConnected s none _)) (quiet_wrConnected _ s).2

theorem ret_writeRequest (s : Nat) (w : World) : Ret s none w (errPhase s (writeRequest w s).1) (writeRequest w s) := by
  unfold writeRequest
  split
  · rename_i hst; exact ret_wrInit s w hst
  · exact ⟨(ret_wrDelayed s w).1.toErrPhase _, (ret_wrDelayed s w).2⟩
  · exact ((Acts.one (.quiet (quiet_wrPrepare w s).1)).toErrPhase _).ret (quiet_wrPrepare w s).2
  · exact ((Acts.one (.quiet (quiet_wrWrite w s).1)).toErrPhase _).ret (quiet_wrWrite w s).2
  · exact Acts.ret (r := (.waitForEvent, w)) (Acts.refl.toErrPhase _) nofun

theorem acts_writeErrorTail (s : Nat) (t : Option Nat) (w : World) : Acts s t w none (writeErrorTail w s).2 := by
  unfold writeErrorTail; dsimp only
  refine Acts.trans ?_ (acts_backendError s t _)
  split
  · exact Acts.refl.aux _
  · exact Acts.refl

theorem ret_writeError (s : Nat) (t : Option Nat) (w : World) : Ret s t w none (writeError w s) := by
  unfold writeError; dsimp only
  split
  · have R : Acts s t w t (restartIfLocal w s) :=
      Acts.one (.pool (reach_restartIfLocal w s) (frame_restartIfLocal w s))
    split
    · rename_i h5; exact R.seq (ret_retry s t _ h5)
    · exact Acts.ret ((R.step (.recInc t _)).trans (acts_writeErrorTail s t _)) nofun
  · rename_i hst
    have R : Acts s t w none w := Acts.one (.notInit t w fun e => hst (Or.inl e))
    split
    · exact R.seq (ret_recvResponse s w)
    · exact Acts.ret ((R.trans (ret_recvResponse s w).1).trans (acts_writeErrorTail s none _)) nofun

theorem ret_sendRequest (s : Nat) (w : World) : Ret s none w none (sendRequest w s) := by
  have R := ret_writeRequest s w
  unfold sendRequest; dsimp only
  split
  · rename_i hne; rw [errPhase, if_neg (by simpa using hne)] at R; exact R
  · exact R.1.seq (ret_writeError s _ _)

theorem ret_processFdevent (s rev : Nat) (w : World) : Ret s none w none (processFdevent w s rev) := by
  unfold processFdevent
  extract_lets r
  have R : Ret s none w none r := by
    unfold r; split
    · exact ret_recvResponse s w
    · exact Acts.ret (r := (.goOn, w)) Acts.refl nofun
  split
  · exact R                                              -- IN: the reader did not say GO_ON
  · split
    · exact R.1.seq (ret_sendRequest s _)                -- OUT
    · split
      · split                                            -- HUP | RDHUP
        · exact R.1.seq (ret_sendRequest s _)            --   while connecting
        · split
          · exact R.1.seq (ret_drain _ s _)              --   response begun: drain
          · exact Acts.ret (r := (.finished, _)) (R.1.trans (acts_connectionClose s none _)) nofun
      · split
        · exact Acts.ret (R.1.trans (acts_backendError s none _)) nofun    -- ERR
        · exact Acts.ret (r := (.goOn, _)) R.1 nofun

theorem ret_subEvents (s : Nat) (w : World) : Ret s none w none (subEvents w s) := by
  unfold subEvents; dsimp only
  split
  · exact (Acts.refl.aux _).seq (ret_processFdevent s _ _)
  · exact Acts.ret (r := (.goOn, w)) Acts.refl nofun

theorem ret_subrequest (s : Nat) (w : World) : Ret s none w none (subrequest w s) := by
  have R := ret_subEvents s w
  unfold subrequest; dsimp only
  split
  · exact Acts.ret (r := (.goOn, w)) Acts.refl nofun
  · split
    · exact R
    · split
      · split
        · exact R.1.seq (ret_sendRequest s _)
        · exact Acts.ret (r := (.waitForEvent, _)) (R.1.trans (ret_sendRequest s _).1) nofun
      · exact Acts.ret (r := (.waitForEvent, _)) R.1 nofun

theorem acts_fix504 (s : Nat) (w : World) : Acts s none w none (fix504 w s) := by
  unfold fix504; dsimp only
  split
  · exact Acts.refl.aux _
  · exact Acts.refl

theorem acts_hctxTimeout (s kind : Nat) (w : World) : Acts s none w none (hctxTimeout w s kind) := by
  unfold hctxTimeout; dsimp only
  have R0 : Acts s none w none (if w.jobs.contains s then w else { w with jobs := s :: w.jobs }) := by
    split
    · exact Acts.refl
    · exact Acts.one (.pool (tr_jobs w _).reach (.same rfl rfl rfl rfl))
  generalize (if w.jobs.contains s then w else { w with jobs := s :: w.jobs }) = w0 at R0 ⊢
  split
  · have R1 := R0.step (.pool (reach_slotConnectError w0 s) (frame_slotConnectError w0 s))
    split
    · rename_i h1; exact R1.step (.retry none _ (by unfold recOf; omega))
    · refine Acts.trans ?_ (acts_fix504 s _)
      refine Acts.trans ?_ (acts_backendError s none _)
      exact (R1.step (.recInc none _)).aux _
  · split
    · have R1 := R0.trans (ret_writeError s none w0).1
      split
      · exact R1.aux _
      · exact R1
    · exact (R0.trans (acts_backendError s none _)).trans (acts_fix504 s _)

theorem mono_subrequest (w : World) (s s' : Nat) : Mono s w (subrequest w s').2 :=
  (tr_acts (ret_subrequest s' w).1).mono s

/-! ### an operation as big steps -/

/-- the moves an operation is made of: edits as above, the ways a context comes and goes, fdevent_sched_run() -/
inductive Big : World → World → Prop
  | acts {s : Nat} {a b : World} (h : Acts s none a none b) : Big a b
  | finish (w : World) (s : Nat) (ab : Bool) : Big w (finish w s ab)
  | sched (w : World) : Big w (schedRun w)
  | alloc (w : World) (s key : Nat) (hs : w.slot s = none) (hlt : s < w.nslots) :
      Big w { w with slot := fun i => if i = s then some { aux := { key := key } } else w.slot i }
  | assign (w : World) (s h key : Nat) (hc : w.slot s = some { aux := { key := key } }) :
      Big w (assignFresh w s h)

inductive Bigs : World → World → Prop
  | refl (w : World) : Bigs w w
  | step {a b c : World} : Bigs a b → Big b c → Bigs a c

theorem Bigs.one {a b : World} (p : Big a b) : Bigs a b := (Bigs.refl a).step p

theorem Bigs.trans {a b c : World} (h1 : Bigs a b) (h2 : Bigs b c) : Bigs a c := by
  induction h2 with
  | refl => exact h1
  | step _ p ih => exact ih.step p

theorem Bigs.inv {P : World → Prop} (hP : ∀ a b, Big a b → P a → P b) {a b : World} (h : Bigs a b) :
    P a → P b := by
  induction h with
  | refl => exact id
  | step _ p ih => exact fun ha => hP _ _ p (ih ha)

theorem Bigs.acts {s : Nat} {a b : World} (h : Acts s none a none b) : Bigs a b := .one (.acts h)

theorem Bigs.pool {a b : World} (hr : Reach a b) (hf : Frame a b) : Bigs a b :=
  .acts (s := 0) (.one (.pool hr hf))

theorem Bigs.emit (w : World) (e : Ev) (he : isDispatch e = false) : Bigs w (w.emit e) :=
  .pool (reach_emit w e he) (.same rfl rfl rfl rfl)

theorem big_runCon (n : Nat) (w : World) (s : Nat) : Bigs w (runCon n w s) := by
  induction n generalizing w with
  | zero => exact (Bigs.emit _ _ rfl).step (.finish _ _ _)
  | succ n ih =>
    unfold runCon
    split
    · exact Bigs.refl _
    · dsimp only
      have R1 : Bigs w (subrequest w s).2 := .acts (ret_subrequest s w).1
      split
      · exact Bigs.one (.finish _ _ _)                   -- no handler
      · split
        · split                                          -- WAIT_FOR_EVENT
          · exact R1.step (.finish _ _ _)
          · exact R1.trans (.emit _ _ rfl)
        · exact R1.step (.finish _ _ _)                  -- GO_ON
        · exact R1.step (.finish _ _ _)                  -- FINISHED
        · exact R1.trans (ih _)                          -- COMEBACK
        · exact (R1.trans (.emit _ _ rfl)).step (.finish _ _ _)    -- ERROR

theorem big_runJobs (w : World) : Bigs w (runJobs w) := by
  unfold runJobs; dsimp only
  exact foldl_inv (Bigs w) _ _ _ (.pool (tr_jobs w []).reach (.same rfl rfl rfl rfl)) fun w s h => h.trans (big_runCon _ w s)

theorem big_hostTimeouts (w : World) (h : Nat) : Bigs w (hostTimeouts w h) := by
  unfold hostTimeouts; dsimp only
  split
  · exact Bigs.refl _
  · split
    · exact Bigs.refl _
    · refine foldl_inv (Bigs w) _ _ _ (Bigs.refl _) fun w s h => h.trans ?_
      unfold timeoutStep; dsimp only
      split
      · split
        · exact .acts (acts_hctxTimeout s 0 w)
        · exact Bigs.refl _
      · split
        · exact .acts (acts_hctxTimeout s 1 w)
        · split
          · exact .acts (acts_hctxTimeout s 2 w)
          · exact Bigs.refl _

theorem big_triggerHost (w : World) (h : Nat) : Bigs w (triggerHost w h) := by
  have R : ∀ tr, Bigs w (restartDeadProcs (hostTimeouts w h) h tr) := fun tr =>
    (big_hostTimeouts w h).trans (.pool (reach_restartDeadProcs _ h tr) (frame_restartDeadProcs _ h tr))
  unfold triggerHost; dsimp only
  split
  · rw [checkOverloaded_eq]; exact R false
  · exact R true

theorem acts_hostGet (s : Nat) (w : World) : Acts s none w none (hostGet w s).2 := by
  have R : Acts s none w none { w with lastUsed := (hostPick w (w.auxOf s).key).2 } :=
    .one (.pool (tr_lastUsed w _).reach (.same rfl rfl rfl rfl))
  rcases hostGet_snd w s with ⟨_, h⟩ | ⟨_, h⟩ <;> rw [h]
  · exact R
  · exact (R.aux _).step (.pool (tr_noteSent _ true).reach (.same rfl rfl rfl rfl))

/-- gw_check_extension() … gw_handle_subrequest() for an arriving request -/
theorem big_opArrive (w : World) (s key : Nat) : Bigs w (opArrive w s key) := by
  unfold opArrive
  split
  · exact .emit _ _ rfl
  · rename_i hlt
    split
    · exact .emit _ _ rfl
    · rename_i hfree
      have hs : w.slot s = none := by
        cases h : w.slot s with
        | none => rfl
        | some c => simp [h] at hfree
      dsimp only
      have R0 := Bigs.one (.alloc w s key hs (by omega))
      generalize hW : ({ w with slot := fun i => if i = s then some { aux := { key := key } } else w.slot i } : World) = W at R0 ⊢
      have hc : W.slot s = some { aux := { key := key } } := by rw [← hW]; simp
      have R1 := R0.trans (.acts (acts_hostGet s W))
      split
      · exact (R1.trans (.emit _ _ rfl)).step (.finish _ _ _)
      · rename_i h hh
        have hc1 : (hostGet W s).2.slot s = some { aux := { key := key } } := by
          rcases hostGet_snd W s with ⟨_, e⟩ | ⟨e, _⟩
          · rw [e]; exact hc
          · rw [e] at hh; cases hh
        have R2 := R1.trans (.pool (tr_noteSent _ false).reach (.same rfl rfl rfl rfl))
        split
        · exact ((R2.trans (.acts (s := s) (Acts.refl.aux _))).trans (.emit _ _ rfl)).step (.finish _ _ _)
        · exact (R2.step (.assign _ s h key hc1)).trans (big_runCon _ _ s)

theorem big_step (w : World) (op : Op) : Bigs w (step w op) := by
  have scr : ∀ sc, Bigs w { w with script := sc } := fun sc => .pool (tr_script w sc).reach (.same rfl rfl rfl rfl)
  cases op with
  | arrive s key sc => exact ((scr sc).trans (big_opArrive _ s key)).step (.sched _)
  | event s mask sc =>
    show Bigs w (schedRun (opEvent { w with script := sc } s mask))
    refine Bigs.step ((scr sc).trans ?_) (.sched _)
    unfold opEvent; dsimp only
    split
    · exact .emit _ _ rfl
    · split
      · exact .emit _ _ rfl
      · split
        · exact .emit _ _ rfl
        · refine Bigs.trans ?_ (big_runJobs _)
          refine Bigs.trans ?_ (.pool (tr_jobs _ [s]).reach (.same rfl rfl rfl rfl))
          exact (Bigs.emit _ _ rfl).trans (.acts (s := s) (Acts.refl.aux _))
  | wake s sc =>
    show Bigs w (schedRun (opWake { w with script := sc } s))
    refine Bigs.step ((scr sc).trans ?_) (.sched _)
    unfold opWake
    split
    · exact .emit _ _ rfl
    · split
      · exact .emit _ _ rfl
      · exact (Bigs.emit _ _ rfl).trans (big_runCon _ _ _)
  | abort s =>
    show Bigs w (schedRun (opAbort { w with script := {} } s))
    refine Bigs.step ((scr {}).trans ?_) (.sched _)
    unfold opAbort
    split
    · exact .emit _ _ rfl
    · split
      · exact .emit _ _ rfl
      · exact (Bigs.emit _ _ rfl).step (.finish _ _ _)
  | tick dt sc =>
    show Bigs w (schedRun (opTick { w with script := sc } dt))
    refine Bigs.step ((scr sc).trans ?_) (.sched _)
    unfold opTick; dsimp only
    refine Bigs.trans ?_ (big_runJobs _)
    refine foldl_inv (Bigs _) _ _ _ ?_ fun w h hw => hw.trans (big_triggerHost w h)
    exact (Bigs.pool (Reach.one (Prim.tick _ dt)) (.same rfl rfl rfl rfl)).trans (.emit _ _ rfl)

/-! ### invariants of histories -/

theorem acct_big {a b : World} (p : Big a b) (hA : Acct none a) : Acct none b := by
  cases p with
  | acts h => exact (acct_acts h (tok_none _) hA).2
  | finish _ s ab => exact acct_finish s ab hA (tok_none s)
  | sched => exact acct_schedRun hA
  | alloc _ s key hs hlt => exact acct_alloc s _ hA hs hlt
  | assign _ s h key hc => exact acct_assign s h hA (by simp [lk, hc])

theorem acct_step {w : World} (op : Op) (hA : Acct none w) : Acct none (step w op) :=
  (big_step w op).inv (fun _ _ => acct_big) hA

theorem acct_run {w : World} (ops : List Op) (hA : Acct none w) : Acct none (run w ops) := by
  unfold run
  exact foldl_inv (Acct none) _ _ _ hA (fun _ _ hb => acct_step _ hb)

theorem reach_big {a b : World} (p : Big a b) : Reach a b := by
  cases p with
  | acts h => exact (tr_acts h).reach
  | finish => exact reach_finish _ _ _
  | sched => exact (tr_counters a a.globalActive _ 0 a.opened _).reach
  | alloc => exact Reach.one (prim_slot _ _)
  | assign =>
    exact ((((tr_updLink _ _ _).trans (tr_hostAssign _ _ _)).trans (tr_aux _ _ _)).reach).trans (reach_emit _ _ rfl)

theorem reach_bigs {a b : World} (h : Bigs a b) : Reach a b := by
  induction h with
  | refl => exact Reach.refl _
  | step _ p ih => exact ih.trans (reach_big p)

theorem reach_hostTimeouts (w : World) (h : Nat) : Reach w (hostTimeouts w h) := reach_bigs (big_hostTimeouts w h)

theorem reach_step (w : World) (op : Op) : Reach w (step w op) := reach_bigs (big_step w op)

theorem reach_run (w : World) (ops : List Op) : Reach w (run w ops) :=
  foldl_inv (Reach w) step ops w (Reach.refl w) fun b op hb => hb.trans (reach_step b op)

end LtVerif.Gw
