/-
  C12: the C integer types of Model/Arith.lean as numerals, and `chk_ind`, the step over one width check.  Over this file,
  a module per site: Arith, ArithChunk, ArithBuf (with ArithTmpBuf), ArithH2, ArithRange.  What a step function may return
  is a predicate by cases on the outcome; proofs walk the if-ladders with `ite_ind` / `chk_ind`: `split` on the unfolded
  step functions re-simplifies every `have` at every level.
-/
import LtVerif.Model.Arith
namespace LtVerif
namespace Arith

theorem i64Max_eq : i64Max = 9223372036854775807 := by decide +kernel
theorem i64Min_eq : i64Min = -9223372036854775808 := by decide +kernel
theorem u32Max_eq : u32Max = 4294967295 := by decide +kernel
theorem uszMax_eq : uszMax = 18446744073709551615 := by decide +kernel
theorem u16Max_eq : u16Max = 65535 := by decide +kernel

theorem inI64_iff (x : Int) : inI64 x = true ↔ (-9223372036854775808 ≤ x ∧ x ≤ 9223372036854775807) := by
  simp [inI64, i64Max_eq, i64Min_eq]

-- kept folded: elaboration whnf's a goal `P (if !inI64 x then … else …)` and would evaluate the test on 2^63
attribute [local irreducible] inI64

theorem chk_ind {α : Sort _} {P : α → Prop} {x : Int} {u e : α} (hx : inI64 x = true) (he : P e) :
    P (if !inI64 x then u else e) := by
  rw [hx]; exact he

end Arith
end LtVerif
