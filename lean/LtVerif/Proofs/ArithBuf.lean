/-
  C12: buffer.c growth (realloc size, prepare_copy / prepare_append / extend / commit inside the window in which
  nothing wraps) and the closure of the buffer operations under a length limit.
-/
import LtVerif.Proofs.ArithBase
namespace LtVerif
namespace Arith

/-! ### buffer.c growth (4294967231 = 2^32-65, 2147483616 = 2^31-32: the window in which nothing wraps) -/

theorem pow2From_spec : ∀ (fuel sz psz : Nat), 0 < sz → psz ≤ sz * 2 ^ fuel →
    psz ≤ pow2From fuel sz psz ∧ (pow2From fuel sz psz = sz ∨ pow2From fuel sz psz < 2 * psz) := by
  intro fuel
  induction fuel with
  | zero => intro sz psz h0 h; simp only [pow2From]; simp at h; exact ⟨h, Or.inl trivial⟩
  | succ fuel ih =>
    intro sz psz h0 h
    simp only [pow2From]
    by_cases hlt : sz < psz
    · simp only [if_pos hlt]
      have e : sz * 2 ^ (fuel + 1) = sz * 2 * 2 ^ fuel := by
        rw [Nat.pow_succ, Nat.mul_assoc, Nat.mul_comm (2 ^ fuel) 2]
      obtain ⟨h1, h2⟩ := ih (sz * 2) psz (by omega) (by rw [← e]; exact h)
      refine ⟨h1, Or.inr ?_⟩
      rcases h2 with h2 | h2 <;> omega
    · simp only [if_neg hlt]
      exact ⟨by omega, Or.inl trivial⟩

theorem piece_eq : Extracted.bufferPieceSize = 64 := by decide +kernel
theorem cIntMax_eq : Extracted.cIntMax = 2147483647 := by decide +kernel

theorem or_one_le (x : Nat) : x ||| 1 ≤ x + 1 := by
  have h1 : (x ||| 1) / 2 = x / 2 := Nat.or_div_two.trans (Nat.or_zero _)
  omega

-- 258: the power-of-two loop starts at 256, else less than doubles ≤ len+64; `| 1` adds 1
theorem bufReallocSz_spec (len : Nat) (h : len ≤ 4294967231) :
    ∃ sz, bufReallocSz len = some sz ∧ len + 1 ≤ sz ∧ sz ≤ 4294967295 ∧ sz ≤ 2 * len + 258 := by
  rw [bufReallocSz]
  simp only [piece_eq, cIntMax_eq, wrapSz, uszMax_eq]
  have hw : (len + 1 + (64 - 1)) % (18446744073709551615 + 1) = len + 64 := by
    rw [Nat.mod_eq_of_lt] <;> omega
  rw [hw]
  generalize hq : (len + 64) / 64 * 64 = q
  have hq1 : len + 1 ≤ q := by omega
  have hq2 : q ≤ len + 64 := by omega
  have hgt : ¬ ((!decide (q > len)) = true) := by simp; omega
  simp only [if_neg hgt]
  by_cases hc : (decide (q &&& (q - 1) ≠ 0) && decide (q < 2147483647)) = true
  · simp only [if_pos hc]
    have hlt : q < 2147483647 := by
      simp only [Bool.and_eq_true, decide_eq_true_eq] at hc; exact hc.2
    obtain ⟨h1, h2⟩ := pow2From_spec 64 256 q (by omega) (by simp only [Nat.reducePow]; omega)
    have hlo : pow2From 64 256 q ≤ pow2From 64 256 q ||| 1 := Nat.left_le_or
    have hle := or_one_le (pow2From 64 256 q)
    exact ⟨_, rfl, by omega, by rcases h2 with h2 | h2 <;> omega, by rcases h2 with h2 | h2 <;> omega⟩
  · simp only [if_neg hc]
    have hlo : q ≤ q ||| 1 := Nat.left_le_or
    have hle := or_one_le q
    exact ⟨_, rfl, by omega, by omega, by omega⟩

theorem wrap32_of_le {x : Nat} (h : x ≤ 4294967295) : wrap32 x = x := by
  simp only [wrap32, u32Max_eq]; omega

theorem bufRealloc_eq (b : Buf) {len sz : Nat} (h1 : bufReallocSz len = some sz) (h3 : sz ≤ 4294967295) :
    bufRealloc b len = .ok { b with size := sz } := by
  simp only [bufRealloc, h1, wrap32_of_le h3]

theorem bufRealloc_spec (b : Buf) (len : Nat) (h : len ≤ 4294967231) :
    ∃ sz, bufRealloc b len = .ok { b with size := sz } ∧ len + 1 ≤ sz ∧ sz ≤ 4294967295 ∧ sz ≤ 2 * len + 258 := by
  obtain ⟨sz, h1, h2, h3, h4⟩ := bufReallocSz_spec len h
  exact ⟨sz, bufRealloc_eq b h1 h3, h2, h3, h4⟩

theorem bsize2x_bounds (size : Nat) : size - 1 ≤ bsize2x size / 2 ∧ bsize2x size ≤ 2 * size ∧ bsize2x size % 4 = 0 := by
  unfold bsize2x; omega

theorem bufLen_le (b : Buf) (hwf : b.used ≤ b.size) : bufLen b ≤ b.size := by
  unfold bufLen; split <;> omega

theorem hasRoom_iff (b : Buf) (n : Nat) (hwf : b.used ≤ b.size) (hs : b.size ≤ 4294967295)
    (hn : n < 18446744073709551615) : hasRoom b n = true ↔ bufLen b + n + 1 ≤ b.size := by
  have hl := bufLen_le b hwf
  simp only [hasRoom, wrap32, wrapSz, u32Max_eq, uszMax_eq, decide_eq_true_eq]
  rw [Nat.mod_eq_of_lt (a := n + 1) (by omega)]
  omega

theorem decSz_pos (x : Nat) (h1 : 0 < x) (h2 : x ≤ 18446744073709551615) : decSz x = x - 1 := by
  simp only [decSz, wrapSz, uszMax_eq]; omega

/-- what buffer_string_prepare_copy(b, n) leaves -/
structure CopyOk (b : Buf) (n : Nat) (b' : Buf) : Prop where
  used : b'.used = 0
  room : n + 1 ≤ b'.size
  fits : b'.size ≤ 4294967295
  grow : b'.size = b.size ∨ (b.size ≤ n ∧ b'.size ≤ 2 * (2 * b.size + n) + 258)

theorem prepareCopy_spec (b : Buf) (n : Nat) (hsz : b.size ≤ 2147483616) (hn : n ≤ 4294967231) :
    ∃ b', prepareCopy b n = .ok b' ∧ CopyOk b n b' := by
  rw [prepareCopy]
  by_cases hns : n < b.size
  · exact ⟨_, if_pos hns, rfl, hns, by show b.size ≤ _; omega, Or.inl rfl⟩
  · generalize harg : (if bsize2x b.size > n then decSz (bsize2x b.size) else n) = arg
    have hb2 := bsize2x_bounds b.size
    have harg' : n ≤ arg ∧ arg ≤ 4294967231 ∧ arg ≤ 2 * b.size + n := by
      split at harg
      · rw [decSz_pos _ (by omega) (by omega)] at harg; omega
      · omega
    obtain ⟨sz, h1, h2, h3, h4⟩ := bufRealloc_spec ⟨0, b.size⟩ arg harg'.2.1
    refine ⟨_, (if_neg hns).trans h1, rfl, ?_, ?_, Or.inr ⟨by omega, ?_⟩⟩
    · show n + 1 ≤ sz; omega
    · show sz ≤ _; omega
    · show sz ≤ _; omega

structure PrepOk (b : Buf) (n : Nat) (b' : Buf) : Prop where
  len : bufLen b' = bufLen b
  room : bufLen b' + n + 1 ≤ b'.size
  wf : b'.used ≤ b'.size
  fits : b'.size ≤ 4294967295
  used : b'.used = b.used ∨ (b.used = 1 ∧ b'.used = 0)
  grow : b'.size = b.size ∨ (b.size < bufLen b + n + 1 ∧ b'.size ≤ 2 * (2 * b.size + b.used + n) + 258)

theorem prepareAppend_spec (b : Buf) (n : Nat) (hwf : b.used ≤ b.size) (hsz : b.size ≤ 2147483616)
    (hn : b.used + n ≤ 4294967231) : ∃ b', prepareAppend b n = .ok b' ∧ PrepOk b n b' := by
  rw [prepareAppend]
  by_cases hr : hasRoom b n = true
  · simp only [if_pos hr]
    have := (hasRoom_iff b n hwf (by omega) (by omega)).mp hr
    exact ⟨b, rfl, { len := rfl, room := this, wf := hwf, fits := by omega, used := Or.inl rfl, grow := Or.inl rfl }⟩
  · simp only [if_neg hr]
    have hnr : ¬ (bufLen b + n + 1 ≤ b.size) := fun h => hr ((hasRoom_iff b n hwf (by omega) (by omega)).mpr h)
    have hb2 := bsize2x_bounds b.size
    rw [prepareAppendResize]
    by_cases hu : b.used < 2
    · rw [if_pos hu]
      have hl0 : bufLen b = 0 := by unfold bufLen; split <;> omega
      obtain ⟨b', h1, used, room, fits, grow⟩ := prepareCopy_spec b n (by omega) (by omega)
      have hl' : bufLen b' = 0 := by simp [bufLen, used]
      exact ⟨b', h1, { len := by rw [hl', hl0], room := by omega, wf := by omega, fits := fits, used := by omega, grow := by omega }⟩
    · simp only [if_neg hu]
      have hlen : bufLen b = b.used - 1 := by unfold bufLen; split <;> omega
      have hd : wrapSz (bsize2x b.size + (uszMax + 1) - b.used) = bsize2x b.size - b.used := by
        simp only [wrapSz, uszMax_eq]; omega
      rw [hd]
      generalize hreq : (if bsize2x b.size - b.used > n then decSz (bsize2x b.size) else wrapSz (b.used + n)) = req
      have hreq' : b.used ≤ req ∧ req ≤ 4294967231 ∧ b.used + n ≤ req + 1 ∧ req ≤ 2 * b.size + b.used + n := by
        split at hreq
        · rw [decSz_pos _ (by omega) (by omega)] at hreq; omega
        · simp only [wrapSz, uszMax_eq] at hreq; omega
      have hge : ¬ ((!decide (req ≥ b.used)) = true) := by simp; omega
      simp only [if_neg hge]
      obtain ⟨sz, h1, h2, h3, h4⟩ := bufRealloc_spec b req hreq'.2.1
      exact ⟨_, h1, {
        len := by simp [bufLen]
        room := by simp only [bufLen]; split <;> omega
        wf := by show b.used ≤ sz; omega
        fits := by show sz ≤ 4294967295; omega
        used := Or.inl rfl
        grow := Or.inr ⟨by omega, by show sz ≤ _; omega⟩ }⟩

theorem commit_spec (b : Buf) (m : Nat) (h : bufLen b + m + 1 ≤ 4294967295) :
    commit b m = .ok ⟨bufLen b + m + 1, b.size⟩ := by
  have hu : (if b.used = 0 then 1 else b.used) = bufLen b + 1 := by
    unfold bufLen; split
    · simp [*]
    · omega
  rw [commit, hu, if_neg (by rw [uszMax_eq]; omega), wrap32_of_le (by omega), Nat.add_right_comm]

/-- buffer_extend() = buffer_string_prepare_append() + the new length -/
theorem extend_spec (b : Buf) (n : Nat) (hwf : b.used ≤ b.size) (hsz : b.size ≤ 2147483616)
    (hn : b.used + n ≤ 4294967231) :
    ∃ b1, PrepOk b n b1 ∧ extend b n = .ok { b1 with used := bufLen b + n + 1 } := by
  obtain ⟨b1, h1, hp⟩ := prepareAppend_spec b n hwf hsz hn
  have e : extend b n = match prepareAppend b n with
      | .abort => .abort
      | .ok b' => .ok { b' with used := wrap32 (bufLen b + n + 1) } := rfl
  rw [e, h1, wrap32_of_le (Nat.le_trans (hp.len ▸ hp.room) hp.fits)]
  exact ⟨b1, hp, rfl⟩

/-! ### closure of the buffer operations under a length limit -/

/-- string kept at most `L` long by the callers -/
structure BInv (L : Nat) (b : Buf) : Prop where
  wf : b.used ≤ b.size
  size : b.size ≤ 6 * L + 300    -- growth starts at size ≤ L, ends ≤ 2·(2·size+used+n)+258
  len : bufLen b ≤ L

/-- the caller's side of the contract for one operation, given the length limit `L` -/
def Legal (L : Nat) (b : Buf) : BufOp → Prop
  | .prep n => bufLen b + n ≤ L
  | .commit m => bufLen b + m + 1 ≤ b.size ∧ bufLen b + m ≤ L      -- room was prepared
  | .extend n => bufLen b + n ≤ L
  | .copy n => n ≤ L
  | .trunc n => n ≤ bufLen b ∧ 0 < b.size                           -- b->ptr exists
  | .clear => True

def LegalRun (L : Nat) : Buf → List BufOp → Prop
  | _, [] => True
  | b, op :: rest => Legal L b op ∧ ∀ b', bufStep b op = .ok b' → LegalRun L b' rest

-- 2^28 keeps 6·L+300 inside the 2^31−32 window
theorem bufStep_inv (L : Nat) (hL : L ≤ 268435456) (b : Buf) (op : BufOp) (hi : BInv L b) (hl : Legal L b op) :
    ∃ b', bufStep b op = .ok b' ∧ BInv L b' := by
  obtain ⟨hwf, hsize, hlen⟩ := hi
  have hlb := bufLen_le b hwf
  have hused : b.used ≤ L + 1 := by unfold bufLen at hlen; split at hlen <;> omega
  have hub : b.used ≤ bufLen b + 1 := by unfold bufLen; split <;> omega
  cases op with
  | prep n =>
    simp only [Legal] at hl
    obtain ⟨b', h1, hp⟩ := prepareAppend_spec b n hwf (by omega) (by omega)
    refine ⟨b', h1, hp.wf, ?_, by rw [hp.len]; omega⟩
    rcases hp.grow with h7 | h7 <;> omega
  | commit m =>
    simp only [Legal] at hl
    have := commit_spec b m (by omega)
    have e : bufLen (⟨bufLen b + m + 1, b.size⟩ : Buf) = bufLen b + m := by simp [bufLen]
    refine ⟨_, this, ?_, hsize, ?_⟩
    · show bufLen b + m + 1 ≤ b.size; omega
    · rw [e]; omega
  | extend n =>
    simp only [Legal] at hl
    obtain ⟨b1, hp, e1⟩ := extend_spec b n hwf (by omega) (by omega)
    have e : bufLen ({ b1 with used := bufLen b + n + 1 } : Buf) = bufLen b + n := by simp [bufLen]
    refine ⟨_, e1, hp.len ▸ hp.room, ?_, by rw [e]; omega⟩
    show b1.size ≤ _
    rcases hp.grow with g | g <;> omega
  | copy n =>
    simp only [Legal] at hl
    obtain ⟨b', h1, used, room, fits, grow⟩ := prepareCopy_spec b n (by omega) (by omega)
    refine ⟨b', h1, by omega, ?_, ?_⟩
    · rcases grow with g | g <;> omega
    · simp [bufLen, used]
  | trunc n =>
    simp only [Legal] at hl
    refine ⟨_, rfl, ?_, hsize, ?_⟩
    · show wrap32 (n + 1) ≤ b.size
      rw [wrap32_of_le (by omega)]
      unfold bufLen at hl hlb; split at hl <;> omega
    · show bufLen (truncate b n) ≤ L
      simp only [bufLen, truncate, wrap32_of_le (show n + 1 ≤ 4294967295 by omega)]; simp; omega
  | clear =>
    refine ⟨_, rfl, ?_, hsize, ?_⟩
    · show 0 ≤ b.size; omega
    · simp [bufLen, clear]

theorem bufRun_inv (L : Nat) (hL : L ≤ 268435456) (ops : List BufOp) : ∀ b : Buf, BInv L b → LegalRun L b ops →
    ∃ b', bufRun b ops = .ok b' ∧ BInv L b' := by
  induction ops with
  | nil => intro b hi _; exact ⟨b, rfl, hi⟩
  | cons op rest ih =>
    intro b hi hl
    obtain ⟨b1, h1, h2⟩ := bufStep_inv L hL b op hi hl.1
    simp only [bufRun, h1]
    exact ih b1 h2 (hl.2 b1 h1)

end Arith
end LtVerif
