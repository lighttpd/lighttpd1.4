/-
  Lemmas for C16 (authentication; property theorems in LtVerif/Props/C16.lean): the notions the
  statements use (`init`, `EntryOk`, `SameBackend`, `usedScopes`, `Steady`); the cache; user files;
  Basic; Digest (parameters and response, credential lookup); the handler (`handle_fst`, `handle_outcome`,
  completeness); backend scopes; the server loop and histories; fixtures `Ex`.  The nonce round trip is
  imported from AuthNonce.lean; the HTTP/2 header path (AuthH2.lean) is used by Props/C16.lean only.
-/
import LtVerif.Model.Auth
import LtVerif.Proofs.Bytes
import LtVerif.Proofs.AuthNonce
namespace LtVerif.Auth
open LtVerif B

/-! ### notions the property statements use (beside `BasicValid`, `DigestValid`, `NonceFresh`, `DigestWellFormed` of Model/Auth.lean) -/

def init (mono epoch : Int) : St := { cache := [], mono := mono, epoch := epoch }

/-- a cache entry restates a record of `cfg`'s backend.  Basic: the backend accepts the cached password.
    Digest: its lookup of the cached key `k` in the user or the userhash column (`uh`) returns the cached
    (user name, H(A1)); `kIsUser` tells the column, except that `digestEntry` also sets it for an
    over-long userhash on the plain backend (second disjunct), where the column does not matter. -/
def EntryOk (P : Prims) (cfg : Cfg) (e : Entry) : Prop :=
  ∃ rule, cfg.rules[e.rule]? = some rule ∧
    (rule.scheme = .basic → backendBasic P cfg rule e.username e.pw = true) ∧
    (rule.scheme = .digest → ∃ uh : Bool,
        (e.kIsUser = !uh ∨ (uh = true ∧ e.kIsUser = true ∧ cfg.backend = .plain)) ∧
        (e.kIsUser = false → e.username.length ≤ Extracted.authUserbufSize) ∧
        backendLookup P cfg rule.realm uh e.dlen e.k = some (e.username, e.pw))

def CacheOk (P : Prims) (cfg : Cfg) (c : Cache) : Prop := ∀ p ∈ c, EntryOk P cfg p.2

def SameBackend (cfg : Cfg) (s s' : Nat) : Prop :=
  (cfg.at s).backend = (cfg.at s').backend ∧ (cfg.at s).file = (cfg.at s').file

def usedScopes : List Op → List Nat
  | [] => []
  | .request r :: ops => r.scope :: usedScopes ops
  | _ :: ops => usedScopes ops

/-- the loop wakes up at least once per second (fdevent_poll() timeout 1000 ms, no stall) -/
def Steady : List Op → Prop
  | [] => True
  | .adv dt :: ops => dt ≤ 1 ∧ Steady ops
  | _ :: ops => Steady ops

/-! ### the cache: rule lookup, the finite map, the invariant -/

theorem findRule_get0 {rs : List Rule} {path : Bytes} {j : Nat} {r : Rule}
    (h : findRule rs path 0 = some (j, r)) : rs[j]? = some r := by
  have key : ∀ (rs : List Rule) (i : Nat), findRule rs path i = some (j, r) → ∃ k, j = i + k ∧ rs[k]? = some r := by
    intro rs
    induction rs with
    | nil => intro i h; simp [findRule] at h
    | cons a rs ih =>
      intro i h
      simp only [findRule] at h
      split at h
      · cases h; exact ⟨0, by simp, by simp⟩
      · obtain ⟨k, hk, hg⟩ := ih (i + 1) h
        exact ⟨k + 1, by omega, by simpa using hg⟩
  obtain ⟨k, hk, hg⟩ := key rs 0 h
  rw [show j = k by omega]; exact hg

theorem mem_insert {c : Cache} {key : Int} {e : Entry} {p : Int × Entry}
    (h : p ∈ c.insert key e) : p = (key, e) ∨ p ∈ c := by
  simp only [Cache.insert, List.mem_cons, List.mem_filter] at h
  rcases h with h | ⟨h, _⟩
  · exact Or.inl h
  · exact Or.inr h

theorem mem_cleanup {c : Cache} {ma cur : Int} {p : Int × Entry}
    (h : p ∈ c.cleanup ma cur) : p ∈ c ∧ cur - p.2.ctime ≤ ma := by
  simp only [Cache.cleanup, List.mem_filter, Bool.not_eq_eq_eq_not, Bool.not_true,
             decide_eq_false_iff_not, Int.not_lt] at h
  exact h

theorem EntryOk.basic {P : Prims} {cfg : Cfg} {e : Entry} {rule : Rule} (h : EntryOk P cfg e)
    (hr : cfg.rules[e.rule]? = some rule) (hs : rule.scheme = .basic) :
    backendBasic P cfg rule e.username e.pw = true := by
  obtain ⟨rule', hr', hb, _⟩ := h
  rw [hr] at hr'; cases hr'
  exact hb hs

theorem EntryOk.digest {P : Prims} {cfg : Cfg} {e : Entry} {rule : Rule} (h : EntryOk P cfg e)
    (hr : cfg.rules[e.rule]? = some rule) (hs : rule.scheme = .digest) :
    ∃ uh : Bool, (e.kIsUser = !uh ∨ (uh = true ∧ e.kIsUser = true ∧ cfg.backend = .plain)) ∧
      (e.kIsUser = false → e.username.length ≤ Extracted.authUserbufSize) ∧
      backendLookup P cfg rule.realm uh e.dlen e.k = some (e.username, e.pw) := by
  obtain ⟨rule', hr', _, hd⟩ := h
  rw [hr] at hr'; cases hr'
  exact hd hs

/-- `cfgOf e`, with `cfg`'s rules, vouches for entry `e`; `CacheOk` is the case of one configuration -/
def CacheOkVia (P : Prims) (cfg : Cfg) (cfgOf : Entry → Cfg) (c : Cache) : Prop :=
  ∀ p ∈ c, EntryOk P (cfgOf p.2) p.2 ∧ (cfgOf p.2).rules = cfg.rules

theorem CacheOk.via {P : Prims} {cfg : Cfg} {c : Cache} (h : CacheOk P cfg c) :
    CacheOkVia P cfg (fun _ => cfg) c := fun p hp => ⟨h p hp, rfl⟩

theorem cacheOk_nil {P : Prims} {cfg : Cfg} : CacheOk P cfg [] := fun _ h => by cases h

theorem cleanup_cacheOk {P : Prims} {cfg : Cfg} {c : Cache} {ma cur : Int}
    (hc : CacheOk P cfg c) : CacheOk P cfg (c.cleanup ma cur) :=
  fun p hp => hc p (mem_cleanup hp).1

/-! ### user files and the backend lookup -/

-- `_spec` lemmas take `f … = x` with `x` a variable: after `cases x` the `match` reduces.  `generalizing := false`
-- keeps the `match` from abstracting `h` as well (two such statements would not compose).
theorem htdDigest_spec {dlen : Nat} {pwd u w : Bytes} {x : HtdLine} (h : htdDigest dlen pwd (.next w) u = x) :
    match (generalizing := false) x with
    | .next v => v = w
    | .done (some (u', _)) => u' = u
    | .done none => True := by
  unfold htdDigest at h
  rcases of_ite_eq h with ⟨_, rfl⟩ | ⟨_, h⟩
  · rfl
  · split at h <;> subst h
    · rfl
    · trivial

theorem htdigestLineUser_spec {realm : Bytes} {dlen : Nat} {l uname : Bytes} {x : HtdLine}
    (h : htdigestLineUser realm dlen l uname = x) :
    match (generalizing := false) x with
    | .next v => v = uname
    | .done (some (u, _)) => u = uname
    | .done none => True := by
  unfold htdigestLineUser at h
  repeat' split at h  -- every arm is `.next uname` except the matching line, which is `htdDigest`
  all_goals first
    | (subst h; rfl)
    | exact htdDigest_spec h

theorem htdigestLineHash_done {realm : Bytes} {dlen : Nat} {l uname u d : Bytes}
    (h : htdigestLineHash realm dlen l uname = .done (some (u, d))) :
    u.length ≤ Extracted.authUserbufSize := by
  unfold htdigestLineHash at h
  repeat' split at h  -- `.done` comes from `htdDigest` on a matching line only, whose test bounds `u`
  all_goals first
    | cases h
    | (rename_i hc; rw [htdDigest_spec h]; exact hc.2.2)

theorem htdigestScan_name (realm : Bytes) (uh : Bool) (dlen : Nat) (ls : List Bytes) (uname u d : Bytes)
    (h : htdigestScan realm uh dlen ls uname = some (u, d)) :
    if uh then u.length ≤ Extracted.authUserbufSize else u = uname := by
  induction ls generalizing uname with
  | nil => cases h
  | cons l ls ih =>
    unfold htdigestScan at h
    cases uh with
    | false =>
      simp only [Bool.false_eq_true, ↓reduceIte] at h ⊢
      split at h
      · rename_i hl
        rw [← htdigestLineUser_spec hl]; exact ih _ h
      · rename_i hl
        subst h; exact htdigestLineUser_spec hl
    | true =>
      simp only [↓reduceIte] at h ⊢
      split at h
      · exact ih _ h
      · rename_i hl
        subst h; exact htdigestLineHash_done hl

theorem backendLookup_name {P : Prims} {cfg : Cfg} {realm : Bytes} {uh : Bool} {dlen : Nat} {name u d : Bytes}
    (h : backendLookup P cfg realm uh dlen name = some (u, d)) :
    (cfg.backend = .plain ∧ u = name) ∨
    (cfg.backend = .htdigest ∧ if uh then u.length ≤ Extracted.authUserbufSize else u = name) := by
  unfold backendLookup at h
  split at h
  · split at h
    · cases h
    · cases h; exact Or.inl ⟨‹_›, rfl⟩
  · exact Or.inr ⟨‹_›, htdigestScan_name _ _ _ _ _ _ _ h⟩
  · cases h

theorem backendLookup_plain_uh {P : Prims} {cfg : Cfg} (hb : cfg.backend = .plain) (realm : Bytes) (uh uh' : Bool)
    (dlen : Nat) (name : Bytes) :
    backendLookup P cfg realm uh dlen name = backendLookup P cfg realm uh' dlen name := by
  unfold backendLookup; rw [hb]

theorem lowerUserhash_length (s : Bytes) : (lowerUserhash s).length = s.length := by
  simp [lowerUserhash]

theorem backendDigest_some {P : Prims} {cfg : Cfg} {ai ai2 : AI} (h : backendDigest P cfg ai = some ai2) :
    backendLookup P cfg ai.realm ai.userhash ai.dlen ai.username = some (ai2.username, ai2.digest)
    ∧ ai2 = { ai with username := ai2.username, digest := ai2.digest } := by
  unfold backendDigest at h
  split at h
  · cases h
  · rename_i u d hl
    simp only [Option.some.injEq] at h
    subst h
    exact ⟨hl, rfl⟩

/-! ### Basic -/

theorem basicValid_iff {P : Prims} {cfg : Cfg} {rule : Rule} {hdr u : Bytes} :
    BasicValid P cfg rule hdr u ↔ ∃ pw, basicCreds hdr = .ok (u, pw) ∧ backendBasic P cfg rule u pw = true := by
  unfold BasicValid backendBasic
  refine exists_congr fun pw => and_congr_right fun _ => ?_
  cases cfg.backend with
  | none => simp
  | plain => cases htpasswdGet cfg.file u <;> simp [and_comm]
  | htdigest => dsimp only; split <;> simp_all [and_comm]  -- the same conjuncts in another order
  | htpasswd => cases htpasswdGet cfg.file u <;> simp [and_comm]

theorem basicCreds_error {vb : Bytes} {r : Refusal} (h : basicCreds vb = .error r) :
    r = .s401b true ∨ r = .s400 := by
  simp only [basicCreds] at h
  repeat' split at h  -- scheme, length: 401; empty decode, no ':': 400; else `.ok`
  all_goals first
    | (simp only [Except.error.injEq] at h; subst h; simp)
    | cases h

/-- mod_auth_check_basic() before it looks at the credentials (the counterpart of `digestPre`) -/
def basicPre (cfg : Cfg) (req : Req) : Except Refusal (Bytes × Bytes) :=
  if cfg.backend = .none then .error .s500 else
  match req.auth with
  | none => .error (.s401b true)
  | some vb => basicCreds vb

theorem checkBasic_eq {P : Prims} {cfg : Cfg} {ridx : Nat} {rule : Rule} {st : St} {req : Req} :
    checkBasic P cfg ridx rule st req =
      match basicPre cfg req with
      | .error r => (st, .refuse r)
      | .ok (user, pw) =>
        ((basicAuth P cfg ridx rule st user pw).1,
         if (basicAuth P cfg ridx rule st user pw).2 then .go user false false else .refuse (.s401b false)) := by
  unfold checkBasic basicPre
  split
  · rfl
  · cases req.auth with
    | none => rfl
    | some vb =>
      dsimp only
      cases basicCreds vb with
      | error r => rfl
      | ok up => obtain ⟨user, pw⟩ := up; dsimp only; split <;> rfl

theorem basicPre_spec {cfg : Cfg} {req : Req} {x : Except Refusal (Bytes × Bytes)} (h : basicPre cfg req = x) :
    match x with
    | .ok (u, pw) => cfg.backend ≠ .none ∧ ∃ vb, req.auth = some vb ∧ basicCreds vb = .ok (u, pw)
    | .error r => (r = .s500 ∧ cfg.backend = .none) ∨ r = .s401b true ∨ r = .s400 := by
  unfold basicPre at h
  rcases of_ite_eq h with ⟨hb, rfl⟩ | ⟨hb, h⟩
  · exact Or.inl ⟨rfl, hb⟩
  cases hvb : req.auth with
  | none => rw [hvb] at h; subst h; exact Or.inr (Or.inl rfl)
  | some vb =>
    rw [hvb] at h
    cases x with
    | error r => exact Or.inr (basicCreds_error h)
    | ok up => exact ⟨hb, vb, rfl, h⟩

theorem basicHit_some {c : Cache} {key : Int} {ridx : Nat} {user : Bytes} {e : Entry}
    (h : basicHit c key ridx user = some e) : (key, e) ∈ c ∧ e.rule = ridx ∧ e.username = user := by
  unfold basicHit at h
  split at h
  · rename_i e' hl
    split at h
    · rename_i hcond
      simp only [Option.some.injEq] at h
      subst h
      exact ⟨lookup_mem hl, hcond.1, hcond.2⟩
    · cases h
  · cases h

theorem basicAuth_fst (P : Prims) (cfg : Cfg) (ridx : Nat) (rule : Rule) (st : St) (user pw : Bytes) :
    (basicAuth P cfg ridx rule st user pw).1 = st ∨
    (backendBasic P cfg rule user pw = true ∧
     (basicAuth P cfg ridx rule st user pw).1 =
       { st with cache := st.cache.insert (P.hash ridx user) (basicEntry cfg.cur ridx st.mono user pw) }) := by
  unfold basicAuth
  split
  · exact Or.inl rfl
  · split
    · exact Or.inl rfl
    · split
      · rename_i hb; exact Or.inr ⟨hb, rfl⟩
      · exact Or.inl rfl

theorem basicAuth_result {P : Prims} {cfg : Cfg} {ridx : Nat} {rule : Rule} {st : St} {user pw : Bytes}
    (cfgOf : Entry → Cfg)
    (hE : CacheOkVia P cfg cfgOf st.cache)
    (hr : cfg.rules[ridx]? = some rule) (hs : rule.scheme = .basic)
    (h : (basicAuth P cfg ridx rule st user pw).2 = true) :
    backendBasic P cfg rule user pw = true ∨
    ∃ p ∈ st.cache, backendBasic P (cfgOf p.2) rule user pw = true := by
  unfold basicAuth at h
  split at h
  · exact Or.inl h
  · split at h
    · rename_i e hhit
      obtain ⟨hm, h1, h2⟩ := basicHit_some hhit
      obtain ⟨hok, hrules⟩ := hE _ hm
      simp only [decide_eq_true_eq] at h
      exact Or.inr ⟨_, hm, by rw [← h2, ← h]; exact hok.basic (by rw [hrules, h1]; exact hr) hs⟩
    · split at h
      · rename_i hb; exact Or.inl hb
      · cases h

theorem basicAuth_sound {P : Prims} {cfg : Cfg} {ridx : Nat} {rule : Rule} {st : St} {user pw : Bytes}
    (hc : CacheOk P cfg st.cache) (hr : cfg.rules[ridx]? = some rule) (hs : rule.scheme = .basic)
    (h : (basicAuth P cfg ridx rule st user pw).2 = true) :
    backendBasic P cfg rule user pw = true := by
  rcases basicAuth_result (fun _ => cfg) hc.via hr hs h with h | ⟨_, _, h⟩ <;> exact h

theorem basicAuth_nil {P : Prims} {cfg : Cfg} {ridx : Nat} {rule : Rule} {st : St} {user pw : Bytes} :
    (basicAuth P cfg ridx rule { st with cache := [] } user pw).2 = backendBasic P cfg rule user pw := by
  unfold basicAuth
  split
  · rfl
  · simp only [basicHit, List.lookup]
    split
    · rename_i hb; simp [hb]
    · rename_i hb; simp at hb; simp [hb]

/-! ### Digest: parameters, response -/

/-- what a successful mod_auth_digest_validate_params() establishes -/
structure ParamsOk (rule : Rule) (req : Req) (dp : Params) (ai : AI) : Prop where
  realm : dp.realm = some rule.realm
  uri : dp.uri = some req.target
  nonce : dp.nonce.isSome = true
  airealm : ai.realm = rule.realm
  algo : algorithmParse (dp.algorithm.getD []) = some (ai.dalgo, ai.dlen)
  allowed : rule.algorithm &&& ai.dalgo &&& 0xfffffffe ≠ 0
  name : claimedName dp = some ai.username
  userhash : ai.userhash = userhashFlag dp
  resp : (hex2bin (dp.response.getD [])).isSome = true
  digest : ai.digest = []

theorem validateParams_spec {rule : Rule} {req : Req} {dp : Params} {x : Except Refusal AI}
    (h : validateParams rule req dp = x) :
    match x with
    | .ok ai => ParamsOk rule req dp ai
    | .error r => r = .s401d 0 true ∨ r = .s400 := by
  unfold validateParams at h
  rcases of_ite_eq h with ⟨_, rfl⟩ | ⟨hreq, h⟩  -- required parameters
  · exact Or.inr rfl
  cases hname : claimedName dp with
  | none => rw [hname] at h; subst h; exact Or.inr rfl
  | some uname =>
    rw [hname] at h
    rcases of_ite_eq h with ⟨_, rfl⟩ | ⟨hrealm, h⟩  -- realm
    · exact Or.inl rfl
    cases halgo : algorithmParse (dp.algorithm.getD []) with
    | none => rw [halgo] at h; subst h; exact Or.inl rfl
    | some da =>
      rw [halgo] at h
      rcases of_ite_eq h with ⟨_, rfl⟩ | ⟨hallowed, h⟩  -- algorithm allowed
      · exact Or.inl rfl
      rcases of_ite_eq h with ⟨_, rfl⟩ | ⟨_, h⟩  -- -sess without cnonce
      · exact Or.inr rfl
      rcases of_ite_eq h with ⟨_, rfl⟩ | ⟨hresp, h⟩  -- response length, hex
      · exact Or.inr rfl
      rcases of_ite_eq h with ⟨_, rfl⟩ | ⟨_, h⟩  -- qop=auth-int
      · exact Or.inr rfl
      rcases of_ite_eq h with ⟨_, rfl⟩ | ⟨huri, h⟩  -- uri = request-target
      · exact Or.inr rfl
      subst h
      simp only [Bool.not_eq_true', Bool.not_eq_false, requiredPresent, Bool.and_eq_true] at hreq
      simp only [ne_eq, Decidable.not_not] at hrealm huri
      obtain ⟨⟨⟨⟨⟨_, _⟩, hr⟩, hn⟩, hu⟩, _⟩ := hreq
      refine ⟨?_, ?_, hn, hrealm.symm, halgo, hallowed, hname, rfl, ?_, rfl⟩
      · cases hdr : dp.realm with
        | none => rw [hdr] at hr; cases hr
        | some r => rw [hrealm, hdr]; rfl
      · cases hdu : dp.uri with
        | none => rw [hdu] at hu; cases hu
        | some r => rw [huri, hdu]; rfl
      · cases hh : hex2bin (dp.response.getD []) with
        | none => rw [hh] at hresp; exact absurd (Or.inr rfl) hresp
        | some _ => rfl

theorem digestPre_spec {P : Prims} {cfg : Cfg} {rule : Rule} {epoch : Int} {req : Req}
    {x : Except Refusal (Params × AI × Bool)} (h : digestPre P cfg rule epoch req = x) :
    match x with
    | .ok (dp, ai, _) =>
      ∃ vb, req.auth = some vb ∧ icasePrefix vb (ofString "Digest ") = true ∧
        dp = parseAuthorization (vb.drop 7) ∧ ParamsOk rule req dp ai ∧
        NonceFresh P rule epoch (dp.nonce.getD [])
    | .error r =>
      (r = .s500 ∧ cfg.backend ≠ .plain ∧ cfg.backend ≠ .htdigest) ∨ (∃ s, r = .s401d s true) ∨ r = .s400 := by
  simp only [digestPre] at h
  rcases of_ite_eq h with ⟨hb, rfl⟩ | ⟨_, h⟩
  · exact Or.inl ⟨rfl, hb⟩
  cases hvb : req.auth with
  | none => rw [hvb] at h; subst h; exact Or.inr (Or.inl ⟨0, rfl⟩)
  | some vb =>
    rw [hvb] at h
    rcases of_ite_eq h with ⟨_, rfl⟩ | ⟨hpre, h⟩
    · exact Or.inr (Or.inl ⟨0, rfl⟩)
    cases hvp : validateParams rule req (parseAuthorization (vb.drop 7)) with
    | error o =>
      rw [hvp] at h; subst h
      rcases validateParams_spec hvp with h | h
      · exact Or.inr (Or.inl ⟨0, h⟩)
      · exact Or.inr (Or.inr h)
    | ok ai =>
      rw [hvp] at h
      dsimp only at h
      cases hvn : validateNonce P rule epoch ((parseAuthorization (vb.drop 7)).nonce.getD []) ai.dalgo with
      | error o => rw [hvn] at h; subst h; exact Or.inr (validateNonce_spec hvn)
      | ok nn =>
        rw [hvn] at h; subst h
        exact ⟨vb, rfl, by simpa using hpre, rfl, validateParams_spec hvp, validateNonce_spec hvn⟩

theorem digestPost_spec {P : Prims} {rule : Rule} {req : Req} {dp : Params} {ai : AI} {nn : Bool}
    {x : Outcome} (h : digestPost P rule req dp ai nn = x) :
    match x with
    | .pass => False
    | .refuse r => r ≠ .s500
    | .go u d n => responseMatches P req dp ai.dalgo ai.digest = true ∧ matchRules rule.req ai.username = true
        ∧ u = ai.username ∧ d = true ∧ n = nn := by
  unfold digestPost at h
  rcases of_ite_eq h with ⟨_, rfl⟩ | ⟨h1, h⟩
  · exact fun h => nomatch h
  rcases of_ite_eq h with ⟨_, rfl⟩ | ⟨h2, h⟩
  · exact fun h => nomatch h
  subst h
  exact ⟨by simpa using h1, by simpa using h2, rfl, rfl, rfl⟩

theorem responseMatches_bound {P : Prims} {req : Req} {dp : Params} {dalgo : Nat} {hA1 : Bytes}
    (h : responseMatches P req dp dalgo hA1 = true) :
    hex2bin (dp.response.getD []) = some (kd P dalgo hA1 dp req.method) ∨
    (req.method = ofString "CONNECT" ∧ req.protocol = true ∧
     hex2bin (dp.response.getD []) = some (kd P dalgo hA1 dp (ofString "GET"))) := by
  simp only [responseMatches, Req.h2ext, Bool.or_eq_true, Bool.and_eq_true, decide_eq_true_eq] at h
  rcases h with h | ⟨⟨h1, h2⟩, h3⟩
  · exact Or.inl h
  · exact Or.inr ⟨h1, h2, h3⟩

theorem checkDigest_snd {P : Prims} {cfg : Cfg} {ridx : Nat} {rule : Rule} {st : St} {req : Req} :
    (checkDigest P cfg ridx rule st req).2 =
      match digestPre P cfg rule st.epoch req with
      | .error o => .refuse o
      | .ok (dp, ai, nn) =>
        match (digestGet P cfg ridx st ai).2 with
        | none => .refuse (.s401d 0 false)
        | some ai' => digestPost P rule req dp ai' nn := by
  unfold checkDigest
  cases hp : digestPre P cfg rule st.epoch req with
  | error o => rfl
  | ok x =>
    obtain ⟨dp, ai, nn⟩ := x
    simp only
    cases hg : (digestGet P cfg ridx st ai).2 <;> rfl

/-- `DigestValid` with its witnesses as parameters and its clauses named -/
structure DigestParts (P : Prims) (cfg : Cfg) (rule : Rule) (epoch : Int) (req : Req) (hdr u : Bytes)
    (nonce : Bytes) (dalgo dlen : Nat) (name hA1 : Bytes) : Prop where
  pfx : icasePrefix hdr (ofString "Digest ") = true
  realm : (parseAuthorization (hdr.drop 7)).realm = some rule.realm
  uri : (parseAuthorization (hdr.drop 7)).uri = some req.target
  hasNonce : (parseAuthorization (hdr.drop 7)).nonce = some nonce
  fresh : NonceFresh P rule epoch nonce
  algo : algorithmParse ((parseAuthorization (hdr.drop 7)).algorithm.getD []) = some (dalgo, dlen)
  allowed : rule.algorithm &&& dalgo &&& 0xfffffffe ≠ 0
  claimed : claimedName (parseAuthorization (hdr.drop 7)) = some name
  lookup : backendLookup P cfg rule.realm (userhashFlag (parseAuthorization (hdr.drop 7))) dlen
    (lookupKey (userhashFlag (parseAuthorization (hdr.drop 7))) name) = some (u, hA1)
  resp : responseMatches P req (parseAuthorization (hdr.drop 7)) dalgo hA1 = true
  authz : matchRules rule.req u = true

theorem digestValid_iff {P : Prims} {cfg : Cfg} {rule : Rule} {epoch : Int} {req : Req} {hdr u : Bytes} :
    DigestValid P cfg rule epoch req hdr u ↔
      ∃ nonce dalgo dlen name hA1, DigestParts P cfg rule epoch req hdr u nonce dalgo dlen name hA1 :=
  ⟨fun ⟨h0, _, nonce, dalgo, dlen, name, hA1, hdp, h1, h2, h3, h4, h5, h6, h7, h8, h9, h10⟩ => by
      subst hdp; exact ⟨nonce, dalgo, dlen, name, hA1, h0, h1, h2, h3, h4, h5, h6, h7, h8, h9, h10⟩,
   fun ⟨nonce, dalgo, dlen, name, hA1, h⟩ =>
      ⟨h.pfx, _, nonce, dalgo, dlen, name, hA1, rfl, h.realm, h.uri, h.hasNonce, h.fresh, h.algo, h.allowed, h.claimed,
       h.lookup, h.resp, h.authz⟩⟩

/-! ### Digest: credential lookup -/

theorem digestHitEntry_some {c : Cache} {key : Int} {ridx : Nat} {ai : AI} {user : Bytes} {e : Entry}
    (h : digestHitEntry c key ridx ai user = some e) : (key, e) ∈ c ∧ digestHit ridx ai user e = true := by
  unfold digestHitEntry at h
  split at h
  · rename_i e' hl
    split at h
    · rename_i hcond
      simp only [Option.some.injEq] at h
      subst h
      exact ⟨lookup_mem hl, hcond⟩
    · cases h
  · cases h

theorem digestEntry_ok {P : Prims} {cfg : Cfg} {ridx : Nat} {rule : Rule} {ai ai2 : AI} (now : Int)
    (hr : cfg.rules[ridx]? = some rule) (hs : rule.scheme = .digest) (hrealm : ai.realm = rule.realm)
    (hb : backendDigest P cfg { ai with username := digestKey ai } = some ai2) :
    EntryOk P cfg (digestEntry cfg ridx now ai (digestKey ai) ai2) := by
  obtain ⟨hl, _⟩ := backendDigest_some hb
  simp only at hl
  refine ⟨rule, hr, fun h => (by rw [hs] at h; cases h), fun _ => ⟨ai.userhash, ?_, ?_, ?_⟩⟩
  · -- `kIsUser` of `digestEntry` is a Boolean formula in the userhash flag and the backend
    simp only [digestEntry]
    cases ai.userhash <;> cases hb' : cfg.backend <;> simp <;> omega
  · simp only [digestEntry]
    intro hk
    cases huh : ai.userhash with
    | false => rw [huh] at hk; simp at hk
    | true =>
      rw [huh] at hl hk
      rcases backendLookup_name hl with ⟨hpl, hu⟩ | ⟨_, hlen⟩
      · rw [hu]
        simp only [hpl, Bool.not_true, Bool.false_or, decide_true, Bool.and_true,
                   decide_eq_false_iff_not, Nat.not_lt] at hk
        simp only [digestKey, lookupKey, huh, hk, and_self, ↓reduceIte]
        rw [lowerUserhash_length]; exact hk
      · exact hlen
  · simp only [digestEntry]
    rw [← hrealm]; exact hl

theorem digestGet_fst (P : Prims) (cfg : Cfg) (ridx : Nat) (st : St) (ai : AI) :
    (digestGet P cfg ridx st ai).1 = st ∨
    ∃ ai2, backendDigest P cfg { ai with username := digestKey ai } = some ai2 ∧
      (digestGet P cfg ridx st ai).1 =
        { st with cache := st.cache.insert (P.hash ridx (digestKey ai))
                             (digestEntry cfg ridx st.mono ai (digestKey ai) ai2) } := by
  unfold digestGet
  split
  · exact Or.inl rfl
  · split
    · exact Or.inl rfl
    · split
      · exact Or.inl rfl
      · rename_i ai2 hb; exact Or.inr ⟨ai2, hb, rfl⟩

/-- what mod_auth_digest_get() returns: the answer of the backend in effect, or — on a cache
    hit — the answer of the backend that vouched for the entry (`cfgOf e`) -/
theorem digestGet_result {P : Prims} {cfg : Cfg} {ridx : Nat} {rule : Rule} {st : St} {ai : AI}
    (cfgOf : Entry → Cfg)
    (hE : CacheOkVia P cfg cfgOf st.cache)
    (hr : cfg.rules[ridx]? = some rule) (hs : rule.scheme = .digest)
    (hrealm : ai.realm = rule.realm) :
    (digestGet P cfg ridx st ai).2 = backendDigest P cfg { ai with username := digestKey ai } ∨
    ∃ p ∈ st.cache, (digestGet P cfg ridx st ai).2 =
      backendDigest P (cfgOf p.2) { ai with username := digestKey ai } := by
  unfold digestGet
  split
  · exact Or.inl rfl
  · split
    · rename_i e hhit
      right
      obtain ⟨hm, hcond⟩ := digestHitEntry_some hhit
      refine ⟨_, hm, ?_⟩
      obtain ⟨hok, hrules⟩ := hE _ hm
      simp only [digestHit, Bool.and_eq_true, decide_eq_true_eq] at hcond
      obtain ⟨⟨⟨⟨h1, h2⟩, h3⟩, h4⟩, h5⟩ := hcond
      obtain ⟨uh, hkind, hlen, hl⟩ := hok.digest (by rw [hrules, h1]; exact hr) hs
      generalize cfgOf (P.hash ridx (digestKey ai), e).2 = cfgE at hkind hl ⊢
      -- the lookup the backend would do now
      have hl' : backendLookup P cfgE ai.realm ai.userhash ai.dlen (digestKey ai) = some (e.username, e.pw) := by
        rw [hrealm, ← h3, ← h4]
        rcases hkind with hk | ⟨_, _, hpl⟩
        · rw [← Bool.not_inj (hk.symm.trans h5)]; exact hl
        · rw [backendLookup_plain_uh hpl _ ai.userhash uh]; exact hl
      simp only [backendDigest, hl']
      -- the user name reported on a hit is the backend's
      have hname : (if (!e.kIsUser) = true ∧ e.username.length ≤ Extracted.authUserbufSize
                    then e.username else ai.username) = e.username := by
        cases hk : e.kIsUser with
        | false => simp [hlen hk]
        | true =>
          simp only [Bool.not_true, Bool.false_eq_true, false_and, ↓reduceIte]
          rw [hk] at h5
          have huh : ai.userhash = false := by simpa using h5
          have hkey : digestKey ai = ai.username := by simp [digestKey, lookupKey, huh]
          rw [huh] at hl'
          have : e.username = digestKey ai := by rcases backendLookup_name hl' with ⟨_, h⟩ | ⟨_, h⟩ <;> exact h
          rw [this, hkey]
      simp only [Bool.not_eq_eq_eq_not, Bool.not_true] at hname ⊢
      rw [hname]
    · left
      split
      · rename_i hb; simp only; rw [hb]
      · rename_i ai2 hb; simp only; rw [hb]

theorem digestGet_transparent {P : Prims} {cfg : Cfg} {ridx : Nat} {rule : Rule} {st : St} {ai : AI}
    (hc : CacheOk P cfg st.cache) (hr : cfg.rules[ridx]? = some rule) (hs : rule.scheme = .digest)
    (hrealm : ai.realm = rule.realm) :
    (digestGet P cfg ridx st ai).2 = backendDigest P cfg { ai with username := digestKey ai } := by
  rcases digestGet_result (fun _ => cfg) hc.via hr hs hrealm with h | ⟨_, _, h⟩ <;> exact h

/-! ### the handler: state, outcome, completeness -/

theorem handle_eq {P : Prims} {cfg : Cfg} {st : St} {req : Req} {ridx : Nat} {rule : Rule}
    (hf : findRule cfg.rules req.path 0 = some (ridx, rule)) :
    handle P cfg st req =
      match rule.scheme with
      | .basic => checkBasic P cfg ridx rule st req
      | .digest => checkDigest P cfg ridx rule st req := by
  unfold handle
  rw [hf]
  rfl

theorem handle_fst (P : Prims) (cfg : Cfg) (st : St) (req : Req) :
    (handle P cfg st req).1 = st ∨
    ∃ key e, (handle P cfg st req).1 = { st with cache := st.cache.insert key e } ∧
      e.ctime = st.mono ∧ e.scope = cfg.cur ∧ EntryOk P cfg e := by
  cases hf : findRule cfg.rules req.path 0 with
  | none => unfold handle; rw [hf]; exact Or.inl rfl
  | some x =>
    obtain ⟨ridx, rule⟩ := x
    have hr := findRule_get0 hf
    rw [handle_eq hf]
    cases hs : rule.scheme with
    | basic =>
      dsimp only
      rw [checkBasic_eq]
      cases hp : basicPre cfg req with
      | error r => exact Or.inl rfl
      | ok up =>
        rcases basicAuth_fst P cfg ridx rule st up.1 up.2 with h | ⟨hb, h⟩
        · exact Or.inl h
        · exact Or.inr ⟨_, _, h, rfl, rfl, rule, hr, fun _ => hb, fun h => by rw [hs] at h; cases h⟩
    | digest =>
      dsimp only
      unfold checkDigest
      cases hp : digestPre P cfg rule st.epoch req with
      | error r => exact Or.inl rfl
      | ok x =>
        obtain ⟨dp, ai, nn⟩ := x
        obtain ⟨_, _, _, _, hpo, _⟩ := digestPre_spec hp
        dsimp only
        cases (digestGet P cfg ridx st ai).2 <;>
          exact (digestGet_fst P cfg ridx st ai).imp_right fun ⟨_, hb, h⟩ =>
            ⟨_, _, h, rfl, rfl, digestEntry_ok _ hr hs hpo.airealm hb⟩

theorem handle_clock {P : Prims} {cfg : Cfg} {st : St} {req : Req} :
    (handle P cfg st req).1.mono = st.mono ∧ (handle P cfg st req).1.epoch = st.epoch := by
  rcases handle_fst P cfg st req with h | ⟨_, _, h, _⟩ <;> rw [h] <;> exact ⟨rfl, rfl⟩

theorem handle_mem {P : Prims} {cfg : Cfg} {st : St} {req : Req} {p : Int × Entry}
    (hp : p ∈ (handle P cfg st req).1.cache) :
    p ∈ st.cache ∨ (p.2.ctime = st.mono ∧ p.2.scope = cfg.cur ∧ EntryOk P cfg p.2) := by
  rcases handle_fst P cfg st req with h | ⟨key, e, h, he⟩
  · rw [h] at hp; exact Or.inl hp
  · rw [h] at hp
    rcases mem_insert hp with rfl | hp
    · exact Or.inr he
    · exact Or.inl hp

theorem handle_cacheOk {P : Prims} {cfg : Cfg} {st : St} {req : Req}
    (hc : CacheOk P cfg st.cache) : CacheOk P cfg (handle P cfg st req).1.cache := by
  intro p hp
  rcases handle_mem hp with h | ⟨_, _, h⟩
  · exact hc p h
  · exact h

theorem handle_go_nocache {P : Prims} {cfg : Cfg} {st : St} {req : Req} {u : Bytes} {d n : Bool}
    (hc : CacheOk P cfg st.cache) (h : (handle P cfg st req).2 = .go u d n) :
    (handle P cfg { st with cache := [] } req).2 = .go u d n := by
  cases hf : findRule cfg.rules req.path 0 with
  | none => unfold handle at h; rw [hf] at h; cases h
  | some x =>
    obtain ⟨ridx, rule⟩ := x
    have hr := findRule_get0 hf
    rw [handle_eq hf] at h ⊢
    cases hs : rule.scheme with
    | basic =>
      rw [hs] at h
      dsimp only at h ⊢
      rw [checkBasic_eq] at h ⊢
      cases hp : basicPre cfg req with
      | error r => rw [hp] at h; cases h
      | ok up =>
        rw [hp] at h
        dsimp only at h ⊢
        rcases of_ite_eq h with ⟨hok, h⟩ | ⟨_, h⟩
        · rw [basicAuth_nil, basicAuth_sound hc hr hs hok, if_pos rfl]; exact h
        · cases h
    | digest =>
      rw [hs] at h
      dsimp only at h ⊢
      rw [checkDigest_snd] at h ⊢
      dsimp only at h ⊢
      cases hp : digestPre P cfg rule st.epoch req with
      | error o => rw [hp] at h; cases h
      | ok x =>
        obtain ⟨dp, ai, nn⟩ := x
        obtain ⟨_, _, _, _, hpo, _⟩ := digestPre_spec hp
        rw [hp] at h
        dsimp only at h ⊢
        rw [digestGet_transparent (st := { st with cache := [] }) cacheOk_nil hr hs hpo.airealm,
            ← digestGet_transparent hc hr hs hpo.airealm]
        exact h

/-- the one case analysis of `handle` on a covered path: never `.pass`; 500 only without a backend for the scheme;
    served ⇒ valid at `cfg` or at `cfgOf e`, the configuration that vouched for a cache entry `e` -/
theorem handle_outcome {P : Prims} {cfg : Cfg} {st : St} {req : Req} {ridx : Nat} {rule : Rule}
    (cfgOf : Entry → Cfg) (hf : findRule cfg.rules req.path 0 = some (ridx, rule)) :
    match (handle P cfg st req).2 with
    | .pass => False
    | .refuse r => r = .s500 → cfg.backend = .none ∨ (rule.scheme = .digest ∧ cfg.backend = .htpasswd)
    | .go u d _ =>
      CacheOkVia P cfg cfgOf st.cache →
      ∃ hdr c', req.auth = some hdr ∧ (c' = cfg ∨ ∃ p ∈ st.cache, c' = cfgOf p.2) ∧
        ((rule.scheme = .basic ∧ d = false ∧ BasicValid P c' rule hdr u)
         ∨ (rule.scheme = .digest ∧ d = true ∧ DigestValid P c' rule st.epoch req hdr u)) := by
  have hr := findRule_get0 hf
  rw [handle_eq hf]
  cases hs : rule.scheme with
  | basic =>
    dsimp only
    rw [checkBasic_eq]
    cases hp : basicPre cfg req with
    | error r =>
      rintro rfl
      rcases basicPre_spec hp with ⟨_, hb⟩ | h | h
      · exact Or.inl hb
      · cases h
      · cases h
    | ok up =>
      obtain ⟨user, pw⟩ := up
      obtain ⟨_, vb, hvb, hcreds⟩ := basicPre_spec hp
      dsimp only
      cases hok : (basicAuth P cfg ridx rule st user pw).2 with
      | false => exact fun h => nomatch h
      | true =>
        intro hE
        rcases basicAuth_result cfgOf hE hr hs hok with hb | ⟨p, hp, hb⟩
        · exact ⟨vb, cfg, hvb, Or.inl rfl, Or.inl ⟨rfl, rfl, basicValid_iff.2 ⟨_, hcreds, hb⟩⟩⟩
        · exact ⟨vb, _, hvb, Or.inr ⟨p, hp, rfl⟩, Or.inl ⟨rfl, rfl, basicValid_iff.2 ⟨_, hcreds, hb⟩⟩⟩
  | digest =>
    dsimp only
    rw [checkDigest_snd]
    cases hp : digestPre P cfg rule st.epoch req with
    | error r =>
      rintro rfl
      rcases digestPre_spec hp with ⟨_, h1, h2⟩ | ⟨s, h⟩ | h
      · cases hb : cfg.backend with
        | none => exact Or.inl rfl
        | htpasswd => exact Or.inr ⟨rfl, rfl⟩
        | plain => exact absurd hb h1
        | htdigest => exact absurd hb h2
      · cases h
      · cases h
    | ok x =>
      obtain ⟨dp, ai, nn⟩ := x
      obtain ⟨vb, hvb, hpfx, hdp, hpo, hnf⟩ := digestPre_spec hp
      dsimp only
      cases hget : (digestGet P cfg ridx st ai).2 with
      | none => exact fun h => nomatch h
      | some ai' =>
        dsimp only
        cases ho : digestPost P rule req dp ai' nn with
        | pass => exact digestPost_spec ho
        | refuse r => exact fun h => absurd h (digestPost_spec ho)
        | go u d n =>
          obtain ⟨hresp, hauth, rfl, rfl, rfl⟩ := digestPost_spec ho
          intro hE
          have key : ∃ c', (c' = cfg ∨ ∃ p ∈ st.cache, c' = cfgOf p.2) ∧
              backendDigest P c' { ai with username := digestKey ai } = some ai' := by
            rcases digestGet_result cfgOf hE hr hs hpo.airealm with hg | ⟨p, hp, hg⟩
            · exact ⟨cfg, Or.inl rfl, by rw [← hg]; exact hget⟩
            · exact ⟨_, Or.inr ⟨p, hp, rfl⟩, by rw [← hg]; exact hget⟩
          obtain ⟨c', hc', hbk⟩ := key
          obtain ⟨hl, hai'⟩ := backendDigest_some hbk
          simp only at hl
          subst hdp
          refine ⟨vb, c', hvb, hc', Or.inr ⟨rfl, rfl, digestValid_iff.2 ⟨_, ai.dalgo, ai.dlen, ai.username, ai'.digest,
            { pfx := hpfx, realm := hpo.realm, uri := hpo.uri, hasNonce := (Option.some_get hpo.nonce).symm, fresh := ?_,
              algo := hpo.algo, allowed := hpo.allowed, claimed := hpo.name, lookup := ?_, resp := ?_, authz := hauth }⟩⟩⟩
          · rw [Option.get_eq_getD (fallback := [])]; exact hnf
          · rw [← hpo.airealm, ← hpo.userhash]; exact hl
          · have : ai'.dalgo = ai.dalgo := by rw [hai']
            rw [← this]; exact hresp

theorem handle_ne_pass {P : Prims} {cfg : Cfg} {st : St} {req : Req} {ridx : Nat} {rule : Rule}
    (hf : findRule cfg.rules req.path 0 = some (ridx, rule)) :
    (handle P cfg st req).2 ≠ .pass := by
  intro h
  have := handle_outcome (P := P) (st := st) (fun _ => cfg) hf
  rw [h] at this
  exact this

theorem handle_500 {P : Prims} {cfg : Cfg} {st : St} {req : Req} {ridx : Nat} {rule : Rule}
    (hf : findRule cfg.rules req.path 0 = some (ridx, rule))
    (h : (handle P cfg st req).2 = .refuse .s500) :
    cfg.backend = .none ∨ (rule.scheme = .digest ∧ cfg.backend = .htpasswd) := by
  have := handle_outcome (P := P) (st := st) (fun _ => cfg) hf
  rw [h] at this
  exact this rfl

theorem handle_go {P : Prims} {cfg : Cfg} {st : St} {req : Req} {ridx : Nat} {rule : Rule}
    {u : Bytes} {d n : Bool}
    (hc : CacheOk P cfg st.cache)
    (hf : findRule cfg.rules req.path 0 = some (ridx, rule))
    (h : (handle P cfg st req).2 = .go u d n) :
    ∃ hdr, req.auth = some hdr ∧
      ((rule.scheme = .basic ∧ d = false ∧ BasicValid P cfg rule hdr u)
       ∨ (rule.scheme = .digest ∧ d = true ∧ DigestValid P cfg rule st.epoch req hdr u)) := by
  have := handle_outcome (P := P) (st := st) (fun _ => cfg) hf
  rw [h] at this
  obtain ⟨hdr, c', hh, hc', hv⟩ := this hc.via
  have : c' = cfg := by rcases hc' with h | ⟨_, _, h⟩ <;> exact h
  subst this
  exact ⟨hdr, hh, hv⟩

theorem basic_valid_served {P : Prims} {cfg : Cfg} {st : St} {req : Req} {ridx : Nat} {rule : Rule}
    {hdr u : Bytes}
    (hf : findRule cfg.rules req.path 0 = some (ridx, rule)) (hs : rule.scheme = .basic)
    (hh : req.auth = some hdr) (hv : BasicValid P cfg rule hdr u) :
    (handle P cfg { st with cache := [] } req).2 = .go u false false := by
  obtain ⟨pw, hc, hb⟩ := basicValid_iff.1 hv
  have hne : cfg.backend ≠ .none := by
    intro h; unfold backendBasic at hb; rw [h] at hb; cases hb
  have hp : basicPre cfg req = .ok (u, pw) := by
    unfold basicPre
    rw [if_neg hne, hh]
    exact hc
  rw [handle_eq hf, hs]
  dsimp only
  rw [checkBasic_eq, hp]
  dsimp only
  rw [basicAuth_nil, hb, if_pos rfl]

/-- `handle` run forwards: each clause of `DigestValid` / `DigestWellFormed` passes one test -/
theorem digest_valid_served {P : Prims} {cfg : Cfg} {st : St} {req : Req} {ridx : Nat} {rule : Rule}
    {hdr u : Bytes}
    (hf : findRule cfg.rules req.path 0 = some (ridx, rule)) (hs : rule.scheme = .digest)
    (hh : req.auth = some hdr) (hv : DigestValid P cfg rule st.epoch req hdr u)
    (hw : DigestWellFormed (parseAuthorization (hdr.drop 7))) :
    ∃ nn, (handle P cfg { st with cache := [] } req).2 = .go u true nn := by
  obtain ⟨nonce, dalgo, dlen, name, hA1, hpfx, hrealm, huri, hnonce, hfresh, halgo, hallowed, hname, hlookup, hresp,
          hauth⟩ := digestValid_iff.1 hv
  obtain ⟨dp, hdp⟩ : ∃ dp, dp = parseAuthorization (hdr.drop 7) := ⟨_, rfl⟩
  rw [← hdp] at hw hrealm huri hnonce halgo hname hlookup hresp
  obtain ⟨hreq, hqop, hwf⟩ := hw
  obtain ⟨hsess, hlen⟩ := hwf dalgo dlen halgo
  have hr := findRule_get0 hf
  have hbk : ¬ (cfg.backend ≠ .plain ∧ cfg.backend ≠ .htdigest) := by
    intro ⟨h1, h2⟩
    unfold backendLookup at hlookup
    cases hb : cfg.backend with
    | plain => exact h1 hb
    | htdigest => exact h2 hb
    | none => rw [hb] at hlookup; cases hlookup
    | htpasswd => rw [hb] at hlookup; cases hlookup
  have hhex : (hex2bin (dp.response.getD [])).isSome = true := by
    rcases responseMatches_bound hresp with h | ⟨_, _, h⟩ <;> rw [h] <;> rfl
  obtain ⟨ai, hai⟩ : ∃ ai : AI, ai =
      { dalgo := dalgo, dlen := dlen, username := name, realm := rule.realm, userhash := userhashFlag dp } :=
    ⟨_, rfl⟩
  have hvp : validateParams rule req dp = .ok ai := by
    unfold validateParams
    simp only [hreq, Bool.not_true, Bool.false_eq_true, ↓reduceIte, hname, hrealm, Option.getD_some,
               ne_eq, not_true_eq_false, halgo, hqop, huri]
    rw [if_neg hallowed, if_neg (by
      intro ⟨h1, h2⟩
      have := hsess h1
      rw [Option.isNone_iff_eq_none] at h2
      rw [h2] at this; cases this), if_neg (by
      intro h
      rcases h with h | h
      · exact h hlen
      · rw [Option.isNone_iff_eq_none] at h
        rw [h] at hhex; cases hhex), hai]
  have hpre : digestPre P cfg rule st.epoch req = .ok (dp, ai, decide (st.epoch - (nonceTs nonce).1 > 540)) := by
    simp only [digestPre]
    rw [if_neg hbk, hh]
    dsimp only
    simp only [hpfx, Bool.not_true, Bool.false_eq_true, ↓reduceIte, ← hdp, hvp, hnonce, Option.getD_some,
               show ai.dalgo = dalgo by rw [hai], validateNonce_complete (P := P) dalgo hfresh]
  have hget : backendDigest P cfg { ai with username := digestKey ai } =
      some { ai with username := u, digest := hA1 } := by
    subst hai
    simp only [backendDigest, digestKey, hlookup]
  refine ⟨decide (st.epoch - (nonceTs nonce).1 > 540), ?_⟩
  rw [handle_eq hf, hs]
  dsimp only
  rw [checkDigest_snd, hpre]
  dsimp only
  rw [digestGet_transparent (st := { st with cache := [] }) cacheOk_nil hr hs (by rw [hai]), hget]
  unfold digestPost
  subst hai
  simp only [hresp, hauth, Bool.not_true, Bool.false_eq_true, ↓reduceIte]

/-! ### backend scopes: the configuration in effect per request, one shared cache -/

@[simp] theorem at_rules (cfg : Cfg) (s : Nat) : (cfg.at s).rules = cfg.rules := by
  unfold Cfg.at; split <;> rfl

@[simp] theorem at_cacheMaxAge (cfg : Cfg) (s : Nat) : (cfg.at s).cacheMaxAge = cfg.cacheMaxAge := by
  unfold Cfg.at; split <;> rfl

@[simp] theorem at_cur (cfg : Cfg) (s : Nat) : (cfg.at s).cur = s := by
  unfold Cfg.at; split <;> rfl

theorem at_scopes (cfg : Cfg) (s : Nat) : (cfg.at s).scopes = cfg.scopes := by
  unfold Cfg.at; split <;> rfl

theorem with_backend_file {c1 c2 : Cfg} (hb : c1.backend = c2.backend) (hf : c1.file = c2.file) :
    { c1 with backend := c2.backend, file := c2.file } = c1 := by
  rw [← hb, ← hf]

/-- `BasicValid` / `DigestValid` read nothing of the configuration but backend and user file -/
theorem basicValid_congr {P : Prims} {c1 c2 : Cfg} (hb : c1.backend = c2.backend) (hf : c1.file = c2.file)
    {rule : Rule} {hdr u : Bytes} (h : BasicValid P c1 rule hdr u) : BasicValid P c2 rule hdr u := by
  rw [← with_backend_file hb hf] at h; exact h

theorem digestValid_congr {P : Prims} {c1 c2 : Cfg} (hb : c1.backend = c2.backend) (hf : c1.file = c2.file)
    {rule : Rule} {epoch : Int} {req : Req} {hdr u : Bytes}
    (h : DigestValid P c1 rule epoch req hdr u) : DigestValid P c2 rule epoch req hdr u := by
  rw [← with_backend_file hb hf] at h; exact h

/-- such scopes give the same configuration up to the ghost `cur`, which `EntryOk` does not read -/
theorem at_same {cfg : Cfg} {s s' : Nat} (h : SameBackend cfg s s') : cfg.at s = { cfg.at s' with cur := s } := by
  rw [← with_backend_file h.1 h.2]
  simp only [at_rules, at_cacheMaxAge, at_cur, at_scopes]

theorem serve_mem {P : Prims} {cfg : Cfg} {st : St} {req : Req} {p : Int × Entry}
    (hp : p ∈ (serve P cfg st req).1.cache) :
    p ∈ st.cache ∨ (p.2.scope = req.scope ∧ EntryOk P (cfg.at req.scope) p.2) :=
  (handle_mem hp).imp_right fun ⟨_, h2, h3⟩ => ⟨by rw [h2, at_cur], h3⟩

/-! ### the server loop and histories from `init` -/

theorem periodic_mem {cfg : Cfg} {st : St} {p : Int × Entry} (h : p ∈ (periodic cfg st).cache) : p ∈ st.cache := by
  unfold periodic at h
  split at h
  · split at h
    · exact (mem_cleanup h).1
    · exact h
  · exact h

theorem loopIter_mem {cfg : Cfg} {dt : Nat} {st : St} {p : Int × Entry}
    (h : p ∈ (loopIter cfg dt st).cache) : p ∈ st.cache := by
  unfold loopIter at h
  split at h
  · exact h
  · exact periodic_mem h

theorem secs_mem {cfg : Cfg} (n : Nat) {st : St} {p : Int × Entry}
    (h : p ∈ (secs cfg n st).cache) : p ∈ st.cache := by
  induction n generalizing st with
  | zero => exact h
  | succ n ih => exact loopIter_mem (ih h)

theorem run_mem {P : Prims} {cfg : Cfg} (ops : List Op) {st : St} {p : Int × Entry}
    (hp : p ∈ (run P cfg st ops).cache) :
    p ∈ st.cache ∨ (EntryOk P (cfg.at p.2.scope) p.2 ∧ p.2.scope ∈ usedScopes ops) := by
  induction ops generalizing st with
  | nil => exact Or.inl hp
  | cons op ops ih =>
    rcases ih hp with hp | ⟨h1, h2⟩
    · cases op with
      | request r =>
        rcases serve_mem hp with hp | ⟨hsc, hok⟩
        · exact Or.inl hp
        · exact Or.inr ⟨hsc ▸ hok, hsc ▸ List.mem_cons_self⟩
      | adv dt => exact Or.inl (loopIter_mem hp)
      | secs n => exact Or.inl (secs_mem n hp)
      | epochShift d => exact Or.inl hp
    · refine Or.inr ⟨h1, ?_⟩
      cases op with
      | request r => exact List.mem_cons_of_mem _ h2
      | _ => exact h2

/-- every entry was created in the past and is at most max-age old, plus the time since the
    last cleanup — which runs when the loop LEAVES a second that is a multiple of 8 (the trigger
    sees the old second), i.e. between 1 and 8 seconds ago while the loop runs every second -/
def AgeOk (ma : Int) (st : St) : Prop :=
  ∀ p ∈ st.cache, p.2.ctime ≤ st.mono ∧ st.mono - p.2.ctime ≤ max ma 0 + ((st.mono - 1) % 8 + 1)

theorem handle_ageOk {P : Prims} {cfg : Cfg} {st : St} {req : Req} {ma : Int}
    (h : AgeOk ma st) : AgeOk ma (handle P cfg st req).1 := by
  intro p hp
  rw [handle_clock.1]
  rcases handle_mem hp with hp | ⟨hp, _⟩
  · exact h p hp
  · rw [hp]; constructor <;> omega

theorem loopIter1_ageOk {cfg : Cfg} {st : St} {ma : Int} (hma : cfg.cacheMaxAge = some ma)
    (h : AgeOk ma st) : AgeOk ma (loopIter cfg 1 st) := by
  intro p hp
  change p ∈ (periodic cfg st).cache at hp
  change _ ≤ st.mono + 1 ∧ st.mono + 1 - _ ≤ _ + ((st.mono + 1 - 1) % 8 + 1)
  unfold periodic at hp
  rw [hma] at hp
  dsimp only at hp
  split at hp
  · rename_i h8
    obtain ⟨hp, hle⟩ := mem_cleanup hp
    obtain ⟨h1, h2⟩ := h p hp
    omega
  · rename_i h8
    obtain ⟨h1, h2⟩ := h p hp
    omega

theorem secs_ageOk {cfg : Cfg} {ma : Int} (hma : cfg.cacheMaxAge = some ma) (n : Nat) {st : St}
    (h : AgeOk ma st) : AgeOk ma (secs cfg n st) := by
  induction n generalizing st with
  | zero => exact h
  | succ n ih => exact ih (loopIter1_ageOk hma h)

theorem run_ageOk {P : Prims} {cfg : Cfg} {ma : Int} (hma : cfg.cacheMaxAge = some ma) (ops : List Op)
    (hst : Steady ops) {st : St} (h : AgeOk ma st) : AgeOk ma (run P cfg st ops) := by
  induction ops generalizing st with
  | nil => exact h
  | cons op ops ih =>
    cases op with
    | request r => exact ih hst (handle_ageOk h)
    | adv dt =>
      obtain ⟨hdt, hst⟩ := hst
      apply ih hst
      show AgeOk ma (loopIter cfg dt st)
      have : dt = 0 ∨ dt = 1 := by omega
      rcases this with rfl | rfl
      · exact h
      · exact loopIter1_ageOk hma h
    | secs n => exact ih hst (secs_ageOk hma n h)
    | epochShift d => exact ih hst (fun p hp => h p hp)

theorem secs_mono {cfg : Cfg} (n : Nat) {st : St} : (secs cfg n st).mono = st.mono + n := by
  induction n generalizing st with
  | zero => simp [secs]
  | succ n ih =>
    simp only [secs]; rw [ih]
    change st.mono + 1 + _ = _
    omega

theorem ageOk_nil {ma m e : Int} : AgeOk ma { cache := [], mono := m, epoch := e } := fun _ h => by cases h

theorem init_ageOk {ma m e : Int} : AgeOk ma (init m e) := ageOk_nil

theorem run_init_cache {P : Prims} {cfg : Cfg} {m e : Int} (ops : List Op) (p : Int × Entry)
    (hp : p ∈ (run P cfg (init m e) ops).cache) :
    EntryOk P (cfg.at p.2.scope) p.2 ∧ p.2.scope ∈ usedScopes ops :=
  (run_mem ops hp).resolve_left fun h => nomatch h

theorem run_serve_go {P : Prims} {cfg : Cfg} {m e : Int} {ops : List Op} {req : Req} {ridx : Nat} {rule : Rule}
    {u : Bytes} {d n : Bool}
    (hf : findRule cfg.rules req.path 0 = some (ridx, rule))
    (h : (serve P cfg (run P cfg (init m e) ops) req).2 = .go u d n) :
    ∃ hdr s', req.auth = some hdr ∧ (s' = req.scope ∨ s' ∈ usedScopes ops) ∧
      ((rule.scheme = .basic ∧ BasicValid P (cfg.at s') rule hdr u) ∨
       (rule.scheme = .digest ∧ DigestValid P (cfg.at s') rule (run P cfg (init m e) ops).epoch req hdr u)) := by
  have := handle_outcome (P := P) (cfg := cfg.at req.scope) (st := run P cfg (init m e) ops)
    (fun e => cfg.at e.scope) (by rw [at_rules]; exact hf)
  unfold serve at h
  rw [h] at this
  obtain ⟨hdr, c', hh, hc', hv⟩ := this fun p hp => ⟨(run_init_cache ops p hp).1, by simp⟩
  obtain ⟨s', hs', rfl⟩ : ∃ s', (s' = req.scope ∨ s' ∈ usedScopes ops) ∧ c' = cfg.at s' := by
    rcases hc' with rfl | ⟨p, hp, rfl⟩
    · exact ⟨_, Or.inl rfl, rfl⟩
    · exact ⟨_, Or.inr (run_init_cache ops p hp).2, rfl⟩
  exact ⟨hdr, s', hh, hs', hv.imp (fun ⟨h1, _, h2⟩ => ⟨h1, h2⟩) (fun ⟨h1, _, h2⟩ => ⟨h1, h2⟩)⟩

theorem run_serve_go_nocache {P : Prims} {cfg : Cfg} {m e : Int} {ops : List Op} {req : Req}
    {u : Bytes} {d n : Bool} (hone : ∀ s' ∈ usedScopes ops, SameBackend cfg s' req.scope)
    (h : (serve P cfg (run P cfg (init m e) ops) req).2 = .go u d n) :
    (serve P cfg { run P cfg (init m e) ops with cache := [] } req).2 = .go u d n :=
  handle_go_nocache (fun p hp => by
    have ⟨hok, hsc⟩ := run_init_cache ops p hp
    rw [at_same (hone _ hsc)] at hok; exact hok) h

/-! ### fixtures for the non-vacuity examples -/

namespace Ex
/-- toy "digest" for the examples (the theorems hold for every H): a polynomial checksum, 16 bytes -/
def H (b : Bytes) : Bytes :=
  leBytes 16 (b.foldl (fun s x => (s * 257 + x.toNat + 1) % (2 ^ 127 - 1)) 7)
/-- every cache key collides -/
def P : Prims := { H := H, hash := fun _ _ => 0, crypt := fun _ _ => false }
def rules : List Rule :=
  [ { pfx := ofString "/priv", scheme := .basic, realm := ofString "R1", algorithm := 3, secret := none,
      userhash := false, req := { validUser := true } },
    { pfx := ofString "/dig", scheme := .digest, realm := ofString "R2", algorithm := 3, secret := none,
      userhash := false, req := { users := [ofString "alice"] } } ]
def cfg : Cfg := { rules := rules, backend := .plain, file := ofString "alice:wonder\nbob:builder\n",
                   cacheMaxAge := some 600 }
def basicReq (cred : String) : Req :=
  { method := ofString "GET", target := ofString "/priv/x", path := ofString "/priv/x",
    auth := some (ofString ("Basic " ++ cred)), protocol := false }
def digestHdr (user uri response : String) : Bytes :=
  ofString ("Digest username=\"" ++ user ++ "\", realm=\"R2\", nonce=\"6553f100:00\", uri=\"" ++ uri ++
            "\", qop=auth, nc=00000001, cnonce=\"abc\", response=\"" ++ response ++ "\"")
def digestReq (method user uri response : String) : Req :=
  { method := ofString method, target := ofString "/dig/x", path := ofString "/dig/x",
    auth := some (digestHdr user uri response), protocol := false }
def st0 : St := init 1000 1700000000
/-- fixture (not the model's `h2Fields`): a header list for `h2Request` -/
def h2Fields (pseudo : List (String × String)) (response : String) : List (Bytes × Bytes) :=
  pseudo.map (fun p => (ofString p.1, ofString p.2)) ++
    [(ofString "authorization", digestHdr "alice" "/dig/x" response)]
/-- two backend scopes (say two virtual hosts) with different user files, one global
    auth.require and auth.cache -/
def cfg2 : Cfg := { cfg with scopes := [(.plain, ofString "alice:wonder\n"), (.plain, ofString "alice:other\n")] }
def basicReqAt (s : Nat) (cred : String) : Req := { basicReq cred with scope := s }
def secretRule : Rule :=
  { pfx := ofString "/sec", scheme := .digest, realm := ofString "R1", algorithm := 3,
    secret := some (ofString "s3cr3t"), userhash := false, req := { validUser := true } }
end Ex

end LtVerif.Auth
