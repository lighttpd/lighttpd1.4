/-
  The response-side chunked encoder (Model/HttpChunkEnc.lean): its chunk-size lines are accepted by
  the decoder automaton of Model/H1Chunked.lean with the right value, hence encoded bodies decode to
  what was put in; `chunkAppendWholeFile_spec` (the short read), `chunkStream_plain`.
-/
import LtVerif.Model.HttpChunkEnc
import LtVerif.Proofs.H1Chunked
namespace LtVerif
open B

/-- `ckHex`, the size scanner of lighttpd's own decoder (Model/H1Chunked), on rendered digits -/
theorem ckHex_render (rest : Bytes) (hrest : rest.head?.bind hexVal = none) : ∀ (ds : Bytes) (v k : Nat),
    (∀ d ∈ ds, (hexVal d).isSome = true) → hexFold v ds / 16 ≤ ckSizeLimit →
    ckHex (ds ++ rest) v k = some (hexFold v ds, k + ds.length) := by
  intro ds
  induction ds with
  | nil =>
    intro v k _ _
    cases rest with
    | nil => simp [ckHex, hexFold]
    | cons b r =>
      simp only [List.head?_cons, Option.bind_some] at hrest
      simp [ckHex, hexFold, hrest]
  | cons d ds ih =>
    intro v k hd hv
    obtain ⟨u, hu⟩ := Option.isSome_iff_exists.mp (hd d (by simp))
    have hval : hexFold v (d :: ds) = hexFold (v * 16 + u.toNat) ds := by simp [hexFold, hu]
    rw [hval] at hv ⊢
    have hge := hexFold_ge (v * 16 + u.toNat) ds
    have hv' : ¬ v > ckSizeLimit := by omega
    rw [List.cons_append, ckHex]
    simp only [hu, hv', if_false]
    rw [ih _ _ (fun x hx => hd x (by simp [hx])) hv, List.length_cons]
    congr 2
    omega

theorem goodLine_render {ds : Bytes} {n : Nat} (hs : HexStr ds n) (hn : n / 16 ≤ ckSizeLimit)
    (hlen : ds.length < 1022) :
    -- `hlen`: the decoder gives up on a size line of 1024 bytes, CRLF included
    GoodLine (ds ++ [cr, lf]) n := by
  have hck := ckHex_render [cr, lf] (by decide) ds 0 0 hs.xdigit (by rw [hs.value]; exact hn)
  have hpos : 0 < ds.length := List.length_pos_iff.mpr hs.ne
  refine ⟨?_, ⟨ds ++ [cr], by simp, ?_, ?_⟩, by simp; omega⟩
  · unfold ckParseLine
    rw [hck, hs.value]
    have hget : (ds ++ [cr, lf]).getD ((ds ++ [cr, lf]).length - 2) 0 = cr := by
      simp [List.getD_eq_getElem?_getD]
    simp only [Nat.zero_add, hget]
    have h0 : ¬ ds.length = 0 := by omega
    have hs2 : ¬ 1022 ≤ ds.length := Nat.not_le.mpr hlen
    simp [h0]
    omega
  · simpa [lf, cr] using hs.not_mem (c := lf) (by decide)
  · simpa [cr] using hs.not_mem (c := 0) (by decide)

/-- http_chunk_len_append(): digits of `n`, most significant first -/
theorem hexDigits_hexStr : ∀ (fuel n : Nat), 0 < fuel → n < 16 ^ fuel →
    HexStr (hexDigits fuel n) n ∧ (hexDigits fuel n).length ≤ fuel
  | 0, _, h0, _ => absurd h0 (Nat.lt_irrefl 0)
  | f + 1, n, _, h => by
    unfold hexDigits
    split
    · exact ⟨.one ‹_›, by simp⟩
    · have hf : 0 < f := by cases f with | zero => simp at h; omega | succ => omega
      obtain ⟨hs, hl⟩ := hexDigits_hexStr f (n / 16) hf (by rw [Nat.pow_succ] at h; omega)
      have := hs.snoc (Nat.mod_lt n (by decide : 0 < 16))
      rw [Nat.div_add_mod' n 16] at this
      exact ⟨this, by simp; omega⟩

/-- buffer_append_uint_hex_lc(): base-256 digits, two hex digits each -/
theorem hexBytesGo_hexStr : ∀ (fuel n : Nat), 0 < fuel → n < 256 ^ fuel →
    HexStr (hexBytesGo fuel n) n ∧ (hexBytesGo fuel n).length ≤ 2 * fuel
  | 0, _, h0, _ => absurd h0 (Nat.lt_irrefl 0)
  | f + 1, n, _, h => by
    have h1 : n % 256 / 16 < 16 := by omega
    have h2 : n % 16 < 16 := by omega
    unfold hexBytesGo
    simp only []
    split
    · have := (HexStr.one h1).snoc h2
      rw [show n % 256 / 16 * 16 + n % 16 = n by omega] at this
      exact ⟨this, by simp; omega⟩
    · have hf : 0 < f := by cases f with | zero => simp at h; omega | succ => omega
      obtain ⟨hs, hl⟩ := hexBytesGo_hexStr f (n / 256) hf (by rw [Nat.pow_succ] at h; omega)
      have := (hs.snoc h1).snoc h2
      rw [show (n / 256 * 16 + n % 256 / 16) * 16 + n % 16 = n by omega] at this
      exact ⟨by simpa using this, by simp; omega⟩

theorem chunkSizeOk_div {n : Nat} (h : chunkSizeOk n) : n / 16 ≤ ckSizeLimit := by
  unfold chunkSizeOk at h
  unfold ckSizeLimit
  omega

theorem encHex_hexStr {n : Nat} (h : chunkSizeOk n) : HexStr (encHex n) n ∧ (encHex n).length ≤ 64 :=
  hexDigits_hexStr 64 n (by decide) (Nat.lt_of_lt_of_le h (by decide))

theorem hexBytesLc_hexStr {n : Nat} (h : chunkSizeOk n) : HexStr (hexBytesLc n) n ∧ (hexBytesLc n).length ≤ 2 * 64 :=
  hexBytesGo_hexStr 64 n (by decide) (Nat.lt_of_lt_of_le h (by decide))

theorem goodLine_chunkLenLine (n : Nat) (h : chunkSizeOk n) : GoodLine (chunkLenLine n) n :=
  goodLine_render (encHex_hexStr h).1 (chunkSizeOk_div h) (by have := (encHex_hexStr h).2; omega)

theorem goodLine_hexBytes (n : Nat) (h : chunkSizeOk n) : GoodLine (hexBytesLc n ++ [cr, lf]) n :=
  goodLine_render (hexBytesLc_hexStr h).1 (chunkSizeOk_div h) (by have := (hexBytesLc_hexStr h).2; omega)

theorem goodLine_last : GoodLine [48, cr, lf] 0 :=
  ⟨by rfl, ⟨[48, cr], by decide, by decide, by decide⟩, by decide⟩

/-- the decoder over what http_chunk_append_*() wrote for `pieces`, http_chunk_close() and whatever
    follows on the connection.  `maxSize = 0`: no request-size limit; 1026: the last-chunk line
    (< 1024) and the final CRLF fit the trailer limit (`TrailerOk.plain`) -/
theorem ckFeed_chunkStream (cfg : CkCfg) (hcfg : cfg.maxSize = 0) (hmf : cfg.maxField ≥ 1026)
    (next : Bytes) : ∀ (pieces : List Bytes) (out : Bytes), (∀ p ∈ pieces, chunkSizeOk p.length) →
    ckFeed cfg { mode := .hdr [] false, out := out, ka := true, after := 0 }
        (chunkStream true pieces true ++ next)
      = { mode := .done, out := out ++ pieces.flatten, ka := true, after := next.length } := by
  intro pieces
  induction pieces with
  | nil =>
    intro out _
    have hfin := ckFeed_final cfg hmf goodLine_last out true 0
    simp only [chunkStream, chunkClose, List.flatMap_nil, List.nil_append, if_true, List.flatten_nil,
      List.append_nil]
    have : ([48, cr, lf, cr, lf] : Bytes) = [48, cr, lf] ++ [cr, lf] := rfl
    rw [this, ckFeed_append, hfin, ckFeed_after cfg next _ rfl]
    simp
  | cons p rest ih =>
    intro out hp
    have hrest : ∀ q ∈ rest, chunkSizeOk q.length := fun q hq => hp q (by simp [hq])
    have hsplit : chunkStream true (p :: rest) true ++ next
        = chunkAppend true p ++ (chunkStream true rest true ++ next) := by
      simp [chunkStream]
    rw [hsplit]
    by_cases hemp : p = []
    · subst hemp
      simp only [chunkAppend, List.isEmpty_nil, if_true, List.nil_append, List.flatten_cons]
      exact ih out hrest
    · have hne : p.isEmpty = false := List.isEmpty_eq_false_iff.mpr hemp
      have hgl := goodLine_chunkLenLine p.length (hp p (by simp))
      simp only [chunkAppend, hne, if_true, Bool.false_eq_true, if_false]
      rw [ckFeed_append, ckFeed_chunk cfg hcfg hgl hemp, ih (out ++ p) hrest]
      simp

theorem chunkAppendWholeFile_spec (content : Bytes) (sz : Nat) :
    ((chunkAppendWholeFile true content sz).2 = 0 ↔ (sz ≤ content.length ∨ sz > 32768)) ∧
    (sz ≤ content.length → (chunkAppendWholeFile true content sz).1 = chunkAppend true (content.take sz)) := by
  have hlen : (content.take sz).length = sz ↔ sz ≤ content.length := by
    simp only [List.length_take]; omega
  unfold chunkAppendWholeFile chunkAppendReadFd
  by_cases hbig : sz > 32768
  · simp [hbig]
  · by_cases h0 : sz = 0
    · simp [hbig, h0, chunkAppend]
    · refine ⟨?_, fun hle => ?_⟩
      · simp only [hbig, decide_false, Bool.not_true, Bool.or_self, Bool.false_eq_true, if_false, h0,
          List.drop_zero, hlen, or_false]
        by_cases hle : sz ≤ content.length <;> simp [hle]
      · have hne : (content.take sz).isEmpty = false := by
          rw [List.isEmpty_eq_false_iff, ← List.length_pos_iff, hlen.mpr hle]; omega
        simp [hbig, h0, chunkAppend, hne, hlen.mpr hle]

theorem chunkStream_plain (ps : List Bytes) : chunkStream false ps true = ps.flatten := by
  induction ps with
  | nil => simp [chunkStream, chunkClose]
  | cons p rest ih =>
    simp only [chunkStream, chunkClose] at ih ⊢
    cases p with
    | nil => simpa [chunkAppend] using ih
    | cons a t => simpa [chunkAppend] using ih

end LtVerif
