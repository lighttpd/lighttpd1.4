/-
  C11, part 1: the accounting invariant `Acct` (stated in Model/Gw.lean, with `SlotOk`, `Avail`) through
  the primitives of the model (a context takes or lets go of a host, a proc, a socket, appears or goes);
  `Frame` = what `Acct` does not read, `Quiet` (`Harmless`) = all that GW_STATE_WRITE / PREPARE_WRITE do,
  `lk` = the link of a slot, `TOk` = the relaxed slot, `closedCtx` / `AuxKept` = what gw_backend_close()
  leaves, `assignFresh` = gw_check_extension() on a fresh context.
-/
import LtVerif.Model.Gw
import LtVerif.Proofs.Bytes
namespace LtVerif.Gw

/-! ### sums -/

theorem sumTo_congr (n : Nat) (f g : Nat → Int) (h : ∀ i, i < n → f i = g i) : sumTo n f = sumTo n g := by
  induction n with
  | zero => rfl
  | succ n ih =>
    simp only [sumTo]
    rw [ih (fun i hi => h i (by omega)), h n (by omega)]

theorem sumTo_update (n s : Nat) (f g : Nat → Int) (hs : s < n) (h : ∀ i, i ≠ s → g i = f i) :
    sumTo n g = sumTo n f - f s + g s := by
  induction n with
  | zero => omega
  | succ n ih =>
    simp only [sumTo]
    by_cases hsn : s = n
    · subst hsn
      rw [sumTo_congr s g f (fun i hi => h i (by omega))]
      omega
    · rw [ih (by omega), h n (by omega)]
      omega

theorem sumTo_zero (n : Nat) : sumTo n (fun _ => 0) = 0 := by
  induction n with
  | zero => rfl
  | succ n ih => simp [sumTo, ih]

theorem sumTo_one (n : Nat) : sumTo n (fun _ => 1) = n := by
  induction n with
  | zero => rfl
  | succ n ih => simp [sumTo, ih]

theorem sumTo_nonneg (n : Nat) (f : Nat → Int) (h : ∀ i, i < n → 0 ≤ f i) : 0 ≤ sumTo n f := by
  induction n with
  | zero => simp [sumTo]
  | succ n ih =>
    simp only [sumTo]
    have := ih (fun i hi => h i (by omega))
    have := h n (by omega)
    omega

theorem sumTo_eq_zero (n : Nat) (f : Nat → Int) (h : ∀ i, i < n → f i = 0) : sumTo n f = 0 := by
  rw [sumTo_congr n f (fun _ => 0) h, sumTo_zero]

theorem sumTo_pos_iff (n : Nat) (f : Nat → Int) (h : ∀ i, i < n → f i = 0 ∨ f i = 1) :
    sumTo n f ≠ 0 ↔ ∃ i, i < n ∧ f i = 1 := by
  induction n with
  | zero => simp [sumTo]
  | succ n ih =>
    simp only [sumTo]
    have ih' := ih (fun i hi => h i (by omega))
    have hn := sumTo_nonneg n f (fun i hi => by rcases h i (by omega) with e | e <;> omega)
    constructor
    · intro hne
      rcases h n (by omega) with e | e
      · have : sumTo n f ≠ 0 := by omega
        obtain ⟨i, hi, hf⟩ := ih'.mp this
        exact ⟨i, by omega, hf⟩
      · exact ⟨n, by omega, e⟩
    · rintro ⟨i, hi, hf⟩
      by_cases e : i = n
      · subst e; omega
      · have : sumTo n f ≠ 0 := ih'.mpr ⟨i, by omega, hf⟩
        rcases h n (by omega) with e2 | e2 <;> omega

/-! ### a slot is rewritten -/

/-- every figure `Acct` compares with a count moves by what one slot contributes before (`old`) and after (`new`) -/
structure Moved (w w' : World) (old new : Option Ctx) : Prop where
  hostLoad : ∀ h, (w'.host h).load = (w.host h).load - hostC h old + hostC h new
  hostStat : ∀ h, (w'.host h).statLoad = (w'.host h).load
  procLoad : ∀ h p, (w'.proc h p).load = (w.proc h p).load - procC h p old + procC h p new
  procStat : ∀ h p, (w'.proc h p).statLoad = (w'.proc h p).load
  global : w'.globalActive = w.globalActive - anyProcC old + anyProcC new
  fds : w'.curFds - w'.pendClose = w.curFds - w.pendClose - fdC old + fdC new
  ghost : (w'.opened : Int) - w'.closed - w'.pendClose = w.opened - w.closed - w.pendClose - fdC old + fdC new

theorem acct_rewrite {w w' : World} {t t' : Option Nat} (s : Nat) (v : Option Ctx)
    (hA : Acct t w)
    (hslot : w'.slot = fun i => if i = s then v else w.slot i)
    (hn : w'.nslots = w.nslots)
    (hv : v.isSome → s < w.nslots)
    (M : Moved w w' (w.slot s) v)
    (hok : ∀ c, v = some c → SlotOk (decide (t' = some s)) c)
    (hoth : ∀ i c, i ≠ s → w.slot i = some c → SlotOk (decide (t = some i)) c →
              SlotOk (decide (t' = some i)) c) :
    Acct t' w' := by
  have cnt : ∀ F : Option Ctx → Int,
      sumTo w'.nslots (fun i => F (w'.slot i)) = sumTo w.nslots (fun i => F (w.slot i)) - F (w.slot s) + F v := by
    intro F
    simp only [hslot, hn]
    by_cases hs : s < w.nslots
    · rw [sumTo_update w.nslots s (fun i => F (w.slot i)) _ hs]
      · simp
      · intro i hi; simp [hi]
    ·
      have hv' : v = none := by
        cases hv' : v with
        | none => rfl
        | some c => exact absurd (hv (by simp [hv'])) hs
      rw [sumTo_congr w.nslots _ (fun i => F (w.slot i)), hA.range s (by omega), hv']; · omega
      intro i hi
      have : i ≠ s := by omega
      simp [this]
  have hfd : fdCnt w' = fdCnt w - fdC (w.slot s) + fdC v := cnt fdC
  refine ⟨fun h => ?_, M.hostStat, fun h p => ?_, M.procStat, ?_, ?_, ?_, ?_, ?_⟩
  · rw [M.hostLoad, hA.hostLoad]; exact (cnt (hostC h)).symm
  · rw [M.procLoad, hA.procLoad]; exact (cnt (procC h p)).symm
  · rw [M.global, hA.global]; exact (cnt anyProcC).symm
  · have h1 := hA.fds
    have := M.fds
    omega
  · have h1 := hA.ghost
    have := M.ghost
    omega
  · intro i c hc
    rw [hslot] at hc
    by_cases hi : i = s
    · subst hi; simp at hc; exact hok c hc
    · simp [hi] at hc; exact hoth i c hi hc (hA.slots i c hc)
  · intro i hi
    rw [hslot]
    by_cases his : i = s
    · subst his
      cases hv' : v with
      | none => simp
      | some c => have := hv (by simp [hv']); omega
    · simp [his]; exact hA.range i (by omega)

/-! ### frames -/

/-- `b` differs from `a` in nothing `Acct` reads -/
structure Frame (a b : World) : Prop where
  slot : b.slot = a.slot
  host : ∀ h, (b.host h).load = (a.host h).load ∧ (b.host h).statLoad = (a.host h).statLoad
  proc : ∀ h p, (b.proc h p).load = (a.proc h p).load ∧ (b.proc h p).statLoad = (a.proc h p).statLoad
  counts : (b.nslots, b.globalActive, b.curFds, b.pendClose, b.opened, b.closed)
    = (a.nslots, a.globalActive, a.curFds, a.pendClose, a.opened, a.closed)

theorem Frame.same {a b : World} (hs : b.slot = a.slot) (hh : b.host = a.host) (hp : b.proc = a.proc)
    (hc : (b.nslots, b.globalActive, b.curFds, b.pendClose, b.opened, b.closed)
      = (a.nslots, a.globalActive, a.curFds, a.pendClose, a.opened, a.closed)) : Frame a b :=
  ⟨hs, fun _ => by rw [hh]; exact ⟨rfl, rfl⟩, fun _ _ => by rw [hp]; exact ⟨rfl, rfl⟩, hc⟩

theorem Frame.refl (a : World) : Frame a a := .same rfl rfl rfl rfl

theorem Frame.trans {a b c : World} (h1 : Frame a b) (h2 : Frame b c) : Frame a c :=
  ⟨h2.slot.trans h1.slot, fun x => ⟨(h2.host x).1.trans (h1.host x).1, (h2.host x).2.trans (h1.host x).2⟩,
   fun x y => ⟨(h2.proc x y).1.trans (h1.proc x y).1, (h2.proc x y).2.trans (h1.proc x y).2⟩, h2.counts.trans h1.counts⟩

theorem acct_frame {w w' : World} {t : Option Nat} (hA : Acct t w) (F : Frame w w') : Acct t w' := by
  obtain ⟨hslot, hh, hp, hc⟩ := F
  simp only [Prod.mk.injEq] at hc
  obtain ⟨hn, hg, hf, hpc, ho, hcl⟩ := hc
  constructor
  · intro h; rw [(hh h).1, hA.hostLoad]; simp only [hostCnt, hslot, hn]
  · intro h; rw [(hh h).2, (hh h).1, hA.hostStat]
  · intro h p; rw [(hp h p).1, hA.procLoad]; simp only [procCnt, hslot, hn]
  · intro h p; rw [(hp h p).2, (hp h p).1, hA.procStat]
  · rw [hg, hA.global]; simp only [anyProcCnt, hslot, hn]
  · rw [hf, hpc, hA.fds]; simp only [fdCnt, hslot, hn]
  · rw [ho, hcl, hpc, hA.ghost]; simp only [fdCnt, hslot, hn]
  · intro s c h; rw [hslot] at h; exact hA.slots s c h
  · intro s h; rw [hslot]; exact hA.range s (by omega)

/-! ### reference moves -/

theorem slot_lt {w : World} {t : Option Nat} (hA : Acct t w) {s : Nat} {c : Ctx} (hs : w.slot s = some c) :
    s < w.nslots := by
  refine Nat.lt_of_not_le fun hle => ?_
  have := hA.range s hle; simp [hs] at this

theorem slotOk_weaken {b : Bool} {c : Ctx} (h : SlotOk false c) : SlotOk b c :=
  ⟨h.1, h.2, fun _ => h.3 rfl⟩

theorem slotOk_relax {b : Bool} {c : Ctx} (h : SlotOk b c) : SlotOk true c :=
  ⟨h.1, h.2, fun hh => by simp at hh⟩

/-- `acct_rewrite` for an edit of the context in slot `s` -/
theorem acct_link {w w' : World} {t t' : Option Nat} (s : Nat) (c c' : Ctx)
    (hA : Acct t w) (hs : w.slot s = some c)
    (hslot : w'.slot = fun i => if i = s then some c' else w.slot i)
    (hn : w'.nslots = w.nslots)
    (M : Moved w w' (some c) (some c'))
    (hok : SlotOk (decide (t' = some s)) c')
    (hoth : ∀ i, i ≠ s → t ≠ some i) :
    Acct t' w' := by
  refine acct_rewrite s (some c') hA hslot hn (fun _ => slot_lt hA hs) (hs ▸ M) ?_ ?_
  · intro c0 h0; simp at h0; subst h0; exact hok
  · intro i c0 hi _ h0
    have : decide (t = some i) = false := by simpa using hoth i hi
    rw [this] at h0
    exact slotOk_weaken h0

theorem updSlot_some {w : World} {s : Nat} {c : Ctx} (f : Ctx → Ctx) (hs : w.slot s = some c) :
    (w.updSlot s f).slot = fun i => if i = s then some (f c) else w.slot i := by
  simp [World.updSlot, hs]

theorem updSlot_id {w : World} {s : Nat} (f : Ctx → Ctx) (h : ∀ c, w.slot s = some c → f c = c) :
    w.updSlot s f = w := by
  have key : (w.slot s).map f = w.slot s := by
    cases hs : w.slot s with
    | none => rfl
    | some c => simp [h c hs]
  cases w; simp only [World.updSlot] at *
  congr; funext i; by_cases hi : i = s <;> simp [hi, key]

theorem updSlot_updSlot (w : World) (s : Nat) (e e' : Ctx → Ctx) :
    (w.updSlot s e).updSlot s e' = w.updSlot s (e' ∘ e) := by
  simp only [World.updSlot, if_true, Option.map_map]
  congr; funext i; by_cases h : i = s <;> simp [h]

/-- `t` relaxes at most the slot being worked on -/
def TOk (t : Option Nat) (s : Nat) : Prop := t = none ∨ t = some s

theorem TOk.oth {t : Option Nat} {s : Nat} (h : TOk t s) : ∀ i, i ≠ s → t ≠ some i := by
  intro i hi; rcases h with h | h <;> simp [h]; omega

theorem tok_none (s : Nat) : TOk none s := Or.inl rfl
theorem tok_some (s : Nat) : TOk (some s) s := Or.inr rfl

theorem acct_edit {w : World} {t : Option Nat} (s : Nat) (e : Ctx → Ctx) (hA : Acct t w) (ht : TOk t s)
    (he : ∀ c, w.slot s = some c → (e c).link.host = c.link.host ∧ (e c).link.proc = c.link.proc ∧
      (e c).link.fd = c.link.fd ∧
      ((e c).link.state = .init → c.link.state = .init ∨ (c.link.proc = none ∧ c.link.fd = false))) :
    Acct t (w.updSlot s e) := by
  cases hs : w.slot s with
  | none => rw [updSlot_id e (by simp [hs])]; exact hA
  | some c =>
    have hok := hA.slots s c hs
    obtain ⟨h1, h2, h3, h4⟩ := he c hs
    refine acct_link s c (e c) hA hs (updSlot_some _ hs) rfl ⟨?_, ?_, ?_, ?_, ?_, ?_, ?_⟩ ?_ ht.oth
    · intro h'; simp [World.updSlot, hostC, h1]
    · intro h'; simp [World.updSlot, hA.hostStat]
    · intro h' p'; simp [World.updSlot, procC, h1, h2]
    · intro h' p'; simp [World.updSlot, hA.procStat]
    · simp [World.updSlot, anyProcC, h2]
    · simp [World.updSlot, fdC, h3]
    · simp [World.updSlot, fdC, h3]
    · refine ⟨?_, ?_, fun hr hst => ?_⟩
      · simp only [h1, h2]; exact hok.1
      · simp only [h2, h3]; exact hok.2
      · simp only [h2, h3]
        rcases h4 hst with h | h
        · exact hok.3 hr h
        · exact h

theorem acct_updAux {w : World} {t : Option Nat} (s : Nat) (f : Aux → Aux) (hA : Acct t w) (ht : TOk t s) :
    Acct t (w.updAux s f) :=
  acct_edit s _ hA ht fun _ _ => ⟨rfl, rfl, rfl, Or.inl⟩

theorem acct_relax {w : World} {t : Option Nat} (s : Nat) (hA : Acct t w) (ht : TOk t s) : Acct (some s) w := by
  refine ⟨hA.1, hA.2, hA.3, hA.4, hA.5, hA.6, hA.7, ?_, hA.9⟩
  intro i c hc
  have h0 := hA.slots i c hc
  by_cases hi : i = s
  · subst hi; simp; exact slotOk_relax h0
  · have : decide (t = some i) = false := by simpa using ht.oth i hi
    rw [this] at h0; exact slotOk_weaken h0

/-- leave the relaxed mode once slot s is no longer a dirty GW_STATE_INIT -/
theorem acct_tighten {w : World} {t : Option Nat} (s : Nat) (hA : Acct t w) (ht : TOk t s)
    (h : ∀ c, w.slot s = some c → c.link.state = .init → c.link.proc = none ∧ c.link.fd = false) :
    Acct none w := by
  refine ⟨hA.1, hA.2, hA.3, hA.4, hA.5, hA.6, hA.7, ?_, hA.9⟩
  intro i c hc
  have h0 := hA.slots i c hc
  by_cases hi : i = s
  · subst hi; simp; exact ⟨h0.1, h0.2, fun _ => h c hc⟩
  · have : decide (t = some i) = false := by simpa using ht.oth i hi
    rw [this] at h0; simpa using h0

theorem acct_hstat {w : World} {t : Option Nat} (f : Nat → Int) (hA : Acct t w) : Acct t { w with hstat := f } :=
  acct_frame hA (.same rfl rfl rfl rfl)

theorem acct_pstat {w : World} {t : Option Nat} (f : Nat → Nat → Int) (hA : Acct t w) : Acct t { w with pstat := f } :=
  acct_frame hA (.same rfl rfl rfl rfl)

theorem acct_hostAssign {w : World} {t : Option Nat} (s h : Nat) (hA : Acct t w) (ht : TOk t s)
    (hh : ∀ c, w.slot s = some c → c.link.host = none) :
    Acct t (hostAssign w s h) := by
  cases hs : w.slot s with
  | none => simp [hostAssign, hs]; exact hA
  | some c =>
    have hok := hA.slots s c hs
    have hnone := hh c hs
    have hp : c.link.proc = none := by
      cases hp : c.link.proc with
      | none => rfl
      | some p => have := hok.1 (by simp [hp]); simp [hnone] at this
    have e : hostAssign w s h = setHostLoad (w.updLink s fun l => { l with host := some h }) h
        ((w.host h).load + 1) := by simp [hostAssign, hs]
    rw [e]
    unfold setHostLoad
    refine acct_hstat _ ?_
    refine acct_link s c { c with link := { c.link with host := some h } } hA hs ?_ rfl ⟨?_, ?_, ?_, ?_, ?_, ?_, ?_⟩ ?_ ht.oth
    · simp [World.updHost, World.updLink]; exact updSlot_some _ hs
    · intro h'; simp [World.updHost, World.updLink, World.updSlot, hostC, hnone]
      by_cases e : h' = h <;> simp [e] <;> omega
    · intro h'; simp [World.updHost, World.updLink, World.updSlot]
      by_cases e : h' = h <;> simp [e, hA.hostStat]
    · intro h' p; simp [World.updHost, World.updLink, World.updSlot, procC, hnone, hp]
    · intro h' p; simp [World.updHost, World.updLink, World.updSlot, hA.procStat]
    · simp [World.updHost, World.updLink, World.updSlot, anyProcC]
    · simp [World.updHost, World.updLink, World.updSlot, fdC]
    · simp [World.updHost, World.updLink, World.updSlot, fdC]
    · exact ⟨fun _ => by simp, hok.2, hok.3⟩

theorem acct_procAcquire {w : World} {t : Option Nat} (s h p : Nat) (hA : Acct t w) (ht : TOk t s)
    (hh : ∀ c, w.slot s = some c → c.link.host = some h ∧ c.link.proc = none) :
    Acct (some s) (procAcquire w s h p) := by
  cases hs : w.slot s with
  | none => simp [procAcquire, hs]; exact acct_relax s hA ht
  | some c =>
    have hok := hA.slots s c hs
    obtain ⟨hhost, hproc⟩ := hh c hs
    have hfd : c.link.fd = false := by
      cases hf : c.link.fd with
      | false => rfl
      | true => have := hok.2 hf; simp [hproc] at this
    have e : procAcquire w s h p =
        { (setProcLoad (w.updLink s fun l => { l with proc := some p }) h p ((w.proc h p).load + 1)) with
          globalActive := w.globalActive + 1 } := by simp [procAcquire, hs]; rfl
    rw [e]
    refine acct_link s c { c with link := { c.link with proc := some p } } hA hs ?_ rfl ⟨?_, ?_, ?_, ?_, ?_, ?_, ?_⟩ ?_ ht.oth
    all_goals simp only [setProcLoad]
    · simp [World.updProc, World.updLink]; exact updSlot_some _ hs
    · intro h'; simp [World.updProc, World.updLink, World.updSlot, hostC]
    · intro h'; simp [World.updProc, World.updLink, World.updSlot, hA.hostStat]
    · intro h' p'; simp [World.updProc, World.updLink, World.updSlot, procC, hhost, hproc]
      by_cases e : h' = h ∧ p' = p
      · obtain ⟨e1, e2⟩ := e; subst e1; subst e2; simp
      · simp [e]
        have : ¬ (h = h' ∧ p = p') := fun ⟨a, b⟩ => e ⟨a.symm, b.symm⟩
        simp [this]
    · intro h' p'; simp [World.updProc, World.updLink, World.updSlot]
      by_cases e : h' = h ∧ p' = p <;> simp [e, hA.procStat]
    · simp [anyProcC, hproc]
    · simp [World.updProc, World.updLink, World.updSlot, fdC]
    · simp [World.updProc, World.updLink, World.updSlot, fdC]
    · exact ⟨fun _ => by simp [hhost], fun hf => by simp [hfd] at hf, fun hh => by simp at hh⟩

theorem acct_openFd {w : World} (s : Nat) (hA : Acct (some s) w)
    (hh : ∀ c, w.slot s = some c → c.link.proc.isSome ∧ c.link.fd = false) :
    Acct (some s) (openFd w s) := by
  cases hs : w.slot s with
  | none => simp [openFd, hs]; exact hA
  | some c =>
    have hok := hA.slots s c hs
    obtain ⟨hproc, hfd⟩ := hh c hs
    have e : openFd w s = ({ w with curFds := w.curFds + 1, opened := w.opened + 1 }).updLink s
        fun l => { l with fd := true } := by simp [openFd, hs]
    rw [e]
    refine acct_link s c { c with link := { c.link with fd := true } } hA hs ?_ rfl ⟨?_, ?_, ?_, ?_, ?_, ?_, ?_⟩ ?_ (tok_some s).oth
    · simp [World.updLink]; exact updSlot_some _ hs
    · intro h'; simp [World.updLink, World.updSlot, hostC]
    · intro h'; simp [World.updLink, World.updSlot, hA.hostStat]
    · intro h' p'; simp [World.updLink, World.updSlot, procC]
    · intro h' p'; simp [World.updLink, World.updSlot, hA.procStat]
    · simp [World.updLink, World.updSlot, anyProcC]
    · simp [World.updLink, World.updSlot, fdC, hfd]; omega
    · simp [World.updLink, World.updSlot, fdC, hfd]; omega
    · exact ⟨hok.1, fun _ => hproc, fun hh => by simp at hh⟩

/-! ### what gw_backend_close() leaves -/

/-- what gw_backend_close() leaves; a proc without a host (excluded by `SlotOk.proc_host`) would stay -/
def closedCtx (c : Ctx) : Ctx :=
  { link := { c.link with fd := false, proc := if c.link.host.isSome then none else c.link.proc, host := none },
    aux := if c.link.fd then { c.aux with evIn := false, evOut := false, evRdhup := false } else c.aux }

/-- `a'` shows the client and the retry accounting what `a` shows -/
structure AuxKept (a a' : Aux) : Prop where
  status : a'.status = a.status
  started : a'.started = a.started
  handler : a'.handler = a.handler
  dispatched : a'.dispatched = a.dispatched
  reconnects : a'.reconnects = a.reconnects

theorem closedCtx_aux (c : Ctx) : AuxKept c.aux (closedCtx c).aux := by
  unfold closedCtx; dsimp only
  cases c.link.fd <;> exact ⟨rfl, rfl, rfl, rfl, rfl⟩

theorem ctx_eta (c : Ctx) : ({ link := c.link, aux := c.aux } : Ctx) = c := by cases c; rfl

theorem backendClose_none {w : World} (s : Nat) (hs : w.slot s = none) : backendClose w s = w := by
  simp [backendClose, hs]

theorem backendClose_slots (w : World) (s : Nat) :
    (backendClose w s).slot = fun i => if i = s then (w.slot s).map closedCtx else w.slot i := by
  funext i
  cases hs : w.slot s with
  | none => rw [backendClose_none s hs]; by_cases hi : i = s <;> simp [hi, hs]
  | some c =>
    -- eight shapes of (fd, host, proc)
    cases hfd : c.link.fd <;> cases hh : c.link.host <;> cases hp : c.link.proc <;>
      simp [backendClose, setHostLoad, setProcLoad, hs, hfd, hh, hp, World.updLink, World.updAux, World.updSlot,
        World.updHost, World.updProc, closedCtx] <;>
      by_cases hi : i = s <;> simp [hi, hs]
    all_goals (cases c; rename_i l a; cases l; simp_all)

/-! ### fields `Acct` does not read -/

theorem acct_script {w : World} {t : Option Nat} (sc : Script) (hA : Acct t w) : Acct t { w with script := sc } :=
  acct_frame hA (.same rfl rfl rfl rfl)

theorem acct_emit {w : World} {t : Option Nat} (e : Ev) (hA : Acct t w) : Acct t (w.emit e) :=
  acct_frame hA (.same rfl rfl rfl rfl)

theorem acct_now {w : World} {t : Option Nat} (n : Int) (hA : Acct t w) : Acct t { w with now := n } :=
  acct_frame hA (.same rfl rfl rfl rfl)

theorem acct_lastUsed {w : World} {t : Option Nat} (n : Int) (hA : Acct t w) : Acct t { w with lastUsed := n } :=
  acct_frame hA (.same rfl rfl rfl rfl)

theorem acct_noteSent {w : World} {t : Option Nat} (b : Bool) (hA : Acct t w) : Acct t { w with noteSent := b } :=
  acct_frame hA (.same rfl rfl rfl rfl)

theorem frame_updHost (w : World) (h : Nat) (f : Host → Host)
    (hf : ∀ H, (f H).load = H.load ∧ (f H).statLoad = H.statLoad := by intro; exact ⟨rfl, rfl⟩) :
    Frame w (w.updHost h f) := by
  refine ⟨rfl, fun h' => ?_, fun _ _ => ⟨rfl, rfl⟩, rfl⟩
  simp only [World.updHost]; by_cases e : h' = h <;> simp [e, hf]

theorem frame_updProc (w : World) (h p : Nat) (f : Proc → Proc)
    (hf : ∀ P, (f P).load = P.load ∧ (f P).statLoad = P.statLoad := by intro; exact ⟨rfl, rfl⟩) :
    Frame w (w.updProc h p f) := by
  refine ⟨rfl, fun _ => ⟨rfl, rfl⟩, fun h' p' => ?_, rfl⟩
  simp only [World.updProc]; by_cases e : h' = h ∧ p' = p <;> simp [e, hf]

theorem popConn_eq (w : World) : ∃ sc, (popConn w).2 = { w with script := sc } := by
  unfold popConn; split <;> exact ⟨_, rfl⟩
theorem popSock_eq (w : World) : ∃ sc, (popSock w).2 = { w with script := sc } := by
  unfold popSock; split <;> exact ⟨_, rfl⟩
theorem popStat_eq (w : World) : ∃ sc, (popStat w).2 = { w with script := sc } := by
  unfold popStat; split <;> exact ⟨_, rfl⟩
theorem popWr_eq (w : World) : ∃ sc, (popWr w).2 = { w with script := sc } := by
  unfold popWr; split <;> exact ⟨_, rfl⟩
theorem popRd_eq (w : World) : ∃ sc, (popRd w).2 = { w with script := sc } := by
  unfold popRd; split <;> exact ⟨_, rfl⟩
theorem popEnv_eq (w : World) : ∃ sc, (popEnv w).2 = { w with script := sc } := by
  unfold popEnv; split <;> exact ⟨_, rfl⟩

/-! ### gw_backend_close(): the three releases -/

/-- fdevent_sched_close(): the socket leaves the context for the pending-close list -/
theorem acct_closeFd {w : World} {t : Option Nat} {s : Nat} {c : Ctx} (hA : Acct t w) (ht : TOk t s)
    (hs : w.slot s = some c) (hfd : c.link.fd = true) :
    Acct t (({ w with pendClose := w.pendClose + 1 } : World).updLink s fun l => { l with fd := false }) := by
  have hok := hA.slots s c hs
  refine acct_link s c { c with link := { c.link with fd := false } } hA hs (updSlot_some _ hs) rfl
    ⟨?_, ?_, ?_, ?_, ?_, ?_, ?_⟩ ?_ ht.oth
  · intro h'; simp [World.updLink, World.updSlot, hostC]
  · intro h'; simp [World.updLink, World.updSlot, hA.hostStat]
  · intro h' p'; simp [World.updLink, World.updSlot, procC]
  · intro h' p'; simp [World.updLink, World.updSlot, hA.procStat]
  · simp [World.updLink, World.updSlot, anyProcC]
  · simp [World.updLink, World.updSlot, fdC, hfd]; omega
  · simp [World.updLink, World.updSlot, fdC, hfd]; omega
  · exact ⟨hok.1, nofun, fun hr hst => ⟨(hok.3 hr hst).1, rfl⟩⟩

/-- gw_proc_release(): gw_proc_load_dec, hctx->proc = NULL -/
theorem acct_procRelease {w : World} {t : Option Nat} {s h p : Nat} {c : Ctx} (hA : Acct t w) (ht : TOk t s)
    (hs : w.slot s = some c) (hh : c.link.host = some h) (hp : c.link.proc = some p) (hfd : c.link.fd = false) :
    Acct t (({ setProcLoad w h p ((w.proc h p).load - 1) with globalActive := w.globalActive - 1 } : World).updLink s
      fun l => { l with proc := none }) := by
  have hok := hA.slots s c hs
  refine acct_link s c { c with link := { c.link with proc := none } } hA hs ?_ rfl ⟨?_, ?_, ?_, ?_, ?_, ?_, ?_⟩ ?_ ht.oth
  all_goals simp only [setProcLoad]
  · simp [World.updProc, World.updLink]; exact updSlot_some _ hs
  · intro h'; simp [World.updProc, World.updLink, World.updSlot, hostC]
  · intro h'; simp [World.updProc, World.updLink, World.updSlot, hA.hostStat]
  · intro h' p'; simp [World.updProc, World.updLink, World.updSlot, procC, hh, hp]
    by_cases e : h' = h ∧ p' = p
    · obtain ⟨e1, e2⟩ := e; subst e1; subst e2; simp
    · simp [e]
      have : ¬ (h = h' ∧ p = p') := fun ⟨a, b⟩ => e ⟨a.symm, b.symm⟩
      simp [this]
  · intro h' p'; simp [World.updProc, World.updLink, World.updSlot]
    by_cases e : h' = h ∧ p' = p <;> simp [e, hA.procStat]
  · simp [World.updProc, World.updLink, World.updSlot, anyProcC, hp]
  · simp [World.updProc, World.updLink, World.updSlot, fdC]
  · simp [World.updProc, World.updLink, World.updSlot, fdC]
  · exact ⟨nofun, fun hf => by simp [hfd] at hf, fun _ _ => ⟨rfl, hfd⟩⟩

/-- gw_host_reset(): --host->load, hctx->host = NULL; the context now holds nothing -/
theorem acct_hostReset {w : World} {t : Option Nat} {s h : Nat} {c : Ctx} (hA : Acct t w) (ht : TOk t s)
    (hs : w.slot s = some c) (hh : c.link.host = some h) (hp : c.link.proc = none) (hfd : c.link.fd = false) :
    Acct none ((setHostLoad w h ((w.host h).load - 1)).updLink s fun l => { l with host := none }) := by
  unfold setHostLoad
  refine acct_link s c { c with link := { c.link with host := none } } hA hs ?_ rfl ⟨?_, ?_, ?_, ?_, ?_, ?_, ?_⟩ ?_ ht.oth
  · simp [World.updHost, World.updLink]; exact updSlot_some _ hs
  · intro h'; simp [World.updHost, World.updLink, World.updSlot, hostC, hh]
    by_cases e : h' = h
    · subst e; simp
    · have : ¬ h = h' := fun a => e a.symm
      simp [e, this]
  · intro h'; simp [World.updHost, World.updLink, World.updSlot]
    by_cases e : h' = h <;> simp [e, hA.hostStat]
  · intro h' p; simp [World.updHost, World.updLink, World.updSlot, procC, hp]
  · intro h' p; simp [World.updHost, World.updLink, World.updSlot, hA.procStat]
  · simp [World.updHost, World.updLink, World.updSlot, anyProcC]
  · simp [World.updHost, World.updLink, World.updSlot, fdC]
  · simp [World.updHost, World.updLink, World.updSlot, fdC]
  · exact ⟨fun h => by simp [hp] at h, fun hf => by simp [hfd] at hf, fun _ _ => ⟨hp, hfd⟩⟩

theorem acct_backendClose {w : World} {t : Option Nat} (s : Nat) (hA : Acct t w) (ht : TOk t s) :
    Acct none (backendClose w s) := by
  cases hs : w.slot s with
  | none => rw [backendClose_none s hs]; exact acct_tighten s hA ht (by simp [hs])
  | some c =>
    have hok := hA.slots s c hs
    unfold backendClose
    split
    · rename_i h0; rw [hs] at h0; cases h0
    rename_i c' h0
    rw [hs, Option.some.injEq] at h0; subst h0
    extract_lets wp wq w1
    -- w1: the socket gone to pendclose (if any); w2: the proc released (if any); gw_host_reset: the C's order
    obtain ⟨c1, A1, hs1, k1, k2, k3⟩ : ∃ c1, Acct t w1 ∧ w1.slot s = some c1 ∧
        c1.link.host = c.link.host ∧ c1.link.proc = c.link.proc ∧ c1.link.fd = false := by
      unfold w1; split
      · rename_i hfd
        have A := acct_updAux s (fun a => { a with evIn := false, evOut := false, evRdhup := false })
          (acct_closeFd hA ht hs hfd) ht
        refine ⟨{ link := { c.link with fd := false },
                  aux := { c.aux with evIn := false, evOut := false, evRdhup := false } }, ?_, ?_, rfl, rfl, rfl⟩
        · unfold wq; split
          · rename_i h' _
            exact acct_frame A (frame_updHost _ h' fun H => { H with hctxs := H.hctxs.erase s })
          · exact A
        · unfold wq; split <;> simp [wp, World.updAux, World.updLink, World.updSlot, World.updHost, hs]
      · rename_i hfd
        exact ⟨c, hA, hs, rfl, rfl, by simpa using hfd⟩
    split
    · rename_i hh
      refine acct_tighten s A1 ht fun c' hc' _ => ?_
      rw [hs1] at hc'; cases hc'
      cases hp : c.link.proc with
      | none => exact ⟨k2.trans hp, k3⟩
      | some p => have := hok.1 (by simp [hp]); simp [hh] at this
    · rename_i h hh
      extract_lets w2
      obtain ⟨c2, A2, hs2, j1, j2, j3⟩ : ∃ c2, Acct t w2 ∧ w2.slot s = some c2 ∧
          c2.link.host = some h ∧ c2.link.proc = none ∧ c2.link.fd = false := by
        unfold w2; split
        · rename_i p hp
          refine ⟨{ c1 with link := { c1.link with proc := none } },
            acct_procRelease A1 ht hs1 (k1.trans hh) (k2.trans hp) k3, ?_, k1.trans hh, rfl, k3⟩
          simp [setProcLoad, World.updLink, World.updSlot, World.updProc, hs1]
        · rename_i hp
          exact ⟨c1, A1, hs1, k1.trans hh, k2.trans hp, k3⟩
      exact acct_hostReset A2 ht hs2 j1 j2 j3

/-! ### harmless steps -/

/-- an edit of a context that moves nothing the invariants count nor enters GW_STATE_INIT -/
structure Harmless (e : Ctx → Ctx) : Prop where
  host : ∀ c, (e c).link.host = c.link.host
  proc : ∀ c, (e c).link.proc = c.link.proc
  fd : ∀ c, (e c).link.fd = c.link.fd
  init : ∀ c, (e c).link.state = .init → c.link.state = .init
  reconnects : ∀ c, (e c).aux.reconnects = c.aux.reconnects
  dispatched : ∀ c, (e c).aux.dispatched = c.aux.dispatched

theorem Harmless.comp {e e' : Ctx → Ctx} (h : Harmless e) (h' : Harmless e') : Harmless (e' ∘ e) :=
  ⟨fun c => (h'.host _).trans (h.host c), fun c => (h'.proc _).trans (h.proc c), fun c => (h'.fd _).trans (h.fd c),
   fun c x => h.init c (h'.init _ x), fun c => (h'.reconnects _).trans (h.reconnects c),
   fun c => (h'.dispatched _).trans (h.dispatched c)⟩

def Quiet (s : Nat) (w w' : World) : Prop :=
  ∃ sc e, Harmless e ∧ w' = ({ w with script := sc } : World).updSlot s e

theorem quiet_script (s : Nat) (w : World) (sc : Script) :
    Quiet s w { w with script := sc } :=
  ⟨sc, id, ⟨fun _ => rfl, fun _ => rfl, fun _ => rfl, fun _ => id, fun _ => rfl, fun _ => rfl⟩,
    (updSlot_id id fun _ _ => rfl).symm⟩

theorem Quiet.refl (s : Nat) (w : World) : Quiet s w w := quiet_script s w w.script

theorem Quiet.trans {s : Nat} {a b c : World} (h1 : Quiet s a b) (h2 : Quiet s b c) : Quiet s a c := by
  obtain ⟨sc, e, he, rfl⟩ := h1
  obtain ⟨sc', e', he', rfl⟩ := h2
  refine ⟨sc', e' ∘ e, he.comp he', ?_⟩
  rw [← updSlot_updSlot]; rfl

theorem quiet_updAux (s : Nat) (w : World) (f : Aux → Aux)
    (hf : ∀ a, (f a).reconnects = a.reconnects ∧ (f a).dispatched = a.dispatched) : Quiet s w (w.updAux s f) :=
  ⟨w.script, fun c => { c with aux := f c.aux },
    ⟨fun _ => rfl, fun _ => rfl, fun _ => rfl, fun _ => id, fun c => (hf c.aux).1, fun c => (hf c.aux).2⟩, rfl⟩

theorem quiet_updLink (s : Nat) (w : World) (f : Link → Link)
    (hf : ∀ l, (f l).host = l.host ∧ (f l).proc = l.proc ∧ (f l).fd = l.fd ∧ ((f l).state = .init → l.state = .init)) :
    Quiet s w (w.updLink s f) :=
  ⟨w.script, fun c => { c with link := f c.link },
    ⟨fun c => (hf c.link).1, fun c => (hf c.link).2.1, fun c => (hf c.link).2.2.1, fun c => (hf c.link).2.2.2,
     fun _ => rfl, fun _ => rfl⟩, rfl⟩

theorem quiet_setState (s : Nat) (w : World) (st : CState) (h : st ≠ .init) :
    Quiet s w (w.updLink s fun l => { l with state := st }) :=
  quiet_updLink s w _ fun _ => ⟨rfl, rfl, rfl, fun x => absurd x h⟩

theorem acct_quiet {w w' : World} {t : Option Nat} {s : Nat} (hA : Acct t w) (ht : TOk t s)
    (hq : Quiet s w w') : Acct t w' := by
  obtain ⟨sc, e, he, rfl⟩ := hq
  exact acct_edit s e (acct_script sc hA) ht
    fun c _ => ⟨he.host c, he.proc c, he.fd c, fun h => Or.inl (he.init c h)⟩

theorem quiet_pop {s : Nat} {w w' : World} (h : ∃ sc, w' = { w with script := sc }) :
    Quiet s w w' := by
  obtain ⟨sc, rfl⟩ := h; exact quiet_script s w sc

theorem quiet_wrWrite (w : World) (s : Nat) : Quiet s w (wrWrite w s).2 ∧ (wrWrite w s).1 ≠ .comeback := by
  unfold wrWrite
  extract_lets a r n w1 a1 w2
  have hr : Quiet s w r.2 := by
    unfold r; split
    · exact quiet_pop (popWr_eq w)
    · exact Quiet.refl s w
  have h1 : Quiet s w w1 := by
    unfold w1; split
    · exact hr.trans (quiet_updAux s _ _ fun _ => ⟨rfl, rfl⟩)
    · exact hr
  have h2 : Quiet s w w2 := by
    unfold w2; split
    · refine (h1.trans ?_).trans (quiet_setState s _ .read (by decide))
      exact quiet_updAux s _ _ fun _ => ⟨rfl, rfl⟩
    · split
      · exact h1.trans (quiet_updAux s _ _ fun _ => ⟨rfl, rfl⟩)
      · split
        · exact h1.trans (quiet_updAux s _ _ fun _ => ⟨rfl, rfl⟩)
        · exact h1
  split
  · exact ⟨hr, nofun⟩
  · exact ⟨h2, nofun⟩

theorem quiet_wrPrepare (w : World) (s : Nat) :
    Quiet s w (wrPrepare w s).2 ∧ (wrPrepare w s).1 ≠ .comeback := by
  have hr : Quiet s w (popEnv w).2 := quiet_pop (popEnv_eq w)
  unfold wrPrepare
  extract_lets r w1
  split
  · dsimp only; exact ⟨hr.trans (quiet_updAux s _ _ fun _ => ⟨rfl, rfl⟩), nofun⟩
  · split
    · dsimp only; exact ⟨hr.trans (quiet_updAux s _ _ fun _ => ⟨rfl, rfl⟩), nofun⟩
    · refine ⟨Quiet.trans ?_ (quiet_wrWrite _ s).1, (quiet_wrWrite _ s).2⟩
      refine (hr.trans ?_).trans (quiet_setState s _ .write (by decide))
      exact quiet_updAux s _ _ fun _ => ⟨rfl, rfl⟩

theorem quiet_wrConnected (w : World) (s : Nat) :
    Quiet s w (wrConnected w s).2 ∧ (wrConnected w s).1 ≠ .comeback :=
  ⟨(quiet_setState s w .prepareWrite (by decide)).trans (quiet_wrPrepare _ s).1, (quiet_wrPrepare _ s).2⟩

/-! ### the pool functions are frames -/

theorem setPState_eq (w : World) (h p : Nat) (st : PState) :
    setPState w h p st =
      (w.updHost h fun H => { H with active := H.active +
        (if (w.proc h p).state = st then 0 else if (w.proc h p).state = .running then -1
         else if st = .running then 1 else 0) }).updProc h p fun P => { P with state := st } := by
  unfold setPState
  split
  · rename_i e
    cases w; simp only [World.updHost, World.updProc, Int.add_zero] at e ⊢
    congr
    · funext i; split <;> simp_all
    · funext i j; split
      · rename_i hij; rw [hij.1, hij.2, ← e]
      · rfl
  · split
    · rfl
    · split
      · rfl
      · cases w; simp only [World.updHost, World.updProc, Int.add_zero]
        congr; funext i; split <;> simp_all

theorem setPState_slot (w : World) (h p : Nat) (st : PState) : (setPState w h p st).slot = w.slot := by
  rw [setPState_eq]; rfl
theorem setPState_now (w : World) (h p : Nat) (st : PState) : (setPState w h p st).now = w.now := by
  rw [setPState_eq]; rfl
theorem setPState_log (w : World) (h p : Nat) (st : PState) : (setPState w h p st).log = w.log := by
  rw [setPState_eq]; rfl
theorem setPState_nprocs (w : World) (h p : Nat) (st : PState) (h' : Nat) :
    ((setPState w h p st).host h').nprocs = (w.host h').nprocs := by
  rw [setPState_eq]; simp only [World.updProc, World.updHost]; by_cases e : h' = h <;> simp [e]
theorem setPState_state (w : World) (h p : Nat) (st : PState) (h' p' : Nat) :
    ((setPState w h p st).proc h' p').state = if h' = h ∧ p' = p then st else (w.proc h' p').state := by
  rw [setPState_eq]; simp only [World.updProc, World.updHost]; by_cases e : h' = h ∧ p' = p <;> simp [e]
theorem setPState_disabledUntil (w : World) (h p : Nat) (st : PState) (h' p' : Nat) :
    ((setPState w h p st).proc h' p').disabledUntil = (w.proc h' p').disabledUntil := by
  rw [setPState_eq]; simp only [World.updProc, World.updHost]; by_cases e : h' = h ∧ p' = p <;> simp [e]

theorem frame_setPState (w : World) (h p : Nat) (st : PState) : Frame w (setPState w h p st) := by
  rw [setPState_eq]
  exact (frame_updHost w h _).trans (frame_updProc _ h p _)

theorem frame_connectError (w : World) (h p pid : Nat) : Frame w (connectError w h p pid) := by
  unfold connectError
  split
  · exact (frame_updProc w h p _).trans (frame_setPState _ h p .overloaded)
  · exact Frame.refl w

theorem frame_checkEnable (w : World) (h p : Nat) : Frame w (checkEnable w h p) := by
  unfold checkEnable
  split
  · exact Frame.refl w
  · split
    · exact Frame.refl w
    · exact frame_setPState w h p .running

theorem frame_restartDeadProcs (w : World) (h : Nat) (tr : Bool) : Frame w (restartDeadProcs w h tr) := by
  unfold restartDeadProcs
  refine foldl_inv (Frame w) _ _ _ (Frame.refl w) fun b p hb => hb.trans ?_
  unfold restartDeadProc
  split
  · exact Frame.refl b
  · exact frame_checkEnable b h p
  · split
    · exact frame_updProc b h p _
    · exact Frame.refl b
  · exact Frame.refl b
  · exact Frame.refl b

theorem frame_slotConnectError (w : World) (s : Nat) : Frame w (slotConnectError w s) := by
  unfold slotConnectError
  split
  · split
    · exact frame_connectError w _ _ _
    · exact Frame.refl w
  · exact Frame.refl w

theorem frame_restartIfLocal (w : World) (s : Nat) : Frame w (restartIfLocal w s) := by
  unfold restartIfLocal
  split
  · split
    · exact frame_restartDeadProcs w _ _
    · exact Frame.refl w
  · exact Frame.refl w

/-- children never exit in this model, so the worker variant's loop is gw_restart_dead_procs() outside a trigger -/
theorem checkOverloaded_eq (w : World) (h : Nat) : checkOverloaded w h = restartDeadProcs w h false := by
  unfold checkOverloaded restartDeadProcs
  congr; funext w p
  unfold restartDeadProc
  cases (w.proc h p).state <;> rfl

/-! ### `lk`; gw_reconnect, finish, sched_run -/

def lk (w : World) (s : Nat) : Option Link := (w.slot s).map Ctx.link

theorem lk_some {w : World} {s : Nat} {c : Ctx} (h : w.slot s = some c) : lk w s = some c.link := by
  simp [lk, h]

theorem lk_updAux (w : World) (s : Nat) (f : Aux → Aux) (i : Nat) : lk (w.updAux s f) i = lk w i := by
  simp only [lk, World.updAux, World.updSlot]
  by_cases h : i = s
  · subst h; cases w.slot i <;> simp
  · simp [h]

theorem lk_updLink (w : World) (s : Nat) (f : Link → Link) (i : Nat) :
    lk (w.updLink s f) i = if i = s then (lk w s).map f else lk w i := by
  simp only [lk, World.updLink, World.updSlot]
  by_cases h : i = s
  · subst h; cases w.slot i <;> simp
  · simp [h]

@[simp] theorem lk_updHost (w : World) (h : Nat) (f : Host → Host) (i : Nat) : lk (w.updHost h f) i = lk w i := rfl
@[simp] theorem lk_updProc (w : World) (h p : Nat) (f : Proc → Proc) (i : Nat) : lk (w.updProc h p f) i = lk w i := rfl
@[simp] theorem lk_emit (w : World) (e : Ev) (i : Nat) : lk (w.emit e) i = lk w i := rfl

theorem lk_setPState (w : World) (h p : Nat) (st : PState) (i : Nat) : lk (setPState w h p st) i = lk w i := by
  rw [setPState_eq]; rfl

theorem lk_connectError (w : World) (h p pid : Nat) (i : Nat) : lk (connectError w h p pid) i = lk w i := by
  unfold connectError; split
  · rw [lk_setPState]; rfl
  · rfl

theorem hostGet_snd (w : World) (s : Nat) :
    ((hostGet w s).1.isSome ∧ (hostGet w s).2 = { w with lastUsed := (hostPick w (w.auxOf s).key).2 }) ∨
    ((hostGet w s).1 = none ∧
      (hostGet w s).2 = { ({ w with lastUsed := (hostPick w (w.auxOf s).key).2 }).updAux s
        (fun a => { a with status := 503, handler := false }) with noteSent := true }) := by
  unfold hostGet; dsimp only; split
  · exact Or.inl ⟨rfl, rfl⟩
  · exact Or.inr ⟨rfl, rfl⟩

theorem acct_hostGet {w : World} {t : Option Nat} (s : Nat) (hA : Acct t w) (ht : TOk t s) :
    Acct t (hostGet w s).2 := by
  rcases hostGet_snd w s with ⟨_, h⟩ | ⟨_, h⟩ <;> rw [h]
  · exact acct_lastUsed _ hA
  · exact acct_noteSent _ (acct_updAux _ _ (acct_lastUsed _ hA) ht)

theorem lk_hostGet (w : World) (s i : Nat) : lk (hostGet w s).2 i = lk w i := by
  rcases hostGet_snd w s with ⟨_, h⟩ | ⟨_, h⟩ <;> rw [h]
  · rfl
  · exact lk_updAux ({ w with lastUsed := (hostPick w (w.auxOf s).key).2 }) s
      (fun a => { a with status := 503, handler := false }) i

theorem lk_hostAssign (w : World) (s h : Nat) :
    lk (hostAssign w s h) s = (lk w s).map fun l => { l with host := some h } := by
  unfold hostAssign
  cases hs : w.slot s with
  | none => simp [lk, hs]
  | some c =>
    have : ∀ (W : World) (v : Int), lk (setHostLoad W h v) s = lk W s := fun _ _ => rfl
    simp [this, lk_updLink]

theorem lk_backendClose {w : World} {t : Option Nat} (s : Nat) (hA : Acct t w) :
    lk (backendClose w s) s = (lk w s).map fun l => { l with fd := false, proc := none, host := none } := by
  rw [lk, backendClose_slots]
  cases hs : w.slot s with
  | none => simp [lk, hs]
  | some c =>
    have hp : (if c.link.host.isSome then none else c.link.proc) = none := by
      split
      · rfl
      · rename_i hh
        cases hp : c.link.proc with
        | none => rfl
        | some p => exact absurd ((hA.slots s c hs).1 (by simp [hp])) hh
    simp [lk, hs, closedCtx, hp]

theorem acct_reconnect {w : World} {t : Option Nat} (s : Nat) (hA : Acct t w) (ht : TOk t s) :
    Acct none (reconnect w s).2 := by
  have A1 := acct_backendClose s hA ht
  have L1 := lk_backendClose s hA
  have A2 := acct_hostGet s A1 (tok_none s)
  have L2 := lk_hostGet (backendClose w s) s s
  unfold reconnect
  dsimp only
  split
  · exact A2
  · rename_i h _
    refine acct_edit s _ (acct_hostAssign s h A2 (tok_none s) ?_) (tok_none s)
      fun c hc => ⟨rfl, rfl, rfl, fun _ => Or.inr ?_⟩
    · intro c hc
      have := lk_some hc
      rw [L2, L1] at this
      cases hl : lk w s <;> simp [hl] at this
      rw [← this]
    · have hl := lk_some hc
      rw [lk_hostAssign, L2, L1] at hl
      cases hl' : lk w s <;> simp [hl'] at hl
      rw [← hl]; simp

theorem acct_tighten_state {w : World} {t : Option Nat} (s : Nat) (hA : Acct t w) (ht : TOk t s)
    (h : ∀ l, lk w s = some l → l.state ≠ .init) : Acct none w := by
  refine acct_tighten s hA ht ?_
  intro c hc hst
  exact absurd hst (h c.link (lk_some hc))

theorem lk_script (w : World) (sc : Script) (i : Nat) : lk { w with script := sc } i = lk w i := rfl

theorem lk_procAcquire (w : World) (s h p : Nat) :
    lk (procAcquire w s h p) s = (lk w s).map fun l => { l with proc := some p } := by
  unfold procAcquire
  cases hs : w.slot s with
  | none => simp [lk, hs]
  | some c => simp [lk, hs, setProcLoad, World.updLink, World.updSlot, World.updProc]

theorem lk_openFd (w : World) (s : Nat) :
    lk (openFd w s) s = (lk w s).map fun l => { l with fd := true } := by
  unfold openFd
  cases hs : w.slot s with
  | none => simp [lk, hs]
  | some c => simp [lk, hs, World.updLink, World.updSlot]

theorem lk_linkOf {w : World} {s : Nat} {l : Link} (h : lk w s = some l) : w.linkOf s = l := by
  unfold lk at h; unfold World.linkOf
  cases hs : w.slot s <;> simp [hs] at h ⊢
  exact h

theorem acct_wrRegister {w : World} (s h p : Nat) (hA : Acct (some s) w)
    (hh : ∀ c, w.slot s = some c → c.link.proc.isSome ∧ c.link.fd = false) :
    Acct (some s) (wrRegister w s h p) := by
  unfold wrRegister; dsimp only
  exact acct_frame (acct_updAux _ _ (acct_openFd s hA hh) (tok_some s)) (frame_updHost _ _ _)

theorem acct_free {w : World} {t : Option Nat} (s : Nat) (hA : Acct t w) (ht : TOk t s)
    (h : ∀ l, lk w s = some l → l.host = none ∧ l.proc = none ∧ l.fd = false) :
    Acct none { w with slot := fun i => if i = s then none else w.slot i } := by
  have z : (∀ h', hostC h' (w.slot s) = 0) ∧ (∀ h' p', procC h' p' (w.slot s) = 0) ∧
      anyProcC (w.slot s) = 0 ∧ fdC (w.slot s) = 0 := by
    cases hs : w.slot s with
    | none => simp [hostC, procC, anyProcC, fdC]
    | some c =>
      obtain ⟨h1, h2, h3⟩ := h c.link (lk_some hs)
      simp [hostC, procC, anyProcC, fdC, h1, h2, h3]
  refine acct_rewrite (t := t) s none hA rfl rfl (by simp) ⟨fun h' => ?_, hA.hostStat, fun h' p' => ?_,
    hA.procStat, ?_, ?_, ?_⟩ (fun _ hc => nomatch hc) fun i c hi _ h0 => ?_
  · rw [z.1]; simp [hostC]
  · rw [z.2.1]; simp [procC]
  · rw [z.2.2.1]; simp [anyProcC]
  · rw [z.2.2.2]; simp [fdC]
  · rw [z.2.2.2]; simp [fdC]
  · have : decide (t = some i) = false := by simpa using ht.oth i hi
    rw [this] at h0; simpa using h0

theorem acct_finish {w : World} {t : Option Nat} (s : Nat) (ab : Bool) (hA : Acct t w) (ht : TOk t s) :
    Acct none (finish w s ab) := by
  unfold finish
  cases hs : w.slot s with
  | none => exact acct_tighten s hA ht (by simp [hs])
  | some c =>
    dsimp only
    have A1 : Acct t (if ab then w else w.emit (finEv s c)) := by
      split
      · exact hA
      · exact acct_emit _ hA
    generalize (if ab then w else w.emit (finEv s c)) = W at A1 ⊢
    refine acct_free s (acct_backendClose s A1 ht) (tok_none s) ?_
    intro l hl
    rw [lk_backendClose s A1] at hl
    cases hl' : lk W s <;> simp [hl'] at hl
    rw [← hl]; simp

theorem acct_schedRun {w : World} (hA : Acct none w) : Acct none (schedRun w) := by
  unfold schedRun
  refine ⟨hA.1, hA.2, hA.3, hA.4, hA.5, ?_, ?_, hA.8, hA.9⟩
  · have := hA.fds
    show w.curFds - w.pendClose = fdCnt w + ((0 : Nat) : Int)
    omega
  · have := hA.ghost
    show (w.opened : Int) = ((w.closed + w.pendClose : Nat) : Int) + fdCnt w + ((0 : Nat) : Int)
    omega

/-! ### fresh contexts -/

theorem acct_alloc {w : World} (s : Nat) (a : Aux) (hA : Acct none w) (hs : w.slot s = none)
    (hlt : s < w.nslots) :
    Acct none { w with slot := fun i => if i = s then some { aux := a } else w.slot i } := by
  refine acct_rewrite (t := none) s (some { aux := a }) hA rfl rfl (fun _ => hlt) ⟨fun h' => ?_, hA.hostStat,
    fun h' p' => ?_, hA.procStat, ?_, ?_, ?_⟩ (fun c hc => ?_) fun i c hi _ h0 => by simpa using h0
  · simp [hs, hostC]
  · simp [hs, procC]
  · simp [hs, anyProcC]
  · simp [hs, fdC]
  · simp [hs, fdC]
  · rw [Option.some.injEq] at hc; subst hc
    exact ⟨by simp, by simp, by simp⟩

/-- gw_check_extension() on a fresh context: a handler context in GW_STATE_INIT on host `h` -/
def assignFresh (w : World) (s h : Nat) : World :=
  ((hostAssign (w.updLink s fun l => { l with hctx := true, proc := none, state := .init }) s h).updAux s
    fun a => { a with handler := true }).emit (.arrive (some h))

theorem acct_assign {W : World} (s h : Nat) (hA : Acct none W) (L : lk W s = some {}) :
    Acct none (assignFresh W s h) := by
  have ht := tok_none s
  refine acct_emit _ (acct_updAux _ _ (acct_hostAssign s h ?_ ht ?_) ht)
  · refine acct_edit s _ hA ht fun c hc => ?_
    have hl := lk_some hc
    rw [L, Option.some.injEq] at hl
    rw [← hl]; exact ⟨rfl, rfl, rfl, fun _ => Or.inr ⟨rfl, rfl⟩⟩
  · intro c hc
    have := lk_some hc
    rw [lk_updLink, L] at this
    simp at this
    rw [← this]

theorem acct_init (balance : Nat) (wkr : Bool) (nslots : Nat) (specs : List HostSpec) :
    Acct none (initWorld balance wkr nslots specs) := by
  constructor
  · intro h; simp [initWorld, hostCnt, hostC, sumTo_zero]; cases specs[h]? <;> rfl
  · intro h; simp [initWorld]; cases specs[h]? <;> rfl
  · intro h p; simp [initWorld, procCnt, procC, sumTo_zero]; cases specs[h]? <;> rfl
  · intro h p; simp [initWorld]; cases specs[h]? <;> rfl
  · simp [initWorld, anyProcCnt, anyProcC, sumTo_zero]
  · simp [initWorld, fdCnt, fdC, sumTo_zero]
  · simp [initWorld, fdCnt, fdC, sumTo_zero]
  · intro s c h; simp [initWorld] at h
  · intro s _; simp [initWorld]

end LtVerif.Gw
