/-
  C12: li_restricted_strtoint64() and http_header_parse_hoff() (the other sites: see ArithBase's head).
-/
import LtVerif.Proofs.ArithBase
import LtVerif.Proofs.Bytes
namespace LtVerif
namespace Arith
open B

attribute [local irreducible] inI64

/-! ### li_restricted_strtoint64() -/

/-- below '0' the uint8_t difference wraps to ≥ 208 -/
theorem sub48_le_iff (b : UInt8) : (b - 48).toNat ≤ 9 ↔ isDigit b = true := by
  have := b.toNat_lt
  simp only [isDigit, Bool.and_eq_true, decide_eq_true_eq, UInt8.le_iff_toNat_le, UInt8.toNat_sub,
    UInt8.toNat_ofNat]
  omega

/-- `decValue` with an accumulator -/
def decFrom (a : Nat) (v : Bytes) : Nat := v.foldl (fun a d => a * 10 + (d - 48).toNat) a

theorem decFrom_ge (v : Bytes) (a : Nat) : a ≤ decFrom a v :=
  foldl_inv (fun x => a ≤ x) _ v a (Nat.le_refl a) fun b _ h => by omega

/-- `rv`, `i'` returned from accumulator `a`, offset `i`; `i' = i + rest.length` is `*err == v+vlen` -/
structure S64Post (a i : Nat) (rest : Bytes) (rv i' : Nat) : Prop where
  fits : rv ≤ 9223372036854775807
  lo : i ≤ i'
  hi : i' ≤ i + rest.length
  all : i' = i + rest.length ↔ (rest.all isDigit = true ∧ decFrom a rest ≤ 9223372036854775807)
  val : i' = i + rest.length → rv = decFrom a rest

def S64Ok (a i : Nat) (rest : Bytes) (r : R (Int × Nat)) : Prop :=
  ∃ rv i', r = .ok (((rv : Nat) : Int), i') ∧ S64Post a i rest rv i'

theorem strtoI64Go_spec (rest : Bytes) : ∀ (a i : Nat), a ≤ 9223372036854775807 →
    S64Ok a i rest (strtoI64Go rest (a : Int) i) := by
  induction rest with
  | nil =>
    intro a i ha
    exact ⟨a, i, rfl, ha, by omega, by simp, by simp [decFrom, ha], by simp [decFrom]⟩
  | cons b rest ih =>
    intro a i ha
    have hdec : decFrom a (b :: rest) = decFrom (a * 10 + (b - 48).toNat) rest := by simp [decFrom]
    have hge := decFrom_ge rest (a * 10 + (b - 48).toNat)
    have hlen : (b :: rest).length = rest.length + 1 := by simp
    have hgt : b - 48 > 9 ↔ ¬ (b - 48).toNat ≤ 9 := by rw [gt_iff_lt, UInt8.lt_iff_toNat_lt]; exact Nat.not_le.symm
    have e10 : ((a * 10 : Nat) : Int) = (a : Int) * 10 := by simp
    have ec : ((a * 10 + (b - 48).toNat : Nat) : Int) = (a : Int) * 10 + ((b - 48).toNat : Int) := by simp
    have stop (rv : Nat) (hrv : rv ≤ 9223372036854775807)
        (hno : ¬ ((b :: rest).all isDigit = true ∧ decFrom a (b :: rest) ≤ 9223372036854775807)) :
        S64Ok a i (b :: rest) (.ok ((rv : Int), i)) :=
      ⟨rv, i, rfl, hrv, by omega, by omega, ⟨fun h => by omega, fun h => absurd h hno⟩, fun h => by omega⟩
    rw [strtoI64Go]
    refine ite_ind (fun hc => stop a ha fun h => ?_) fun hc => ite_ind (fun h1 => stop a ha fun h => ?_) fun h1 => ?_
    · simp only [List.all_cons, Bool.and_eq_true] at h
      exact hgt.mp hc ((sub48_le_iff b).mpr h.1.1)
    · rw [i64Max_eq] at h1; omega
    have hv : (b - 48).toNat ≤ 9 := Decidable.byContradiction fun h => hc (hgt.mpr h)
    rw [i64Max_eq] at h1
    refine chk_ind (by rw [inI64_iff]; omega) (chk_ind (by rw [inI64_iff, i64Max_eq]; omega)
      (ite_ind (fun h2 => e10 ▸ stop (a * 10) (by omega) fun h => ?_) fun h2 => chk_ind (by rw [i64Max_eq] at h2; rw [inI64_iff]; omega) ?_))
    · rw [i64Max_eq] at h2; omega
    rw [i64Max_eq] at h2
    rw [← ec]
    obtain ⟨rv, i', he, hrv, hi1, hi2, hiff, hval⟩ := ih (a * 10 + (b - 48).toNat) (i + 1) (by omega)
    refine ⟨rv, i', he, hrv, by omega, by omega, ?_, fun h => hdec ▸ hval (by omega)⟩
    rw [hdec, hlen, List.all_cons, Bool.and_eq_true, (sub48_le_iff b).mp hv]
    exact ⟨fun h => ⟨⟨rfl, (hiff.mp (by omega)).1⟩, (hiff.mp (by omega)).2⟩,
      fun h => by have := hiff.mpr ⟨h.1.2, h.2⟩; omega⟩

/-! ### http_header_parse_hoff() -/

theorem hoffBreak_lt_dim : Extracted.hoffBreak < Extracted.hoffDim := by decide +kernel
theorem hoffBreak_le_u16 : Extracted.hoffBreak ≤ u16Max := by decide +kernel

/-- loop invariant of http_header_parse_hoff(): `init0` = hoff[0] on entry, `writes` = stored (index, offset) pairs -/
structure HoffInv (init0 : Nat) (st : HoffSt) : Prop where
  cnt_lo : init0 ≤ st.cnt
  cnt_hi : st.cnt < Extracted.hoffBreak
  wr : ∀ iv ∈ st.writes, init0 < iv.1 ∧ iv.1 ≤ st.cnt ∧ iv.2 ≤ st.hlen

/-- on return of `ret`, at most `total` octets in -/
structure HoffPost (init0 total ret : Nat) (st : HoffSt) : Prop where
  cnt_hi : st.cnt ≤ Extracted.hoffBreak
  idx : ∀ iv ∈ st.writes, init0 < iv.1 ∧ iv.1 < Extracted.hoffDim ∧ iv.2 ≤ st.hlen
  hlen : st.hlen ≤ total
  ret : ret = 0 ∨ (ret = st.hlen ∧ (st.cnt + 1, ret) ∈ st.writes ∧ st.cnt < Extracted.hoffBreak)

def LineOk (init0 total hlen : Nat) : HoffStep → Prop
  | .ub _ => False
  | .ret r st' => HoffPost init0 total r st'
  | .cont st' => HoffInv init0 st' ∧ st'.hlen = hlen

theorem hoffLine_ok {init0 total x : Nat} {st : HoffSt} (prevCR : Bool) (hinv : HoffInv init0 st)
    (hx : st.hlen + x ≤ total) (ht : total ≤ u32Max) : LineOk init0 total (st.hlen + x) (hoffLine st x prevCR) := by
  have hbd := hoffBreak_lt_dim
  have hb16 := hoffBreak_le_u16
  have hlo := hinv.cnt_lo
  have hhi := hinv.cnt_hi
  have snoc : ∀ iv ∈ st.writes ++ [(st.cnt + 1, st.hlen + x)], init0 < iv.1 ∧ iv.1 ≤ st.cnt + 1 ∧ iv.2 ≤ st.hlen + x := by
    intro iv h
    simp only [List.mem_append, List.mem_singleton] at h
    rcases h with h | h
    · have := hinv.wr iv h; omega
    · subst h; simp only; omega
  rw [hoffLine]
  refine ite_ind (fun c => absurd c (by omega)) fun _ => ite_ind
    (fun _ => ite_ind (fun c => absurd c (by omega)) fun _ => ?_) fun _ =>
    ite_ind (fun c => absurd c (by omega)) fun _ => ite_ind (fun _ => ?_) fun _ =>
    ite_ind (fun c => absurd c (by omega)) fun _ => ⟨⟨by simp only; omega, by simp only; omega, snoc⟩, rfl⟩
  · exact ⟨Nat.le_of_lt hhi, fun iv h => by have := snoc iv h; simp only; omega, hx, Or.inr ⟨rfl, by simp, hhi⟩⟩
  · exact ⟨by simp only; omega, fun iv h => by have := hinv.wr iv h; simp only; omega, hx, Or.inl rfl⟩

theorem hoffGo_post (init0 total : Nat) (ht : total ≤ u32Max) (bs : Bytes) : ∀ (x : Nat) (prev : UInt8) (st : HoffSt),
    HoffInv init0 st → st.hlen + x + bs.length ≤ total →
    ∃ ret st', hoffGo bs x prev st = .ok (ret, st') ∧ HoffPost init0 total ret st' := by
  induction bs with
  | nil =>
    intro x prev st hinv htot
    have hbd := hoffBreak_lt_dim
    exact ⟨0, st, rfl, Nat.le_of_lt hinv.cnt_hi,
      (fun iv h => by have := hinv.wr iv h; have := hinv.cnt_hi; omega), (by omega), Or.inl rfl⟩
  | cons b rest ih =>
    intro x prev st hinv htot
    simp only [List.length_cons] at htot
    rw [hoffGo]
    by_cases hb : b = lf
    case neg => rw [if_neg hb]; exact ih (x + 1) b st hinv (by omega)
    rw [if_pos hb]
    have hl := hoffLine_ok (decide (prev = cr)) hinv (show st.hlen + (x + 1) ≤ total by omega) ht
    split
    · rename_i heq; rw [heq] at hl; exact hl.elim
    · rename_i heq; rw [heq] at hl; exact ⟨_, _, rfl, hl⟩
    · rename_i st' heq
      rw [heq] at hl
      exact ih 0 b st' hl.1 (by rw [hl.2]; omega)

end Arith
end LtVerif
