/-
  Huffman (C07), part 1: the bit-level decoder over the code tree of
  `encode_table[]`, and the finite certificates checked by the kernel:

    cert_ok   `decode_tables[256][16]` is exactly the 4-bit unrolling of the
              bit-level tree walk (every state = one inner node of the tree,
              FAIL / SYM / ACCEPTED flags and emitted symbols as the walk says)
    codes_ok  every code of `encode_table[0..255]` leads from the root to the
              leaf of its own symbol, and is 5..30 bits long
    leaves_ok every leaf of an octet is reached by that octet's code only
    pad_ok    up to seven 1-bits from the root stay inside the tree (EOS prefix)

  Tree and state paths are *data* produced by the extractor; nothing about
  them is trusted, the checks below fail if they (or the C tables) are off.
-/
import LtVerif.Model.HpackHuffman
namespace LtVerif.Hpack
open LtVerif B
open LtVerif.Extracted

def _root_.LtVerif.Extracted.HuffTree.child : HuffTree → Bool → HuffTree
  | .node l r, b => if b then r else l
  | _, _ => .none

def descend (t : HuffTree) (p : List Bool) : HuffTree := p.foldl HuffTree.child t

/-- one bit: new subtree, bits since the last symbol boundary, emitted symbol -/
def tstep (t : HuffTree) (p : List Bool) (b : Bool) : Option (HuffTree × List Bool × Option Nat) :=
  match t.child b with
  | .leaf s => if s < 256 then some (hpackHuffTree, [], some s) else none
  | .node l r => some (.node l r, p ++ [b], none)
  | .none => none

def pushNat (o : Option Nat) (out : List Nat) : List Nat :=
  match o with
  | some s => s :: out
  | none => out

/-- the bit-level decoder all four certificates speak of: from subtree `t` reached by the bits `p` since the
    last symbol, over `bits`; symbols go in front of `out` (newest first); `none` = no such path, or EOS -/
def trun : HuffTree → List Bool → List Bool → List Nat → Option (HuffTree × List Bool × List Nat)
  | t, p, [], out => some (t, p, out)
  | t, p, b :: bs, out =>
    match tstep t p b with
    | none => none
    | some (t', p', o) => trun t' p' bs (pushNat o out)

/-- the tree path of automaton state `q`; out of range: a path that is not `accepting` -/
def pathOf (q : Nat) : List Bool :=
  (Extracted.hpackHuffStatePath.getD (q / 16) []).getD (q % 16) [false]

/-- ACCEPTED: fewer than 8 bits since the last symbol, all of them 1 (a prefix of EOS) -/
def accepting (p : List Bool) : Bool := p.length < 8 && p.all id

def bits4 (x : Nat) : List Bool := [x.testBit 3, x.testBit 2, x.testBit 1, x.testBit 0]

def symNat (fl sym : Nat) : List Nat := if fl &&& Extracted.hpackHuffSym ≠ 0 then [sym] else []

def certCheck (t : HuffTree) (q x : Nat) : Bool :=
  match huffEntry q x with
  | (st', fl, sym) =>
    match trun t (pathOf q) (bits4 x) [] with
    | none => fl &&& Extracted.hpackHuffFail ≠ 0
    | some (_, p', o) =>
      fl &&& Extracted.hpackHuffFail = 0 && pathOf st' == p' &&
        (decide (fl &&& Extracted.hpackHuffAccepted ≠ 0) == accepting p') && o == symNat fl sym &&
        decide (st' < 256) && decide (sym < 256)

def certRow (q : Nat) : Bool :=
  match descend hpackHuffTree (pathOf q) with
  | .node l r => (List.range 16).all fun x => certCheck (.node l r) q x
  | _ => false

def certAll : Bool := (List.range 256).all certRow

theorem cert_ok : certAll = true := by decide +kernel

/-- `huffCode` of the octet with number `i` -/
def codeNat (i : Nat) : List Bool :=
  match Extracted.hpackHuffEnc[i]? with
  | some (c, n) => bitsOf c n
  | none => []

def codesAll : Bool :=
  (List.range 256).all fun i =>
    match trun hpackHuffTree [] (codeNat i) [] with
    | some (_, [], [s]) => s == i && (codeNat i).length ≤ 30 && 5 ≤ (codeNat i).length
    | _ => false

theorem codes_ok : codesAll = true := by decide +kernel

theorem pathOf_zero : pathOf 0 = [] := by decide +kernel

def leaves : HuffTree → List (List Bool × Nat)
  | .leaf s => [([], s)]
  | .node l r => (leaves l).map (fun e => (false :: e.1, e.2)) ++ (leaves r).map (fun e => (true :: e.1, e.2))
  | .none => []

def leavesAll : Bool := (leaves hpackHuffTree).all fun e => decide (256 ≤ e.2) || codeNat e.2 == e.1

theorem leaves_ok : leavesAll = true := by decide +kernel

theorem pad_ok : ∀ k, k < 8 →
    (trun hpackHuffTree [] (List.replicate k true) []).map (fun r => (r.2.1, r.2.2)) =
      some (List.replicate k true, []) := by
  decide +kernel

end LtVerif.Hpack
