/-
  Helper lemmas for Model/Cond304.lean: http_etag_matches() against the
  entity-tag list grammar of RFC 9110 (8.8.3, 13.1.2) and the weak/strong
  comparison functions of 8.8.3.2; case analysis of handleCachable.
-/
import LtVerif.Model.Cond304
import LtVerif.Proofs.Bytes
namespace LtVerif
namespace Cond
open B Date

theorem etagLoop_unfold (tag : Bytes) (w : Bool) (s : Bytes) (hs : s ≠ []) :
    etagLoop tag w s = (match etagStep tag w s with
                        | none => true
                        | some rest => etagLoop tag w rest) := by
  rw [etagLoop]
  simp only [hs, dite_false]
  split <;> rename_i h <;> simp [h]

theorem etagLoop_nil (tag : Bytes) (w : Bool) : etagLoop tag w [] = false := by
  rw [etagLoop]; simp

/-! ### entity tags and lists of them -/

/-- entity-tag = [ weak ] opaque-tag -/
structure ETag where
  weak : Bool
  otag : Bytes
deriving Repr, DecidableEq

/-- [ "W/" ] DQUOTE *etagc DQUOTE -/
def ETag.text (t : ETag) : Bytes :=
  (if t.weak then [87, 47] else []) ++ 34 :: (t.otag ++ [34])

/-- etagc excludes DQUOTE -/
def ETag.WF (t : ETag) : Prop := (34 : UInt8) ∉ t.otag

/-- no list delimiter (',' SP HTAB) inside the opaque tag: etagc never contains
    SP/HTAB; ',' is legal in RFC 9110 but not produced by lighttpd (see the
    comment at `c15_etag_list`) -/
def ETag.NoDelim (t : ETag) : Prop := ∀ b ∈ t.otag, isDelim b = false

def AllDelim (s : Bytes) : Prop := ∀ b ∈ s, isDelim b = true

def itemsText : List (ETag × Bytes) → Bytes
  | [] => []
  | (t, sep) :: rest => t.text ++ (sep ++ itemsText rest)

/-- `#entity-tag` with optional whitespace and empty elements -/
def ItemsOk : List (ETag × Bytes) → Prop
  | [] => True
  | (t, sep) :: rest =>
    t.WF ∧ t.NoDelim ∧ AllDelim sep ∧ (rest ≠ [] → (44 : UInt8) ∈ sep) ∧ ItemsOk rest

def etagListText (sep0 : Bytes) (items : List (ETag × Bytes)) : Bytes := sep0 ++ itemsText items

/-- RFC 9110 8.8.3.2 -/
def ETag.cmp (weakOk : Bool) (a b : ETag) : Bool :=
  decide (a.otag = b.otag) && (weakOk || (!a.weak && !b.weak))

/-! ### list lemmas -/

theorem isDelim_comma : isDelim 44 = true := by decide

theorem quote_prefix (x y R : Bytes) (hx : (34 : UInt8) ∉ x) (hy : (34 : UInt8) ∉ y) :
    (x ++ [34]).isPrefixOf (y ++ 34 :: R) = decide (x = y) := by
  induction x generalizing y with
  | nil =>
    cases y with
    | nil => simp [List.isPrefixOf]
    | cons b ys =>
      have hb : b ≠ 34 := fun e => hy (by simp [e])
      simp [List.isPrefixOf]
      intro e; exact hb e.symm
  | cons a xs ih =>
    have ha : a ≠ 34 := fun e => hx (by simp [e])
    have hxs : (34 : UInt8) ∉ xs := fun e => hx (by simp [e])
    cases y with
    | nil =>
      simp [List.isPrefixOf, ha]
    | cons b ys =>
      have hys : (34 : UInt8) ∉ ys := fun e => hy (by simp [e])
      simp only [List.cons_append, List.isPrefixOf, ih ys hxs hys]
      by_cases hab : a = b
      · subst hab; simp
      · simp [hab]

theorem drop_quoted (x R : Bytes) : (34 :: (x ++ 34 :: R)).drop (34 :: (x ++ [34])).length = R := by
  rw [show 34 :: (x ++ 34 :: R) = 34 :: (x ++ [34]) ++ R by simp, List.drop_left]

/-! ### the loop on a well-formed list -/

theorem etagLoop_allDelim (tag : Bytes) (w : Bool) (s : Bytes) (htag : tag ≠ []) (h : AllDelim s) :
    etagLoop tag w s = false := by
  by_cases hs : s = []
  · rw [hs]; exact etagLoop_nil tag w
  · rw [etagLoop_unfold tag w s hs]
    have hstep : etagStep tag w s = some [] := by
      unfold etagStep
      rw [dropWhile_all h]
      have hp : tag.isPrefixOf ([] : Bytes) = false := by
        cases tag with
        | nil => exact absurd rfl htag
        | cons a t => rfl
      simp [stripWeak, hp]
    rw [hstep]
    exact etagLoop_nil tag w

theorem stripWeak_text (t : ETag) (R : Bytes) :
    stripWeak (t.text ++ R) = (t.weak, 34 :: (t.otag ++ 34 :: R)) := by
  unfold ETag.text
  cases t.weak <;> simp [stripWeak]

theorem atEnd_sep (sep : Bytes) (rest : List (ETag × Bytes)) (hsep : AllDelim sep)
    (hc : rest ≠ [] → (44 : UInt8) ∈ sep) : atEnd (sep ++ itemsText rest) = true := by
  cases sep with
  | nil =>
    have : rest = [] := by
      apply Classical.byContradiction
      intro h; have := hc h; simp at this
    rw [this]; rfl
  | cons b bs => exact hsep b (by simp)

theorem skip_to_sep (t : ETag) (hnd : t.NoDelim) (sep : Bytes) (rest : List (ETag × Bytes))
    (hc : rest ≠ [] → (44 : UInt8) ∈ sep) :
    (34 :: (t.otag ++ 34 :: (sep ++ itemsText rest))).dropWhile notComma =
      sep.dropWhile notComma ++ itemsText rest := by
  have h34 : notComma 34 = true := by decide
  have hop : ∀ b ∈ t.otag, notComma b = true := fun b hb => notComma_of_not_delim (hnd b hb)
  simp only [List.dropWhile_cons, h34, if_true]
  rw [List.dropWhile_append_of_pos hop]
  simp only [List.dropWhile_cons, h34, if_true]
  by_cases hr : rest = []
  · rw [hr]; simp [itemsText]
  · -- `sep` has a first ','; the loop stops there with or without the items behind
    obtain ⟨H, hH, e | ⟨r, e⟩⟩ := first_seg 44 sep
    · exact absurd (e ▸ hc hr) hH
    · have hp : ∀ y ∈ H, notComma y = true := fun y hy => bne_iff_ne.mpr fun e => hH (e ▸ hy)
      rw [e, List.append_assoc, List.cons_append, (span_stop _ hp rfl).2, (span_stop _ hp rfl).2]
      rfl

/-- each iteration consumes one item (skip separators, strip `W/`, compare the quoted tag, skip
    to the ','); the current tag's `W/` was dealt with before the loop (`ETag.cmp_in_loop`) -/
theorem etagLoop_items (et : ETag) (het : et.WF) (w : Bool) (items : List (ETag × Bytes))
    (sep0 : Bytes) (h0 : AllDelim sep0) (hok : ItemsOk items) :
    etagLoop (34 :: (et.otag ++ [34])) w (etagListText sep0 items) =
      items.any (fun x => decide (et.otag = x.1.otag) && (!x.1.weak || w)) := by
  induction items generalizing sep0 with
  | nil =>
    simp only [etagListText, itemsText, List.append_nil, List.any_nil]
    exact etagLoop_allDelim _ w sep0 (by simp) h0
  | cons x rest ih =>
    obtain ⟨t, sep⟩ := x
    obtain ⟨hwf, hnd, hsep, hc, hrest⟩ := hok
    have hne : etagListText sep0 ((t, sep) :: rest) ≠ [] := by
      simp [etagListText, itemsText, ETag.text]
    rw [etagLoop_unfold _ w _ hne]
    have hdrop : (etagListText sep0 ((t, sep) :: rest)).dropWhile isDelim
        = t.text ++ (sep ++ itemsText rest) := by
      simp only [etagListText, itemsText]
      rw [List.dropWhile_append_of_pos h0]
      unfold ETag.text
      cases t.weak <;> simp [isDelim]
    have hsuf : AllDelim (sep.dropWhile notComma) :=
      fun b hb => hsep b ((List.dropWhile_suffix _).subset hb)
    have hih := ih (sep.dropWhile notComma) hsuf hrest
    simp only [etagListText] at hih
    have hskip := skip_to_sep t hnd sep rest hc
    unfold etagStep
    rw [hdrop, stripWeak_text]
    simp only
    have hhead : (34 :: (t.otag ++ 34 :: (sep ++ itemsText rest))).head? ≠ some 42 := by
      simp
    have hpre : (34 :: (et.otag ++ [34])).isPrefixOf (34 :: (t.otag ++ 34 :: (sep ++ itemsText rest)))
        = decide (et.otag = t.otag) := by
      simp only [List.isPrefixOf, beq_self_eq_true, Bool.true_and]
      exact quote_prefix et.otag t.otag _ het hwf
    simp only [List.any_cons]
    by_cases hcond : (!t.weak || w) = true
    · simp only [hcond, if_true, hhead, if_false, hpre, Bool.and_true]
      by_cases heq : et.otag = t.otag
      · have hdropn := drop_quoted t.otag (sep ++ itemsText rest)
        simp only [heq, decide_true, if_true, hdropn, atEnd_sep sep rest hsep hc, Bool.true_or]
      · simp only [heq, decide_false, Bool.false_eq_true, if_false, hskip, Bool.false_or]
        exact hih
    · have hcf : (!t.weak || w) = false := by simpa using hcond
      simp only [hcf, Bool.false_eq_true, if_false, hskip, Bool.and_false, Bool.false_or]
      exact hih

theorem text_ne_star (sep0 : Bytes) (items : List (ETag × Bytes)) (h0 : AllDelim sep0) :
    etagListText sep0 items ≠ [42] := by
  intro e
  cases sep0 with
  | nil =>
    cases items with
    | nil => simp [etagListText, itemsText] at e
    | cons x rest =>
      obtain ⟨t, sep⟩ := x
      simp only [etagListText, itemsText, ETag.text, List.nil_append] at e
      cases hw : t.weak <;> simp [hw] at e
  | cons b bs =>
    have hb := h0 b (by simp)
    simp only [etagListText, List.cons_append, List.cons.injEq] at e
    rw [e.1] at hb
    revert hb; decide

theorem ETag.cmp_in_loop {w : Bool} {a b : ETag} (h : (a.weak && !w) = false) :
    ETag.cmp w a b = (decide (a.otag = b.otag) && (!b.weak || w)) := by
  unfold ETag.cmp
  cases w <;> cases ha : a.weak <;> simp_all

theorem etagMatches_list (et : ETag) (het : et.WF) (w : Bool) (sep0 : Bytes)
    (items : List (ETag × Bytes)) (h0 : AllDelim sep0) (hok : ItemsOk items) :
    etagMatches et.text (etagListText sep0 items) w = items.any (fun x => ETag.cmp w et x.1) := by
  unfold etagMatches
  have h1 : ¬ etagListText sep0 items = [42] := text_ne_star sep0 items h0
  have h2 : ¬ et.text = [] := by simp [ETag.text]
  have h3 := stripWeak_text et []
  simp only [List.append_nil] at h3
  simp only [h1, h2, if_false, h3]
  by_cases hw : (et.weak && !w) = true
  · simp only [hw, if_true]
    symm
    rw [List.any_eq_false]
    intro x _
    simp only [Bool.and_eq_true, Bool.not_eq_true'] at hw
    simp [ETag.cmp, hw.1, hw.2]
  · simp only [hw, Bool.false_eq_true, if_false]
    have := etagLoop_items et het w items sep0 h0 hok
    rw [this]
    exact congrArg _ (funext fun x => (ETag.cmp_in_loop (by simpa using hw)).symm)

theorem etagMatches_star (etag : Bytes) (w : Bool) : etagMatches etag [42] w = true := by
  simp [etagMatches]

/-! ### http_response_handle_cachable() -/

theorem ifModifiedSince_false_iff (now : Int) (s : Bytes) (lmtime : Int) :
    ifModifiedSince now s lmtime = false ↔
      ∃ t, dateToTime now s = some t ∧ lmtime ≤ t ∧ t ≠ -1 := by
  unfold ifModifiedSince
  cases h : dateToTime now s with
  | none => simp
  | some t =>
    simp only [Bool.or_eq_false_iff, decide_eq_false_iff_not, beq_eq_false_iff_ne, ne_eq,
      Option.some.injEq, exists_eq_left']
    constructor
    · intro ⟨a, b⟩; exact ⟨by omega, b⟩
    · intro ⟨a, b⟩; exact ⟨by omega, b⟩

theorem handleCachable_304_iff (now : Int) (rq : CondReq) (et : Bytes) (lmod : Option Bytes)
    (lmtime : Int) (hm : rq.method ≤ 1) :
    handleCachable now rq (some et) lmod lmtime = .notModified ↔
      (∃ inm, rq.ifNoneMatch = some inm ∧ etagMatches et inm (!rq.hasRange) = true) ∨
      (rq.ifNoneMatch = none ∧ ∃ ims lm, rq.ifModifiedSince = some ims ∧ lmod = some lm ∧
         (ims = lm ∨ ∃ t, dateToTime now ims = some t ∧ lmtime ≤ t ∧ t ≠ -1)) := by
  -- GET/HEAD is the property's scope; the code tests `≤ 2` (QUERY too), which is all that is used
  have hm2 : rq.method ≤ 2 := by omega
  unfold handleCachable
  -- unfolding settles all combinations of the optional inputs but If-Modified-Since + Last-Modified
  cases rq.ifNoneMatch <;> cases rq.ifModifiedSince <;> cases lmod <;> simp [hm2]
  rw [← ifModifiedSince_false_iff, Classical.or_iff_not_imp_left]

/-! ### concrete instances used by the non-vacuity examples of Props/C15.lean -/

def exCondReq : CondReq :=
  { method := 0, hasRange := false, ifModifiedSince := none, ifNoneMatch := some (ofString "W/\"x\"") }
/-- GET with `If-Modified-Since: Sun, 06 Nov 1994 08:49:37 GMT` (= instant 784111777) -/
def exCondReqIms : CondReq :=
  { method := 0, hasRange := false, ifNoneMatch := none, ifModifiedSince := some (ofString "Sun, 06 Nov 1994 08:49:37 GMT") }
/-- the field value ` W/"y", W/"x"` as a list of entity tags -/
def exItems : List (ETag × Bytes) := [(⟨true, ofString "y"⟩, ofString ", "), (⟨true, ofString "x"⟩, [])]

end Cond
end LtVerif
