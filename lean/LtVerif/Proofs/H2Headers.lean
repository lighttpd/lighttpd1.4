/-
  HTTP/2 header glue (C07): the header-id maps of h2.c / http_header.c /
  ls-hpack are mutually consistent (finite tables, regenerated from the C on
  every run, checked by `decide +kernel`), hence the names h2_send_headers() emits are
  the lower-cased field names; repeated fields (`insert_fold`, `splitRepeated_join`);
  table size updates after SETTINGS (`GlueInv`, `settings_resize_sync`, `updates_le_last`).
-/
import LtVerif.Model.H2Headers
import LtVerif.Proofs.Hpack
namespace LtVerif.H2Headers
open LtVerif B Hpack

def lcName (id : Nat) : Bytes := Extracted.httpHeaderLc.getD id []
/-- 1-based like HPACK indices; `staticName 0 = staticName 1`, callers exclude 0 -/
def staticName (idx : Nat) : Bytes := (staticTable.getD (idx - 1) ([], [])).1
def numIds : Nat := Extracted.httpHeaderLc.length

/-- the default, ":status", is not a request pseudo-header -/
def pseudoName (id : Int) : Bytes :=
  if id = Extracted.h2Authority then ofString ":authority"
  else if id = Extracted.h2Method then ofString ":method"
  else if id = Extracted.h2Path then ofString ":path"
  else if id = Extracted.h2Scheme then ofString ":scheme"
  else if id = Extracted.h2Protocol then ofString ":protocol"
  else ofString ":status"

theorem lc_hashes_to_id : ∀ id, id < numIds → id ≠ 0 → hkeyGet (lcName id) = id ∧ lower (lcName id) = lcName id := by
  decide +kernel

theorem lshpack_idx_names : numIds ≤ Extracted.httpHeaderLshpackIdx.length ∧
    ∀ id, id < numIds → Extracted.httpHeaderLshpackIdx.getD id 0 ≠ 0 →
      Extracted.httpHeaderLshpackIdx.getD id 0 ≤ 61 ∧
      staticName (Extracted.httpHeaderLshpackIdx.getD id 0) = lcName id := by
  decide +kernel

theorem idx_to_id_names : Extracted.lshpackIdxHttpHeader.length = 62 ∧
    ∀ idx, idx < 62 → idx ≠ 0 →
      let id := Extracted.lshpackIdxHttpHeader.getD idx 0
      (0 < id → id.toNat < numIds ∧ lcName id.toNat = staticName idx) ∧
      (id = 0 → hkeyGet (staticName idx) = 0) ∧
      (id < 0 → pseudoName id = staticName idx) := by
  decide +kernel

theorem hkey_table_names : ∀ e ∈ Extracted.httpHeaders, e.1 ≠ 0 → 0 < e.1 ∧ e.1.toNat < numIds ∧ lcName e.1.toNat = e.2 := by
  decide +kernel

theorem lower_length (s : Bytes) : (lower s).length = s.length := by simp [lower]

theorem lcName_hkeyGet (k : Bytes) (h : hkeyGet k ≠ 0) :
    hkeyGet k < numIds ∧ lcName (hkeyGet k) = lower k := by
  unfold hkeyGet at h ⊢
  cases hf : Extracted.httpHeaders.find? (fun e => e.2.length == k.length && e.2 == lower k) with
  | none => simp [hf] at h
  | some e =>
    obtain ⟨id, name⟩ := e
    simp only [hf] at h ⊢
    have hp := List.find?_some hf
    simp only [Bool.and_eq_true, beq_iff_eq] at hp
    have h0 : id ≠ 0 := by intro e0; subst e0; simp at h
    obtain ⟨_, hlt, hlc⟩ := hkey_table_names (id, name) (List.mem_of_find?_eq_some hf) h0
    exact ⟨hlt, hlc.trans hp.2⟩

theorem emitName_keyed (e : RespHdr) (h : e.id = hkeyGet e.key) : emitName e = lower e.key := by
  obtain ⟨id, k, v⟩ := e
  simp only at h ⊢
  subst h
  by_cases h0 : hkeyGet k = 0
  · simp [emitName, h0]
  · obtain ⟨hlt, hlc⟩ := lcName_hkeyGet k h0
    simp only [emitName, h0, ne_eq, not_false_eq_true, if_true]
    cases hi : Extracted.httpHeaderLshpackIdx.getD (hkeyGet k) 0 with
    | zero =>
      simp only
      rw [show Extracted.httpHeaderLc.getD (hkeyGet k) [] = lower k from hlc,
        List.take_left' (lower_length k)]
    | succ idx =>
      simp only
      have h2 := (lshpack_idx_names.2 (hkeyGet k) hlt (by rw [hi]; simp)).2
      rw [hi, hlc] at h2
      rw [← h2]
      simp [staticName]

/-- what http_header_response_insert() builds for a field sent several times -/
def joinRepeated (name : Bytes) : List Bytes → Bytes
  | [] => []
  | [v] => v
  | v :: w :: rest => v ++ [cr, lf] ++ name ++ [colon, sp] ++ joinRepeated name (w :: rest)

theorem idxOf?_lf_append (v rest : Bytes) (h : lf ∉ v) :
    (v ++ cr :: lf :: rest).idxOf? lf = some (v.length + 1) := by
  have hcr : lf ∉ v ++ [cr] := by
    simp only [List.mem_append, List.mem_singleton, not_or]; exact ⟨h, by decide⟩
  have := idxOf?_append_self lf (v ++ [cr]) rest hcr
  simpa using this

theorem joinRepeated_length (name : Bytes) (vs : List Bytes) : vs.length ≤ (joinRepeated name vs).length + 1 := by
  induction vs with
  | nil => simp [joinRepeated]
  | cons v rest ih =>
    cases rest with
    | nil => simp [joinRepeated]
    | cons w r =>
      simp only [joinRepeated, List.length_append, List.length_cons] at ih ⊢
      omega

theorem splitRepeated_join (name : Bytes) : ∀ (vs : List Bytes) (fuel : Nat), vs ≠ [] →
    (∀ v ∈ vs, lf ∉ v) → vs.length ≤ fuel + 1 →
    splitRepeated name.length fuel (joinRepeated name vs) = vs := by
  intro vs
  induction vs with
  | nil => intro _ h; exact absurd rfl h
  | cons v rest ih =>
    intro fuel _ hlf hfuel
    have hv : lf ∉ v := hlf v (by simp)
    cases rest with
    | nil =>
      cases fuel with
      | zero => simp [splitRepeated, joinRepeated]
      | succ f => simp [splitRepeated, joinRepeated, List.idxOf?_eq_none_iff.mpr hv]
    | cons w r =>
      cases fuel with
      | zero => simp at hfuel
      | succ f =>
        have hrest : ∀ x ∈ w :: r, lf ∉ x := fun x hx => hlf x (by simp [hx])
        have hj : joinRepeated name (v :: w :: r) =
            v ++ cr :: lf :: (name ++ [colon, sp] ++ joinRepeated name (w :: r)) := by
          simp [joinRepeated]
        rw [hj]
        simp only [splitRepeated, idxOf?_lf_append v _ hv]
        have h1 : (v ++ cr :: lf :: (name ++ [colon, sp] ++ joinRepeated name (w :: r))).take
            (v.length + 1 - 1) = v := by simp
        have h2 : (v ++ cr :: lf :: (name ++ [colon, sp] ++ joinRepeated name (w :: r))).drop
            (v.length + 1 + 1 + name.length + 2) = joinRepeated name (w :: r) := by
          rw [show v.length + 1 + 1 + name.length + 2 = v.length + (2 + (name.length + 2)) by omega,
            ← List.drop_drop, List.drop_left, ← List.drop_drop]
          show ((name ++ [colon, sp]) ++ joinRepeated name (w :: r)).drop (name.length + 2) = _
          rw [show name.length + 2 = (name ++ [colon, sp]).length by simp, List.drop_left]
        rw [h1, h2, ih f (by simp) hrest (by simp only [List.length_cons] at hfuel ⊢; omega)]

theorem joinRepeated_snoc (name : Bytes) (vs : List Bytes) (v : Bytes) (h : vs ≠ []) :
    joinRepeated name (vs ++ [v]) = joinRepeated name vs ++ [cr, lf] ++ name ++ [colon, sp] ++ v := by
  induction vs with
  | nil => exact absurd rfl h
  | cons x rest ih =>
    cases rest with
    | nil => simp [joinRepeated]
    | cons y r =>
      have := ih (by simp)
      simp only [List.cons_append, joinRepeated] at this ⊢
      rw [this]; simp [List.append_assoc]

theorem joinRepeated_ne_nil (name : Bytes) (vs : List Bytes) (h : vs ≠ []) (hv : ∀ v ∈ vs, v ≠ []) :
    joinRepeated name vs ≠ [] := by
  cases vs with
  | nil => exact absurd rfl h
  | cons x rest =>
    have hx : x ≠ [] := hv x (by simp)
    cases rest with
    | nil => simpa [joinRepeated] using hx
    | cons y r => simp [joinRepeated, hx]

theorem sameSlot_self (k v : Bytes) : sameSlot (hkeyGet k) k ⟨hkeyGet k, k, v⟩ = true := by
  unfold sameSlot
  by_cases h : hkeyGet k = 0 <;> simp [h]

theorem insert_step (k v : Bytes) (init : List Bytes) (r0 : Resp) (hv : v ≠ []) (hinit : init ≠ [])
    (hvs : ∀ x ∈ init, x ≠ [])
    (harr : r0.arr = [⟨hkeyGet k, k, joinRepeated (lower k) init⟩]) :
    (r0.insert k v).arr = [⟨hkeyGet k, k, joinRepeated (lower k) (init ++ [v])⟩] ∧
      (r0.insert k v).repeated = true := by
  have hjne := joinRepeated_ne_nil (lower k) init hinit hvs
  have hfind : r0.find (hkeyGet k) k = some ⟨hkeyGet k, k, joinRepeated (lower k) init⟩ := by
    simp [Resp.find, harr, sameSlot_self]
  constructor
  · simp only [Resp.insert, hv, if_false, Resp.update, hfind, harr, List.map_cons, List.map_nil,
      sameSlot_self, if_true, hjne]
    rw [joinRepeated_snoc _ _ _ hinit]
  · simp [Resp.insert, hv, hfind, hjne]

theorem insert_fold_from (k : Bytes) : ∀ (rest init : List Bytes) (r0 : Resp), init ≠ [] →
    (∀ x ∈ init, x ≠ []) → (∀ x ∈ rest, x ≠ []) →
    r0.arr = [⟨hkeyGet k, k, joinRepeated (lower k) init⟩] →
    r0.repeated = decide (1 < init.length) →
    let r := rest.foldl (fun r v => Resp.insert r k v) r0
    r.arr = [⟨hkeyGet k, k, joinRepeated (lower k) (init ++ rest)⟩] ∧
      r.repeated = decide (1 < (init ++ rest).length) := by
  intro rest
  induction rest with
  | nil => intro init r0 _ _ _ harr hrep; simpa using ⟨harr, hrep⟩
  | cons v t ih =>
    intro init r0 hinit hvs hrest harr hrep
    have hv : v ≠ [] := hrest v (by simp)
    obtain ⟨h1, h2⟩ := insert_step k v init r0 hv hinit hvs harr
    have hlen : 1 < (init ++ [v]).length := by
      have := List.length_pos_iff.mpr hinit
      simp; omega
    have := ih (init ++ [v]) (r0.insert k v) (by simp)
      (fun x hx => by
        rcases List.mem_append.mp hx with h | h
        · exact hvs x h
        · simp at h; subst h; exact hv)
      (fun x hx => hrest x (by simp [hx])) h1 (by rw [h2]; exact (decide_eq_true hlen).symm)
    simpa [List.append_assoc] using this

theorem insert_fold (k : Bytes) (vs : List Bytes) (hne : vs ≠ []) (hvs : ∀ v ∈ vs, v ≠ []) :
    let r := vs.foldl (fun r v => Resp.insert r k v) ({} : Resp)
    r.arr = [⟨hkeyGet k, k, joinRepeated (lower k) vs⟩] ∧ r.repeated = decide (1 < vs.length) := by
  cases vs with
  | nil => exact absurd rfl hne
  | cons v t =>
    have hv : v ≠ [] := hvs v (by simp)
    have h0 : (Resp.insert {} k v).arr = [⟨hkeyGet k, k, joinRepeated (lower k) [v]⟩] ∧
        (Resp.insert {} k v).repeated = false := by
      simp [Resp.insert, hv, Resp.update, Resp.find, joinRepeated]
    have := insert_fold_from k t [v] (Resp.insert {} k v) (by simp) (by simpa using hv)
      (fun x hx => hvs x (by simp [hx])) h0.1 (by rw [h0.2]; simp)
    simpa using this

theorem bodyFields_repeated (k : Bytes) (vs : List Bytes) (alen : Nat) (hk : k ≠ []) (hne : vs ≠ [])
    (hv : ∀ v ∈ vs, v ≠ [] ∧ lf ∉ v)
    (hsize : alen + k.length + (joinRepeated (lower k) vs).length + 4 ≤ 65535)
    (homit : ¬ ((k.headD 0 &&& 0xdf) = 88 ∧ omitHeader k = true)) :
    bodyFields (decide (1 < vs.length)) [⟨hkeyGet k, k, joinRepeated (lower k) vs⟩] alen =
      some (vs.map (fun v => (lower k, v)), alen + k.length + (joinRepeated (lower k) vs).length + 4) := by
  have hjne := joinRepeated_ne_nil (lower k) vs hne (fun v h => (hv v h).1)
  have hname := emitName_keyed ⟨hkeyGet k, k, joinRepeated (lower k) vs⟩ rfl
  have hvals : (if decide (1 < vs.length) = true then
        splitRepeated k.length (joinRepeated (lower k) vs).length (joinRepeated (lower k) vs)
      else [joinRepeated (lower k) vs]) = vs := by
    by_cases h1 : 1 < vs.length
    · simp only [h1, decide_true, if_true]
      have := splitRepeated_join (lower k) vs (joinRepeated (lower k) vs).length hne
        (fun v h => (hv v h).2) (joinRepeated_length _ _)
      rwa [lower_length] at this
    · simp only [h1, decide_false, Bool.false_eq_true, if_false]
      cases vs with
      | nil => exact absurd rfl hne
      | cons x t =>
        cases t with
        | nil => simp [joinRepeated]
        | cons y r => simp at h1
  simp only [bodyFields, hk, hjne, or_self, if_false]
  rw [if_neg (by omega)]
  have homit' : ¬ (hkeyGet k = 0 ∧ (k.headD 0 &&& 0xdf) = 88 ∧ omitHeader k = true) :=
    fun h => homit h.2
  simp only [homit', if_false, hname, hvals, List.append_nil]

def encAfter (t : Table) (vs : List Nat) : Table :=
  vs.foldl (fun t v => t.setMaxCapacity (peerTableSize v)) t

/-- ties h2con's bookkeeping `g` to lshpack's encoder table `te`; `t0` = the encoder table when the
    previous header block went out (what the peer's decoder still has) -/
structure GlueInv (t0 : Table) (g : EncGlue) (te : Table) : Prop where
  cur : te.curMax = g.size
  size_le : tableSize te.dyn ≤ te.curMax
  pending : if g.pending then te.dyn = evict g.tszMin t0.dyn ∧ g.tszMin ≤ g.size
    else te.dyn = t0.dyn ∧ g.size = t0.curMax

theorem glueInv_step (t0 : Table) (g : EncGlue) (te : Table) (v : Nat) (h : GlueInv t0 g te) :
    GlueInv t0 (g.settings v) (te.setMaxCapacity (peerTableSize v)) := by
  obtain ⟨hcur, hsz, hcase⟩ := h
  unfold EncGlue.settings
  by_cases heq : peerTableSize v = g.size
  · simp only [heq, if_true]
    have hdyn : (te.setMaxCapacity g.size).dyn = te.dyn := by
      simp only [Table.setMaxCapacity]
      exact evict_of_le _ _ (by omega)
    refine ⟨rfl, ?_, ?_⟩
    · rw [hdyn]; simpa [Table.setMaxCapacity, ← hcur] using hsz
    · rw [hdyn]; exact hcase
  · simp only [heq, if_false]
    refine ⟨rfl, tableSize_evict_le _ _, ?_⟩
    simp only [if_true]
    by_cases hp : g.pending = true
    · simp only [hp, if_true] at hcase
      obtain ⟨hd, hle⟩ := hcase
      simp only [hp, not_true_eq_false, false_or]
      constructor
      · simp only [Table.setMaxCapacity, hd, evict_evict]
        by_cases hlt : peerTableSize v < g.tszMin
        · simp only [hlt, if_true]; congr 1; omega
        · simp only [hlt, if_false]; congr 1; omega
      · by_cases hlt : peerTableSize v < g.tszMin
        · simp [hlt]
        · simp only [hlt, if_false]; omega
    · have hp' : g.pending = false := by simpa using hp
      simp only [hp', Bool.false_eq_true, if_false] at hcase
      simp only [hp', Bool.false_eq_true, not_false_eq_true, true_or, if_true]
      exact ⟨by simp [Table.setMaxCapacity, hcase.1], Nat.le_refl _⟩

theorem glueInv_fold (t0 : Table) : ∀ (vs : List Nat) (g : EncGlue) (te : Table), GlueInv t0 g te →
    GlueInv t0 (vs.foldl EncGlue.settings g) (vs.foldl (fun t v => t.setMaxCapacity (peerTableSize v)) te) := by
  intro vs
  induction vs with
  | nil => intro g te h; exact h
  | cons v rest ih => intro g te h; exact ih _ _ (glueInv_step t0 g te v h)

theorem settings_resize_sync (t0 : Table) (hwf : t0.WF) (vs : List Nat) :
    let g := vs.foldl EncGlue.settings ({ size := t0.curMax } : EncGlue)
    let te := encAfter t0 vs
    let td := g.updates.foldl Table.updateMax t0
    td.dyn = te.dyn ∧ td.curMax = te.curMax := by
  have h0 : GlueInv t0 ({ size := t0.curMax } : EncGlue) t0 :=
    ⟨rfl, hwf.size_le, by simp⟩
  have h := glueInv_fold t0 vs _ _ h0
  simp only [encAfter]
  generalize vs.foldl EncGlue.settings ({ size := t0.curMax } : EncGlue) = g at h ⊢
  generalize vs.foldl (fun t v => t.setMaxCapacity (peerTableSize v)) t0 = te at h ⊢
  obtain ⟨hcur, _, hcase⟩ := h
  unfold EncGlue.updates
  by_cases hp : g.pending = true
  · simp only [hp, if_true] at hcase ⊢
    obtain ⟨hd, hle⟩ := hcase
    by_cases hm : g.tszMin = g.size
    · simp only [hm, if_true, List.foldl_cons, List.foldl_nil, Table.updateMax]
      exact ⟨by rw [hd, hm], hcur.symm⟩
    · simp only [hm, if_false, List.foldl_cons, List.foldl_nil, Table.updateMax, evict_evict]
      refine ⟨?_, hcur.symm⟩
      rw [hd]; congr 1; omega
  · have hp' : g.pending = false := by simpa using hp
    simp only [hp', Bool.false_eq_true, if_false, List.foldl_nil] at hcase ⊢
    exact ⟨hcase.1.symm, by rw [hcur, hcase.2]⟩

theorem settings_size (g : EncGlue) (v : Nat) : (g.settings v).size = peerTableSize v := by
  unfold EncGlue.settings
  simp only
  split
  · rename_i h; exact h.symm
  · rfl

theorem updates_le_size (t0 : Table) (g : EncGlue) (te : Table) (h : GlueInv t0 g te) :
    ∀ u ∈ g.updates, u ≤ g.size := by
  have hcase := h.pending
  unfold EncGlue.updates
  intro u hu
  by_cases hp : g.pending = true
  · simp only [hp, if_true] at hcase hu
    split at hu
    · simp at hu; omega
    · simp at hu; rcases hu with rfl | rfl
      · exact hcase.2
      · exact Nat.le_refl _
  · have hp' : g.pending = false := by simpa using hp
    simp [hp'] at hu

theorem updates_le_last (t0 : Table) (hwf : t0.WF) (vs : List Nat) (v : Nat)
    (hlast : vs.getLast? = some v) :
    ∀ u ∈ (vs.foldl EncGlue.settings ({ size := t0.curMax } : EncGlue)).updates, u ≤ v := by
  have h0 : GlueInv t0 ({ size := t0.curMax } : EncGlue) t0 := ⟨rfl, hwf.size_le, by simp⟩
  have h := glueInv_fold t0 vs _ _ h0
  have hle := updates_le_size t0 _ _ h
  obtain ⟨init, rfl⟩ := List.getLast?_eq_some_iff.mp hlast
  intro u hu
  have := hle u hu
  rw [List.foldl_append] at this
  simp only [List.foldl_cons, List.foldl_nil, settings_size, peerTableSize] at this
  omega

end LtVerif.H2Headers
