/-
  C17, chunk queue: the steps the temp-file functions are made of (new temp file, close or drop
  the last chunk, the write to it, what MEM chunks a queue holds (`NoMem`, used by the later files), the iovec of
  chunkqueue_append_cqmem_to_tempfile(): `gatherSrc`, `cqmemPre_cases`), each with its facts.
-/
import LtVerif.Proofs.CqStep
namespace LtVerif.Cq

/-! ## a new temp file; closing or dropping the last chunk -/

theorem sz_addFile (w : World) (f : File) (i : Nat) :
    sz (w.addFile f) i = if i = w.nfiles then f.content.length else sz w i := by
  simp only [sz, World.addFile]
  split <;> rfl

theorem createTemp_spec (w : World) (dir : Nat) (hf : Fresh w) :
    Fresh (createTemp w dir).1 ∧ Grows w (createTemp w dir).1 ∧
      (createTemp w dir).2 < (createTemp w dir).1.nfiles ∧ sz (createTemp w dir).1 (createTemp w dir).2 = 0 := by
  simp only [createTemp]
  refine ⟨fun fid hle => ?_, ⟨Nat.le_succ _, fun i => ?_, rfl⟩, Nat.lt_succ_self _, ?_⟩
  · rw [sz_addFile]
    have hle' : w.nfiles + 1 ≤ fid := hle
    split
    · rfl
    · exact hf fid (by omega)
  · rw [sz_addFile]
    split
    · rename_i h; subst h; rw [hf _ (Nat.le_refl _)]; exact Nat.zero_le _
    · exact Nat.le_refl _
  · rw [sz_addFile]; simp

theorem wres_createTemp (k : Kind) (w : World) (dir f : Nat) :
    wres k (createTemp w dir).1 f = wres k w f + hit k .fd w.nfiles f + hit k .name w.nfiles f := by
  by_cases h : f = w.nfiles
  · subst h; cases k <;> simp [wres, createTemp, World.addFile, hit]
  · have h' : ¬ w.nfiles = f := fun e => h e.symm
    cases k <;> simp [wres, createTemp, World.addFile, h, h', hit]

theorem createTemp_res (w : World) (dir : Nat) (cs : List Chunk) :
    Conserve w cs (createTemp w dir).1 (cs ++ [.file (createTemp w dir).2 0 0 true .rw]) := by
  refine ⟨Calm.of_eq rfl rfl rfl rfl, fun k f => ?_⟩
  rw [wres_createTemp, csum_append]
  simp only [csum_cons, csum_nil, cres_file, createTemp]
  simp [Fd.isOpen]
  omega

theorem mkstempDirs_cases (fuel : Nat) (w : World) (idx : Nat) {w0 : World} (h0 : Quiet w0 w) :
    ∃ w1, Quiet w0 w1 ∧
      ((mkstempDirs fuel w idx).1 = w1 ∧ (mkstempDirs fuel w idx).2.2 = none ∨
        ∃ dir, (mkstempDirs fuel w idx).1 = (createTemp w1 dir).1 ∧
          (mkstempDirs fuel w idx).2.2 = some w1.nfiles) := by
  induction fuel generalizing w idx with
  | zero => exact ⟨w, h0, Or.inl ⟨rfl, rfl⟩⟩
  | succ fuel ih =>
    simp only [mkstempDirs]
    split
    · split
      · exact ih (popM w).1 (idx + 1) (h0.trans (popM_quiet w))
      · exact ⟨(popM w).1, (h0.trans (popM_quiet w)), Or.inr ⟨idx, rfl, rfl⟩⟩
    · exact ⟨w, h0, Or.inl ⟨rfl, rfl⟩⟩

/-- chunkqueue_get_append_newtempfile(): failed attempts only take scripted results; the
    successful one creates the next unused id -/
theorem newTempfile_cases (w : World) (q : Cq) : ∃ w1 idx, Quiet w w1 ∧
    (newTempfile w q = (w1, { q with tdIdx := idx }, false) ∨
      ∃ dir, newTempfile w q = ((createTemp w1 dir).1,
        { q with chunks := q.chunks ++ [.file w1.nfiles 0 0 true .rw], tdIdx := idx }, true)) := by
  unfold newTempfile
  split
  · obtain ⟨w1, hp, h⟩ := mkstempDirs_cases (w.ndirs - q.tdIdx + 1) w q.tdIdx (Quiet.refl w)
    generalize mkstempDirs (w.ndirs - q.tdIdx + 1) w q.tdIdx = r at h
    obtain ⟨w', idx, o⟩ := r
    simp only at h
    rcases h with ⟨rfl, rfl⟩ | ⟨dir, rfl, rfl⟩
    · exact ⟨w', idx, hp, Or.inl rfl⟩
    · exact ⟨w1, idx, hp, Or.inr ⟨dir, rfl⟩⟩
  · refine ⟨(popM w).1, q.tdIdx, popM_quiet w, ?_⟩
    generalize popM w = p
    obtain ⟨w1, fails⟩ := p
    dsimp only
    split
    · exact Or.inl rfl
    · exact Or.inr ⟨0, rfl⟩

theorem closeLast_step {w : World} {q : Cq} {fid off len : Nat} {fd : Fd}
    (hl : q.chunks.getLast? = some (.file fid off len true fd)) (ho : fd.isOpen = true) :
    QStep w q (w.closeFd fid, { q with chunks := setLast q.chunks (.file fid off len true .none) }) (q.abs w) := by
  have hr : Conserve w q.chunks (w.closeFd fid) (setLast q.chunks (.file fid off len true .none)) := by
    refine ⟨(closeFd_same w fid).calm, fun k f => ?_⟩
    rw [csum_setLast k f _ hl, wres_closeFd, cres_file, cres_file]
    have hn : Fd.none.isOpen = false := rfl
    by_cases hf : fid = f <;> cases k <;> simp [hn, ho, hf] <;> omega
  refine QStep.mk' (closeFd_same w fid) hr fun hq => ?_
  have hv := valid_last hq.valid hl
  exact ⟨valid_setLast hq.valid ⟨hv.1, hv.2.1, hv.2.2.1, Or.inr (Or.inl rfl)⟩,
    (abs_setLast hl (x := []) (by simp [Chunk.content])).trans (List.append_nil _),
    by simp only [Cq.length]; omega⟩

theorem bumpDir_chunks (w : World) (q : Cq) (e : Bool) : (bumpDir w q e).1.chunks = q.chunks := by
  unfold bumpDir; split <;> rfl

theorem dropOrCloseLast_step (w : World) (q : Cq) : QStep w q (dropOrCloseLast w q) (q.abs w) := by
  unfold dropOrCloseLast
  split
  · rename_i c hl
    split
    · exact removeEmpty_step w q
    · split
      · split
        · rename_i ho
          exact closeLast_step hl ho
        · exact QStep.refl w q
      · exact QStep.refl w q
  · exact QStep.refl w q

theorem tempfileErr_step (w : World) (q : Cq) (e : Bool) :
    QStep w q ((tempfileErr w q e).1, (tempfileErr w q e).2.1) (q.abs w) := by
  have := dropOrCloseLast_step w (bumpDir w q e).1
  rw [show (bumpDir w q e).1.abs w = q.abs w by simp only [Cq.abs, bumpDir_chunks]] at this
  exact ⟨this.1, bumpDir_chunks w q e ▸ this.res,
    fun hq => this.qv (by unfold bumpDir; split; exact ⟨hq.valid, hq.len⟩; exact hq)⟩

theorem tempfileErr_noretry (w : World) (q : Cq) : (tempfileErr w q false).2.2 = false := by
  have hb : bumpDir w q false = (q, false) := by simp [bumpDir]
  unfold tempfileErr
  rw [hb]

/-! ## the chunks left after a failed write -/

theorem rfLoop_mem (w : World) (cs : List Chunk) : ∀ x ∈ (rfLoop w cs).2, x ∈ cs := by
  fun_induction rfLoop w cs with
  | case1 w => intro x hx; exact hx
  | case2 w c cs h0 ih => intro x hx; exact List.mem_cons_of_mem _ (ih x hx)
  | case3 w c cs h0 => intro x hx; exact hx

theorem reLoop_mem (w : World) (c : Chunk) (cs : List Chunk) : ∀ x ∈ (reLoop w c cs).2, x ∈ c :: cs := by
  fun_induction reLoop w c cs with
  | case1 w c => intro x hx; exact hx
  | case2 w c c1 h0 =>
    intro x hx
    simp only [List.mem_singleton] at hx
    subst hx
    exact List.mem_cons_self ..
  | case3 w c c1 h0 c2 cs w1 cs1 heq ih =>
    intro x hx
    rw [heq] at ih
    simp only [List.mem_cons] at hx ih ⊢
    rcases hx with hx | hx
    · exact Or.inl hx
    · rcases ih x hx with h | h
      · exact Or.inr (Or.inr (Or.inl h))
      · exact Or.inr (Or.inr (Or.inr h))
  | case4 w c c1 cs h0 w1 cs1 heq ih =>
    intro x hx
    rw [heq] at ih
    simp only [List.mem_cons] at hx ih ⊢
    rcases hx with hx | hx
    · exact Or.inl hx
    · exact Or.inr (ih x hx)

theorem removeEmpty_mem (w : World) (q : Cq) :
    (∀ x ∈ (removeEmpty w q).2.chunks, x ∈ q.chunks) ∧ (removeEmpty w q).2.tdIdx = q.tdIdx := by
  unfold removeEmpty
  have h1 := rfLoop_mem w q.chunks
  generalize rfLoop w q.chunks = r at h1
  obtain ⟨w1, cs1⟩ := r
  dsimp only at h1 ⊢
  split
  · exact ⟨fun x hx => (by cases hx), rfl⟩
  · rename_i c rest
    have h2 := reLoop_mem w1 c rest
    generalize reLoop w1 c rest = r2 at h2
    obtain ⟨w2, cs2⟩ := r2
    exact ⟨fun x hx => h1 x (h2 x hx), rfl⟩

theorem dropOrCloseLast_mem (w : World) (q : Cq) :
    (∀ x ∈ (dropOrCloseLast w q).2.chunks, x ∈ q.chunks ∨ ∃ fid off len, x = Chunk.file fid off len true .none) ∧
      (dropOrCloseLast w q).2.tdIdx = q.tdIdx := by
  unfold dropOrCloseLast
  split
  · split
    · obtain ⟨a, b⟩ := removeEmpty_mem w q
      exact ⟨fun x hx => Or.inl (a x hx), b⟩
    · split
      · split
        · refine ⟨fun x hx => ?_, rfl⟩
          simp only [setLast] at hx
          rcases List.mem_append.mp hx with h | h
          · exact Or.inl (List.dropLast_subset _ h)
          · simp only [List.mem_singleton] at h
            exact Or.inr ⟨_, _, _, h⟩
        · exact ⟨fun x hx => Or.inl hx, rfl⟩
      · exact ⟨fun x hx => Or.inl hx, rfl⟩
  · exact ⟨fun x hx => Or.inl hx, rfl⟩

/-! ## writing to the last (temp) chunk -/

theorem writeAt_length (c : Bytes) (pos : Nat) (d : Bytes) :
    (writeAt c pos d).length = min pos c.length + d.length + (c.length - (pos + d.length)) := by
  simp only [writeAt, List.length_append, List.length_take, List.length_drop]

theorem writeAt_end (c : Bytes) (d : Bytes) : writeAt c c.length d = c ++ d := by
  simp [writeAt, List.drop_of_length_le]

theorem sz_pwrite_same (w : World) (fid pos : Nat) (d : Bytes) :
    sz (w.pwrite fid pos d) fid = (writeAt (w.files fid).content pos d).length := by
  simp [World.pwrite, sz]

theorem sz_pwrite_other (w : World) {fid i : Nat} (pos : Nat) (d : Bytes) (h : i ≠ fid) :
    sz (w.pwrite fid pos d) i = sz w i := by
  simp [World.pwrite, sz, setFile_files_other w _ h]

theorem pwrite_grows (w : World) (fid pos : Nat) (d : Bytes) : Grows w (w.pwrite fid pos d) := by
  refine ⟨Nat.le_refl _, fun i => ?_, rfl⟩
  by_cases hi : i = fid
  · subst hi
    rw [sz_pwrite_same, writeAt_length]
    simp only [sz]
    omega
  · rw [sz_pwrite_other w pos d hi]; exact Nat.le_refl _

theorem pwrite_fresh {w : World} {fid : Nat} (pos : Nat) (d : Bytes) (hf : Fresh w) (h : fid < w.nfiles) :
    Fresh (w.pwrite fid pos d) := by
  intro i hle
  have hle' : w.nfiles ≤ i := hle
  rw [sz_pwrite_other w pos d (by omega)]
  exact hf i hle'

theorem sz_addTl (w : World) (fid : Nat) (n : Int) (i : Nat) : sz (w.addTl fid n) i = sz w i := by
  by_cases hi : i = fid
  · subst hi; simp [sz, World.addTl]
  · simp [sz, World.addTl, setFile_files_other w _ hi]

theorem addTl_grows (w : World) (fid : Nat) (n : Int) : Grows w (w.addTl fid n) :=
  ⟨Nat.le_refl _, fun i => by rw [sz_addTl]; exact Nat.le_refl _, rfl⟩

theorem addTl_fresh {w : World} (fid : Nat) (n : Int) (hf : Fresh w) : Fresh (w.addTl fid n) :=
  fun i hle => by rw [sz_addTl]; exact hf i hle

theorem writeGrow_tstep (w : World) (q : Cq) (d : Bytes) :
    TStep w q (writeLast w q d) (growLast q d.length) := by
  intro hf hq
  unfold writeLast growLast
  split
  · rename_i fid off len t fd hl
    have hv := valid_last hq.valid hl
    simp only [Chunk.Valid] at hv
    have hg := (pwrite_grows w fid len d).trans (addTl_grows _ fid (if t = true then (d.length : Int) else 0))
    refine ⟨addTl_fresh fid _ (pwrite_fresh len d hf hv.1), hg, ?_⟩
    have hr := remSum_last hl
    have hlen := hq.len
    refine ⟨valid_setLast (hq.valid.mono hg) ?_, ?_⟩
    · simp only [Chunk.Valid]
      refine ⟨hv.1, by omega, ?_, hv.2.2.2⟩
      rw [sz_addTl, sz_pwrite_same, writeAt_length]
      have := hv.2.2.1
      simp only [sz] at this
      omega
    · simp only [remSum_setLast, Chunk.rem] at *
      omega
  · exact ⟨hf, Grows.refl w, hq⟩

theorem writeLast_calm (w : World) (q : Cq) (d : Bytes) :
    Calm w (writeLast w q d) ∧ (writeLast w q d).wsched = w.wsched := by
  unfold writeLast
  split
  · exact ⟨Calm.of_eq rfl rfl rfl rfl, rfl⟩
  · exact ⟨Calm.refl w, rfl⟩

theorem writeGrow_res (w : World) (q : Cq) (d : Bytes) :
    Conserve w q.chunks (writeLast w q d) (growLast q d.length).chunks := by
  refine ⟨(writeLast_calm w q d).1, ?_⟩
  unfold writeLast growLast
  split
  · rename_i fid off len t fd hl
    intro k f
    simp only
    rw [csum_setLast k f _ hl, cres_file, cres_file, wres_addTl, (pwrite_res w fid len d).same]
    by_cases hk : fid = f ∧ k = Kind.tlen
    · have : hit k .tlen fid f = 1 := by simp [hit, hk]
      cases t <;> simp [this] <;> omega
    · have : hit k .tlen fid f = 0 := by simp [hit, hk]
      cases t <;> simp [this] <;> omega
  · exact fun _ _ => rfl

/-! ## MEM chunks in a queue -/

theorem leadingMem_length_le (cs : List Chunk) : (leadingMem cs).length ≤ cs.length := by
  induction cs with
  | nil => simp [leadingMem]
  | cons c cs ih =>
    simp only [leadingMem]
    split
    · simp only [List.length_cons]; omega
    · simp

theorem leadingMem_all {cs : List Chunk} (h : (leadingMem cs).length = cs.length) :
    leadingMem cs = cs ∧ ∀ c ∈ cs, c.isMem = true := by
  induction cs with
  | nil => exact ⟨rfl, fun c hc => by cases hc⟩
  | cons c cs ih =>
    simp only [leadingMem] at h ⊢
    split at h
    · rename_i hm
      simp only [List.length_cons, Nat.add_right_cancel_iff] at h
      obtain ⟨a, b⟩ := ih h
      simp only [hm, if_true, a, true_and]
      intro x hx
      cases hx with
      | head => exact hm
      | tail _ hx => exact b x hx
    · simp at h

def NoMem (cs : List Chunk) : Prop := ∀ c ∈ cs, c.isMem = false

theorem leadingMem_noMem {cs : List Chunk} (h : NoMem cs) : leadingMem cs = [] := by
  cases cs with
  | nil => rfl
  | cons c rest => simp [leadingMem, h c (List.mem_cons_self ..)]

theorem NoMem.append {a b : List Chunk} (ha : NoMem a) (hb : NoMem b) : NoMem (a ++ b) :=
  List.forall_mem_append.mpr ⟨ha, hb⟩

theorem NoMem.single {c : Chunk} (h : c.isMem = false) : NoMem [c] :=
  List.forall_mem_cons.mpr ⟨h, fun _ h => nomatch h⟩

theorem NoMem.setLast {a : List Chunk} {c : Chunk} (ha : NoMem a) (hc : c.isMem = false) : NoMem (setLast a c) :=
  NoMem.append (fun x hx => ha x (List.dropLast_subset _ hx)) (NoMem.single hc)

theorem firstIsMem_noMem {q : Cq} (h : NoMem q.chunks) : firstIsMem q = false := by
  unfold firstIsMem firstIsMemL
  split
  · rename_i c _ heq
    exact h c (by rw [heq]; exact List.mem_cons_self ..)
  · rfl

theorem DestStep.nomem {dest dest' : Cq} {c : Chunk} (h : DestStep dest dest' c) (hd : NoMem dest.chunks) :
    NoMem dest'.chunks := by
  rcases h.2 with e | ⟨x, e, hx, _⟩
  · rw [e]; exact hd
  · rw [e]; exact hd.append (NoMem.single hx)

theorem tempfileErr_noMem (w : World) (q : Cq) (e : Bool) (h : NoMem q.chunks) :
    NoMem (tempfileErr w q e).2.1.chunks := by
  intro c hc
  rcases (dropOrCloseLast_mem w (bumpDir w q e).1).1 c hc with h' | ⟨fid, off, len, h'⟩
  · exact h c (bumpDir_chunks w q e ▸ h')
  · subst h'; rfl

/-! ## the last chunk around a write -/

theorem getAppendTempfile_of_mem {w : World} {q : Cq} (h : ∀ c ∈ q.chunks, c.isMem = true) :
    getAppendTempfile w q = newTempfile w q := by
  unfold getAppendTempfile
  split
  · rename_i fid off len fd hl
    have := h (.file fid off len true fd) (List.mem_of_getLast? hl)
    simp [Chunk.isMem] at this
  · rfl

theorem newTempfile_chunks {w : World} {q : Cq} {w' : World} {q' : Cq}
    (h : newTempfile w q = (w', q', true)) :
    ∃ fid, q'.chunks = q.chunks ++ [.file fid 0 0 true .rw] ∧ q'.bytesIn = q.bytesIn ∧
      q'.bytesOut = q.bytesOut := by
  obtain ⟨w1, idx, hp, e | ⟨dir, e⟩⟩ := newTempfile_cases w q <;> rw [e] at h <;> cases h
  exact ⟨_, rfl, rfl, rfl⟩

theorem getAppendTempfile_last {w : World} {q : Cq} {w' : World} {q' : Cq}
    (h : getAppendTempfile w q = (w', q', true)) :
    ∃ fid off len fd, q'.chunks.getLast? = some (.file fid off len true fd) := by
  have hnew : ∀ {w : World} {q : Cq}, newTempfile w q = (w', q', true) →
      ∃ fid off len fd, q'.chunks.getLast? = some (.file fid off len true fd) := fun h => by
    obtain ⟨fid, hc, _⟩ := newTempfile_chunks h
    exact ⟨fid, 0, 0, .rw, by rw [hc]; simp⟩
  unfold getAppendTempfile at h
  split at h
  · rename_i fid off len fd hl
    split at h
    · split at h
      · cases h
        exact ⟨fid, off, len, fd, hl⟩
      · exact hnew h
    · exact hnew h
  · exact hnew h

theorem growLast_file {q : Cq} {fid off len : Nat} {t : Bool} {fd : Fd} (n : Nat)
    (hl : q.chunks.getLast? = some (.file fid off len t fd)) :
    (growLast q n).chunks = setLast q.chunks (.file fid off (len + n) t fd) ∧ (growLast q n).tdIdx = q.tdIdx := by
  unfold growLast
  rw [hl]
  exact ⟨rfl, rfl⟩

theorem growLast_concat (q : Cq) (pre : List Chunk) (fid off len : Nat) (t : Bool) (fd : Fd) (n : Nat)
    (h : q.chunks = pre ++ [.file fid off len t fd]) :
    (growLast q n).chunks = pre ++ [.file fid off (len + n) t fd] := by
  unfold growLast
  have hl : q.chunks.getLast? = some (.file fid off len t fd) := by rw [h]; simp
  rw [hl]
  simp [setLast, h]

/-! ## the iovec -/

theorem gatherSrc_length (cs : List Chunk) (slots len : Nat) :
    (gatherSrc cs slots len).length ≤ len ∧ (gatherSrc cs slots len).length ≤ remSum cs := by
  fun_induction gatherSrc cs slots len with
  | case1 => simp
  | case2 => simp
  | case3 rest slots len d off cap clen piece h0 =>
    simp only [piece, clen, List.length_take, List.length_drop, remSum_cons, Chunk.rem]
    omega
  | case4 rest slots len d off cap clen piece h0 ih =>
    simp only [clen] at ih
    simp only [List.length_append, piece, clen, List.length_take, List.length_drop, remSum_cons, Chunk.rem]
    omega
  | case5 => simp

theorem gatherSrc_prefix {w : World} (cs : List Chunk) (slots len : Nat) :
    gatherSrc cs slots len <+: absChunks w cs := by
  fun_induction gatherSrc cs slots len with
  | case1 => exact List.nil_prefix
  | case2 => exact List.nil_prefix
  | case3 rest slots len d off cap clen piece h0 =>
    simp only [absChunks_cons, Chunk.content]
    exact List.IsPrefix.trans (List.take_prefix _ _) (List.prefix_append _ _)
  | case4 rest slots len d off cap clen piece h0 ih =>
    simp only [absChunks_cons, Chunk.content]
    have hfull : piece = d.drop off := by
      simp only [piece, clen]
      refine List.take_of_length_le ?_
      simp only [List.length_drop]
      simp only [clen] at h0
      omega
    rw [hfull]
    exact (List.prefix_append_right_inj _).mpr ih
  | case5 => exact List.nil_prefix

/-- head of chunkqueue_append_cqmem_to_tempfile(): dest is spilled first, or its chunks —
    all MEM, fewer than 16, possibly none — join the iovec -/
theorem cqmemPre_cases (toTemp : World → Cq → World × Cq × Bool) (w : World) (dest : Cq) :
    (1 ≤ (leadingMem dest.chunks).length ∧
      cqmemPre toTemp w dest = ((toTemp w dest).1, (toTemp w dest).2.1, (toTemp w dest).2.2, [], 0)) ∨
    ((leadingMem dest.chunks = [] ∨ leadingMem dest.chunks = dest.chunks ∧ ∀ c ∈ dest.chunks, c.isMem = true) ∧
      (leadingMem dest.chunks).length < 16 ∧
      cqmemPre toTemp w dest =
        (w, dest, true, absChunks w (leadingMem dest.chunks), (leadingMem dest.chunks).length)) := by
  unfold cqmemPre
  dsimp only
  split
  · rename_i hcond
    simp only [Bool.and_eq_true, decide_eq_true_eq] at hcond
    exact Or.inl ⟨hcond.2, rfl⟩
  · rename_i hcond
    simp only [Bool.and_eq_true, Bool.or_eq_true, decide_eq_true_eq, not_and] at hcond
    have hle := leadingMem_length_le dest.chunks
    refine Or.inr ⟨?_, ?_, rfl⟩
    · by_cases h0 : (leadingMem dest.chunks).length = 0
      · exact Or.inl (List.eq_nil_of_length_eq_zero h0)
      · refine Or.inr (leadingMem_all ?_)
        by_cases hlt : (leadingMem dest.chunks).length < dest.chunks.length
        · exact absurd (by omega) (hcond (Or.inr hlt))
        · omega
    · by_cases h16 : (leadingMem dest.chunks).length ≥ 16
      · exact absurd (by omega) (hcond (Or.inl h16))
      · omega

end LtVerif.Cq
