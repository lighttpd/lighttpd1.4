/-
  What a receive operation of Model/H2.lean does to the connection, without the monitor: the relations `Recv`,
  `Keep`, `RstOk`, `Act`, `Eff`; one analysis per operation of h2.c (`Eff.frame`, `Act.*`); what batches, steps and
  histories keep of it (`runInv_len`, `runInv_fs`, `runInv_term`).
-/
import LtVerif.Proofs.H2
namespace LtVerif

/-! ### receive actions: the relations -/

/-- effect of a receive action on the tracked streams.  `old`: where a stream of `c'` comes from - one of `c`
    with its id and `headersSent` (`err` only rises), or a new one above every id seen with nothing sent;
    `le`, `nd`: ids ≤ `cid` and distinct ids carry over (`Inv`, Proofs/H2Legal.lean) -/
structure Recv (c c' : H2Conn) : Prop where
  cid : c.cid ≤ c'.cid
  ga : c.goaway > 0 → c'.goaway > 0
  old : ∀ s' ∈ c'.streams,
    (∃ s ∈ c.streams, s.id = s'.id ∧ s.headersSent = s'.headersSent ∧ (s.err = true → s'.err = true)) ∨
    (c.cid < s'.id ∧ s'.headersSent = false)
  le : (∀ s ∈ c.streams, s.id ≤ c.cid) → ∀ s ∈ c'.streams, s.id ≤ c'.cid
  nd : (∀ s ∈ c.streams, s.id ≤ c.cid) → (c.streams.map (·.id)).Nodup → (c'.streams.map (·.id)).Nodup

/-- `len`: the number of streams changes only when one is added below the limit -/
structure Keep (c c' : H2Conn) : Prop where
  recv : Recv c c'
  len : c'.streams.length = c.streams.length ∨
    (c.streams.length < Extracted.h2MaxStreams ∧ c'.streams.length ≤ Extracted.h2MaxStreams)
  fs : FsOk c → FsOk c'

theorem Keep.refl (c : H2Conn) : Keep c c :=
  ⟨⟨Nat.le_refl _, id, fun s hs => Or.inl ⟨s, hs, rfl, rfl, id⟩, fun h => h, fun _ h => h⟩, Or.inl rfl, id⟩

theorem Keep.trans {a b c : H2Conn} (h1 : Keep a b) (h2 : Keep b c) : Keep a c := by
  obtain ⟨r1, l1, f1⟩ := h1
  obtain ⟨r2, l2, f2⟩ := h2
  refine ⟨⟨Nat.le_trans r1.cid r2.cid, fun h => r2.ga (r1.ga h), ?_, fun h => r2.le (r1.le h),
          fun hl h => r2.nd (r1.le hl) (r1.nd hl h)⟩, by omega, fun h => f2 (f1 h)⟩
  intro s' hs'
  rcases r2.old s' hs' with ⟨s, hs, e1, e2, e3⟩ | ⟨hlt, hh⟩
  · rcases r1.old s hs with ⟨s0, hs0, g1, g2, g3⟩ | ⟨hlt, hh⟩
    · exact Or.inl ⟨s0, hs0, g1.trans e1, g2.trans e2, fun h => e3 (g3 h)⟩
    · exact Or.inr ⟨by rw [← e1]; exact hlt, by rw [← e2]; exact hh⟩
  · exact Or.inr ⟨Nat.lt_of_le_of_lt r1.cid hlt, hh⟩

theorem Keep.map {c c' : H2Conn} (f : Strm → Strm) (hs : c'.streams = c.streams.map f) (hc : c.cid ≤ c'.cid)
    (hg : c.goaway > 0 → c'.goaway > 0) (hfs : FsOk c → FsOk c')
    (hf : ∀ s, (f s).id = s.id ∧ (f s).headersSent = s.headersSent ∧ (s.err = true → (f s).err = true)) :
    Keep c c' := by
  refine ⟨⟨hc, hg, ?_, ?_, ?_⟩, Or.inl (by rw [hs, List.length_map]), hfs⟩
  · intro s' h
    rw [hs, List.mem_map] at h
    obtain ⟨s, hm, rfl⟩ := h
    exact Or.inl ⟨s, hm, (hf s).1.symm, (hf s).2.1.symm, (hf s).2.2⟩
  · intro hl s' h
    rw [hs, List.mem_map] at h
    obtain ⟨s, hm, rfl⟩ := h
    rw [(hf s).1]; exact Nat.le_trans (hl s hm) hc
  · intro _ h
    rw [hs, List.map_map, List.map_congr_left (f := (fun x : Strm => x.id) ∘ f) (g := fun x => x.id) fun s _ => (hf s).1]
    exact h

theorem Keep.same {c c' : H2Conn} (hs : c'.streams = c.streams) (hc : c.cid ≤ c'.cid)
    (hg : c.goaway > 0 → c'.goaway > 0) (hfs : FsOk c → FsOk c') : Keep c c' :=
  Keep.map id (by rw [hs, List.map_id]) hc hg hfs fun _ => ⟨rfl, rfl, id⟩

theorem Keep.upd (c : H2Conn) (sid : Nat) (f : Strm → Strm)
    (hf : ∀ s, (f s).id = s.id ∧ (f s).headersSent = s.headersSent ∧ (s.err = true → (f s).err = true)) :
    Keep c (updStrm c sid f) :=
  Keep.map (fun s => if s.id = sid then f s else s) rfl (Nat.le_refl _) id id
    fun s => ite_ind (P := fun x : Strm => x.id = s.id ∧ x.headersSent = s.headersSent ∧ (s.err = true → x.err = true))
      (fun _ => hf s) fun _ => ⟨rfl, rfl, id⟩

theorem Keep.perm {c c' : H2Conn}
    (hp : (c'.streams.map fun x => (x.id, x.headersSent, x.err)).Perm (c.streams.map fun x => (x.id, x.headersSent, x.err)))
    (hc : c'.cid = c.cid) (hg : c'.goaway = c.goaway) (hf : c'.peerMaxFrame = c.peerMaxFrame) : Keep c c' := by
  have old : ∀ s' ∈ c'.streams, ∃ s ∈ c.streams, s.id = s'.id ∧ s.headersSent = s'.headersSent ∧ s.err = s'.err := by
    intro s' hs'
    obtain ⟨s, hs, e⟩ := List.mem_map.mp (hp.mem_iff.mp (List.mem_map_of_mem (f := fun x : Strm => (x.id, x.headersSent, x.err)) hs'))
    injection e with e1 e
    injection e with e2 e3
    exact ⟨s, hs, e1, e2, e3⟩
  refine ⟨⟨Nat.le_of_eq hc.symm, fun h => hg ▸ h, fun s' hs' => ?_, fun hl s' hs' => ?_, fun _ hnd => ?_⟩,
    Or.inl ?_, fun h => ⟨hf ▸ h.1, hf ▸ h.2⟩⟩
  · obtain ⟨s, hs, e1, e2, e3⟩ := old s' hs'
    exact Or.inl ⟨s, hs, e1, e2, fun h => e3 ▸ h⟩
  · obtain ⟨s, hs, e1, _⟩ := old s' hs'
    rw [hc, ← e1]; exact hl s hs
  · have := (hp.map Prod.fst).nodup_iff
    rw [List.map_map, List.map_map] at this
    exact this.mpr hnd
  · have := hp.length_eq
    rw [List.length_map, List.length_map] at this
    exact this

theorem Keep.rst (c : H2Conn) (sid : Nat) : Keep c (rstState c sid) := by
  unfold rstState
  generalize findStrm c sid = o
  cases o with
  | none => exact Keep.refl c
  | some s =>
    refine Keep.trans ?_ (Keep.upd _ sid _ fun x => ⟨rfl, rfl, fun _ => rfl⟩)
    exact ite_ind (P := Keep c) (fun _ => Keep.same rfl (Nat.le_refl _) id id) fun _ => Keep.refl c

theorem Keep.goaway (c : H2Conn) (code : Nat) : Keep c (sendGoaway c code).1 := by
  have ite := @ite_ind Res fun r => Keep c r.1
  have h0 : Keep c (goawayResets c code).1 :=
    ite (fun _ => foldl_inv (Keep c) _ _ c (Keep.refl c) fun c' s h => Keep.trans h (Keep.rst c' s.id)) fun _ => Keep.refl c
  refine ite (fun _ => h0) fun hn => Keep.trans h0 (Keep.same rfl (Nat.le_refl _) (fun hg => ?_) id)
  exact absurd ⟨by omega, Or.inl hg⟩ hn

theorem Recv.goaway (c : H2Conn) (code : Nat) : Recv c (sendGoaway c code).1 := (Keep.goaway c code).recv

theorem Keep.add (c : H2Conn) (s : Strm) (hid : c.cid < s.id) (hh : s.headersSent = false)
    (hfree : c.streams.length < Extracted.h2MaxStreams) : Keep c (addStrm c s) := by
  have hperm := addStrm_perm c s
  refine ⟨⟨Nat.le_of_lt hid, id, ?_, ?_, ?_⟩, Or.inr ⟨hfree, by rw [addStrm_len]; exact hfree⟩, id⟩
  · intro s' hs'
    have := hperm.mem_iff.mp hs'
    simp only [List.mem_append, List.mem_singleton] at this
    rcases this with h | rfl
    · exact Or.inl ⟨s', h, rfl, rfl, id⟩
    · exact Or.inr ⟨hid, hh⟩
  · intro hl s' hs'
    have := hperm.mem_iff.mp hs'
    simp only [List.mem_append, List.mem_singleton] at this
    show s'.id ≤ s.id
    rcases this with h | rfl
    · exact Nat.le_trans (hl s' h) (Nat.le_of_lt hid)
    · exact Nat.le_refl _
  · intro hl hnd
    have := (hperm.map (·.id)).nodup_iff
    rw [this, List.map_append, List.nodup_append]
    refine ⟨hnd, by simp, ?_⟩
    intro a ha b hb
    simp only [List.map_cons, List.map_nil, List.mem_singleton] at hb
    obtain ⟨x, hx, rfl⟩ := List.mem_map.mp ha
    have := hl x hx
    rw [hb]
    intro h
    omega

/-- the RST_STREAM frames of `os` are for streams that were opened and that the connection has
    given up (or the connection is in error anyway) -/
def RstOk (c' : H2Conn) (os : List Out) : Prop :=
  c'.goaway > 0 ∨ ∀ sid code, Out.rst sid code ∈ os → sid ≤ c'.cid ∧ ∀ s' ∈ c'.streams, s'.id = sid → s'.err = true

theorem RstOk.mono {c1 c' : H2Conn} {os : List Out} (h : RstOk c1 os) (r : Recv c1 c') : RstOk c' os := by
  rcases h with h | h
  · exact Or.inl (r.ga h)
  · refine Or.inr fun sid code hm => ?_
    obtain ⟨h1, h2⟩ := h sid code hm
    refine ⟨Nat.le_trans h1 r.cid, fun s' hs' e => ?_⟩
    rcases r.old s' hs' with ⟨s, hs, e1, _, e3⟩ | ⟨hlt, _⟩
    · exact e3 (h2 s hs (e1.trans e))
    · omega

theorem RstOk.append {c : H2Conn} {a b : List Out} (ha : RstOk c a) (hb : RstOk c b) : RstOk c (a ++ b) := by
  rcases ha with ha | ha
  · exact Or.inl ha
  · rcases hb with hb | hb
    · exact Or.inl hb
    · refine Or.inr fun sid code hm => ?_
      simp only [List.mem_append] at hm
      rcases hm with hm | hm
      · exact ha sid code hm
      · exact hb sid code hm

/-- a receive action with its immediate answer -/
structure Act (c : H2Conn) (r : Res) : Prop where
  recv : Recv c r.1
  ctl : AllCtl r.2
  rst : (∀ s ∈ c.streams, s.id ≤ c.cid) → RstOk r.1 r.2

/-- `Act` with `Keep` for `Recv`; the `Act.*` are `(Eff.* ..).act` -/
structure Eff (c : H2Conn) (r : Res) : Prop where
  keep : Keep c r.1
  ctl : AllCtl r.2
  rst : (∀ s ∈ c.streams, s.id ≤ c.cid) → RstOk r.1 r.2

theorem Eff.act {c : H2Conn} {r : Res} (e : Eff c r) : Act c r := ⟨e.keep.recv, e.ctl, e.rst⟩

theorem Eff.ite {c : H2Conn} {p : Prop} [Decidable p] {a b : Res} (ha : p → Eff c a) (hb : ¬p → Eff c b) :
    Eff c (if p then a else b) := ite_ind ha hb

def NoRst (os : List Out) : Prop := ∀ o ∈ os, o.isCtl = true ∧ ∀ a b, o ≠ Out.rst a b

theorem NoRst.nil : NoRst [] := fun _ h => nomatch h

theorem NoRst.ite (p : Prop) [Decidable p] (o : Out) (ho : o.isCtl = true ∧ ∀ a b, o ≠ Out.rst a b) :
    NoRst (if p then [o] else []) :=
  ite_ind (P := NoRst) (fun _ x hx => by rw [List.mem_singleton.mp hx]; exact ho) fun _ => NoRst.nil

theorem Eff.noRst {c c' : H2Conn} {os : List Out} (h : Keep c c') (hq : NoRst os) : Eff c (c', os) :=
  ⟨h, fun o ho => (hq o ho).1, fun _ => Or.inr fun sid code hm => absurd rfl ((hq _ hm).2 sid code)⟩

theorem Eff.silent {c c' : H2Conn} (h : Keep c c') : Eff c (c', []) := Eff.noRst h NoRst.nil

theorem Eff.ignored (c : H2Conn) : Eff c (c, []) := Eff.silent (Keep.refl c)

theorem Eff.andThen {c : H2Conn} {r : Res} {f : H2Conn → Res} (h1 : Eff c r) (h2 : Eff r.1 (f r.1)) :
    Eff c (r.andThen f) :=
  ⟨Keep.trans h1.keep h2.keep, AllCtl.append h1.ctl h2.ctl, fun hl =>
    RstOk.append ((h1.rst hl).mono h2.keep.recv) (h2.rst (h1.keep.recv.le hl))⟩

theorem Eff.pre {c c1 : H2Conn} {r : Res} (h : Keep c c1) (a : Eff c1 r) : Eff c r :=
  ⟨Keep.trans h a.keep, a.ctl, fun hl => a.rst (h.recv.le hl)⟩

theorem Eff.post {c : H2Conn} {r : Res} {c2 : H2Conn} (a : Eff c r) (h : Keep r.1 c2) : Eff c (c2, r.2) :=
  ⟨Keep.trans a.keep h, a.ctl, fun hl => (a.rst hl).mono h.recv⟩

theorem Eff.goaway (c : H2Conn) (code : Nat) : Eff c (sendGoaway c code) := by
  refine ⟨Keep.goaway c code, sendGoaway_ctl c code, fun _ => ?_⟩
  by_cases hc : code = 0
  · subst hc
    refine Or.inr fun sid code' hm => ?_
    exfalso
    unfold sendGoaway at hm
    simp only [goawayResets, ne_eq, not_true_eq_false, if_false] at hm
    split at hm <;> simp at hm
  · exact Or.inl (sendGoaway_observable c code hc).1

theorem Eff.rstOne (c : H2Conn) (sid code : Nat) (hex : ∃ s ∈ c.streams, s.id = sid) :
    Eff c (rstState c sid, [Out.rst sid code]) := by
  refine ⟨Keep.rst c sid, AllCtl.cons rfl AllCtl.nil, fun hl => Or.inr fun a b hm => ?_⟩
  injection List.mem_singleton.mp hm with h1 _
  subst h1
  obtain ⟨s, hs, e⟩ := hex
  exact ⟨Nat.le_trans (e ▸ hl s hs) (Keep.rst c a).recv.cid, rstState_err c a⟩

/-! ### receive actions: one analysis per operation of h2.c -/

theorem Eff.discardCnt (c : H2Conn) : Eff c (discardCount c) :=
  Eff.pre (c1 := { c with nDiscarded := c.nDiscarded + 1 }) (Keep.same rfl (Nat.le_refl _) id id)
    (Eff.ite (fun _ => Eff.goaway _ _) fun _ => Eff.ignored _)

theorem Eff.discard (c : H2Conn) (kind : HdrKind) : Eff c (discardHeaders c kind) := by
  refine Eff.ite (fun _ => Eff.ignored c) fun _ => ?_
  cases kind with
  | hpackBad => exact (Eff.discardCnt c).andThen (f := fun c => sendGoaway c E.compression) (Eff.goaway _ _)
  | request => exact Eff.discardCnt c

theorem NoRst.wu (p : Prop) [Decidable p] (x y : Nat) : NoRst (if p then [Out.windowUpdate x y] else []) :=
  NoRst.ite _ _ ⟨rfl, nofun⟩

theorem connWinUpd_streams (c : H2Conn) (len : Nat) : (connWinUpd c len).1.streams = c.streams := rfl

theorem Eff.connWin (c : H2Conn) (len : Nat) : Eff c (connWinUpd c len) :=
  Eff.noRst (Keep.same rfl (Nat.le_refl _) id id) (NoRst.wu _ _ _)

/-- h2_recv_end_data() for a tracked stream -/
theorem Eff.endData (c : H2Conn) (s : Strm) (alen : Nat) (hs : ∃ x ∈ c.streams, x.id = s.id) :
    Eff c ((recvEndData c s alen).1, (recvEndData c s alen).2.1) := by
  have hu : ∀ (c : H2Conn) (f : Strm → Strm), (∀ x, (f x).id = x.id ∧ (f x).headersSent = x.headersSent ∧
      (x.err = true → (f x).err = true)) → Keep c (updStrm c s.id f) := fun c f hf => Keep.upd c s.id f hf
  have h1 := hu c (fun x => { x with st := if s.st = .open then StSt.hcRemote else StSt.closed }) fun x => ⟨rfl, rfl, id⟩
  have ite := @ite_ind (H2Conn × List Out × Bool) fun t => Eff c (t.1, t.2.1)
  refine ite (fun _ => Eff.silent (Keep.trans h1 (hu _ _ fun x => ⟨rfl, rfl, id⟩))) fun _ => ite (fun _ => ?_) fun _ => Eff.silent h1
  obtain ⟨x, hx, e⟩ := hs
  refine Eff.pre h1 (Eff.rstOne _ s.id E.protocol ⟨if x.id = s.id then _ else x, List.mem_map.mpr ⟨x, hx, rfl⟩, ?_⟩)
  rw [if_pos e]; exact e

theorem Eff.dataStream (c : H2Conn) (s : Strm) (sid len alen : Nat) (es : Bool) (hs : findStrm c sid = some s) :
    Eff c (recvDataStream c s sid len alen es) := by
  have hid := findStrm_id hs
  have hex := findStrm_mem hs
  have hupd : ∀ (c2 : H2Conn) (n : Nat), Eff c2 (updStrm c2 sid fun x =>
      { x with fudge := (fudgeUpdate s.fudge n).1, bodyIn := x.bodyIn + alen },
      if (fudgeUpdate s.fudge n).2 then [Out.windowUpdate sid 16384] else []) :=
    fun c2 n => Eff.noRst (Keep.upd _ sid _ fun x => ⟨rfl, rfl, id⟩) (NoRst.wu _ _ _)
  unfold recvDataStream
  -- stream error STREAM_CLOSED
  refine Eff.ite (fun _ => (Eff.rstOne c sid _ hex).andThen (f := fun c1 => connWinUpd c1 len) (Eff.connWin _ _)) fun _ => ?_
  -- more DATA than the content-length
  refine Eff.ite (fun _ => (Eff.connWin c len).andThen (f := fun c1 => (rstState c1 sid, [Out.rst sid E.protocol]))
    (Eff.rstOne _ sid _ hex)) fun _ => ?_
  cases es with
  | true =>
    have a := (Eff.connWin c len).andThen (f := fun c1 => ((recvEndData c1 s alen).1, (recvEndData c1 s alen).2.1))
      (Eff.endData _ s alen ⟨s, hid.2, rfl⟩)
    exact Eff.ite (fun _ => a) fun _ => a.andThen (f := fun c2 => (updStrm c2 sid _, _)) (hupd _ 0)
  | false =>
    refine Eff.ite (fun h => nomatch h) fun _ => ?_
    exact ((Eff.connWin c len).andThen (f := fun c1 => (c1, [])) (Eff.ignored _)).andThen
      (f := fun c2 => (updStrm c2 sid _, _)) (hupd _ len)

theorem Eff.data (c : H2Conn) (sid len : Nat) (pad : Option Nat) (es : Bool) : Eff c (recvData c sid len pad es) := by
  unfold recvData
  refine Eff.ite (fun _ => Eff.goaway _ _) fun _ => ?_
  split
  · exact Eff.goaway _ _
  · generalize hs : findStrm c sid = o
    cases o with
    | none =>
      refine Eff.ite (fun _ => Eff.connWin _ _) fun _ => Eff.ite (fun _ => Eff.ignored c) fun _ =>
        Eff.ite (fun _ => Eff.ignored c) fun _ => ?_
      exact Eff.post (Eff.goaway c 0) (Keep.same rfl (Nat.le_refl _) id id)
    | some s => exact Eff.dataStream c s sid len _ es hs

theorem Eff.windowUpdate (c : H2Conn) (sid len inc : Nat) : Eff c (recvWindowUpdate c sid len inc) := by
  unfold recvWindowUpdate
  refine Eff.ite (fun _ => Eff.goaway _ _) fun _ => Eff.ite (fun _ => ?_) fun _ => ?_
  · exact Eff.ite (fun _ => Eff.goaway _ _) fun _ => Eff.ite (fun _ => Eff.goaway _ _) fun _ =>
      Eff.silent (Keep.same rfl (Nat.le_refl _) id id)
  · generalize hs : findStrm c sid = o
    cases o with
    | none => exact Eff.ite (fun _ => Eff.goaway _ _) fun _ => Eff.ignored c
    | some s =>
      have hex := findStrm_mem hs
      exact Eff.ite (fun _ => Eff.ignored c) fun _ => Eff.ite (fun _ => Eff.rstOne c sid _ hex) fun _ =>
        Eff.ite (fun _ => Eff.rstOne c sid _ hex) fun _ => Eff.silent (Keep.upd c sid _ fun x => ⟨rfl, rfl, id⟩)

theorem Eff.rstStream (c : H2Conn) (sid len : Nat) : Eff c (recvRstStream c sid len) := by
  unfold recvRstStream
  refine Eff.ite (fun _ => Eff.goaway _ _) fun _ => Eff.ite (fun _ => Eff.goaway _ _) fun _ => ?_
  cases findStrm c sid with
  | some _ => exact Eff.silent (Keep.upd c sid _ fun x => ⟨rfl, rfl, fun _ => rfl⟩)
  | none => exact Eff.ite (fun _ => Eff.goaway _ _) fun _ => Eff.ignored c

theorem Eff.priority (c : H2Conn) (sid len dep : Nat) : Eff c (recvPriority c sid len dep) := by
  unfold recvPriority
  refine Eff.ite (fun _ => Eff.goaway _ _) fun _ => Eff.ite (fun _ => Eff.goaway _ _) fun _ => ?_
  generalize hs : findStrm c sid = o
  cases o with
  | some s =>
    exact Eff.ite (fun _ => Eff.rstOne c sid _ (findStrm_mem hs)) fun _ => Eff.ignored c
  | none =>
    -- a stream that was opened and is no longer tracked
    refine Eff.ite (fun hc => ?_) fun _ => Eff.ignored c
    refine ⟨Keep.refl c, AllCtl.cons rfl AllCtl.nil, fun _ => Or.inr fun a b hm => ?_⟩
    injection List.mem_singleton.mp hm with h1 _
    subst h1
    exact ⟨hc.2.2, fun s' hs' e => absurd e (findStrm_none hs s' hs')⟩

theorem Eff.goawayRecv (c : H2Conn) (sid len code : Nat) : Eff c (recvGoaway c sid len code) := by
  unfold recvGoaway
  refine Eff.ite (fun _ => Eff.goaway _ _) fun _ => Eff.ite (fun _ => Eff.goaway _ _) fun _ => ?_
  exact Eff.post (Eff.goaway c _) (Keep.same rfl (Nat.le_refl _) id id)

theorem Eff.ping (c : H2Conn) (ack : Bool) (sid len : Nat) (o : Bytes) : Eff c (recvPing c ack sid len o) := by
  unfold recvPing
  refine Eff.ite (fun _ => Eff.goaway _ _) fun _ => Eff.ite (fun _ => Eff.goaway _ _) fun _ => ?_
  exact Eff.ite (fun _ => Eff.ignored c) fun _ =>
    Eff.noRst (Keep.refl c) fun x hx => by rw [List.mem_singleton.mp hx]; exact ⟨rfl, nofun⟩

theorem Eff.settingsParams : ∀ (ps : List (Nat × Nat)) (c : H2Conn), Eff c (applySettings c ps)
  | [], c => Eff.ignored c
  | (k, v) :: rest, c => by
    unfold applySettings
    refine Eff.ite (fun _ => Eff.goaway _ _) fun _ => Eff.ite (fun _ => ?_) fun _ => ?_
    · refine Eff.ite (fun _ => Eff.goaway _ _) fun _ => Eff.ite (fun _ => Eff.goaway _ _) fun _ => ?_
      refine Eff.pre ?_ (Eff.settingsParams rest _)
      exact Keep.map (fun s => if s.live then { s with swin := s.swin + ((v : Int) - c.initWin) } else s)
        rfl (Nat.le_refl _) id id fun s => by split <;> exact ⟨rfl, rfl, id⟩
    · refine Eff.ite (fun _ => ?_) fun _ => Eff.settingsParams rest c
      refine Eff.ite (fun _ => Eff.goaway _ _) fun hv => ?_
      exact Eff.pre (c1 := { c with peerMaxFrame := v })
        (Keep.same rfl (Nat.le_refl _) id fun _ => ⟨by simp only; omega, by simp only; omega⟩) (Eff.settingsParams rest _)

theorem Eff.settings (c : H2Conn) (ack : Bool) (sid : Nat) (ps : List (Nat × Nat)) (junk : Nat) :
    Eff c (recvSettings c ack sid ps junk) := by
  unfold recvSettings
  refine Eff.ite (fun _ => Eff.goaway _ _) fun _ => Eff.ite (fun _ => ?_) fun _ => ?_
  · -- the parameters, then the size error for trailing octets, then the acknowledgement
    exact ((Eff.settingsParams ps c).andThen
        (f := fun c1 => if c1.goaway = c.goaway ∧ junk ≠ 0 then sendGoaway c1 E.frameSize else (c1, []))
        (Eff.ite (fun _ => Eff.goaway _ _) fun _ => Eff.ignored _)).andThen
      (f := fun c2 => (c2, if c2.goaway ≤ 0 then [Out.settingsAck] else []))
      (Eff.noRst (Keep.refl _) (NoRst.ite _ _ ⟨rfl, nofun⟩))
  · exact Eff.ite (fun _ => Eff.goaway _ _) fun _ =>
      Eff.ite (fun _ => Eff.silent (Keep.same rfl (Nat.le_refl _) id id)) fun _ => Eff.goaway _ _

theorem Eff.priorityUpdate (c : H2Conn) (sid len prid prio : Nat) : Eff c (recvPriorityUpdate c sid len prid prio) := by
  unfold recvPriorityUpdate
  refine Eff.ite (fun _ => Eff.goaway _ _) fun _ => Eff.ite (fun _ => Eff.goaway _ _) fun _ =>
    Eff.ite (fun _ => Eff.goaway _ _) fun _ => ?_
  generalize hs : findStrm c prid = o
  cases o with
  | none => exact Eff.ignored c
  | some s =>
    refine Eff.ite (fun _ => Eff.ignored c) fun _ => Eff.silent (Keep.perm ?_ rfl rfl rfl)
    -- `s` is the stream at the index found; it is replaced by itself, re-prioritised, and moved
    obtain ⟨hi, hsi⟩ := List.getElem?_eq_some_iff.mp (List.find?_eq_getElem?_findIdx.symm.trans hs)
    refine ((reprio_perm _ _ _ hi).map _).trans (List.Perm.of_eq ?_)
    rw [List.map_set]
    conv => rhs; rw [← List.set_getElem_self (as := c.streams.map _) (i := c.streams.findIdx (·.id = prid)) (by rw [List.length_map]; exact hi)]
    rw [List.getElem_map, hsi]

/-- a stream refused by its id alone: `cid` becomes `sid`, no stream has that id -/
theorem Eff.refuseCore {c c1 : H2Conn} {sid : Nat} (k01 : Keep c c1) (hs : c1.streams = c.streams) (hc : c1.cid = sid)
    (hsid : c.cid < sid) {r : Res} (ar : Eff c1 r) : Eff c (r.1, [Out.rst sid E.refused] ++ r.2) := by
  refine ⟨Keep.trans k01 ar.keep, AllCtl.cons rfl ar.ctl, fun hl => ?_⟩
  rcases ar.rst (k01.recv.le hl) with hg | hr
  · exact Or.inl hg
  · refine Or.inr fun a b hm => ?_
    rcases List.mem_cons.mp hm with hm | hm
    · injection hm with e1 _
      subst e1
      refine ⟨hc ▸ ar.keep.recv.cid, fun s' hs' e => ?_⟩
      exfalso
      rcases ar.keep.recv.old s' hs' with ⟨s0, hs0, e1, _, _⟩ | ⟨hlt, _⟩
      · rw [hs] at hs0
        have := hl s0 hs0
        omega
      · rw [hc] at hlt; omega
    · exact hr a b hm

theorem Eff.refuse (c : H2Conn) (sid : Nat) (hsid : c.cid < sid) : Eff c (refuseStream c sid) :=
  Eff.ite (fun _ => Eff.goaway _ _) fun _ =>
    Eff.refuseCore (c := c) (c1 := { c with hcRecent := c.hcRecent || c.sentSettings, cid := sid, nRefused := c.nRefused + 1 })
      (Keep.same rfl (Nat.le_of_lt hsid) id id) rfl rfl hsid
      (Eff.ite (fun _ => Eff.goaway _ _) fun _ => Eff.ignored _)

theorem Eff.trailers (c : H2Conn) (sid : Nat) (kind : HdrKind) (es : Bool) : Eff c (recvTrailers c sid kind es) := by
  unfold recvTrailers
  generalize hs : findStrm c sid = o
  cases o with
  | none => exact (Eff.goaway c _).andThen (Eff.discard _ kind)
  | some s =>
    have hid := findStrm_id hs
    have hex := findStrm_mem hs
    refine Eff.ite (fun _ => (Eff.rstOne c sid _ hex).andThen (Eff.discard _ kind)) fun _ =>
      Eff.ite (fun _ => (Eff.rstOne c sid _ hex).andThen (Eff.discard _ kind)) fun _ => ?_
    have a := Eff.endData c s 0 ⟨s, hid.2, rfl⟩
    refine Eff.ite (fun _ => ?_) fun _ => a.andThen (Eff.discard _ kind)
    cases kind with
    | hpackBad => exact a.andThen (f := fun c => sendGoaway c E.compression) (Eff.goaway _ _)
    | request => exact a

theorem Eff.headers (c : H2Conn) (sid : Nat) (kind : HdrKind) (es : Bool) (dep : Option Nat) (padBad : Bool) :
    Eff c (recvHeaders c sid kind es dep padBad) := by
  unfold recvHeaders
  refine Eff.ite (fun _ => Eff.goaway _ _) fun _ => Eff.ite (fun _ => Eff.goaway _ _) fun _ => Eff.ite (fun _ => ?_) fun _ => ?_
  · -- the new stream depends on itself: the RST_STREAM comes with a connection error
    exact ⟨Keep.goaway c _, AllCtl.cons rfl (sendGoaway_ctl _ _), fun _ =>
      Or.inl (sendGoaway_observable c E.protocol (by decide)).1⟩
  · refine Eff.ite (fun _ => Eff.trailers _ _ _ _) fun hsid => ?_
    have hsid' : c.cid < sid := by omega
    refine Eff.ite (fun _ => Eff.discard c kind) fun _ =>
      Eff.ite (fun _ => (Eff.refuse c sid hsid').andThen (Eff.discard _ kind)) fun hfree => ?_
    have hadd : ∀ st bd rl ic fl, Keep c (addStrm c (mkStrm c sid es st bd rl ic fl)) :=
      fun _ _ _ _ _ => Keep.add c _ hsid' rfl (by omega)
    unfold newStream
    cases kind with
    | hpackBad => exact Eff.pre (hadd _ _ _ _ _) (Eff.goaway _ _)
    | request => exact Eff.noRst (hadd _ _ _ _ _) (NoRst.wu _ _ _)

theorem Eff.frame (c : H2Conn) (f : FrameIn) : Eff c (recvFrame c f) := by
  unfold recvFrame
  refine Eff.ite (fun _ => Eff.ignored c) fun _ => ?_
  cases f with
  | oversize => exact Eff.goaway _ _
  | settings ack sid ps junk => exact Eff.settings _ _ _ _ _
  | ping ack sid len o => exact Eff.ping _ _ _ _ _
  | windowUpdate sid len inc => exact Eff.windowUpdate _ _ _ _
  | rstStream sid len code => exact Eff.rstStream _ _ _
  | priority sid len dep => exact Eff.priority _ _ _ _
  | priorityUpdate sid len prid prio => exact Eff.priorityUpdate _ _ _ _ _
  | goaway sid len code => exact Eff.goawayRecv _ _ _ _
  | data sid len pad es => exact Eff.data _ _ _ _ _
  | headers sid kind es dep padBad contBad =>
    exact Eff.ite (fun _ => Eff.goaway _ _) fun _ => Eff.headers _ _ _ _ _ _
  | continuation sid => exact Eff.goaway _ _
  | pushPromise sid => exact Eff.goaway _ _
  | unknown t => exact Eff.ignored c
  | contFlood => exact Eff.goaway _ _

theorem Act.goaway (c : H2Conn) (code : Nat) : Act c (sendGoaway c code) := (Eff.goaway c code).act

theorem Act.discard (c : H2Conn) (kind : HdrKind) : Act c (discardHeaders c kind) := (Eff.discard c kind).act

theorem Act.windowUpdate (c : H2Conn) (sid len inc : Nat) : Act c (recvWindowUpdate c sid len inc) :=
  (Eff.windowUpdate c sid len inc).act

theorem Act.rstStream (c : H2Conn) (sid len : Nat) : Act c (recvRstStream c sid len) := (Eff.rstStream c sid len).act

theorem Act.priority (c : H2Conn) (sid len dep : Nat) : Act c (recvPriority c sid len dep) :=
  (Eff.priority c sid len dep).act

theorem Act.settingsParams : ∀ (ps : List (Nat × Nat)) (c : H2Conn), Act c (applySettings c ps) :=
  fun ps c => (Eff.settingsParams ps c).act

theorem Act.settings (c : H2Conn) (ack : Bool) (sid : Nat) (ps : List (Nat × Nat)) (junk : Nat) :
    Act c (recvSettings c ack sid ps junk) := (Eff.settings c ack sid ps junk).act

theorem Act.refuse (c : H2Conn) (sid : Nat) (hsid : c.cid < sid) : Act c (refuseStream c sid) :=
  (Eff.refuse c sid hsid).act

theorem Act.trailers (c : H2Conn) (sid : Nat) (kind : HdrKind) (es : Bool) : Act c (recvTrailers c sid kind es) :=
  (Eff.trailers c sid kind es).act

theorem Act.headers (c : H2Conn) (sid : Nat) (kind : HdrKind) (es : Bool) (dep : Option Nat) (padBad : Bool)
    (hg : c.goaway ≤ 0) : Act c (recvHeaders c sid kind es dep padBad) := (Eff.headers c sid kind es dep padBad).act  -- `hg`: unused

theorem Act.frame (c : H2Conn) (f : FrameIn) : Act c (recvFrame c f) := (Eff.frame c f).act

theorem recvFrame_ctl (c : H2Conn) (f : FrameIn) : AllCtl (recvFrame c f).2 := (Eff.frame c f).ctl

/-! ### batches, steps, histories -/

theorem recvFrame_term (c : H2Conn) (f : FrameIn) (h : c.goaway > 0) : recvFrame c f = (c, []) := by
  simp [recvFrame, h]

theorem processPass_term (c : H2Conn) (budget : Nat) (h : c.goaway > 0) :
    (processPass c budget).2 = [] ∧ (processPass c budget).1.goaway > 0 := by
  unfold processPass
  split
  · exact ⟨rfl, h⟩
  · simp [h]

theorem runInv_len : RunInv fun c _ => c.streams.length ≤ Extracted.h2MaxStreams :=
  ⟨fun c _ f h => (Eff.frame c f).keep.len.elim (fun e => e ▸ h) (·.2), fun c _ b h => Nat.le_trans (processPass_len_le c b) h, fun _ _ h => h⟩

theorem runInv_fs : RunInv fun c _ => FsOk c :=
  ⟨fun c _ f => (Eff.frame c f).keep.fs, fun c _ b h => by unfold FsOk; rw [processPass_fs]; exact h, fun _ _ h => h⟩

theorem runInv_term : RunInv fun c os => c.goaway > 0 ∧ os = [] := by
  refine ⟨fun c os f h => ?_, fun c os b h => ?_, fun _ _ h => h⟩
  · rw [recvFrame_term c f h.1, h.2]; exact ⟨h.1, rfl⟩
  · have := processPass_term c b h.1
    rw [this.1, h.2]; exact ⟨this.2, rfl⟩

end LtVerif
