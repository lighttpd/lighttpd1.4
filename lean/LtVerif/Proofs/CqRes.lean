/-
  C17, resources of the closed system: a well-accounted system (`Acct`) stays well-accounted.
  Per function, `Conserve` is the `res` part of its statement (`QStep`, `SStep`).
-/
import LtVerif.Proofs.CqSpill
namespace LtVerif.Cq

/-- a well-accounted system: every open descriptor is held by a chunk, and
    apart from the `base f` names that exist independently of the queues (1 for
    a source file) a file's name exists iff a temp chunk owns it -/
def Acct (base : Nat → Int) (s : Sys) : Prop :=
  ∀ f, (s.w.files f).nfd = csum .fd f s.chunks ∧ (s.w.files f).nlink = base f + csum .name f s.chunks ∧
    (s.w.files f).tl = csum .tlen f s.chunks

theorem run_conserve (s : Sys) (ops : List Op) : Conserve s.w s.chunks (run s ops).w (run s ops).chunks := by
  induction ops generalizing s with
  | nil => exact Conserve.refl _ _
  | cons op ops ih => exact (step_conserve s op).trans (ih (step s op).1)

theorem Acct.of_conserve {base : Nat → Int} {s s' : Sys} (h : Acct base s)
    (hc : Conserve s.w s.chunks s'.w s'.chunks) : Acct base s' := by
  intro f
  have h0 := hc.bal .fd f
  have h1 := hc.bal .name f
  have h2 := hc.bal .tlen f
  obtain ⟨a, b, c⟩ := h f
  simp only [wres] at h0 h1 h2
  exact ⟨by omega, by omega, by omega⟩

end LtVerif.Cq
