/-
  C11, part 5: what the trigger leaves behind (`Settled`); the per-request dispatch
  bound `JAll`, checked once per kind of edit (`j_act`) and per big step (`j_big`).
-/
import LtVerif.Proofs.GwAct
import LtVerif.Proofs.GwReach
namespace LtVerif.Gw

/-! ### what the trigger leaves behind -/

def Settled (h p : Nat) (w : World) : Prop :=
  (w.proc h p).state = .overloaded → w.now ≤ (w.proc h p).disabledUntil

theorem restartDeadProc_settles (w : World) (h : Nat) (tr : Bool) (p : Nat) :
    Settled h p (restartDeadProc w h tr p) := by
  unfold Settled restartDeadProc
  cases hs : (w.proc h p).state with
  | running => simp [hs]
  | overloaded =>
    dsimp only
    unfold checkEnable
    by_cases h1 : w.now ≤ (w.proc h p).disabledUntil
    · rw [if_pos h1]; intro _; exact h1
    · rw [if_neg h1, if_neg (by simp [hs])]
      intro h2; rw [setPState_state] at h2; simp at h2
  | killed =>
    dsimp only
    split
    · simp [World.updProc, hs]
    · simp [hs]
  | diedWait => simp [hs]
  | died => simp [hs]

theorem restartDeadProcs_settles (w : World) (h : Nat) (tr : Bool) (p : Nat) (hp : p < (w.host h).nprocs) :
    Settled h p (restartDeadProcs w h tr) :=
  pass_visit h p tr (fun _ _ _ => True) (fun now st du => st = .overloaded → now ≤ du)
    (fun w _ => restartDeadProc_settles w h tr p) w hp trivial

theorem triggerHost_settles (w : World) (h p : Nat) (hp : p < (w.host h).nprocs) :
    Settled h p (triggerHost w h) := by
  unfold triggerHost
  dsimp only
  have hn : p < ((hostTimeouts w h).host h).nprocs := by
    rw [(reach_static (reach_hostTimeouts w h)).nprocs]; exact hp
  split
  · rw [checkOverloaded_eq]; exact restartDeadProcs_settles _ h false p hn
  · exact restartDeadProcs_settles _ h true p hn

/-! ### the per-request dispatch bound -/

/-- a context that the next gw_write_request() will dial from -/
def armed (c : Ctx) : Nat :=
  if c.link.state = .init ∧ c.link.proc = none ∧ c.link.host.isSome then 1 else 0

theorem armed_le_one (c : Ctx) : armed c ≤ 1 := by unfold armed; split <;> omega

/-- connect() calls made (+ the one about to be made) never exceed 1 + retries taken, nor 6
    (the first + the 5 that `reconnects++ < 5` allows) -/
def Jc (c : Ctx) : Prop :=
  c.aux.dispatched + armed c ≤ c.aux.reconnects + 1 ∧ c.aux.dispatched + armed c ≤ 6

def JAll (w : World) : Prop := ∀ s c, w.slot s = some c → Jc c

/-- slot s may be (re-)armed: it has taken more retries than it made extra connect() calls -/
def Armable (s : Nat) (w : World) : Prop :=
  ∀ c, w.slot s = some c → c.aux.dispatched ≤ c.aux.reconnects ∧ c.aux.dispatched ≤ 5

/-- only slot s changed, keeping its dispatch and retry counts -/
def DRSame (s : Nat) (w w' : World) : Prop :=
  (∀ i, i ≠ s → w'.slot i = w.slot i) ∧
  (∀ c', w'.slot s = some c' → ∃ c, w.slot s = some c ∧ c'.aux.dispatched = c.aux.dispatched ∧
    c'.aux.reconnects = c.aux.reconnects)

theorem DRSame.refl (s : Nat) (w : World) : DRSame s w w := ⟨fun _ _ => rfl, fun c' h => ⟨c', h, rfl, rfl⟩⟩

theorem DRSame.trans {s : Nat} {a b c : World} (h1 : DRSame s a b) (h2 : DRSame s b c) : DRSame s a c := by
  refine ⟨fun i hi => (h2.1 i hi).trans (h1.1 i hi), fun c' hc' => ?_⟩
  obtain ⟨cb, hb, e1, e2⟩ := h2.2 c' hc'
  obtain ⟨ca, ha, e3, e4⟩ := h1.2 cb hb
  exact ⟨ca, ha, e1.trans e3, e2.trans e4⟩

theorem drsame_of_slot {s : Nat} {w w' : World} (h : w'.slot = w.slot) : DRSame s w w' := by
  rw [DRSame, h]; exact DRSame.refl s w

theorem drsame_updSlot (w : World) (s : Nat) (f : Ctx → Ctx)
    (hf : ∀ c, (f c).aux.dispatched = c.aux.dispatched ∧ (f c).aux.reconnects = c.aux.reconnects) :
    DRSame s w (w.updSlot s f) := by
  refine ⟨fun i hi => by simp [World.updSlot, hi], fun c' hc' => ?_⟩
  simp only [World.updSlot, if_true] at hc'
  cases hs : w.slot s with
  | none => simp [hs] at hc'
  | some c => simp [hs] at hc'; subst hc'; exact ⟨c, rfl, (hf c).1, (hf c).2⟩

theorem drsame_updLink (w : World) (s : Nat) (f : Link → Link) : DRSame s w (w.updLink s f) :=
  drsame_updSlot w s _ (fun _ => ⟨rfl, rfl⟩)

theorem armable_drsame {s : Nat} {w w' : World} (h : DRSame s w w') (hA : Armable s w) : Armable s w' := by
  intro c' hc'
  obtain ⟨c, hc, e1, e2⟩ := h.2 c' hc'
  rw [e1, e2]; exact hA c hc

/-- re-arming: whatever happened to slot s's link, an armable slot satisfies the invariant -/
theorem j_of_drsame {s : Nat} {w w' : World} (hJ : JAll w) (h : DRSame s w w') (hA : Armable s w) : JAll w' := by
  intro i c' hc'
  by_cases hi : i = s
  · subst hi
    obtain ⟨c, hc, e1, e2⟩ := h.2 c' hc'
    obtain ⟨a1, a2⟩ := hA c hc
    have := armed_le_one c'
    unfold Jc; rw [e1, e2]; omega
  · rw [h.1 i hi] at hc'; exact hJ i c' hc'

theorem j_same {w w' : World} (h : w'.slot = w.slot) (hJ : JAll w) : JAll w' := by
  intro s c hc; rw [h] at hc; exact hJ s c hc

theorem j_updSlot (w : World) (s : Nat) (f : Ctx → Ctx) (hJ : JAll w)
    (hf : ∀ c, w.slot s = some c → Jc c → Jc (f c)) : JAll (w.updSlot s f) := by
  intro i c' hc'
  simp only [World.updSlot] at hc'
  by_cases hi : i = s
  · subst hi
    simp only [if_true] at hc'
    cases hs : w.slot i with
    | none => simp [hs] at hc'
    | some c => simp [hs] at hc'; subst hc'; exact hf c hs (hJ i c hs)
  · simp only [hi, if_false] at hc'; exact hJ i c' hc'

theorem popConn_slot (w : World) : (popConn w).2.slot = w.slot := by
  obtain ⟨sc, e⟩ := popConn_eq w; rw [e]

theorem drsame_quiet {s : Nat} {w w' : World} (h : Quiet s w w') : DRSame s w w' := by
  obtain ⟨sc, e, he, rfl⟩ := h
  exact (drsame_of_slot (w := w) rfl).trans
    (drsame_updSlot _ s e fun c => ⟨he.dispatched c, he.reconnects c⟩)

theorem j_quiet {s : Nat} {w w' : World} (h : Quiet s w w') (hJ : JAll w) : JAll w' := by
  obtain ⟨sc, e, he, rfl⟩ := h
  refine j_updSlot _ s e (j_same (w := w) rfl hJ) fun c _ hc => ?_
  have : armed (e c) ≤ armed c := by
    by_cases hst : (e c).link.state = .init
    · simp [armed, he.host c, he.proc c, hst, he.init c hst]
    · simp [armed, hst]
  unfold Jc at hc ⊢; rw [he.reconnects c, he.dispatched c]; omega

theorem drsame_hostGet (w : World) (s : Nat) : DRSame s w (hostGet w s).2 := by
  rcases hostGet_snd w s with ⟨_, h⟩ | ⟨_, h⟩ <;> rw [h]
  · exact drsame_of_slot rfl
  · refine DRSame.trans (drsame_of_slot (w' := { w with lastUsed := (hostPick w (w.auxOf s).key).2 }) rfl) ?_
    exact drsame_updSlot _ s (fun c => { c with aux := { c.aux with status := 503, handler := false } }) fun _ => ⟨rfl, rfl⟩

theorem drsame_hostAssign (w : World) (s h : Nat) : DRSame s w (hostAssign w s h) := by
  unfold hostAssign
  split
  · exact DRSame.refl _ _
  · exact (drsame_updLink w s fun l => { l with host := some h }).trans (drsame_of_slot rfl)

theorem drsame_backendClose (w : World) (s : Nat) : DRSame s w (backendClose w s) := by
  rw [DRSame, backendClose_slots]
  exact drsame_updSlot w s closedCtx fun c => ⟨(closedCtx_aux c).dispatched, (closedCtx_aux c).reconnects⟩

theorem j_backendClose (w : World) (s : Nat) (hJ : JAll w) : JAll (backendClose w s) := by
  refine j_same (w := w.updSlot s closedCtx) (backendClose_slots w s) (j_updSlot w s _ hJ fun c _ hj => ?_)
  -- no host, so not armed
  have ht : armed (closedCtx c) = 0 := by simp [armed, closedCtx]
  unfold Jc at hj ⊢
  rw [ht, (closedCtx_aux c).dispatched, (closedCtx_aux c).reconnects]; omega

theorem drsame_reconnect (w : World) (s : Nat) : DRSame s w (reconnect w s).2 := by
  have h1 := (drsame_backendClose w s).trans (drsame_hostGet (backendClose w s) s)
  unfold reconnect; dsimp only
  split
  · exact h1
  · dsimp only
    exact (h1.trans (drsame_hostAssign _ s _)).trans (drsame_updLink _ s _)

theorem armable_recInc (w : World) (s : Nat) (hJ : JAll w) (h5 : (w.auxOf s).reconnects < 5) :
    Armable s (w.updAux s fun a => { a with reconnects := a.reconnects + 1 }) := by
  intro c' hc'
  simp only [World.updAux, World.updSlot, if_true] at hc'
  cases hs : w.slot s with
  | none => simp [hs] at hc'
  | some c =>
    simp [hs] at hc'; subst hc'
    have hj := hJ s c hs
    have : (w.auxOf s).reconnects = c.aux.reconnects := by simp [World.auxOf, hs]
    rw [this] at h5
    unfold Jc at hj
    dsimp only
    omega

theorem j_recInc (w : World) (s : Nat) (hJ : JAll w) :
    JAll (w.updAux s fun a => { a with reconnects := a.reconnects + 1 }) := by
  refine j_updSlot w s _ hJ fun c _ hc => ?_
  have e : armed { c with aux := { c.aux with reconnects := c.aux.reconnects + 1 } } = armed c := rfl
  unfold Jc at hc ⊢; rw [e]; dsimp only; omega

theorem drsame_procAcquire (w : World) (s h p : Nat) : DRSame s w (procAcquire w s h p) := by
  unfold procAcquire
  split
  · exact DRSame.refl _ _
  · dsimp only
    exact (drsame_updLink w s fun l => { l with proc := some p }).trans (drsame_of_slot rfl)

theorem drsame_openFd (w : World) (s : Nat) : DRSame s w (openFd w s) := by
  unfold openFd
  split
  · exact DRSame.refl _ _
  · exact (drsame_of_slot (w := w) rfl).trans (drsame_updLink _ s _)

theorem drsame_wrRegister (w : World) (s h p : Nat) : DRSame s w (wrRegister w s h p) := by
  unfold wrRegister; dsimp only
  refine DRSame.trans ?_ (drsame_of_slot rfl)
  refine DRSame.trans (drsame_openFd w s) ?_
  exact drsame_updSlot _ s _ (fun _ => ⟨rfl, rfl⟩)

/-- connect() is counted against a context that was armed for it -/
theorem j_dialed {w : World} {s : Nat} (h p : Nat) (hJ : JAll w) (hA : Armable s w)
    (hp : ∀ c, w.slot s = some c → c.link.proc.isSome) : JAll (dialed w s h p) := by
  obtain ⟨sc, e⟩ := popConn_eq w
  unfold dialed; rw [e]
  refine j_updSlot _ s _ (j_same (w := w) rfl hJ) ?_
  intro c hc _
  have hc' : w.slot s = some c := hc
  obtain ⟨a1, a2⟩ := hA c hc'
  have ht : armed c = 0 := by
    have := hp c hc'
    unfold armed
    cases hpp : c.link.proc with
    | none => simp [hpp] at this
    | some q => simp
  have e2 : armed { c with aux := { c.aux with dispatched := c.aux.dispatched + 1 } } = armed c := rfl
  unfold Jc; rw [e2, ht]; dsimp only; omega

/-- an armed context has a connect() to spare -/
theorem initTake_drsame {w : World} {s h : Nat} (p : Nat) (hA : Acct none w) (hJ : JAll w)
    (hst : (w.linkOf s).state = .init) (hh : (w.linkOf s).host = some h) :
    Armable s w ∧ DRSame s w (initTake w s h p) := by
  obtain ⟨c, I⟩ := initTake_lk p hA hst hh
  refine ⟨?_, ?_⟩
  · intro c' hc'
    rw [I.slot] at hc'; cases hc'
    have hj := hJ s c I.slot
    have ht : armed c = 1 := by unfold armed; simp [I.state, I.proc, I.host]
    unfold Jc at hj; rw [ht] at hj; omega
  · rw [I.eq]; exact (drsame_procAcquire w s h p).trans (drsame_quiet (quiet_pop (popSock_eq _)))

/-- the bound needs the accounting invariant: a context in GW_STATE_INIT holds no proc -/
theorem j_act {s : Nat} {t t' : Option Nat} {w w' : World} (p : Act s t w t' w') (hA : Acct t w) (hJ : JAll w) :
    JAll w' := by
  cases p with
  | quiet h => exact j_quiet h hJ
  | pool _ hf => exact j_same hf.slot hJ
  | recInc => exact j_recInc _ _ hJ
  | close => exact j_backendClose _ _ hJ
  | retry _ _ h5 =>   -- re-armed, with budget
    exact j_of_drsame (j_recInc _ s hJ) (drsame_reconnect _ s) (armable_recInc _ s hJ h5)
  | relax => exact hJ
  | leave _ _ st hst => exact j_quiet (quiet_setState s w st hst) hJ
  | notInit => exact hJ
  | drop _ hst => rw [drop_id hA hst]; exact hJ
  | sockFail _ h p hst hh =>
    obtain ⟨hArm, D⟩ := initTake_drsame p hA hJ hst hh
    exact j_of_drsame hJ D hArm
  | dial _ h p hst hh =>
    obtain ⟨hArm, D⟩ := initTake_drsame p hA hJ hst hh
    have D2 := D.trans (drsame_wrRegister (initTake w s h p) s h p)
    refine j_dialed h p (j_of_drsame hJ D2 hArm) (armable_drsame D2 hArm) ?_
    obtain ⟨c, I⟩ := initTake_lk p hA hst hh
    intro c' hc'
    have := lk_some hc'
    unfold wrRegister at this; dsimp only at this
    rw [lk_updHost, lk_updAux, lk_openFd, I.lk, Option.map_some, Option.some.injEq] at this
    rw [← this]; rfl

theorem j_acts {s : Nat} {t t' : Option Nat} {w w' : World} (h : Acts s t w t' w') (ht : TOk t s)
    (hA : Acct t w) (hJ : JAll w) : JAll w' := by
  induction h with
  | refl => exact hJ
  | step h' p ih => exact j_act p (acct_acts h' ht hA).2 ih

theorem j_finish (w : World) (s : Nat) (ab : Bool) (hJ : JAll w) : JAll (finish w s ab) := by
  unfold finish
  split
  · exact hJ
  · rename_i c _
    dsimp only
    have h1 : JAll (backendClose (if ab = true then w else w.emit (finEv s c)) s) := by
      refine j_backendClose _ s ?_
      split
      · exact hJ
      · exact j_same rfl hJ
    intro i c' hc'
    by_cases hi : i = s
    · simp [hi] at hc'
    · simp only [hi, if_false] at hc'; exact h1 i c' hc'

theorem j_big {a b : World} (p : Big a b) (h : Acct none a ∧ JAll a) : Acct none b ∧ JAll b := by
  refine ⟨acct_big p h.1, ?_⟩
  obtain ⟨hAc, hJ⟩ := h
  cases p with
  | acts h => exact j_acts h (tok_none _) hAc hJ
  | finish _ s ab => exact j_finish a s ab hJ
  | sched => exact j_same rfl hJ
  | alloc _ s key hs hlt =>
    intro i c' hc'
    by_cases hi : i = s
    · simp [hi] at hc'; subst hc'; unfold Jc armed; simp
    · simp only [hi, if_false] at hc'; exact hJ i c' hc'
  | assign _ s h key hc =>
    -- a fresh context has made no connect() yet
    refine j_of_drsame hJ ?_ (by intro c' hc'; rw [hc] at hc'; cases hc'; simp)
    refine DRSame.trans ?_ (drsame_of_slot rfl)
    refine DRSame.trans ?_ (drsame_updSlot _ s _ (fun _ => ⟨rfl, rfl⟩))
    exact (drsame_updLink _ s _).trans (drsame_hostAssign _ s h)

theorem j_run (w : World) (ops : List Op) (hAc : Acct none w) (hJ : JAll w) : JAll (run w ops) := by
  unfold run
  exact (foldl_inv (fun w' : World => Acct none w' ∧ JAll w') step ops w ⟨hAc, hJ⟩ fun b op hb =>
    (big_step b op).inv (fun _ _ => j_big) hb).2

theorem j_init (balance : Nat) (wkr : Bool) (nslots : Nat) (specs : List HostSpec) :
    JAll (initWorld balance wkr nslots specs) := by
  intro s c hc; simp [initWorld] at hc

end LtVerif.Gw
