/-
  C18 — which status must occur: the model's success/failure decision against `rfcPre`.
-/
import LtVerif.Proofs.DavStep

namespace LtVerif.Dav
open LtVerif

theorem node_file_ne_dir (c : Bytes) : (some (Node.file c) == some Node.dir) = false :=
  beq_false_of_ne (by intro h; cases h)

theorem doMkcol_status {t : Tree} {r : Req} (hwf : WF t) (hm : r.m = .mkcol) :
    isSuccess (doMkcol t r).1 = rfcPre (get t) r := by
  unfold doMkcol mkdirRes
  rw [parentIsDir_eq hwf]
  simp only [rfcPre, hm]
  cases r.body.isEmpty <;> simp only [Bool.not_false, Bool.not_true, ↓reduceIte, Bool.false_and, Bool.true_and]
  · rfl
  · rcases walk_spec hwf r.src.segs with ⟨hg, hw⟩ | ⟨c, hg, hw⟩ | ⟨hg, hw, hp⟩
    · simp [hg, hw, isSuccess]
    · simp [hg, hw, isSuccess]
    · cases hpc : parentColl (get t) r.src.segs with
      | true => simp [hg, hp hpc, isSuccess]
      | false => rcases hw with hw | hw <;> simp [hg, hw, isSuccess]

theorem doDelete_status {t : Tree} {r : Req} (hwf : WF t) (hm : r.m = .delete) :
    isSuccess (doDelete t r).1 = rfcPre (get t) r := by
  unfold doDelete
  simp only [rfcPre, hm, isColl, isFileAt]
  cases r.body.isEmpty <;> simp only [Bool.not_false, Bool.not_true, ↓reduceIte, Bool.false_and, Bool.true_and]
  · rfl
  cases hf : r.frag with
  | true => simp [isSuccess]
  | false =>
    simp only [Bool.not_false, Bool.true_and, Bool.false_eq_true, ↓reduceIte]
    rcases lstat_spec hwf r.src with ⟨hg, hl⟩ | ⟨c, hg, hs, hl⟩ | ⟨c, hg, hs, hl⟩ | ⟨hg, hl, _⟩
    · -- a collection
      rw [hg, hl]
      cases r.pre.holds true <;> cases r.depth <;> rfl
    · cases r.pre.holds true <;> simp [hg, hl, hs, isSuccess]
    · simp [hg, hl, hs, isSuccess]
    · rcases hl with hl | hl <;> simp [hg, hl, isSuccess]

theorem doPut_status {t : Tree} {r : Req} (hwf : WF t) (hm : r.m = .put) :
    isSuccess (doPut t r).1 = rfcPre (get t) r := by
  unfold doPut
  simp only [rfcPre, hm, isColl, isFileAt]
  rw [parentIsDir_eq hwf]
  cases hs : r.src.slash with
  | true => simp [isSuccess]
  | false =>
    simp only [Bool.false_eq_true, ↓reduceIte, Bool.not_false, Bool.true_and]
    -- by what lstat() finds; then both sides are Boolean tables over range, body, precondition
    rcases lstat_spec hwf r.src with ⟨hg, hl⟩ | ⟨c, hg, _, hl⟩ | ⟨c, hg, hs', hl⟩ | ⟨hg, hl, hp⟩
    iterate 2     -- a collection, a file
      cases hr : r.range with
      | some rg =>
        cases rg <;> cases hh : r.pre.holds true <;> simp [hg, hl, hh, St.exists, isSuccess]
      | none =>
        cases r.body.isEmpty <;> cases hh : r.pre.holds true <;>
          cases parentColl (get t) r.src.segs <;> simp [hg, hl, hh, St.exists, isSuccess]
    · rw [hs] at hs'; simp at hs'
    · -- nothing there
      cases hr : r.range with
      | some rg =>
        rcases hl with hl | hl <;> cases rg <;> cases hh : r.pre.holds false <;>
          simp [hg, hl, hh, St.exists, isSuccess]
      | none =>
        cases hpc : parentColl (get t) r.src.segs with
        | true =>
          have hl := hp hpc
          cases r.body.isEmpty <;> cases hh : r.pre.holds false <;>
            simp [hg, hl, hh, St.exists, isSuccess]
        | false =>
          rcases hl with hl | hl <;> cases r.body.isEmpty <;> cases hh : r.pre.holds false <;>
            simp [hg, hl, hh, St.exists, isSuccess]

theorem cmFile_status {t : Tree} {r : Req} {move : Bool} {src d : RPath} {c : Bytes} (hwf : WF t)
    (hnd : get t d.segs ≠ some .dir) :
    isSuccess (cmFile t r move src d c).1 =
      (!d.slash && destFree (get t) d.segs (r.ow.overwrite && isFileAt (get t) d.segs)) := by
  have hl0 : (lstat t d == St.isdir) = false := beq_false_of_ne fun hb => hnd (lstat_isdir hb)
  unfold cmFile cmDone
  simp only [cmFileTarget, hl0, Bool.false_and, Bool.false_eq_true, ↓reduceIte, destFree, isFileAt]
  rw [parentIsDir_eq hwf]
  rcases lstat_spec hwf d with ⟨hg, _⟩ | ⟨c', hg, hs, hl⟩ | ⟨c', hg, hs, hl⟩ | ⟨hg, hl, hp⟩
  · exact absurd hg hnd
  · cases r.ow.overwrite <;> simp [hg, hl, hs, isSuccess]
  · simp [hg, hl, hs, isSuccess]
  · cases hpc : parentColl (get t) d.segs with
    | true => cases d.slash <;> simp [hg, hp hpc, isSuccess]
    | false => rcases hl with hl | hl <;> cases d.slash <;> simp [hg, hl, isSuccess]

theorem copymoveDir_status {t : Tree} {move ow : Bool} {src d : Path} (hwf : WF t)
    (hconf : get t d = some .dir → hasChild d t = false) :
    (match copymoveDir move ow src d t with
      | none => false
      | some (_, failed) => !failed) =
      (if src == d then ow else destFree (get t) d ow) := by
  unfold copymoveDir
  cases he : (src == d) with
  | true => cases ow <;> simp
  | false =>
    simp only [Bool.false_eq_true, ↓reduceIte, destFree]
    rw [parentIsDir_eq hwf]
    rcases walk_spec hwf d with ⟨hg, hw⟩ | ⟨c, hg, hw⟩ | ⟨hg, hw, hp⟩
    · have := hconf hg
      cases ow <;> simp [hg, hw, this]
    · cases ow <;> simp [hg, hw]
    · cases hpc : parentColl (get t) d with
      | true => simp [hg, hp hpc]
      | false => rcases hw with hw | hw <;> simp [hg, hw]

theorem cmCollection_status {t : Tree} {r : Req} {move : Bool} {src d : RPath} (hwf : WF t)
    (hconf : get t d.segs = some .dir → hasChild d.segs t = false) :
    isSuccess (cmCollection t r move src d).1 =
      (src.slash && r.depth != .one &&
        (if r.depth == .zero then !move && (isColl (get t) d.segs || (get t d.segs).isNone && parentColl (get t) d.segs)
         else if src.segs == d.segs then r.ow.overwrite else destFree (get t) d.segs r.ow.overwrite)) := by
  unfold cmCollection
  cases hs : src.slash with
  | false => simp [isSuccess]
  | true =>
    simp only [Bool.not_true, Bool.false_eq_true, ↓reduceIte, Bool.true_and]
    cases hd1 : (r.depth == Depth.one) with
    | true =>
      have : r.depth = Depth.one := by simpa using hd1
      simp [isSuccess, this]
    | false =>
      simp only [Bool.false_eq_true, ↓reduceIte, bne, hd1, Bool.not_false, Bool.true_and]
      cases hd0 : (r.depth == Depth.zero) with
      | true =>
        simp only [↓reduceIte]
        cases move with
        | true => simp [isSuccess]
        | false =>
          simp only [Bool.false_eq_true, ↓reduceIte, Bool.not_false, Bool.true_and, isColl]
          rw [parentIsDir_eq hwf]
          rcases lstat_spec hwf ⟨d.segs, true⟩ with ⟨hg, hl⟩ | ⟨c, _, hs', _⟩ | ⟨c, hg, _, hl⟩ | ⟨hg, hl, hp⟩
          · simp only at hg
            simp [hg, hl, isSuccess]
          · simp at hs'
          · simp only at hg
            simp [hg, hl, isSuccess]
          · simp only at hg hp
            cases hpc : parentColl (get t) d.segs with
            | true => simp [hg, hp hpc, isSuccess]
            | false => rcases hl with hl | hl <;> simp [hg, hl, isSuccess]
      | false =>
        simp only [Bool.false_eq_true, ↓reduceIte]
        rw [← copymoveDir_status (move := move) hwf hconf]
        cases copymoveDir move r.ow.overwrite src.segs d.segs t with
        | none => simp [isSuccess]
        | some x =>
          obtain ⟨t', failed⟩ := x
          cases failed <;> simp [isSuccess]

theorem doCopyMove_status {t : Tree} {r : Req} (hwf : WF t) (hc : Conforming t r)
    (hm : r.m = .copy ∨ r.m = .move) : isSuccess (doCopyMove t r).1 = rfcPre (get t) r := by
  have hpre : rfcPre (get t) r = (match r.dst with
      | .ok d =>
        r.body.isEmpty && r.ow != .bad && !nested r.src d && r.pre.holds true &&
        (if isColl (get t) r.src.segs then
           r.src.slash && r.depth != .one &&
           (if r.depth == .zero then r.m == .copy &&
              (isColl (get t) d.segs || (get t d.segs).isNone && parentColl (get t) d.segs)
            else if r.src.segs == d.segs then r.ow.overwrite else destFree (get t) d.segs r.ow.overwrite)
         else isFileAt (get t) r.src.segs && !r.src.slash && !d.slash &&
           destFree (get t) d.segs (r.ow.overwrite && isFileAt (get t) d.segs))
      | _ => false) := by
    rcases hm with hm | hm <;> simp only [rfcPre, hm] <;> cases r.dst <;> rfl
  rw [hpre]
  unfold doCopyMove
  cases hb : r.body.isEmpty with
  | false => cases r.dst <;> simp [isSuccess]
  | true =>
    simp only [Bool.not_true, Bool.false_eq_true, ↓reduceIte, Bool.true_and]
    cases hob : (r.ow == Ow.bad) with
    | true => cases r.dst <;> simp [isSuccess, bne, hob]
    | false =>
      simp only [Bool.false_eq_true, ↓reduceIte, bne, hob, Bool.not_false, Bool.true_and]
      cases hdst : r.dst with
      | absent => simp [isSuccess]
      | bad s => simp [isSuccess_max]
      | ok d =>
        simp only
        cases hn : nested r.src d with
        | true => simp [isSuccess]
        | false =>
          simp only [Bool.false_eq_true, ↓reduceIte, Bool.not_false, Bool.true_and]
          rcases lstat_spec hwf r.src with ⟨hg, hl⟩ | ⟨c, hg, hs, hl⟩ | ⟨c, hg, hs, hl⟩ | ⟨hg, hl, _⟩
          · -- a collection
            have hmv : (!(r.m == Method.move)) = (r.m == Method.copy) := by
              rcases hm with hm | hm <;> simp [hm]
            cases hp : r.pre.holds true with
            | false => simp [hl, isSuccess]
            | true =>
              simp only [hl, Bool.not_true, Bool.false_eq_true, ↓reduceIte, Bool.true_and]
              rw [cmCollection_status hwf fun hd => (hc.dest hm hdst hd).2, hmv]
              simp [isColl, hg, bne]
          · -- a file
            have hnd := hc.file_dest hm hdst hg
            cases hp : r.pre.holds true with
            | false => simp [hl, isSuccess]
            | true =>
              simp only [hl, Bool.not_true, Bool.false_eq_true, ↓reduceIte, Bool.true_and]
              rw [cmFile_status hwf hnd]
              simp [isColl, isFileAt, hg, hs]
          · simp [hl, isSuccess, isColl, isFileAt, hg, hs]
          · rcases hl with hl | hl <;> simp [hl, isSuccess, isColl, isFileAt, hg]

theorem step_status {t : Tree} {r : Req} (hwf : WF t) (hc : Conforming t r) (hg : r.m ≠ .get) :
    isSuccess (step t r).1 = rfcPre (get t) r := by
  unfold step
  cases hm : r.m <;> simp only
  · exact doPut_status hwf hm
  · exact doDelete_status hwf hm
  · exact doMkcol_status hwf hm
  · exact doCopyMove_status hwf hc (Or.inl hm)
  · exact doCopyMove_status hwf hc (Or.inr hm)
  · exact absurd hm hg

end LtVerif.Dav
