/-
  Lemmas about Model/Range.lean, in layers: the list of ranges (bounds and coverage invariants of the
  parse loop and the combination pass, `rangesOf`), the RFC 9110 grammar against the parser, then the
  statements about http_range_process()/http_range_rfc7233() that the property theorems of
  Props/C15.lean instantiate, which also rest on the body bytes of Proofs/RangeBody.lean; last, the
  instances the examples use.
-/
import LtVerif.Model.Range
import LtVerif.Proofs.RangeBody
import LtVerif.Proofs.Bytes
namespace LtVerif
namespace Range
open B Date

theorem rmaxu_eq : RMAX_UNSORTED = 10 := by decide
theorem rmax_eq : RMAX = 128 := by decide
theorem llmax_eq : LLONG_MAX = 9223372036854775807 := by decide
theorem llmin_eq : LLONG_MIN = -9223372036854775808 := by decide

/-! ### ranges stay inside the representation; coverage -/

def InB (len : Int) (r : Rng) : Prop := 0 ≤ r.1 ∧ r.1 ≤ r.2 ∧ r.2 < len

def AllInB (len : Int) (l : List Rng) : Prop := ∀ r ∈ l, InB len r

def Cov (l : List Rng) (r : Rng) : Prop := ∃ o ∈ l, o.1 ≤ r.1 ∧ r.2 ≤ o.2
def Covers (l' l : List Rng) : Prop := ∀ r ∈ l, Cov l' r

theorem Cov.self {l : List Rng} {r : Rng} (h : r ∈ l) : Cov l r :=
  ⟨r, h, Int.le_refl _, Int.le_refl _⟩

theorem Covers.of_subset {l l' : List Rng} (h : l ⊆ l') : Covers l' l := fun _ hr => Cov.self (h hr)

theorem Covers.trans {l₁ l₂ l₃ : List Rng} (h₁ : Covers l₃ l₂) (h₂ : Covers l₂ l₁) : Covers l₃ l₁ := by
  intro r hr
  obtain ⟨o, ho, h1, h2⟩ := h₂ r hr
  obtain ⟨o', ho', h3, h4⟩ := h₁ o ho
  exact ⟨o', ho', by omega, by omega⟩

theorem Covers.append {l' a b : List Rng} : Covers l' (a ++ b) ↔ Covers l' a ∧ Covers l' b := by
  simp only [Covers, List.mem_append, or_imp, forall_and]

theorem Covers.ne_nil {l l' : List Rng} (h : Covers l' l) (hl : l ≠ []) : l' ≠ [] := by
  obtain ⟨r, hr⟩ := List.exists_mem_of_ne_nil l hl
  obtain ⟨o, ho, _⟩ := h r hr
  exact List.ne_nil_of_mem ho

/-- What one loop body of http_range_parse() makes (`out`) of an accepted range `rg`: push it (out
    of order: with the limit lowered), merge it into the most recent range, or `break`. -/
inductive StepEff (st : PSt) (rg : Rng) (out : PSt × Bool) : Prop
  | push (hb : out.2 = false) (hrs : out.1.rs = rg :: st.rs)
      (hlim : out.1.lim = st.lim ∨
        out.1.lim = RMAX_UNSORTED ∧ ∃ prev, st.rs.head? = some prev ∧ ¬ prev.1 ≤ rg.1)
  | merge (prev : Rng) (more : List Rng) (hb : out.2 = false) (hlim : out.1.lim = st.lim)
      (hst : st.rs = prev :: more) (hle : prev.1 ≤ rg.1)
      (hrs : out.1.rs = (prev.1, if prev.2 < rg.2 then rg.2 else prev.2) :: more)
  | brk (prev : Rng) (he : out = (st, true)) (hlen : RMAX_UNSORTED ≤ st.rs.length)
      (hp : st.rs.head? = some prev) (hn : ¬ prev.1 ≤ rg.1)

theorem parseStep_eff (st : PSt) (rg : Rng) : StepEff st rg (parseStep st rg) := by
  unfold parseStep
  cases hrs : st.rs with
  | nil => exact .push rfl (by rw [hrs]) (.inl rfl)
  | cons prev more =>
    have hp : st.rs.head? = some prev := by rw [hrs]; rfl
    dsimp only
    by_cases h1 : prev.1 ≤ rg.1
    · rw [if_pos h1]
      by_cases h2 : prev.2 < rg.1 - 80
      · rw [if_pos h2]; exact .push rfl (by rw [hrs]) (.inl rfl)
      · rw [if_neg h2]; exact .merge prev more rfl rfl hrs h1 rfl
    · rw [if_neg h1]
      by_cases h3 : more.length + 2 > RMAX_UNSORTED
      · rw [if_pos h3]; exact .brk prev rfl (by rw [hrs, List.length_cons]; omega) hp h1
      · rw [if_neg h3]; exact .push rfl (by rw [hrs]) (.inr ⟨rfl, prev, hp, h1⟩)

theorem parseStep_inB {len : Int} {st : PSt} {rg : Rng} (hst : AllInB len st.rs) (hrg : InB len rg) :
    AllInB len (parseStep st rg).1.rs := by
  cases parseStep_eff st rg with
  | push _ hrs _ => rw [hrs]; exact List.forall_mem_cons.mpr ⟨hrg, hst⟩
  | merge prev more _ _ hs _ hrs =>
    rw [hs] at hst
    obtain ⟨hp, hm⟩ := List.forall_mem_cons.mp hst
    rw [hrs]
    refine List.forall_mem_cons.mpr ⟨?_, hm⟩
    simp only [InB] at hp hrg ⊢
    split <;> omega
  | brk _ he => rw [he]; exact hst

theorem parseStep_cov {st : PSt} {rg : Rng} (hbrk : (parseStep st rg).2 = false) :
    Covers (parseStep st rg).1.rs (rg :: st.rs) := by
  cases parseStep_eff st rg with
  | push _ hrs _ => rw [hrs]; exact .of_subset (List.Subset.refl _)
  | merge prev more _ _ hs hle hrs =>
    rw [hrs, hs]
    intro o ho
    simp only [List.mem_cons] at ho
    rcases ho with rfl | rfl | ho
    · exact ⟨_, List.mem_cons_self, hle, by simp only; split <;> omega⟩
    · exact ⟨_, List.mem_cons_self, Int.le_refl _, by simp only; split <;> omega⟩
    · exact Cov.self (List.mem_cons_of_mem _ ho)
  | brk _ he => rw [he] at hbrk; cases hbrk

theorem parseStep_covers_prev (st : PSt) (rg : Rng) : Covers (parseStep st rg).1.rs st.rs := by
  cases hb : (parseStep st rg).2 with
  | false => exact fun o ho => parseStep_cov hb o (List.mem_cons_of_mem _ ho)
  | true =>
    cases parseStep_eff st rg with
    | push h => rw [h] at hb; cases hb
    | merge _ _ h => rw [h] at hb; cases hb
    | brk _ he => rw [he]; exact .of_subset (List.Subset.refl _)

theorem parseStep_length (st : PSt) (rg : Rng) :
    (parseStep st rg).1.rs.length ≤ st.rs.length + 1 ∧ (parseStep st rg).1.rs ≠ [] := by
  cases parseStep_eff st rg with
  | push _ hrs _ => simp [hrs]
  | merge prev more _ _ hs _ hrs => simp [hrs, hs]
  | brk _ he hlen =>
    simp only [he]
    exact ⟨Nat.le_succ _, fun e => by rw [e, rmaxu_eq] at hlen; cases hlen⟩

theorem parseStep_nobreak {st : PSt} {rg : Rng} (h : st.rs.length < RMAX_UNSORTED) :
    (parseStep st rg).2 = false := by
  cases parseStep_eff st rg with
  | push hb => exact hb
  | merge _ _ hb => exact hb
  | brk _ _ hlen => omega

theorem parseStep_lim {st : PSt} {rg : Rng} (h : RMAX_UNSORTED ≤ st.lim) :
    RMAX_UNSORTED ≤ (parseStep st rg).1.lim := by
  cases parseStep_eff st rg with
  | push _ _ hlim =>
    rcases hlim with hl | ⟨hl, _⟩
    · rw [hl]; exact h
    · rw [hl]; exact Nat.le_refl _
  | merge _ _ _ hlim => rw [hlim]; exact h
  | brk _ he => rw [he]; exact h

theorem parseStep_sorted {st : PSt} {rg : Rng}
    (h : ∀ prev, st.rs.head? = some prev → prev.1 ≤ rg.1) :
    (parseStep st rg).2 = false ∧ (parseStep st rg).1.lim = st.lim ∧
    (∀ hd, (parseStep st rg).1.rs.head? = some hd → hd.1 ≤ rg.1) := by
  cases parseStep_eff st rg with
  | push hb hrs hlim =>
    refine ⟨hb, hlim.resolve_right fun ⟨_, prev, hp, hn⟩ => hn (h prev hp), fun hd hhd => ?_⟩
    rw [hrs] at hhd; cases hhd; exact Int.le_refl _
  | merge prev more hb hlim _ hle hrs =>
    refine ⟨hb, hlim, fun hd hhd => ?_⟩
    rw [hrs] at hhd; cases hhd; exact hle
  | brk prev _ _ hp hn => exact absurd (h prev hp) hn

theorem parseNext_inB {s : Bytes} {len : Int} {rg : Rng} {rest : Bytes} (hlen : 0 < len)
    (h : parseNext s len = (some rg, rest)) : InB len rg := by
  unfold parseNext at h
  (repeat' split at h) <;> simp only [Prod.mk.injEq, Option.some.injEq, reduceCtorEq, false_and] at h
  -- left are the leaves that yield a range ("first-", "first-last" inside or cut at the end,
  -- "-suffix" shorter or not than the representation); the tests passed on the way are the bounds
  all_goals (rw [← h.1]; simp only [InB]; omega)

theorem parseSpec_inB {p : Bytes} {len : Int} {rg : Rng} (hlen : 0 < len)
    (h : parseSpec p len = some rg) : InB len rg := by
  unfold parseSpec at h
  split at h
  · cases h; exact parseNext_inB hlen (by assumption)
  · cases h

def validRanges (len : Int) (ps : List Bytes) : List Rng := ps.filterMap (fun p => parseSpec p len)

theorem parseLoop_cons {len : Int} (p : Bytes) (ps : List Bytes) (st : PSt) :
    parseLoop len st (p :: ps) =
      match parseSpec p len with
      | none => parseLoop len st ps
      | some rg =>
        if (parseStep st rg).2 = true ∨ (parseStep st rg).1.rs.length ≥ (parseStep st rg).1.lim
        then (parseStep st rg).1 else parseLoop len (parseStep st rg).1 ps := by
  conv => lhs; unfold parseLoop
  cases parseSpec p len <;> rfl

/-- the do-while loop of http_range_parse() seen from the accepted ranges: an invalid piece
    changes nothing and ends nothing, so the loop is a function of these alone -/
def stepLoop : PSt → List Rng → PSt
  | st, [] => st
  | st, rg :: rgs =>
    if (parseStep st rg).2 = true ∨ (parseStep st rg).1.rs.length ≥ (parseStep st rg).1.lim
    then (parseStep st rg).1 else stepLoop (parseStep st rg).1 rgs

theorem parseLoop_eq (len : Int) (st : PSt) (ps : List Bytes) :
    parseLoop len st ps = stepLoop st (validRanges len ps) := by
  induction ps generalizing st with
  | nil => rfl
  | cons p ps ih =>
    rw [parseLoop_cons]
    unfold validRanges at ih ⊢
    rw [List.filterMap_cons]
    cases parseSpec p len with
    | none => exact ih st
    | some rg => simp only [stepLoop, ih]

theorem stepLoop_preserves {P : PSt → Prop} {rgs : List Rng}
    (hstep : ∀ st, ∀ rg ∈ rgs, P st → P (parseStep st rg).1) {st : PSt} (h : P st) :
    P (stepLoop st rgs) := by
  induction rgs generalizing st with
  | nil => exact h
  | cons rg rgs ih =>
    have h1 := hstep st rg List.mem_cons_self h
    rw [stepLoop]
    split
    · exact h1
    · exact ih (fun st r hr => hstep st r (List.mem_cons_of_mem _ hr)) h1

theorem stepLoop_covers_prev (rgs : List Rng) (st : PSt) : Covers (stepLoop st rgs).rs st.rs :=
  stepLoop_preserves (P := fun st' => Covers st'.rs st.rs)
    (fun st' rg _ h => (parseStep_covers_prev st' rg).trans h) (.of_subset (List.Subset.refl _))

/-- The loop loses a range only by the `break` or by stopping on `n ≥ lim` while ranges remain:
    `J` excludes the first and allows the second only when none remains. -/
def Safe (J : PSt → List Rng → Prop) : Prop :=
  ∀ {st rg rgs}, J st (rg :: rgs) →
    (parseStep st rg).2 = false ∧ J (parseStep st rg).1 rgs ∧
    ((parseStep st rg).1.lim ≤ (parseStep st rg).1.rs.length → rgs = [])

theorem stepLoop_cov {J : PSt → List Rng → Prop} (hJ : Safe J) (rgs : List Rng) (st : PSt)
    (h : J st rgs) : Covers (stepLoop st rgs).rs (rgs ++ st.rs) := by
  induction rgs generalizing st with
  | nil => exact .of_subset (List.Subset.refl _)
  | cons rg rgs ih =>
    obtain ⟨hb, hJ', hlast⟩ := hJ h
    have hc := parseStep_cov hb
    rw [stepLoop]
    simp only [hb, Bool.false_eq_true, false_or, ge_iff_le]
    split
    · rename_i hstop
      rw [hlast hstop]
      exact hc
    · obtain ⟨h1, h2⟩ := Covers.append.mp (ih _ hJ')
      have h3 := h2.trans hc
      intro o ho
      rcases List.mem_cons.mp ho with rfl | ho
      · exact h3 _ List.mem_cons_self
      · rcases List.mem_append.mp ho with ho | ho
        · exact h1 o ho
        · exact h3 o (List.mem_cons_of_mem _ ho)

theorem stepLoop_append (pre post : List Rng) (st : PSt) :
    stepLoop st (pre ++ post) = stepLoop st pre ∨
    stepLoop st (pre ++ post) = stepLoop (stepLoop st pre) post := by
  induction pre generalizing st with
  | nil => right; rfl
  | cons rg pre ih =>
    simp only [List.cons_append, stepLoop]
    split
    · left; rfl
    · exact ih _

/-! ### combining unsorted ranges -/

def hull (r s : Rng) : Rng := (if r.1 ≤ s.1 then r.1 else s.1, if r.2 ≥ s.2 then r.2 else s.2)

theorem mergeFirst_eq {b e : Int} {l : List Rng} {m : Rng} {l' : List Rng}
    (h : mergeFirst b e l = some (m, l')) :
    ∃ pre s post, l = pre ++ s :: post ∧ l' = pre ++ post ∧ m = hull (b, e) s := by
  induction l generalizing m l' with
  | nil => cases h
  | cons r rest ih =>
    unfold mergeFirst at h
    split at h
    · cases h; exact ⟨[], r, rest, rfl, rfl, rfl⟩
    · split at h
      · cases h
      · rename_i hm
        cases h
        obtain ⟨pre, s, post, rfl, rfl, rfl⟩ := ih hm
        exact ⟨r :: pre, s, post, rfl, rfl, rfl⟩

theorem coalescePass_eq {l l' : List Rng} (h : coalescePass l = some l') :
    ∃ pre r mid s post, l = pre ++ r :: (mid ++ s :: post) ∧ l' = pre ++ hull r s :: (mid ++ post) := by
  induction l generalizing l' with
  | nil => cases h
  | cons r rest ih =>
    unfold coalescePass at h
    split at h
    · rename_i hm
      cases h
      obtain ⟨mid, s, post, rfl, rfl, rfl⟩ := mergeFirst_eq hm
      exact ⟨[], r, mid, s, post, rfl, rfl⟩
    · split at h
      · cases h
      · rename_i hc
        cases h
        obtain ⟨pre, r', mid, s, post, rfl, rfl⟩ := ih hc
        exact ⟨r :: pre, r', mid, s, post, rfl, rfl⟩

theorem coalescePass_inB {len : Int} {l l' : List Rng} (hl : AllInB len l)
    (h : coalescePass l = some l') : AllInB len l' := by
  obtain ⟨pre, r, mid, s, post, rfl, rfl⟩ := coalescePass_eq h
  simp only [AllInB, List.mem_append, List.mem_cons, or_imp, forall_and, forall_eq] at hl ⊢
  obtain ⟨h1, h2, h3, h4, h5⟩ := hl
  refine ⟨h1, ?_, h3, h5⟩
  simp only [InB, hull] at h2 h4 ⊢
  refine ⟨?_, ?_, ?_⟩ <;> (repeat' split) <;> omega

theorem coalescePass_cov {l l' : List Rng} (h : coalescePass l = some l') : Covers l' l := by
  obtain ⟨pre, r, mid, s, post, rfl, rfl⟩ := coalescePass_eq h
  have hm : hull r s ∈ pre ++ hull r s :: (mid ++ post) := by simp
  intro o ho
  simp only [List.mem_append, List.mem_cons] at ho
  rcases ho with ho | rfl | ho | rfl | ho
  · exact Cov.self (by simp [ho])
  · exact ⟨_, hm, by simp only [hull]; split <;> omega, by simp only [hull]; split <;> omega⟩
  · exact Cov.self (by simp [ho])
  · exact ⟨_, hm, by simp only [hull]; split <;> omega, by simp only [hull]; split <;> omega⟩
  · exact Cov.self (by simp [ho])

theorem coalesce_preserves {P : List Rng → Prop}
    (hstep : ∀ l l', coalescePass l = some l' → P l → P l') (l : List Rng) (h : P l) :
    P (coalesce l) := by
  induction l using coalesce.induct with
  | case1 l hnone => rw [coalesce, hnone]; exact h
  | case2 l l' hsome ih =>
    rw [coalesce, hsome]
    exact ih (hstep l l' hsome h)

/-! ### the ranges of the answer as a function of the accepted ranges -/

/-- http_range_parse() once the pieces are read -/
def rangesOf (rgs : List Rng) : List Rng :=
  let st := stepLoop { rs := [], lim := RMAX } rgs
  let rs := st.rs.reverse
  if rs.length ≤ 1 then rs
  else if st.lim = RMAX then rs
  else coalesce rs

theorem parse_eq (s : Bytes) (len : Int) : parse s len = rangesOf (validRanges len (splitOn 44 s)) := by
  unfold parse rangesOf
  rw [parseLoop_eq]

theorem rangesOf_of_loop {P : List Rng → Prop} (hrev : ∀ l, P l → P l.reverse)
    (hstep : ∀ l l', coalescePass l = some l' → P l → P l') {rgs : List Rng}
    (h : P (stepLoop { rs := [], lim := RMAX } rgs).rs) : P (rangesOf rgs) := by
  unfold rangesOf
  simp only
  split
  · exact hrev _ h
  · split
    · exact hrev _ h
    · exact coalesce_preserves hstep _ (hrev _ h)

theorem rangesOf_inB {len : Int} {rgs : List Rng} (h : AllInB len rgs) : AllInB len (rangesOf rgs) :=
  rangesOf_of_loop (P := AllInB len) (fun _ h r hr => h r (List.mem_reverse.mp hr))
    (fun _ _ hc hl => coalescePass_inB hl hc)
    (stepLoop_preserves (P := fun st => AllInB len st.rs)
      (fun _ rg hrg hst => parseStep_inB hst (h rg hrg)) (fun _ hr => nomatch hr))

theorem parse_inB (s : Bytes) (len : Int) (hlen : 0 < len) : AllInB len (parse s len) := by
  rw [parse_eq]
  exact rangesOf_inB fun r hr => by
    obtain ⟨p, _, hp⟩ := List.mem_filterMap.mp hr
    exact parseSpec_inB hlen hp

/-! ### coverage: accepted ranges are never lost -/

/-- what the loop holds it never loses (`stepLoop_covers_prev`), so `post` is arbitrary -/
theorem rangesOf_cov {J : PSt → List Rng → Prop} (hJ : Safe J) (pre post : List Rng)
    (h : J { rs := [], lim := RMAX } pre) : Covers (rangesOf (pre ++ post)) pre := by
  have h := stepLoop_cov hJ pre _ h
  rw [List.append_nil] at h
  refine rangesOf_of_loop (P := fun l' => Covers l' pre)
    (fun _ h r hr => let ⟨o, ho, h3⟩ := h r hr; ⟨o, List.mem_reverse.mpr ho, h3⟩)
    (fun _ _ hc hl => (coalescePass_cov hc).trans hl) ?_
  -- the loop over `pre ++ post` stopped inside `pre`, or went on from its result over `post`
  rcases stepLoop_append pre post { rs := [], lim := RMAX } with e | e
  · rw [e]; exact h
  · rw [e]; exact (stepLoop_covers_prev post _).trans h

/-- at most RMAX_UNSORTED ranges in all: the `break` and the limit are out of reach -/
def Few (st : PSt) (rgs : List Rng) : Prop :=
  st.rs.length + rgs.length ≤ RMAX_UNSORTED ∧ RMAX_UNSORTED ≤ st.lim

/-- ascending input: the loop never leaves its fast path (no `break`, the limit stays RMAX) -/
def Ascending (st : PSt) (rgs : List Rng) : Prop :=
  st.lim = RMAX ∧ st.rs.length + rgs.length ≤ RMAX ∧ rgs.Pairwise (fun a b => a.1 ≤ b.1) ∧
  ∀ prev, st.rs.head? = some prev → ∀ rg ∈ rgs, prev.1 ≤ rg.1

theorem few_safe : Safe Few := by
  intro st rg rgs h
  have h1 := h.1
  have hl := (parseStep_length st rg).1
  have hlim := parseStep_lim (rg := rg) h.2
  simp only [List.length_cons] at h1
  exact ⟨parseStep_nobreak (by omega), ⟨by omega, hlim⟩,
    fun hs => List.eq_nil_of_length_eq_zero (by omega)⟩

theorem ascending_safe : Safe Ascending := by
  intro st rg rgs ⟨hlim, hcnt, hasc, hhead⟩
  simp only [List.pairwise_cons, List.mem_cons, forall_eq_or_imp, List.length_cons]
    at hcnt hasc hhead
  obtain ⟨hb, hl, hh⟩ := parseStep_sorted (st := st) (rg := rg) fun prev hprev => (hhead prev hprev).1
  have hlen := (parseStep_length st rg).1
  exact ⟨hb, ⟨hl.trans hlim, by omega, hasc.2,
      fun prev hprev x hx => Int.le_trans (hh prev hprev) (hasc.1 x hx)⟩,
    fun hstop => List.eq_nil_of_length_eq_zero (by rw [hl, hlim] at hstop; omega)⟩

theorem rangesOf_cov_few (pre post : List Rng) (hn : pre.length ≤ RMAX_UNSORTED) :
    Covers (rangesOf (pre ++ post)) pre :=
  rangesOf_cov few_safe pre post ⟨by simpa using hn, by decide⟩

theorem rangesOf_cov_ascending (pre post : List Rng) (hn : pre.length ≤ RMAX)
    (hasc : pre.Pairwise (fun a b => a.1 ≤ b.1)) : Covers (rangesOf (pre ++ post)) pre :=
  rangesOf_cov ascending_safe pre post ⟨rfl, by simpa using hn, hasc, fun _ h => nomatch h⟩

/-! ### emptiness: 416 exactly when no piece is acceptable -/

theorem rangesOf_eq_nil_iff (rgs : List Rng) : rangesOf rgs = [] ↔ rgs = [] := by
  constructor
  · intro h
    cases rgs with
    | nil => rfl
    | cons rg rgs =>
      -- the first range leaves a non-empty list, and all that follows covers it
      refine absurd h (rangesOf_of_loop (P := (· ≠ [])) (fun _ => mt List.reverse_eq_nil_iff.mp)
        (fun _ _ hc => (coalescePass_cov hc).ne_nil) ?_)
      rw [stepLoop]
      split
      · exact (parseStep_length _ rg).2
      · exact (stepLoop_covers_prev rgs _).ne_nil (parseStep_length _ rg).2
  · rintro rfl; rfl

theorem parse_eq_nil_iff (s : Bytes) (len : Int) :
    parse s len = [] ↔ ∀ p ∈ splitOn 44 s, parseSpec p len = none := by
  rw [parse_eq, rangesOf_eq_nil_iff, validRanges, List.filterMap_eq_nil_iff]

/-! ### the byte-range grammar of RFC 9110 14.1.1 against the parser -/

/-- 1*DIGIT (leading zeros and any length allowed) -/
def IsNum (ds : Bytes) : Prop := ds ≠ [] ∧ ∀ d ∈ ds, isDigit d = true
/-- optional whitespace: SP / HTAB -/
def IsOws (ws : Bytes) : Prop := ∀ b ∈ ws, isBlank b = true

/-- a range-spec; numbers are given by their digit strings -/
inductive Spec
  | range (first last : Bytes)     -- first-pos "-" last-pos
  | fromPos (first : Bytes)        -- first-pos "-"
  | suffix (n : Bytes)             -- "-" suffix-length
deriving Repr, DecidableEq

def Spec.WF : Spec → Prop
  | .range f l => IsNum f ∧ IsNum l
  | .fromPos f => IsNum f
  | .suffix n => IsNum n

def Spec.text : Spec → Bytes
  | .range f l => f ++ 45 :: l
  | .fromPos f => f ++ [45]
  | .suffix n => 45 :: n

/-- RFC 9110 14.1.2: the bytes a spec selects from a representation of length
    `len` (none: unsatisfiable, or first-pos > last-pos) -/
def Spec.sem (len : Int) : Spec → Option Rng
  | .range f l =>
    if (decVal f : Int) ≤ decVal l ∧ (decVal f : Int) < len then
      some ((decVal f : Int), if (decVal l : Int) < len then (decVal l : Int) else len - 1)
    else none
  | .fromPos f => if (decVal f : Int) < len then some ((decVal f : Int), len - 1) else none
  | .suffix n =>
    if decVal n = 0 then none
    else some (if len > (decVal n : Int) then len - (decVal n : Int) else 0, len - 1)

theorem digit_not (d : UInt8) (h : isDigit d = true) :
    isSpace d = false ∧ isBlank d = false ∧ d ≠ 45 ∧ d ≠ 43 := by
  simp only [isDigit, Bool.and_eq_true, decide_eq_true_eq, UInt8.le_iff_toNat_le,
    UInt8.reduceToNat] at h
  simp only [isSpace, isBlank, Bool.or_eq_false_iff, Bool.and_eq_false_iff, decide_eq_false_iff_not,
    UInt8.le_iff_toNat_le, ← UInt8.toNat_inj, ne_eq, UInt8.reduceToNat]
  omega

theorem blank_space (b : UInt8) (h : isBlank b = true) : isSpace b = true ∧ isDigit b = false := by
  simp only [isBlank, Bool.or_eq_true, decide_eq_true_eq] at h
  rcases h with rfl | rfl <;> decide

theorem IsOws.space {ws : Bytes} (h : IsOws ws) : ∀ b ∈ ws, isSpace b = true :=
  fun b hb => (blank_space b (h b hb)).1

theorem IsOws.head_not_digit {ws : Bytes} (h : IsOws ws) :
    ∀ b, ws.head? = some b → isDigit b = false :=
  fun b hb => (blank_space b (h b (List.mem_of_mem_head? hb))).2

theorem strtoll_num (pre ds rest : Bytes) (hpre : IsOws pre) (hds : IsNum ds)
    (hrest : ∀ b, rest.head? = some b → isDigit b = false) :
    strtoll (pre ++ (ds ++ rest)) = some (clampLL false (decVal ds), rest) := by
  obtain ⟨d, ds', rfl⟩ := List.exists_cons_of_ne_nil hds.1
  obtain ⟨hsp, -, h45, h43⟩ := digit_not d (hds.2 d List.mem_cons_self)
  have hsign : takeSign (d :: ds' ++ rest) = (false, d :: ds' ++ rest) := by
    unfold takeSign
    split
    · rename_i heq; cases heq; exact absurd rfl h45
    · rename_i heq; cases heq; exact absurd rfl h43
    · rfl
  unfold strtoll
  rw [(span_append hpre.space fun b hb => by cases hb; exact hsp).2, hsign]
  simp only [span_append hds.2 hrest]
  rfl

theorem strtoll_neg (pre ds rest : Bytes) (hpre : IsOws pre) (hds : IsNum ds)
    (hrest : ∀ b, rest.head? = some b → isDigit b = false) :
    strtoll (pre ++ 45 :: (ds ++ rest)) = some (clampLL true (decVal ds), rest) := by
  unfold strtoll
  rw [(span_append hpre.space fun b hb => by cases hb; rfl).2,
    show takeSign (45 :: (ds ++ rest)) = (true, ds ++ rest) from rfl]
  simp only [span_append hds.2 hrest, hds.1, if_false]

theorem strtoll_blank (ws : Bytes) (h : IsOws ws) : strtoll ws = none := by
  unfold strtoll
  rw [dropWhile_all h.space]
  rfl

theorem skipWs_blank (ws : Bytes) (h : IsOws ws) : skipWs ws = [] := dropWhile_all h

theorem skipWs_minus (t : Bytes) : skipWs (45 :: t) = 45 :: t := by
  simp [skipWs, isBlank]

theorem head_minus_not_digit (t : Bytes) : ∀ b, (45 :: t).head? = some b → isDigit b = false := by
  intro b hb
  cases hb
  rfl

/-! Below a length that fits in off_t the clamp of strtoll() is invisible.  (`clamp_last`,
    `clamp_suffix` have the `if` tests of `parseNext` verbatim on their left sides.) -/

theorem clamp_nonneg (v : Nat) : 0 ≤ clampLL false v := by
  simp only [clampLL, llmax_eq, Bool.false_eq_true, if_false]
  split <;> omega

theorem clamp_lt_iff {len : Int} (hmax : len ≤ LLONG_MAX) (v : Nat) :
    (clampLL false v ≠ LLONG_MAX ∧ clampLL false v < len) ↔ (v : Int) < len := by
  simp only [clampLL, llmax_eq, Bool.false_eq_true, if_false] at hmax ⊢
  split <;> omega

theorem clamp_of_lt {len : Int} (hmax : len ≤ LLONG_MAX) {v : Nat} (h : (v : Int) < len) :
    clampLL false v = v := by
  simp only [clampLL, llmax_eq, Bool.false_eq_true, if_false] at hmax ⊢
  split <;> omega

theorem clamp_last {len : Int} (hmax : len ≤ LLONG_MAX) (v : Nat) {n : Int} (hn : n < len) :
    (n ≤ clampLL false v ↔ n ≤ v) ∧
    (if clampLL false v < len then clampLL false v else len - 1) = if (v : Int) < len then (v : Int) else len - 1 := by
  simp only [clampLL, llmax_eq, Bool.false_eq_true, if_false] at hmax ⊢
  split <;> split <;> omega

theorem clamp_suffix {len : Int} (hmax : len ≤ LLONG_MAX) {v : Nat} (hv : v ≠ 0) :
    ¬ clampLL true v ≥ 0 ∧
    (if clampLL true v ≠ LLONG_MIN ∧ len > -clampLL true v then len + clampLL true v else 0)
      = if len > (v : Int) then len - (v : Int) else 0 := by
  simp only [clampLL, llmin_eq, llmax_eq, if_true] at hmax ⊢
  split <;> split <;> split <;> omega

/-! ### a whole range-set: elements joined by commas -/

structure Elem where
  pre : Bytes
  spec : Spec
  post : Bytes

def Elem.WF (e : Elem) : Prop := IsOws e.pre ∧ IsOws e.post ∧ e.spec.WF
def Elem.text (e : Elem) : Bytes := e.pre ++ e.spec.text ++ e.post

/-- `1#range-spec` -/
def rangeSetText (es : List Elem) : Bytes := join 44 (es.map Elem.text)

theorem digit_not_comma {ds : Bytes} (h : ∀ d ∈ ds, isDigit d = true) : (44 : UInt8) ∉ ds :=
  fun hm => absurd (h 44 hm) (by decide)

theorem blank_not_comma {ws : Bytes} (h : IsOws ws) : (44 : UInt8) ∉ ws :=
  fun hm => absurd (h 44 hm) (by decide)

theorem Elem.no_comma (e : Elem) (h : e.WF) : (44 : UInt8) ∉ e.text := by
  obtain ⟨h1, h2, h3⟩ := h
  have hb1 := blank_not_comma h1
  have hb2 := blank_not_comma h2
  unfold Elem.text
  cases hs : e.spec with
  | range f l =>
    rw [hs] at h3
    simp [Spec.text, hb1, hb2, digit_not_comma h3.1.2, digit_not_comma h3.2.2]
  | fromPos f => rw [hs] at h3; simp [Spec.text, hb1, hb2, digit_not_comma h3.2]
  | suffix n => rw [hs] at h3; simp [Spec.text, hb1, hb2, digit_not_comma h3.2]

theorem splitOn_rangeSet (es : List Elem) (hne : es ≠ []) (hwf : ∀ e ∈ es, e.WF) :
    splitOn 44 (rangeSetText es) = es.map Elem.text := by
  refine splitOn_join _ (by simpa using hne) fun p hp => ?_
  obtain ⟨e, he, rfl⟩ := List.mem_map.mp hp
  exact e.no_comma (hwf e he)

theorem parseSpec_elem (len : Int) (hlen : 0 < len) (hmax : len ≤ LLONG_MAX) (e : Elem)
    (hwf : e.WF) : parseSpec e.text len = e.spec.sem len := by
  obtain ⟨pre, sp, post⟩ := e
  obtain ⟨hpre, hpost, hwf⟩ := hwf
  simp only [Elem.text] at hpre hpost hwf ⊢
  cases sp with
  | range f l =>
    have e : pre ++ (Spec.range f l).text ++ post = pre ++ (f ++ (45 :: (l ++ post))) := by
      simp [Spec.text, List.append_assoc]
    have h2 := strtoll_num [] l post (fun _ hb => nomatch hb) hwf.2 hpost.head_not_digit
    rw [List.nil_append] at h2
    rw [e, parseSpec, parseNext, strtoll_num pre f _ hpre hwf.1 (head_minus_not_digit _)]
    simp only [clamp_nonneg, ge_iff_le, if_true, clamp_lt_iff hmax]
    by_cases ha : (decVal f : Int) < len
    · obtain ⟨hle, hlast⟩ := clamp_last hmax (decVal l) ha
      simp only [ha, if_true, skipWs_minus, h2, clamp_of_lt hmax ha, hle, hlast,
        skipWs_blank post hpost, Spec.sem, and_true]
      by_cases hab : (decVal f : Int) ≤ decVal l <;> simp only [hab, if_true, if_false]
    · simp only [ha, if_false, Spec.sem, and_false]
  | fromPos f =>
    have e : pre ++ (Spec.fromPos f).text ++ post = pre ++ (f ++ (45 :: post)) := by
      simp [Spec.text, List.append_assoc]
    rw [e, parseSpec, parseNext, strtoll_num pre f _ hpre hwf (head_minus_not_digit _)]
    simp only [clamp_nonneg, ge_iff_le, if_true, clamp_lt_iff hmax]
    by_cases ha : (decVal f : Int) < len
    · simp only [ha, if_true, skipWs_minus, strtoll_blank post hpost, clamp_of_lt hmax ha,
        skipWs_blank post hpost, Spec.sem]
    · simp only [ha, if_false, Spec.sem]
  | suffix n =>
    have e : pre ++ (Spec.suffix n).text ++ post = pre ++ 45 :: (n ++ post) := by
      simp [Spec.text, List.append_assoc]
    rw [e, parseSpec, parseNext, strtoll_neg pre n post hpre hwf hpost.head_not_digit]
    by_cases hz : decVal n = 0
    · rw [hz, show clampLL true 0 = 0 by decide]
      simp [llmax_eq, hlen, skipWs_blank post hpost, Spec.sem, hz]
    · obtain ⟨hneg, hstart⟩ := clamp_suffix hmax hz
      simp only [hneg, if_false, hstart, skipWs_blank post hpost, Spec.sem, hz]

theorem validRanges_elems (len : Int) (hlen : 0 < len) (hmax : len ≤ LLONG_MAX) (es : List Elem)
    (hwf : ∀ e ∈ es, e.WF) :
    validRanges len (es.map Elem.text) = es.filterMap (fun e => e.spec.sem len) := by
  induction es with
  | nil => rfl
  | cons e es ih =>
    obtain ⟨he, hes⟩ := List.forall_mem_cons.mp hwf
    unfold validRanges at ih ⊢
    simp only [List.map_cons, List.filterMap_cons, parseSpec_elem len hlen hmax e he, ih hes]

theorem parse_rangeSet (len : Int) (hlen : 0 < len) (hmax : len ≤ LLONG_MAX) (es : List Elem)
    (hne : es ≠ []) (hwf : ∀ e ∈ es, e.WF) :
    parse (rangeSetText es) len = rangesOf (es.filterMap (fun e => e.spec.sem len)) := by
  rw [parse_eq, splitOn_rangeSet es hne hwf, validRanges_elems len hlen hmax es hwf]

theorem rangeSet_cov_small (len : Int) (hlen : 0 < len) (hmax : len ≤ LLONG_MAX) (es : List Elem)
    (hne : es ≠ []) (hwf : ∀ e ∈ es, e.WF) (hcount : es.length ≤ RMAX_UNSORTED) :
    Covers (parse (rangeSetText es) len) (es.filterMap (fun e => e.spec.sem len)) := by
  rw [parse_rangeSet len hlen hmax es hne hwf]
  simpa using rangesOf_cov_few _ [] (Nat.le_trans (List.length_filterMap_le _ _) hcount)

theorem rangeSet_cov_prefix (len : Int) (hlen : 0 < len) (hmax : len ≤ LLONG_MAX)
    (pre post : List Elem) (hne : pre ≠ []) (hwf : ∀ e ∈ pre ++ post, e.WF) (hcount : pre.length ≤ RMAX)
    (hasc : (pre.filterMap (fun e => e.spec.sem len)).Pairwise (fun a b => a.1 ≤ b.1)) :
    Covers (parse (rangeSetText (pre ++ post)) len) (pre.filterMap (fun e => e.spec.sem len)) := by
  rw [parse_rangeSet len hlen hmax _ (by simp [hne]) hwf, List.filterMap_append]
  exact rangesOf_cov_ascending _ _ (Nat.le_trans (List.length_filterMap_le _ _) hcount) hasc

theorem rangeSet_cov_sorted (len : Int) (hlen : 0 < len) (hmax : len ≤ LLONG_MAX) (es : List Elem)
    (hne : es ≠ []) (hwf : ∀ e ∈ es, e.WF) (hcount : es.length ≤ RMAX)
    (hasc : (es.filterMap (fun e => e.spec.sem len)).Pairwise (fun a b => a.1 ≤ b.1)) :
    Covers (parse (rangeSetText es) len) (es.filterMap (fun e => e.spec.sem len)) := by
  simpa using rangeSet_cov_prefix len hlen hmax es [] hne (by simpa using hwf) hcount hasc

theorem parse_rangeSet_eq_nil_iff (len : Int) (hlen : 0 < len) (hmax : len ≤ LLONG_MAX)
    (es : List Elem) (hne : es ≠ []) (hwf : ∀ e ∈ es, e.WF) :
    parse (rangeSetText es) len = [] ↔ ∀ e ∈ es, e.spec.sem len = none := by
  rw [parse_rangeSet len hlen hmax es hne hwf, rangesOf_eq_nil_iff, List.filterMap_eq_nil_iff]

/-! ### case analysis of http_range_process() / http_range_rfc7233() -/

/-- the range unit is "bytes" (case-insensitive), followed by "=" -/
def UnitBytes (hdr : Bytes) : Prop := 6 ≤ hdr.length ∧ eqIcase (hdr.take 6) bytesEq = true

def resp416 (rs : Resp) : Resp :=
  { rs with status := 416, contentRange := some (contentRangeUnsat (cqLen rs.body)) }

def respSingle (rs : Resp) (r : Rng) : Resp :=
  { rs with status := 206, body := single rs.body r.1.toNat r.2.toNat,
            contentRange := some (contentRange r.1.toNat r.2.toNat (cqLen rs.body)),
            contentLength := some (natDec (cqLen (single rs.body r.1.toNat r.2.toNat))) }

def respMulti (rs : Resp) (l : List Rng) : Resp :=
  { rs with status := 206, body := multi rs.body rs.contentType (l.map toNatRng),
            contentType := some multipartType,
            contentLength := some (natDec (cqLen (multi rs.body rs.contentType (l.map toNatRng)))) }

/-- what http_range_process() answers (`out`) -/
inductive ProcEff (rs : Resp) (hdr : Bytes) (out : Resp) : Prop
  | ignored (he : out = rs) (why : rs.body.flatten = [] ∨ ¬ UnitBytes hdr)
  | unsat (hne : rs.body.flatten ≠ []) (hub : UnitBytes hdr)
      (hnil : parse (hdr.drop 6) rs.body.flatten.length = []) (he : out = resp416 rs)
  | single (r : Rng) (hne : rs.body.flatten ≠ []) (hub : UnitBytes hdr)
      (hp : parse (hdr.drop 6) rs.body.flatten.length = [r]) (he : out = respSingle rs r)
  | multi (hne : rs.body.flatten ≠ []) (hub : UnitBytes hdr)
      (h2 : 2 ≤ (parse (hdr.drop 6) rs.body.flatten.length).length)
      (he : out = respMulti rs (parse (hdr.drop 6) rs.body.flatten.length))

theorem process_eff (rs : Resp) (hdr : Bytes) : ProcEff rs hdr (process rs hdr) := by
  unfold process
  simp only [cqLen, List.length_eq_zero_iff]
  by_cases h0 : rs.body.flatten = []
  · rw [if_pos h0]; exact .ignored rfl (.inl h0)
  rw [if_neg h0]
  by_cases hu : hdr.length < 6 ∨ (!eqIcase (hdr.take 6) bytesEq) = true
  · rw [if_pos hu]
    refine .ignored rfl (.inr fun hub => ?_)
    rcases hu with hu | hu
    · exact absurd hub.1 (by omega)
    · rw [hub.2] at hu; cases hu
  rw [if_neg hu]
  have hub : UnitBytes hdr := by simpa [UnitBytes] using hu
  match hl : parse (hdr.drop 6) rs.body.flatten.length with
  | [] => exact .unsat h0 hub hl rfl
  | [r] => exact .single r h0 hub hl rfl
  | _ :: _ :: _ => exact .multi h0 hub (by rw [hl]; simp) (by rw [hl]; rfl)

theorem process_status (rs : Resp) (hdr : Bytes) (hne : rs.body.flatten ≠ []) (hub : UnitBytes hdr) :
    (process rs hdr).status = if parse (hdr.drop 6) rs.body.flatten.length = [] then 416 else 206 := by
  cases process_eff rs hdr with
  | ignored _ why => exact why.elim (absurd · hne) (absurd hub)
  | unsat _ _ hnil he => rw [he, if_pos hnil]; rfl
  | single r _ _ hp he => rw [he, hp]; rfl
  | multi _ _ h2 he => rw [he, if_neg fun e => by rw [e] at h2; cases h2]; rfl

theorem len_pos {rep : Bytes} (h : rep ≠ []) : (0 : Int) < rep.length := by
  have := List.length_pos_iff.mpr h; omega

theorem parse_parts_inB (s rep : Bytes) (hne : rep ≠ []) :
    ∀ p ∈ (parse s rep.length).map toNatRng, p.1 ≤ p.2 ∧ p.2 < rep.length := by
  intro p hp
  obtain ⟨r, hr, rfl⟩ := List.mem_map.mp hp
  have := parse_inB s rep.length (len_pos hne) r hr
  simp only [InB] at this
  simp only [toNatRng]
  omega

theorem process_206 (rs : Resp) (hdr : Bytes) (h200 : rs.status = 200)
    (h206 : (process rs hdr).status = 206) :
    let rep := rs.body.flatten
    let out := process rs hdr
    let parts := (parse (hdr.drop 6) rep.length).map toNatRng
    parts ≠ [] ∧
    (∀ p ∈ parts, p.1 ≤ p.2 ∧ p.2 < rep.length) ∧
    out.contentLength = some (natDec out.body.flatten.length) ∧
    ((∃ a b, parts = [(a, b)] ∧ out.contentRange = some (contentRange a b rep.length) ∧
        out.contentType = rs.contentType ∧ out.body.flatten = slice rep a b) ∨
     (2 ≤ parts.length ∧ out.contentRange = rs.contentRange ∧
        out.contentType = some multipartType ∧
        out.body.flatten = multipartBody rep rs.contentType parts)) := by
  dsimp only
  have hb := fun hne => parse_parts_inB (hdr.drop 6) rs.body.flatten hne
  cases process_eff rs hdr with
  | ignored he => rw [he, h200] at h206; cases h206
  | unsat _ _ _ he => rw [he] at h206; cases h206
  | single r hne _ hp he =>
    have hb := hb hne
    rw [hp] at hb
    rw [he, hp]
    dsimp only [respSingle]
    exact ⟨List.cons_ne_nil _ _, hb, rfl, .inl ⟨_, _, rfl, rfl, rfl, single_flatten _ _ _⟩⟩
  | multi hne _ h2 he =>
    rw [he]
    dsimp only [respMulti]
    exact ⟨fun e => (by rw [List.map_eq_nil_iff.mp e] at h2; cases h2), hb hne, rfl,
      .inr ⟨by rw [List.length_map]; exact h2, rfl, rfl, multi_flatten _ _ _ (hb hne)⟩⟩

/-- every precondition of http_range_rfc7233() for evaluating a Range header `hdr` -/
def Applicable (rq : Req) (rs : Resp) (hdr : Bytes) : Prop :=
  rs.finished = true ∧ rs.status = 200 ∧ rq.method = 0 ∧ (1 ≤ rq.version ∨ rq.allow10 = true) ∧
  rs.encoded = false ∧ rs.acceptRanges ≠ some (ofString "none") ∧ rq.range = some hdr ∧
  ifRangePass rq.ifRange rs = true

section
variable {rq : Req} {rs : Resp} {hdr : Bytes} (h : Applicable rq rs hdr)
include h
theorem Applicable.status : rs.status = 200 := h.2.1
theorem Applicable.method : rq.method = 0 := h.2.2.1
theorem Applicable.version : 1 ≤ rq.version ∨ rq.allow10 = true := h.2.2.2.1
theorem Applicable.range : rq.range = some hdr := h.2.2.2.2.2.2.1
theorem Applicable.ifRange : ifRangePass rq.ifRange rs = true := h.2.2.2.2.2.2.2
end

theorem rfc7233_applicable {rq : Req} {rs : Resp} {hdr : Bytes} (h : Applicable rq rs hdr) :
    rfc7233 rq rs = process (withAcceptRanges rs) hdr := by
  obtain ⟨h1, h2, h3, h4, h5, h6, h7, h8⟩ := h
  have hv : ¬ (rq.version < 1 ∧ (!rq.allow10) = true) := by
    intro ⟨a, b⟩
    rcases h4 with d | d
    · omega
    · rw [d] at b; cases b
  unfold rfc7233
  rw [if_neg (by simp [h1]), if_neg (by simp [h2]), if_neg (by simp [h3]), if_neg hv,
      if_neg (by simp [h5]), if_neg h6, if_neg (by simp [h3]), h7]
  simp only [h8, if_true]

/-- the parts of `rs` that a Range request may change -/
def SameRepresentation (out rs : Resp) : Prop :=
  out.status = rs.status ∧ out.body = rs.body ∧ out.contentRange = rs.contentRange ∧
  out.contentLength = rs.contentLength ∧ out.contentType = rs.contentType ∧
  out.etag = rs.etag ∧ out.lastModified = rs.lastModified

theorem same_refl (rs : Resp) : SameRepresentation rs rs := by simp [SameRepresentation]

theorem same_withAcceptRanges (rs : Resp) : SameRepresentation (withAcceptRanges rs) rs := by
  unfold withAcceptRanges SameRepresentation
  split <;> simp

theorem rfc7233_cases (rq : Req) (rs : Resp) :
    SameRepresentation (rfc7233 rq rs) rs ∨
    (∃ hdr, Applicable rq rs hdr ∧ rfc7233 rq rs = process (withAcceptRanges rs) hdr) := by
  by_cases happ : ∃ hdr, Applicable rq rs hdr
  · obtain ⟨hdr, h⟩ := happ
    exact .inr ⟨hdr, h, rfc7233_applicable h⟩
  · left
    unfold rfc7233
    -- (`ite_ind`, not `split`: that is slow to check on this term)
    -- c1…c7 negate the early returns in order (unfinished, not 200, not GET/HEAD, HTTP/1.0, encoded,
    -- Accept-Ranges none, not GET); c8: If-Range
    refine ite_ind (P := (SameRepresentation · rs)) (fun _ => same_refl rs) fun c1 => ?_
    refine ite_ind (P := (SameRepresentation · rs)) (fun _ => same_refl rs) fun c2 => ?_
    refine ite_ind (P := (SameRepresentation · rs)) (fun _ => same_refl rs) fun c3 => ?_
    refine ite_ind (P := (SameRepresentation · rs)) (fun _ => same_refl rs) fun c4 => ?_
    refine ite_ind (P := (SameRepresentation · rs)) (fun _ => same_refl rs) fun c5 => ?_
    refine ite_ind (P := (SameRepresentation · rs)) (fun _ => same_refl rs) fun c6 => ?_
    refine ite_ind (P := (SameRepresentation · rs)) (fun _ => same_withAcceptRanges rs) fun c7 => ?_
    cases hrange : rq.range with
    | none => exact same_withAcceptRanges rs
    | some hdr =>
      refine ite_ind (P := (SameRepresentation · rs)) (fun c8 => ?_) fun _ => same_withAcceptRanges rs
      refine absurd ⟨hdr, by simpa using c1, by simpa using c2, by simpa using c7, ?_,
        by simpa using c5, c6, hrange, c8⟩ happ
      by_cases hv : rq.version < 1
      · exact .inr (by simpa [hv] using c4)
      · exact .inl (by omega)

theorem withAcceptRanges_status (rs : Resp) : (withAcceptRanges rs).status = rs.status :=
  (same_withAcceptRanges rs).1
theorem withAcceptRanges_body (rs : Resp) : (withAcceptRanges rs).body = rs.body :=
  (same_withAcceptRanges rs).2.1
theorem withAcceptRanges_contentType (rs : Resp) :
    (withAcceptRanges rs).contentType = rs.contentType :=
  (same_withAcceptRanges rs).2.2.2.2.1

/-- standing hypotheses of the statements about a grammatical Range header -/
structure RangeReq (rq : Req) (rs : Resp) (unit : Bytes) (es : List Elem) : Prop where
  app : Applicable rq rs (unit ++ rangeSetText es)
  unit : unit.length = 6 ∧ eqIcase unit bytesEq = true
  ne : es ≠ []
  wf : ∀ e ∈ es, e.WF
  body : rs.body.flatten ≠ []
  max : (rs.body.flatten.length : Int) ≤ LLONG_MAX

theorem rangeSet_header {unit : Bytes} (hunit : unit.length = 6 ∧ eqIcase unit bytesEq = true)
    (es : List Elem) :
    UnitBytes (unit ++ rangeSetText es) ∧ (unit ++ rangeSetText es).drop 6 = rangeSetText es := by
  exact ⟨⟨by rw [List.length_append]; omega, by rw [← hunit.1, List.take_left]; exact hunit.2⟩,
    by rw [← hunit.1, List.drop_left]⟩

theorem rangeSet_status {rq : Req} {rs : Resp} {unit : Bytes} {es : List Elem}
    (h : RangeReq rq rs unit es) :
    ((rfc7233 rq rs).status = 416 ↔ ∀ e ∈ es, e.spec.sem rs.body.flatten.length = none) ∧
    ((rfc7233 rq rs).status = 206 ↔ ∃ e ∈ es, (e.spec.sem rs.body.flatten.length).isSome) := by
  obtain ⟨hub, hdrop⟩ := rangeSet_header h.unit es
  have hst := process_status (withAcceptRanges rs) _ (by rw [withAcceptRanges_body]; exact h.body) hub
  have hnil := parse_rangeSet_eq_nil_iff rs.body.flatten.length
    (len_pos h.body) h.max es h.ne h.wf
  rw [← rfc7233_applicable h.app, withAcceptRanges_body, hdrop] at hst
  have hex : (∃ e ∈ es, (e.spec.sem rs.body.flatten.length).isSome) ↔
      ¬ ∀ e ∈ es, e.spec.sem rs.body.flatten.length = none := by
    simp only [Option.isSome_iff_ne_none, Classical.not_forall, exists_prop]
  rw [hex, ← hnil, hst]
  split <;> rename_i hP <;> simp only [hP] <;> decide

/-- `c15_range_response` for any bound under which the satisfiable specs are covered (`hcov`) -/
theorem rangeSet_response {rq : Req} {rs : Resp} {unit : Bytes} {es : List Elem}
    (h : RangeReq rq rs unit es)
    (hsat : ∃ e ∈ es, (e.spec.sem rs.body.flatten.length).isSome)
    (hcov : Covers (parse (rangeSetText es) rs.body.flatten.length)
      (es.filterMap (fun e => e.spec.sem rs.body.flatten.length))) :
    let out := rfc7233 rq rs
    let rep := rs.body.flatten
    let parts := (parse (rangeSetText es) rep.length).map toNatRng
    out.status = 206 ∧
    (∀ p ∈ parts, p.1 ≤ p.2 ∧ p.2 < rep.length) ∧
    (∀ e ∈ es, ∀ r, e.spec.sem rep.length = some r →
        ∃ p ∈ parts, (p.1 : Int) ≤ r.1 ∧ r.2 ≤ (p.2 : Int)) ∧
    out.contentLength = some (natDec out.body.flatten.length) ∧
    ((∃ a b, parts = [(a, b)] ∧ out.contentRange = some (contentRange a b rep.length) ∧
        out.body.flatten = slice rep a b) ∨
     (2 ≤ parts.length ∧ out.contentType = some multipartType ∧
        out.body.flatten = multipartBody rep rs.contentType parts)) := by
  dsimp only
  have h206 := (rangeSet_status h).2.mpr hsat
  have he := rfc7233_applicable h.app
  have hpe := process_206 (withAcceptRanges rs) (unit ++ rangeSetText es)
    ((withAcceptRanges_status rs).trans h.app.status) (he ▸ h206)
  simp only [withAcceptRanges_body, withAcceptRanges_contentType,
    (rangeSet_header h.unit es).2, ← he] at hpe
  obtain ⟨_, hbounds, hcl, hshape⟩ := hpe
  refine ⟨h206, hbounds, fun e he' r hr => ?_, hcl, ?_⟩
  · obtain ⟨p, hp, h1, h2⟩ := hcov r (List.mem_filterMap.mpr ⟨e, he', hr⟩)
    have hin := parse_inB (rangeSetText es) rs.body.flatten.length
      (len_pos h.body) p hp
    simp only [InB] at hin
    exact ⟨toNatRng p, List.mem_map_of_mem hp, by simp only [toNatRng]; omega,
      by simp only [toNatRng]; omega⟩
  · rcases hshape with ⟨a, b, h1, h2, _, h4⟩ | ⟨h1, _, h3, h4⟩
    · exact .inl ⟨a, b, h1, h2, h4⟩
    · exact .inr ⟨h1, h3, h4⟩

/-! ### concrete instances used by the non-vacuity examples of Props/C15.lean -/

def exReq : Req := { method := 0, version := 1, allow10 := false,
                     range := some (ofString "bytes=2-5"), ifRange := none }
def exResp : Resp := { status := 200, finished := true, encoded := false,
                       body := [ofString "hello ", ofString "world!"], etag := none,
                       lastModified := none, contentType := none, acceptRanges := none }
/-- a satisfiable suffix spec with whitespace and a leading zero -/
def exElem : Elem := { pre := [32], spec := .suffix (ofString "03"), post := [9] }

end Range
end LtVerif
