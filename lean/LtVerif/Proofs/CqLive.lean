/-
  C17 — retryable write results never surface as an error: under a `Benign` schedule (no EIO,
  no mkostemp() failure) with an upload dir left for every ENOSPC to come (`Good`) the
  temp-file append loops do not fail.
-/
import LtVerif.Proofs.Cq
import LtVerif.Proofs.CqSStep
import LtVerif.Proofs.CqFuel
namespace LtVerif.Cq

def WFault.retryable : WFault → Bool
  | .eio => false
  | _ => true

def countE (l : List WFault) : Nat := l.count .enospc

theorem countE_suffix {a b : List WFault} (h : a <:+ b) : countE a ≤ countE b := h.count_le _

/-- an upload dir is left for every ENOSPC to come (`$TMPDIR` only: none may come) -/
def DirOK (w : World) (q : Cq) : Prop :=
  (w.ndirs = 0 ∧ countE w.wsched = 0) ∨ q.tdIdx + countE w.wsched < w.ndirs

theorem DirOK.now {w : World} {q : Cq} (h : DirOK w q) : w.ndirs = 0 ∨ q.tdIdx < w.ndirs := by
  rcases h with h | h
  · exact Or.inl h.1
  · exact Or.inr (by omega)

theorem DirOK.calm {w w' : World} {q q' : Cq} (h : DirOK w q) (hc : Calm w w') (ht : q'.tdIdx = q.tdIdx) :
    DirOK w' q' := by
  have := countE_suffix hc.ws
  unfold DirOK
  rw [hc.nd, ht]
  rcases h with h | h
  · exact Or.inl ⟨h.1, by omega⟩
  · exact Or.inr (by omega)

theorem DirOK.enospc {w : World} {q : Cq} (h : DirOK w q) (he : (popW w).2 = .enospc) :
    q.tdIdx + 1 + countE (popW w).1.wsched < (popW w).1.ndirs := by
  have : countE w.wsched = countE (popW w).1.wsched + 1 := by
    rcases popW_cases w with ⟨_, e⟩ | ⟨f, t, hw, e⟩
    · rw [e] at he; cases he
    · rw [e] at he ⊢
      simp only at he
      subst he
      rw [hw]
      simp [countE]
  rw [(popW_quiet w).calm.nd]
  unfold DirOK at h
  omega

/-- a temp chunk that holds a read-only descriptor (a closed temp file re-opened
    by a reader) cannot be appended to: excluded -/
def Chunk.wr : Chunk → Prop
  | .file _ _ _ true .ro => False
  | _ => True

def AllWr (cs : List Chunk) : Prop := ∀ c ∈ cs, c.wr

structure Benign (w : World) : Prop where
  ws : ∀ f ∈ w.wsched, WFault.retryable f = true
  ms : ∀ b ∈ w.msched, b = false

theorem Benign.calm {w w' : World} (h : Benign w) (c : Calm w w') : Benign w' :=
  ⟨fun f hf => h.ws f (c.ws.subset hf), fun b hb => h.ms b (c.ms.subset hb)⟩

structure Good (w : World) (q : Cq) : Prop where
  ben : Benign w
  dir : DirOK w q
  wr : AllWr q.chunks

theorem Good.calm {w w' : World} {q q' : Cq} (h : Good w q) (hc : Calm w w') (ht : q'.tdIdx = q.tdIdx)
    (hw : AllWr q'.chunks) : Good w' q' :=
  ⟨h.ben.calm hc, h.dir.calm hc ht, hw⟩

theorem Benign.of_sched {w : World} (hws : ∀ f ∈ w.wsched, f ≠ .eio) (hms : ∀ b ∈ w.msched, b = false) : Benign w := by
  refine ⟨fun f hf => ?_, hms⟩
  have := hws f hf
  cases f <;> first | rfl | exact absurd rfl this

theorem popM_benign {w : World} (h : Benign w) : (popM w).2 = false := by
  unfold popM
  split
  · rfl
  · rename_i f t hm
    exact h.ms f (by rw [hm]; exact List.mem_cons_self ..)

theorem popW_retryable {w : World} (h : Benign w) : WFault.retryable (popW w).2 = true := by
  rcases popW_cases w with ⟨_, e⟩ | ⟨f, t, hw, e⟩
  · rw [e]; rfl
  · rw [e]; exact h.ws f (by rw [hw]; exact List.mem_cons_self ..)

theorem AllWr.append {a b : List Chunk} (ha : AllWr a) (hb : AllWr b) : AllWr (a ++ b) :=
  List.forall_mem_append.mpr ⟨ha, hb⟩

theorem AllWr.dropLast {a : List Chunk} (ha : AllWr a) : AllWr a.dropLast :=
  fun c hc => ha c (List.dropLast_subset _ hc)

theorem AllWr.single {c : Chunk} (h : c.wr) : AllWr [c] :=
  List.forall_mem_cons.mpr ⟨h, fun _ h => nomatch h⟩

theorem AllWr.setLast {a : List Chunk} {c : Chunk} (ha : AllWr a) (hc : c.wr) : AllWr (setLast a c) :=
  AllWr.append ha.dropLast (AllWr.single hc)

/-- chunkqueue_get_append_tempfile() under a benign schedule: a writable temp chunk at the end -/
structure GatPost (w : World) (q : Cq) (w' : World) (q' : Cq) : Prop where
  calm : Calm w w'
  ws : w'.wsched = w.wsched
  td : q'.tdIdx = q.tdIdx
  wr : AllWr q'.chunks
  last : ∃ fid off len fd, q'.chunks.getLast? = some (.file fid off len true fd) ∧ fd.isOpen = true ∧ fd ≠ .ro

theorem newTempfile_good {w : World} {q : Cq} (hb : Benign w) (hd : w.ndirs = 0 ∨ q.tdIdx < w.ndirs)
    (hw : AllWr q.chunks) :
    (newTempfile w q).2.2 = true ∧ GatPost w q (newTempfile w q).1 (newTempfile w q).2.1 := by
  have hpm := popM_benign hb
  have hpc : Calm w (popM w).1 := (popM_quiet w).calm
  have hpw : (popM w).1.wsched = w.wsched := by unfold popM; split <;> rfl
  have hnew : ∀ fid, AllWr (q.chunks ++ [Chunk.file fid 0 0 true .rw]) :=
    fun fid => AllWr.append hw (AllWr.single trivial)
  unfold newTempfile
  split
  -- upload dirs configured: the queue's current dir is tried first
  case' isTrue =>
    rename_i hnd
    have hlt : q.tdIdx < w.ndirs := by rcases hd with h | h <;> omega
    rw [show w.ndirs - q.tdIdx + 1 = (w.ndirs - q.tdIdx) + 1 from rfl]
    simp only [mkstempDirs, if_pos hlt]
  -- either way one mkostemp() call, and it succeeds
  all_goals
    generalize hp : popM w = p at hpm hpc hpw
    obtain ⟨w1, f⟩ := p
    simp only at hpm hpc hpw
    subst hpm
    simp only [Bool.false_eq_true, if_false, createTemp]
    exact ⟨trivial, ⟨hpc.trans (Calm.of_eq rfl rfl rfl rfl), hpw, rfl, hnew _,
      ⟨_, 0, 0, .rw, List.getLast?_concat, rfl, by decide⟩⟩⟩

theorem getAppendTempfile_good {w : World} {q : Cq} (hg : Good w q) :
    (getAppendTempfile w q).2.2 = true ∧ GatPost w q (getAppendTempfile w q).1 (getAppendTempfile w q).2.1 := by
  unfold getAppendTempfile
  split
  · rename_i fid off len fd hl
    split
    · rename_i hopen
      split
      · refine ⟨rfl, ⟨Calm.refl w, rfl, rfl, hg.wr, ⟨fid, off, len, fd, hl, hopen, ?_⟩⟩⟩
        intro hro
        subst hro
        exact hg.wr _ (List.mem_of_getLast? hl)
      · have hc := (closeFd_same w fid).calm
        have := newTempfile_good (w := w.closeFd fid)
          (q := { q with chunks := setLast q.chunks (.file fid off len true .none) })
          (hg.ben.calm hc) (by rw [hc.nd]; exact hg.dir.now) (hg.wr.setLast trivial)
        obtain ⟨a, b⟩ := this
        exact ⟨a, ⟨hc.trans b.calm, b.ws, b.td, b.wr, b.last⟩⟩
    · exact newTempfile_good hg.ben hg.dir.now hg.wr
  · exact newTempfile_good hg.ben hg.dir.now hg.wr

theorem lastReadOnly_false {q : Cq} {fid off len : Nat} {fd : Fd}
    (hl : q.chunks.getLast? = some (.file fid off len true fd)) (hro : fd ≠ .ro) : lastReadOnly q = false := by
  unfold lastReadOnly
  rw [hl]
  cases fd <;> simp_all

theorem effFault_id {q : Cq} (h : lastReadOnly q = false) (f : WFault) : effFault q f = f := by
  cases f <;> simp [effFault, h]

theorem good_grow {w w0 w' : World} {q q' : Cq} (hg : Good w0 q) (hp : GatPost w0 q w q') (hc : Calm w w') (n : Nat) :
    Good w' (growLast q' n) := by
  obtain ⟨fid, off, len, fd, hl, ho, hro⟩ := hp.last
  obtain ⟨e1, e2⟩ := growLast_file n hl
  have hcc := hp.calm.trans hc
  refine hg.calm hcc (by rw [e2, hp.td]) ?_
  rw [e1]
  refine hp.wr.setLast ?_
  cases fd <;> first | trivial | exact absurd rfl hro

/-! ## append_mem_to_tempfile under a benign schedule -/

/-- ENOSPC was just consumed and the queue still had a dir for it: retry in the next dir -/
theorem tempfileErr_good {w : World} {q : Cq} (hb : Benign w) (hd : q.tdIdx + 1 + countE w.wsched < w.ndirs)
    (hw : AllWr q.chunks) :
    (tempfileErr w q true).2.2 = true ∧ Calm w (tempfileErr w q true).1 ∧
      Good (tempfileErr w q true).1 (tempfileErr w q true).2.1 := by
  have hnd : w.ndirs > 0 := by omega
  have hbump : bumpDir w q true = ({ q with tdIdx := q.tdIdx + 1 }, true) := by
    unfold bumpDir
    simp only [Bool.true_and, decide_eq_true_eq]
    rw [if_pos hnd]
    simp only [Prod.mk.injEq, decide_eq_true_eq, true_and]
    omega
  unfold tempfileErr
  rw [hbump]
  dsimp only
  have hc := (dropOrCloseLast_step w { q with tdIdx := q.tdIdx + 1 }).1.calm
  obtain ⟨hm, ht⟩ := dropOrCloseLast_mem w { q with tdIdx := q.tdIdx + 1 }
  generalize dropOrCloseLast w { q with tdIdx := q.tdIdx + 1 } = r at hc hm ht
  obtain ⟨w', q'⟩ := r
  simp only at hc hm ht ⊢
  refine ⟨trivial, hc, hb.calm hc, ?_, ?_⟩
  · have := countE_suffix hc.ws
    refine Or.inr ?_
    rw [ht, hc.nd]
    omega
  · intro x hx
    rcases hm x hx with h | ⟨fid, off, len, h⟩
    · exact hw x h
    · subst h; trivial

theorem mtLoop_good (fuel : Nat) (w : World) (q : Cq) (d : Bytes) (hf : w.wsched.length + 1 ≤ fuel)
    (hg : Good w q) : (mtLoop fuel w q d).2.2 = true := by
  induction fuel generalizing w q d with
  | zero => omega
  | succ fuel ih =>
    obtain ⟨hok, hp⟩ := getAppendTempfile_good hg
    unfold mtLoop
    generalize hgat : getAppendTempfile w q = r at hok hp
    obtain ⟨w1, q1, ok⟩ := r
    simp only at hok hp
    subst hok
    simp only
    split
    · rfl
    · obtain ⟨fid, off, len, fd, hl, ho, hro⟩ := hp.last
      have hb1 : Benign w1 := hg.ben.calm hp.calm
      have hret := popW_retryable hb1
      have hpc := (popW_quiet w1).calm
      rw [effFault_id (lastReadOnly_false hl hro)]
      have hlen : (popW w1).2 ≠ .ok → (popW w1).1.wsched.length + 1 ≤ fuel := fun h => by
        have h1 := popW_len h
        have h2 := congrArg List.length hp.ws
        omega
      cases he : (popW w1).2 with
      | ok => rfl
      | short n =>
        simp only
        split
        · rfl
        · exact ih _ _ _ (by rw [(writeLast_calm _ _ _).2]; exact hlen (by rw [he]; simp))
            (good_grow hg hp (hpc.trans (writeLast_calm _ _ _).1) n)
      | eintr =>
        exact ih _ _ _ (hlen (by rw [he]; simp)) (hg.calm (hp.calm.trans hpc) hp.td hp.wr)
      | enospc =>
        simp only
        have hdir := (hg.dir.calm hp.calm hp.td).enospc he
        obtain ⟨e1, e2, e3⟩ := tempfileErr_good (w := (popW w1).1) (q := q1) (hb1.calm hpc) hdir hp.wr
        generalize tempfileErr (popW w1).1 q1 true = r at e1 e2 e3
        obtain ⟨w2, q2, retry⟩ := r
        simp only at e1 e2 e3
        subst e1
        simp only
        refine ih _ _ _ ?_ e3
        have := e2.wlen
        have := hlen (by rw [he]; simp)
        omega
      | eio => rw [he] at hret; cases hret

/-! ## steal_with_tempfiles under a benign schedule -/

theorem Chunk.wr_adv {c : Chunk} (n : Nat) (h : c.wr) : (c.adv n).wr := by
  cases c with
  | mem d off cap => trivial
  | file fid off len t fd => cases t <;> cases fd <;> first | trivial | exact h  -- `adv` keeps `t`, `fd`

theorem markWritten_good {w : World} {q : Cq} (n : Nat) (hb : Benign w) (hd : DirOK w q)
    (hw : AllWr q.chunks) : Good (markWritten w q n).1 (markWritten w q n).2 := by
  have hc := (markWritten_same w q n).calm
  rw [markWritten_eq] at hc ⊢
  exact ⟨hb.calm hc, hd.calm hc rfl, mwLoop_all (fun _ n => Chunk.wr_adv n) _ _ _ hw⟩

/-- chunkqueue_to_tempfiles() as a parameter does not fail.  The lemmas below take
    `NoMem dest.chunks ∨ TTGood toTemp`: the nested call (dest gets FILE chunks only) never
    enters toTemp, there the failing stub -/
def TTGood (toTemp : World → Cq → World × Cq × Bool) : Prop :=
  ∀ w q, Good w q → (toTemp w q).2.2 = true ∧ Good (toTemp w q).1 (toTemp w q).2.1

/-- dest as chunkqueue_append_cqmem_to_tempfile_partial() hands it to mark_written -/
def cqD1 (dest : Cq) (wr : Nat) : Cq :=
  { dest with chunks := dest.chunks.dropLast, bytesIn := dest.bytesIn - wr, bytesOut := dest.bytesOut - wr }

theorem cqmemPartial_good {toTemp : World → Cq → World × Cq × Bool} (ht : TTGood toTemp) {w : World}
    {dest : Cq} (wr : Nat) (hg : Good w dest) (hl : dest.chunks ≠ []) :
    (cqmemPartial toTemp w dest wr).rc = 0 ∧
      Good (cqmemPartial toTemp w dest wr).w (cqmemPartial toTemp w dest wr).dest := by
  unfold cqmemPartial
  split
  · rename_i c hlast
    have hcm : c ∈ dest.chunks := List.mem_of_getLast? hlast
    have mg := markWritten_good (w := w) (q := cqD1 dest wr) wr hg.ben hg.dir hg.wr.dropLast
    have hg2 : Good (markWritten w (cqD1 dest wr) wr).1
        { (markWritten w (cqD1 dest wr) wr).2 with chunks := c :: (markWritten w (cqD1 dest wr) wr).2.chunks } := by
      refine ⟨mg.ben, mg.dir, fun x hx => ?_⟩
      cases hx with
      | head => exact hg.wr c hcm
      | tail _ hx => exact mg.wr x hx
    refine ⟨?_, (ht _ _ hg2).2⟩
    show (if (toTemp _ _).2.2 = true then (0 : Int) else -1) = 0
    exact if_pos (ht _ _ hg2).1
  · rename_i hnone
    exact absurd (List.getLast?_eq_none_iff.mp hnone) hl

theorem cqmemWritten_good {toTemp : World → Cq → World × Cq × Bool} {w : World} {dest : Cq} (dlen wr : Nat)
    (hm : dlen = 0 ∨ TTGood toTemp) (hg : Good w dest) (hl : dest.chunks ≠ []) :
    0 ≤ (cqmemWritten toTemp w dest dlen wr).rc ∧
      Good (cqmemWritten toTemp w dest dlen wr).w (cqmemWritten toTemp w dest dlen wr).dest := by
  unfold cqmemWritten
  split
  · exact ⟨Int.natCast_nonneg _, hg⟩
  · rename_i h0
    split
    · obtain ⟨a, c⟩ := cqmemPartial_good (hm.resolve_left h0) wr hg hl
      exact ⟨by rw [a]; exact Int.le_refl _, c⟩
    · exact ⟨Int.natCast_nonneg _, markWritten_good dlen hg.ben hg.dir hg.wr⟩

theorem cqmem_written_path {toTemp : World → Cq → World × Cq × Bool} {w0 w w' : World} {dest0 dest : Cq}
    (dlen : Nat) (data : Bytes) (hm : dlen = 0 ∨ TTGood toTemp) (hg : Good w0 dest0) (hp : GatPost w0 dest0 w dest)
    (hc : Calm w w') :
    0 ≤ (cqmemWritten toTemp (writeLast w' dest data) (growLast dest data.length) dlen data.length).rc ∧
      Good (cqmemWritten toTemp (writeLast w' dest data) (growLast dest data.length) dlen data.length).w
        (cqmemWritten toTemp (writeLast w' dest data) (growLast dest data.length) dlen data.length).dest := by
  obtain ⟨fid, off, len, fd, hl, ho, hro⟩ := hp.last
  exact cqmemWritten_good (toTemp := toTemp) dlen data.length hm
    (good_grow hg hp (hc.trans (writeLast_calm w' dest data).1) data.length) (by rw [(growLast_file _ hl).1]; simp [setLast])

theorem cqmemWrite_good {toTemp : World → Cq → World × Cq × Bool} {w0 w : World} {dest0 dest : Cq}
    (dbytes sbytes : Bytes) (hm : dbytes.length = 0 ∨ TTGood toTemp) (hg : Good w0 dest0)
    (hp : GatPost w0 dest0 w dest) :
    0 ≤ (cqmemWrite toTemp w dest dbytes sbytes).rc ∧
      Good (cqmemWrite toTemp w dest dbytes sbytes).w (cqmemWrite toTemp w dest dbytes sbytes).dest := by
  obtain ⟨fid, off, len, fd, hl, ho, hro⟩ := hp.last
  have hb1 : Benign w := hg.ben.calm hp.calm
  have hret := popW_retryable hb1
  have hpc := (popW_quiet w).calm
  unfold cqmemWrite
  dsimp only
  rw [effFault_id (lastReadOnly_false hl hro)]
  cases he : (popW w).2 with
  | ok => exact cqmem_written_path dbytes.length (dbytes ++ sbytes) hm hg hp hpc
  | short n => exact cqmem_written_path dbytes.length ((dbytes ++ sbytes).take n) hm hg hp hpc
  | eintr => exact ⟨Int.le_refl _, hg.calm (hp.calm.trans hpc) hp.td hp.wr⟩
  | enospc =>
    dsimp only
    have hdir := (hg.dir.calm hp.calm hp.td).enospc he
    obtain ⟨e1, _, e3⟩ := tempfileErr_good (w := (popW w).1) (q := dest) (hb1.calm hpc) hdir hp.wr
    generalize tempfileErr (popW w).1 dest true = r at e1 e3
    obtain ⟨w2, q2, retry⟩ := r
    simp only at e1 e3
    subst e1
    exact ⟨Int.le_refl _, e3⟩
  | eio => rw [he] at hret; cases hret

theorem cqmemPre_good {toTemp : World → Cq → World × Cq × Bool} {w : World} {dest : Cq}
    (hm : NoMem dest.chunks ∨ TTGood toTemp) (hg : Good w dest) :
    (cqmemPre toTemp w dest).2.2.1 = true ∧ Good (cqmemPre toTemp w dest).1 (cqmemPre toTemp w dest).2.1 ∧
      ((cqmemPre toTemp w dest).2.2.2.1.length = 0 ∨ TTGood toTemp) := by
  rcases cqmemPre_cases toTemp w dest with ⟨h1, e⟩ | ⟨_, _, e⟩ <;> rw [e]
  · have hnn : ¬ NoMem dest.chunks := fun h => by rw [leadingMem_noMem h] at h1; simp at h1
    obtain ⟨t1, t2⟩ := hm.resolve_left hnn _ _ hg
    exact ⟨t1, t2, Or.inl rfl⟩
  · refine ⟨rfl, hg, ?_⟩
    rcases hm with h | h
    · exact Or.inl (by rw [leadingMem_noMem h]; rfl)
    · exact Or.inr h

theorem cqmem_good {toTemp : World → Cq → World × Cq × Bool} {w : World} {dest : Cq} (c : Chunk)
    (rest : List Chunk) (len : Nat) (hm : NoMem dest.chunks ∨ TTGood toTemp) (hg : Good w dest)
    (hc : c.isMem = true) :
    0 ≤ (cqmemToTempfile toTemp w dest (c :: rest) len).rc ∧
      Good (cqmemToTempfile toTemp w dest (c :: rest) len).w (cqmemToTempfile toTemp w dest (c :: rest) len).dest := by
  obtain ⟨hok, hgd, hdl⟩ := cqmemPre_good hm hg
  unfold cqmemToTempfile
  generalize cqmemPre toTemp w dest = p at hok hgd hdl
  obtain ⟨w1, d1, ok, dbytes, iov0⟩ := p
  simp only at hok hgd hdl
  subst hok
  dsimp only
  have hfm : firstIsMemL (c :: rest) = true := hc
  rw [hfm]
  simp only [Bool.not_true, Bool.and_false, Bool.false_eq_true, if_false]
  obtain ⟨g1, g2⟩ := getAppendTempfile_good hgd
  generalize getAppendTempfile w1 d1 = g at g1 g2
  obtain ⟨w2, d2, ok2⟩ := g
  simp only at g1 g2
  subst g1
  dsimp only
  exact cqmemWrite_good (toTemp := toTemp) dbytes (gatherSrc (c :: rest) (16 - iov0) len) hdl hgd g2

/-! ### the FILE_CHUNK branch: chunkqueue_steal() of (part of) the first chunk -/

theorem DestStep.wr {dest dest' : Cq} {c : Chunk} (h : DestStep dest dest' c) (hd : AllWr dest.chunks) (hc : c.wr) :
    AllWr dest'.chunks := by
  rcases h.2 with e | ⟨x, e, _, hx⟩
  · rw [e]; exact hd
  · rw [e]
    refine hd.append (AllWr.single ?_)
    rcases hx with rfl | ⟨fid, o, l, fd, rfl⟩
    · exact hc
    · trivial

/-! ### the loop and its callers -/

theorem swLoop_good {toTemp : World → Cq → World × Cq × Bool} (ht : ToTemp toTemp) (fuel : Nat) (w : World)
    (dest src : Cq) (len : Nat) (hf : w.wsched.length + src.chunks.length + len + 1 ≤ fuel)
    (hm : NoMem dest.chunks ∨ TTGood toTemp) (hg : Good w dest) (hs : AllWr src.chunks) :
    (swLoop toTemp fuel w dest src len).2.2.2 = true ∧
      Good (swLoop toTemp fuel w dest src len).1 (swLoop toTemp fuel w dest src len).2.1 := by
  induction fuel generalizing w dest src len with
  | zero => omega
  | succ fuel ih =>
    unfold swLoop
    split
    · exact ⟨rfl, hg⟩  -- src is empty
    · rename_i c cs heq
      split
      · rename_i hc  -- MEM turn
        obtain ⟨a, cg⟩ := cqmem_good (toTemp := toTemp) c cs len hm hg hc
        dsimp only
        rw [heq]
        have hgood := cg.calm (markWritten_same (cqmemToTempfile toTemp w dest (c :: cs) len).w src
          (cqmemToTempfile toTemp w dest (c :: cs) len).rc.toNat).calm rfl cg.wr
        split
        · omega
        · split
          · exact ⟨rfl, hgood⟩  -- the last
          · rename_i hne
            have hmeas := swLoop_mem_turn ht rfl heq hc a hne
            exact ih _ _ _ _ (by omega) (hm.imp (cqmem_sout ht w dest (c :: cs) len rfl).1.nomem id) hgood
              (by rw [markWritten_eq]; exact mwLoop_all (fun _ n => Chunk.wr_adv n) _ _ _ hs)
      · rename_i hc  -- FILE turn
        have hc' : c.isMem = false := by cases h : c.isMem <;> simp_all
        dsimp only
        have hds : DestStep dest (steal w dest src (min len c.rem)).2.1 c := steal_dest len heq hc'
        have hgood : Good (steal w dest src (min len c.rem)).1 (steal w dest src (min len c.rem)).2.1 :=
          hg.calm (steal_step w dest src (min len c.rem)).same.calm hds.1
            (hds.wr hg.wr (hs c (by rw [heq]; exact List.mem_cons_self ..)))
        split
        · exact ⟨rfl, hgood⟩
        · rename_i hne
          obtain ⟨e, hmeas⟩ := swLoop_file_turn (w := w) (dest := dest) heq hne
          exact ih _ _ _ _ (by rw [e]; omega) (hm.imp hds.nomem id) hgood
            (by rw [e]; exact fun x hx => hs x (by rw [heq]; exact List.mem_cons_of_mem _ hx))

theorem toTempfiles_good : TTGood toTempfiles := by
  intro w q hg
  unfold toTempfiles toTempfilesWith swInner
  dsimp only
  obtain ⟨hok, hgd⟩ := swLoop_good toTempStub_sstep (swFuel w q q.length.toNat) w
    { q with chunks := [], bytesIn := q.bytesIn - (q.length.toNat : Int) } q q.length.toNat
    (by unfold swFuel; omega) (Or.inl (fun c hc => by cases hc)) ⟨hg.ben, hg.dir, fun c hc => by cases hc⟩ hg.wr
  exact ⟨hok, hgd.calm (releaseAll_same _ _).calm rfl hgd.wr⟩

theorem Sys.allWr {s : Sys} (hro : ∀ fid off len, Chunk.file fid off len true .ro ∉ s.chunks) (i : Bool) :
    AllWr (s.get i).chunks := by
  intro c hc
  have hm := Sys.mem_chunks i hc
  cases c with
  | mem d off cap => trivial
  | file fid off len t fd =>
    cases t
    · cases fd <;> trivial
    · cases fd
      · trivial
      · exact absurd hm (hro fid off len)
      · trivial

theorem stealWithTempfiles_good {w : World} {dest src : Cq} (len : Nat) (hg : Good w dest)
    (hs : AllWr src.chunks) : (stealWithTempfiles w dest src len).2.2.2 = true :=
  (swLoop_good toTempfiles_sstep (swFuel w src len) w dest src len (by unfold swFuel; omega)
    (Or.inr toTempfiles_good) hg hs).1

theorem appendMemToTempfile_good {w : World} {q : Cq} (d : Bytes) (hg : Good w q) :
    (appendMemToTempfile w q d).2.2 = true := by
  unfold appendMemToTempfile
  have hpre : (if firstIsMem q = true then toTempfiles w q else (w, q, true)).2.2 = true ∧
      Good (if firstIsMem q = true then toTempfiles w q else (w, q, true)).1
        (if firstIsMem q = true then toTempfiles w q else (w, q, true)).2.1 := by
    split
    · exact toTempfiles_good w q hg
    · exact ⟨rfl, hg⟩
  generalize (if firstIsMem q = true then toTempfiles w q else (w, q, true)) = r at hpre
  obtain ⟨w1, q1, ok⟩ := r
  obtain ⟨a, b⟩ := hpre
  simp only at a b
  subst a
  exact mtLoop_good _ _ _ _ (Nat.le_refl _) b

end LtVerif.Cq
