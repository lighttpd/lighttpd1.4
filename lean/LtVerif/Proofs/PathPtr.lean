/-
  The cursor-level transcriptions of Model/PathPtr.lean against their specifications (Model/Path.lean):
  the copy and back-up steps never lengthen written prefix + unread input; `pathSimplifyPtr = pathSimplify`
  for every byte string; `urldecodePathC = urldecodePath` on NUL-free input.
  Invariant at the head of the main loop: the written prefix is `emit st` (the stack rendered with a
  '/' behind every segment), the unread input is `tailIn segs` (the remaining segments, each followed
  by '/', the last '/' being the sentinel at `end`).
-/
import LtVerif.Model.PathPtr
import LtVerif.Proofs.Path
namespace LtVerif
open B

/-! ### non-interference: the write cursor never passes the read cursor -/

theorem ptrCopy_length : ∀ (rest po : Bytes),
    (ptrCopy po rest).1.length + (ptrCopy po rest).2.length = po.length + rest.length := by
  intro rest
  induction rest with
  | nil => intro po; simp [ptrCopy]
  | cons c r ih =>
    intro po
    unfold ptrCopy
    split
    · simp; omega
    · rw [ih]; simp; omega

theorem ptrBackScan_length (po : Bytes) : (ptrBackScan po).length ≤ po.length := by
  induction po with
  | nil => simp [ptrBackScan]
  | cons x rest ih =>
    cases rest with
    | nil => simp [ptrBackScan]
    | cons y r =>
      unfold ptrBackScan
      split
      · simp
      · simp only [List.length_cons] at ih ⊢; omega

/-! ### the invariant's two halves -/

def emit (st : SimpSt) : Bytes :=
  (if st.rel then [] else [slash]) ++ st.stack.flatMap (· ++ [slash])

def tailIn (segs : List Bytes) : Bytes := segs.flatMap (· ++ [slash])

theorem tailIn_cons (x : Bytes) (rest : List Bytes) :
    tailIn (x :: rest) = x ++ slash :: tailIn rest := by
  simp [tailIn]

theorem emit_push (st : SimpSt) (seg : Bytes) : emit (st.push seg) = emit st ++ seg ++ [slash] := by
  cases hr : st.rel <;> simp [emit, SimpSt.push, List.flatMap_append, hr]

theorem tailIn_splitOn (t : Bytes) : tailIn (splitOn slash t) = t ++ [slash] := by
  rw [tailIn, flatMap_join _ (splitOn_ne_nil _ _), join_splitOn]

theorem render_true_emit {st : SimpSt} : st.render true = emit st := by
  unfold SimpSt.render emit
  by_cases he : st.stack = []
  · simp [he, join]
  · have : (true && !st.stack.isEmpty) = true := by simp [he]
    simp only [this, if_true]
    rw [flatMap_join _ he]; simp

theorem render_false_emit {st : SimpSt} (he : st.stack ≠ []) : st.render false = (emit st).dropLast := by
  unfold SimpSt.render emit
  simp only [Bool.false_and, Bool.false_eq_true, if_false]
  rw [flatMap_join _ he, ← List.append_assoc, List.dropLast_concat]

/-! ### the single steps -/

theorem ptrCopy_seg : ∀ (seg po r : Bytes), slash ∉ seg →
    ptrCopy po (seg ++ slash :: r) = (slash :: (seg.reverse ++ po), r) := by
  intro seg
  induction seg with
  | nil => intro po r _; simp [ptrCopy]
  | cons c cs ih =>
    intro po r h
    have hc : c ≠ slash := fun e => h (by simp [e])
    have hcs : slash ∉ cs := fun e => h (by simp [e])
    simp only [List.cons_append, ptrCopy, hc, if_false]
    rw [ih _ _ hcs]; simp

theorem ptrBackScan_stop : ∀ (w : Bytes) (a : UInt8) (X : Bytes), slash ∉ w →
    ptrBackScan (a :: (w ++ slash :: X)) = slash :: X := by
  intro w
  induction w with
  | nil => intro a X _; simp [ptrBackScan]
  | cons c cs ih =>
    intro a X h
    have hc : c ≠ slash := fun e => h (by simp [e])
    have hcs : slash ∉ cs := fun e => h (by simp [e])
    simp only [List.cons_append, ptrBackScan, hc, if_false]
    exact ih c X hcs

theorem ptrBackScan_bottom : ∀ (w : Bytes) (a : UInt8), slash ∉ w → ∃ z, ptrBackScan (a :: w) = [z] := by
  intro w
  induction w with
  | nil => intro a _; exact ⟨a, by simp [ptrBackScan]⟩
  | cons c cs ih =>
    intro a h
    have hc : c ≠ slash := fun e => h (by simp [e])
    have hcs : slash ∉ cs := fun e => h (by simp [e])
    simp only [ptrBackScan, hc, if_false]
    exact ih c hcs

theorem emit_ends (st : SimpSt) : emit st = [] ∨ ∃ E, emit st = E ++ [slash] := by
  unfold emit
  rcases List.eq_nil_or_concat st.stack with e | ⟨init, last, e⟩
  · cases st.rel
    · right; exact ⟨[], by simp [e]⟩
    · left; simp [e]
  · right
    exact ⟨(if st.rel then [] else [slash]) ++ init.flatMap (· ++ [slash]) ++ last, by simp [e, List.flatMap_append]⟩

/-- "../": backing up over the last segment is the machine's pop -/
theorem emit_pop {st : SimpSt} (h : SimpInv st) :
    slash :: (ptrBackScan (emit st).reverse).drop 1 = (emit st.pop).reverse := by
  rcases List.eq_nil_or_concat st.stack with he | ⟨init, last, hil⟩
  · have hr : st.rel = false := by
      cases hrel : st.rel with
      | false => rfl
      | true => exact absurd he (h.2 hrel)
    simp [emit, he, hr, SimpSt.pop, ptrBackScan]
  · rw [List.concat_eq_append] at hil
    have hns : slash ∉ last.reverse := by simpa using (h.1 last (by simp [hil])).noSlash
    have hp : emit st.pop = if emit { st with stack := init } = [] then [slash] else emit { st with stack := init } := by
      unfold SimpSt.pop
      rw [hil, List.dropLast_concat]
      cases init with
      | nil => cases st.rel <;> simp [emit]
      | cons a as => cases st.rel <;> simp [emit]
    have he : emit st = emit { st with stack := init } ++ last ++ [slash] := by
      simp [emit, hil, List.flatMap_append]
    rw [hp, he]
    simp only [List.reverse_append, List.reverse_cons, List.reverse_nil, List.nil_append,
               List.singleton_append]
    rcases emit_ends { st with stack := init } with e | ⟨E, e⟩
    · -- the scan runs to the bottom of the buffer
      obtain ⟨z, hz⟩ := ptrBackScan_bottom last.reverse slash hns
      simp [e, hz]
    · -- the segment before ends in '/': the scan stops there
      rw [e]
      simp [ptrBackScan_stop last.reverse slash E.reverse hns]

theorem tailIn_short {segs : List Bytes} (h : (tailIn segs).length ≤ 1) : segs = [] ∨ segs = [[]] := by
  match segs with
  | [] => left; rfl
  | [y] => right; simp [tailIn] at h; simp [h]
  | y :: z :: zs => simp [tailIn] at h; omega

theorem clean_head_tests {c : UInt8} {x' : Bytes} (hc : Clean (c :: x')) (R : Bytes) :
    ¬(c = dot ∧ (x' ++ slash :: R).head? = some slash) ∧
    ¬(c = dot ∧ (x' ++ slash :: R).head? = some dot ∧ ((x' ++ slash :: R).drop 1).head? = some slash) := by
  obtain ⟨_, hd, hdd, hns⟩ := hc
  match x' with
  | [] => exact ⟨fun h => hd (by rw [h.1]; rfl), fun h => by simp [dot, slash] at h⟩
  | [b] =>
    refine ⟨fun h => hns (by simp at h; simp [h.2]), fun h => hdd ?_⟩
    simp at h; rw [h.1, h.2]; rfl
  | b :: b2 :: bs =>
    exact ⟨fun h => hns (by simp at h; simp [h.2]), fun h => hns (by simp at h; simp [h.2.2])⟩

theorem ptrLoop_clean {x : Bytes} (hc : Clean x) (fuel : Nat) (po R : Bytes) :
    ptrLoop (fuel + 1) po (x ++ slash :: R) = ptrLoop fuel (slash :: (x.reverse ++ po)) R := by
  cases x with
  | nil => exact absurd rfl hc.ne
  | cons c x' =>
    have hns := hc.noSlash
    have hcs : c ≠ slash := fun e => hns (by simp [e])
    have hxs : slash ∉ x' := fun e => hns (by simp [e])
    obtain ⟨hA, hB⟩ := clean_head_tests hc R
    simp only [List.cons_append]
    rw [ptrLoop]
    simp only [hcs, if_false]
    by_cases hcd : c = dot
    · subst hcd
      rw [if_pos rfl, if_neg (fun h => hB ⟨rfl, h⟩), if_neg (fun h => hA ⟨rfl, h⟩), ptrCopy_seg x' _ R hxs]
      simp
    · simp only [hcd, if_false]
      have := ptrCopy_seg (c :: x') po R hns
      simp only [List.cons_append] at this
      rw [this]

theorem ptrLoop_empty (fuel : Nat) (po R : Bytes) :
    ptrLoop (fuel + 1) po (slash :: R) = if R.length ≤ 1 then po.reverse else ptrLoop fuel po R := by
  rw [ptrLoop]; simp only [if_true]
  by_cases h : 1 < R.length
  · rw [if_pos h, if_neg (by omega)]
  · rw [if_neg h, if_pos (by omega)]

theorem ptrLoop_dot (fuel : Nat) (po R : Bytes) :
    ptrLoop (fuel + 1) po (dot :: slash :: R) = if R.length ≤ 1 then po.reverse else ptrLoop fuel po R := by
  rw [ptrLoop]
  have h1 : dot ≠ slash := by decide +kernel
  have h2 : slash ≠ dot := by decide +kernel
  simp [h1, h2]

theorem ptrLoop_dotdot (fuel : Nat) (po R : Bytes) :
    ptrLoop (fuel + 1) po (dot :: dot :: slash :: R) =
      if R.length ≤ 1 then (slash :: (ptrBackScan po).drop 1).reverse
      else ptrLoop fuel (slash :: (ptrBackScan po).drop 1) R := by
  rw [ptrLoop]
  have h1 : dot ≠ slash := by decide +kernel
  simp [h1]

/-! ### the loops -/

/-- input runs out only behind a copied name (and for a string without '/'): `*out = '\0'` cuts the
    '/' written behind it -/
theorem ptrLoop_nil (st : SimpSt) {fuel : Nat} (h : 0 < fuel) :
    ptrLoop fuel (emit st).reverse [] = (emit st).dropLast := by
  obtain ⟨f, rfl⟩ : ∃ f, fuel = f + 1 := ⟨fuel - 1, by omega⟩
  simp [ptrLoop]

theorem ptrLoop_run : ∀ (segs : List Bytes) (st : SimpSt) (fuel : Nat), segs ≠ [] →
    (∀ seg ∈ segs, slash ∉ seg) → SimpInv st → (tailIn segs).length < fuel →
    ptrLoop fuel (emit st).reverse (tailIn segs) = simpRun st segs := by
  intro segs
  induction segs with
  | nil => intro _ _ h; exact absurd rfl h
  | cons x rest ih =>
    intro st fuel _ hns hinv hfuel
    have hx : slash ∉ x := hns x (by simp)
    have hns' : ∀ seg ∈ rest, slash ∉ seg := fun s hs => hns s (by simp [hs])
    rw [tailIn_cons] at hfuel ⊢
    obtain ⟨f, rfl⟩ : ∃ f, fuel = f + 1 := ⟨fuel - 1, by omega⟩
    have hlen : (tailIn rest).length < f := by
      simp only [List.length_append, List.length_cons] at hfuel; omega
    -- "", "." and "..": nothing is copied; when at most the trailing empty segment is left, the C
    -- leaves the loop (`++out; break`)
    have hskip : ∀ st', SimpInv st' → simpMid st x = st' → (simpLast st x).2 = true →
        (if (tailIn rest).length ≤ 1 then (emit st') else ptrLoop f (emit st').reverse (tailIn rest))
          = simpRun st (x :: rest) := by
      intro st' hinv' hm hl
      cases rest with
      | nil => rw [if_pos (by simp [tailIn]), simpRun_single, hm, hl, render_true_emit]
      | cons y more =>
        rw [simpRun_cons, hm]
        by_cases hs : (tailIn (y :: more)).length ≤ 1
        · rw [if_pos hs]
          rcases tailIn_short hs with e | e
          · simp at e
          · rw [e, simpRun_single]; simp [simpMid, simpLast, render_true_emit]
        · rw [if_neg hs]; exact ih st' f (by simp) hns' hinv' hlen
    by_cases h1 : x = []
    · subst h1
      rw [List.nil_append, ptrLoop_empty, List.reverse_reverse]
      exact hskip st hinv (by simp [simpMid]) (by simp [simpLast])
    by_cases h2 : x = segDot
    · subst h2
      rw [show segDot ++ slash :: tailIn rest = dot :: slash :: tailIn rest from rfl, ptrLoop_dot,
        List.reverse_reverse]
      exact hskip st hinv (by simp [simpMid]) (by simp [simpLast])
    by_cases h3 : x = segDotDot
    · subst h3
      rw [show segDotDot ++ slash :: tailIn rest = dot :: dot :: slash :: tailIn rest from rfl,
        ptrLoop_dotdot, emit_pop hinv, List.reverse_reverse]
      exact hskip st.pop (pop_inv hinv) (by simp [simpMid, segDotDot, segDot])
        (by simp [simpLast, segDotDot, segDot])
    · -- a name: copied
      have hc : Clean x := ⟨h1, h2, h3, hx⟩
      rw [ptrLoop_clean hc,
        show slash :: (x.reverse ++ (emit st).reverse) = (emit (st.push x)).reverse by rw [emit_push]; simp]
      cases rest with
      | nil =>
        rw [show tailIn [] = [] from rfl, ptrLoop_nil _ (by omega), simpRun_single, simpMid_push_clean hc,
          simpLast_push_clean hc, render_false_emit (by simp [SimpSt.push])]
      | cons y more =>
        rw [ih (st.push x) f (by simp) hns' (push_inv hinv hc) hlen, simpRun_cons, simpMid_push_clean hc]

/-- `fuel` bounds the scan, `F` the main loop it hands over to -/
theorem ptrPreScan_spec : ∀ (segs : List Bytes) (st : SimpSt) (fuel F : Nat), segs ≠ [] →
    (∀ seg ∈ segs, slash ∉ seg) → SimpInv st → (tailIn segs).length < fuel → (tailIn segs).length < F →
    (match ptrPreScan fuel (emit st).reverse (tailIn segs) with
     | none => (emit st ++ tailIn segs).dropLast
     | some (po, rest) => ptrLoop F po rest) = simpRun st segs := by
  intro segs
  induction segs with
  | nil => intro st fuel F h; exact absurd rfl h
  | cons x rest ih =>
    intro st fuel F _ hns hinv hfuel hF
    have hx : slash ∉ x := hns x (by simp)
    have hloop := ptrLoop_run _ st F (by simp) hns hinv hF
    rw [tailIn_cons] at hfuel hF hloop ⊢
    obtain ⟨f, rfl⟩ : ∃ f, fuel = f + 1 := ⟨fuel - 1, by omega⟩
    -- a segment that is empty or starts with '.' stops the scan (unless it is the sentinel itself)
    have hbreak : ∀ (c : UInt8) (r : Bytes), x ++ slash :: tailIn rest = c :: r → (c = dot ∨ c = slash) →
        r ≠ [] →
        (match ptrPreScan (f + 1) (emit st).reverse (x ++ slash :: tailIn rest) with
         | none => (emit st ++ (x ++ slash :: tailIn rest)).dropLast
         | some (po, rest') => ptrLoop F po rest') = simpRun st (x :: rest) := by
      intro c r he hc hr
      rw [he, ptrPreScan]
      simp only [hc, if_true, hr, if_false]
      rw [← he]; exact hloop
    cases x with
    | nil =>
      cases rest with
      | nil =>
        -- "/…/" : the trailing empty segment is the sentinel: unchanged
        rw [List.nil_append, show tailIn [] = [] from rfl, ptrPreScan]
        simp only [or_true, if_true]
        rw [simpRun_single]
        simp [simpMid, simpLast, render_true_emit]
      | cons y more => exact hbreak slash _ rfl (Or.inr rfl) (by simp [tailIn])
    | cons c x' =>
      by_cases hcd : c = dot
      · exact hbreak c _ rfl (Or.inl hcd) (by simp)
      · -- a name not starting with '.': skipped (the bytes stay where they are)
        have hcs : c ≠ slash := fun e => hx (by simp [e])
        have hcl : Clean (c :: x') := by
          refine ⟨by simp, ?_, ?_, hx⟩
          · intro e; simp [segDot] at e; exact hcd e.1
          · intro e; simp [segDotDot] at e; exact hcd e.1
        have hcond : ¬(c = dot ∨ c = slash) := by rintro (e | e); exact hcd e; exact hcs e
        have hcopy := ptrCopy_seg (c :: x') (emit st).reverse (tailIn rest) hx
        simp only [List.cons_append] at hcopy ⊢
        rw [ptrPreScan]
        simp only [hcond, if_false, hcopy]
        cases rest with
        | nil =>
          simp only [show tailIn [] = [] from rfl, if_true]
          rw [simpRun_single, simpMid_push_clean hcl, simpLast_push_clean hcl,
            render_false_emit (by simp [SimpSt.push]), emit_push]
          simp
        | cons y more =>
          have hne : tailIn (y :: more) ≠ [] := by simp [tailIn]
          simp only [hne, if_false]
          have hns' : ∀ seg ∈ y :: more, slash ∉ seg := fun s hs => hns s (by simp [hs])
          simp only [List.length_append, List.length_cons] at hfuel hF
          have hIH := ih (st.push (c :: x')) f F (by simp) hns' (push_inv hinv hcl) (by omega) (by omega)
          rw [emit_push] at hIH
          rw [simpRun_cons, simpMid_push_clean hcl, ← hIH]
          simp [List.append_assoc]

/-! ### the whole function -/

/-- "./", "../" or a name at the head: the loop starts at `pathSimplify_rel`'s state -/
theorem ptrRel_run {c0 : UInt8} {f' R b1 : Bytes} {N : Nat} (hf : slash ∉ c0 :: f')
    (hb : b1 = f' ++ slash :: R) :
    (if c0 = dot ∧ b1.head? = some slash then ptrLoop N [slash] (b1.drop 1)
      else if c0 = dot ∧ b1.head? = some dot ∧ (b1.drop 1).head? = some slash then ptrLoop N [slash] (b1.drop 2)
      else ptrLoop N (ptrCopy [c0] b1).1 (ptrCopy [c0] b1).2) =
    ptrLoop N (emit (if c0 :: f' = segDot ∨ c0 :: f' = segDotDot then { rel := false, stack := [] }
      else { rel := true, stack := [c0 :: f'] })).reverse R := by
  subst hb
  have hds : dot ≠ slash := by decide +kernel
  by_cases hd : c0 :: f' = segDot
  · simp only [segDot, List.cons.injEq] at hd
    obtain ⟨rfl, rfl⟩ := hd
    simp [segDot, emit]
  · by_cases hdd : c0 :: f' = segDotDot
    · simp only [segDotDot, List.cons.injEq] at hdd
      obtain ⟨rfl, rfl, rfl⟩ := hdd
      simp [segDot, segDotDot, emit, hds]
    · obtain ⟨hA, hB⟩ := clean_head_tests ⟨by simp, hd, hdd, hf⟩ R
      rw [if_neg hA, if_neg hB, if_neg (fun h => h.elim hd hdd),
        ptrCopy_seg f' [c0] _ (fun e => hf (by simp [e]))]
      simp [emit]

theorem pathSimplifyPtr_eq (s : Bytes) : pathSimplifyPtr s = pathSimplify s := by
  have hst0 : SimpInv { rel := false, stack := [] } := ⟨by intro s hs; simp at hs, by simp⟩
  have hrel : ∀ {f : Bytes}, f ≠ [] → slash ∉ f →
      SimpInv (if f = segDot ∨ f = segDotDot then { rel := false, stack := [] } else { rel := true, stack := [f] }) := by
    intro f hfe hf
    split
    · exact hst0
    · rename_i hd
      exact ⟨by intro s hs; simp at hs; exact hs ▸ ⟨hfe, fun e => hd (Or.inl e), fun e => hd (Or.inr e), hf⟩, by simp⟩
  obtain ⟨f, hf, rfl | ⟨r, rfl⟩⟩ := first_seg slash s
  · rw [pathSimplify_noslash hf]   -- no '/': the head is the whole string
    cases s with
    | nil => simp [pathSimplifyPtr]
    | cons c0 t =>
      have h0 : c0 ≠ slash := fun e => hf (by simp [e])
      unfold pathSimplifyPtr
      simp only [h0, if_false]
      rw [ptrRel_run (b1 := t ++ [slash]) (R := tailIn []) hf rfl,
        show tailIn [] = [] from rfl, ptrLoop_nil _ (by simp)]
      split
      · simp [emit]
      · simp only [emit, if_true, List.flatMap_cons, List.flatMap_nil, List.nil_append,
          List.append_nil]
        exact List.dropLast_concat
  · have hns := splitOn_mem_nosep slash r
    have hb1 : r ++ [slash] = tailIn (splitOn slash r) := (tailIn_splitOn r).symm
    cases f with
    | nil =>   -- absolute
      rw [List.nil_append, pathSimplify_abs]
      unfold pathSimplifyPtr
      simp only [if_true]
      have hsp := ptrPreScan_spec (splitOn slash r) { rel := false, stack := [] }
        ((slash :: r).length + 2) ((slash :: r).length + 2) (splitOn_ne_nil _ _) hns hst0
        (by rw [← hb1]; simp) (by rw [← hb1]; simp)
      rw [← hb1, show (emit { rel := false, stack := [] }).reverse = [slash] by simp [emit]] at hsp
      rw [← hsp]
      cases ptrPreScan ((slash :: r).length + 2) [slash] (r ++ [slash]) with
      | none =>
        rw [show emit { rel := false, stack := [] } ++ (r ++ [slash]) = (slash :: r) ++ [slash] by simp [emit],
          List.dropLast_concat]
      | some pr => rfl
    | cons c0 f' =>
      have h0 : c0 ≠ slash := fun e => hf (by simp [e])
      rw [pathSimplify_rel r (by simp) hf]
      unfold pathSimplifyPtr
      simp only [List.cons_append, h0, if_false, List.append_assoc, hb1]
      have hfuel : (tailIn (splitOn slash r)).length < (c0 :: (f' ++ slash :: r)).length + 2 := by
        rw [← hb1]; simp; omega
      rw [ptrRel_run hf rfl, ptrLoop_run _ _ _ (splitOn_ne_nil _ _) hns (hrel (by simp) hf) hfuel]
      split <;> rfl

/-! ### buffer_urldecode_path() -/

@[simp] theorem hexC_eq (b : UInt8) : hexC b = hexVal b := rfl

theorem urldecodeStep_spec (po r : Bytes) :
    (urldecodeStep (pct :: po) r).1.reverse ++ urldecodePath (urldecodeStep (pct :: po) r).2
      = po.reverse ++ urldecodePath (pct :: r) ∧
    ∃ k, (urldecodeStep (pct :: po) r).2 = r.drop k := by
  rw [urldecodePath_pct]
  unfold urldecodeStep
  simp only [hexC_eq]
  by_cases hh : r.getD 0 0 = 0
  · simp only [hh, hexVal_zero]; exact ⟨by simp, 0, rfl⟩
  · simp only [hh, ne_eq, not_false_eq_true, if_true]
    cases hexVal (r.getD 0 0) with
    | none => exact ⟨by simp, 0, rfl⟩
    | some hv =>
      cases hexVal (r.getD 1 0) with
      | none => exact ⟨by simp, 0, rfl⟩
      | some lv => exact ⟨by simp, 2, rfl⟩   -- decoded: `src += 2`

theorem urldecodeLoop_eq : ∀ (fuel : Nat) (po r : Bytes), (0 : UInt8) ∉ r → r.length < fuel →
    urldecodeLoop fuel (pct :: po) r = po.reverse ++ urldecodePath (pct :: r) := by
  intro fuel
  induction fuel with
  | zero => intro po r _ h; omega
  | succ f ih =>
    intro po r h0 hf
    obtain ⟨hval, k, hk⟩ := urldecodeStep_spec po r
    rw [urldecodeLoop]
    generalize urldecodeStep (pct :: po) r = st at hval hk ⊢
    obtain ⟨po1, r1⟩ := st
    simp only at hval hk ⊢
    subst hk
    have h1 : (0 : UInt8) ∉ r.drop k := fun e => h0 ((List.drop_sublist k r).subset e)
    rw [← hval]
    obtain ⟨hsegp, hcut⟩ := takeWhile_cut (fun b => b ≠ pct && b ≠ 0) (r.drop k)
    generalize (r.drop k).takeWhile (fun b => b ≠ pct && b ≠ 0) = seg at hsegp hcut ⊢
    have hsegp : pct ∉ seg := fun hm => by simpa using hsegp _ hm
    rcases hcut with ⟨htl, hsplit⟩ | ⟨b, r2, htl, hsplit, hb⟩
    · rw [htl, hsplit, urldecodePath_nopct seg hsegp]; simp
    · rw [htl]
      have hb0 : b ≠ 0 := fun e => h1 (by rw [hsplit]; simp [e])
      have hbp : b = pct := by simpa [hb0] using hb
      subst hbp
      simp only [hb0, if_false]
      have h02 : (0 : UInt8) ∉ r2 := fun e => h1 (by rw [hsplit]; simp [e])
      have hl2 : r2.length < f := by
        have := length_append_cons hsplit
        rw [List.length_drop] at this
        omega
      rw [ih _ r2 h02 hl2]
      conv => rhs; rw [hsplit]
      rw [urldecodePath_prefix seg _ hsegp]
      simp

theorem urldecodePathC_eq (s : Bytes) (h : (0 : UInt8) ∉ s) : urldecodePathC s = urldecodePath s := by
  unfold urldecodePathC
  obtain ⟨hprep, hcut⟩ := takeWhile_cut (· ≠ pct) s
  generalize s.takeWhile (· ≠ pct) = pre at hprep hcut ⊢
  have hprep : pct ∉ pre := fun hm => by simpa using hprep _ hm
  rcases hcut with ⟨htl, hsplit⟩ | ⟨b, r, htl, hsplit, hb⟩
  · simp only [htl]
    rw [hsplit, urldecodePath_nopct pre hprep]
  · have hbp : b = pct := by simpa using hb
    subst hbp
    simp only [htl]
    have h0r : (0 : UInt8) ∉ r := fun e => h (by rw [hsplit]; simp [e])
    have hl : r.length < s.length + 1 := by
      have := length_append_cons hsplit
      omega
    rw [urldecodeLoop_eq _ _ r h0r hl, List.reverse_reverse]
    conv => rhs; rw [hsplit]
    rw [urldecodePath_prefix pre _ hprep]

end LtVerif
