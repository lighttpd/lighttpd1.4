/-
  The size limits of the connection-lifetime model (C13): refusals in `recv`/`bodyStep`, the answer to a
  request fed in arbitrary pieces (`Req.Valid`), and what is buffered at rest.
-/
import LtVerif.Proofs.LifeConn
namespace LtVerif.Lifecycle

theorem respond_close (cfg : Cfg) (now : Int) (c : Conn) (status : Nat) (complete : Bool) :
    ∀ c', (respond cfg now c status false complete false).1 = some c' → c'.st = .close ∧ c'.bodyGot = c.bodyGot :=
  fun c' h => by
    rcases (respond_cases cfg now c status false complete false).2 c' h with ⟨hb, _⟩ | ⟨hk, _⟩ | hc
    · cases hb
    · cases hk
    · exact hc

theorem recv_head_431 (cfg : Cfg) (now : Int) (c : Conn) (r : Req) (n : Nat) (hs : c.st = .read)
    (h : (c.hdrBuf + n < r.H ∧ cfg.fs < c.hdrBuf + n) ∨ (r.H ≤ c.hdrBuf + n ∧ cfg.fs < r.H)) :
    (recv cfg now c r n).2 = [431] ∧ ∀ c', (recv cfg now c r n).1 = some c' → c'.st = .close := by
  unfold recv
  simp only [hs]
  rcases h with ⟨h1, h2⟩ | ⟨h1, h2⟩
  · simp only [h1, if_true, gt_iff_lt, h2]
    exact ⟨respond_status .., fun c' hc => (respond_close cfg now _ 431 true c' hc).1⟩
  · have : ¬ (c.hdrBuf + n < r.H) := by omega
    simp only [this, if_false, gt_iff_lt, h2, if_true]
    exact ⟨respond_status .., fun c' hc => (respond_close cfg now _ 431 true c' hc).1⟩

theorem recv_cl_413 (cfg : Cfg) (now : Int) (c : Conn) (r : Req) (n : Nat) (hs : c.st = .read)
    (hk : r.kind = .post) (hh : r.H ≤ c.hdrBuf + n) (hf : r.H ≤ cfg.fs) (hr : cfg.rs ≠ 0)
    (hb : cfg.rs * 1024 < r.B) :
    (recv cfg now c r n).2 = [413] ∧ ∀ c', (recv cfg now c r n).1 = some c' → c'.st = .close ∧ c'.bodyGot = 0 := by
  unfold recv
  have h1 : ¬ (c.hdrBuf + n < r.H) := by omega
  have h2 : ¬ (r.H > cfg.fs) := by omega
  have h3 : cfg.rs ≠ 0 ∧ r.B > cfg.rs * 1024 := ⟨hr, hb⟩
  simp only [hs, h1, h2, if_false, hk]
  rw [if_pos h3]
  exact ⟨respond_status .., respond_close cfg now _ 413 false⟩

theorem bodyStep_chunk_413 (cfg : Cfg) (now : Int) (c : Conn) (add : Nat) (hk : c.req.kind = .chunked)
    (h : chunk413 cfg c.req (c.bodyGot + add) = true) :
    (bodyStep cfg now c add).2 = [413] ∧ ∀ c', (bodyStep cfg now c add).1 = some c' → c'.st = .close := by
  unfold bodyStep
  simp only [hk, h, if_true]
  exact ⟨respond_status .., fun c' hc => (respond_close cfg now _ 413 false c' hc).1⟩

theorem respond_read_hdr (cfg : Cfg) (now : Int) (c : Conn) (status : Nat) (big complete ka : Bool) :
    ∀ c', (respond cfg now c status big complete ka).1 = some c' → c'.st = .read → c'.hdrBuf = 0 := by
  intro c' h hs
  rcases (respond_cases cfg now c status big complete ka).2 c' h with ⟨_, hs', _⟩ | ⟨_, _, _, hb⟩ | ⟨hs', _⟩
  · rw [hs] at hs'; cases hs'
  · exact hb
  · rw [hs] at hs'; cases hs'

theorem bodyStep_read_hdr (cfg : Cfg) (now : Int) (c : Conn) (add : Nat) :
    ∀ c', (bodyStep cfg now c add).1 = some c' → c'.st = .read → c'.hdrBuf = 0 :=
  bodyStep_ind cfg now c add (fun st big comp ka => respond_read_hdr cfg now c st big comp ka)
    (fun _ _ _ hs => by cases hs)

theorem recv_hdrBuf_le (cfg : Cfg) (now : Int) (c : Conn) (r : Req) (n : Nat) (hs : c.st = .read) :
    ∀ c', (recv cfg now c r n).1 = some c' → c'.st = .read → c'.hdrBuf ≤ cfg.fs :=
  recv_ind cfg now c r n
    (fun c0 st big comp ka c' h hs' => by rw [respond_read_hdr cfg now c0 st big comp ka c' h hs']; exact Nat.zero_le _)
    (fun c0 add c' h hs' => by rw [bodyStep_read_hdr cfg now c0 add c' h hs']; exact Nat.zero_le _)
    (fun _ hle _ => hle) (fun hn => absurd hs hn)

/-- h1_chunked(): refused once the size line of the first chunk beyond the limit has arrived -/
theorem chunk413_iff (cfg : Cfg) (r : Req) (got : Nat) :
    chunk413 cfg r got = true ↔
      cfg.rs ≠ 0 ∧ r.csz ≠ 0 ∧ cfg.rs * 1024 < chunkCount r * r.csz ∧
      cfg.rs * 1024 / r.csz * chunkUnit r.csz + hexLen r.csz + 2 ≤ got := by
  unfold chunk413
  by_cases hc : r.csz = 0
  · simp [hc]
  · have : cfg.rs * 1024 / r.csz + 1 ≤ chunkCount r ↔ cfg.rs * 1024 < chunkCount r * r.csz := by
      rw [Nat.add_one_le_iff, Nat.div_lt_iff_lt_mul (Nat.pos_of_ne_zero hc)]
    simp [hc, this]

theorem chunk413_of_large (cfg : Cfg) (r : Req) (got : Nat) (hr : cfg.rs ≠ 0) (hc : r.csz ≠ 0)
    (hbig : cfg.rs * 1024 < chunkCount r * r.csz) (hgot : chunkedTotal r ≤ got) :
    chunk413 cfg r got = true := by
  refine (chunk413_iff cfg r got).mpr ⟨hr, hc, hbig, ?_⟩
  -- the refused size line lies within the stream: chunk ⌊max/csz⌋ + 1 is one of the chunks
  have hk : (cfg.rs * 1024 / r.csz + 1) * chunkUnit r.csz ≤ chunkCount r * chunkUnit r.csz :=
    Nat.mul_le_mul_right _ ((Nat.div_lt_iff_lt_mul (Nat.pos_of_ne_zero hc)).mpr hbig)
  rw [Nat.add_mul, Nat.one_mul] at hk
  have h2 : hexLen r.csz + 2 ≤ chunkUnit r.csz := by unfold chunkUnit; omega
  unfold chunkedTotal at hgot
  omega

theorem bodyStep_chunked_ok_bounded (cfg : Cfg) (now : Int) (c : Conn) (add : Nat) (hk : c.req.kind = .chunked)
    (hr : cfg.rs ≠ 0) (hc : c.req.csz ≠ 0) (h : (bodyStep cfg now c add).2 = [200]) :
    chunkCount c.req * c.req.csz ≤ cfg.rs * 1024 := by
  apply Decidable.byContradiction
  intro hbig
  unfold bodyStep at h
  simp only [hk] at h
  split at h
  · simp [respond] at h
  · rename_i h413
    split at h
    · rename_i hgot
      exact h413 (chunk413_of_large cfg c.req _ hr hc (by omega) hgot)
    · simp at h

/-! ## the limits do not depend on how a request arrives -/

theorem feed_closed (cfg : Cfg) (r : Req) (c : Conn) (hs : c.st = .close) (segs : List (Int × Nat)) :
    (feed cfg r (some c) segs).2 = [] := by
  induction segs with
  | nil => rfl
  | cons x rest ih =>
    obtain ⟨now, n⟩ := x
    have : recv cfg now c r n = (some c, []) := by unfold recv; simp [hs]
    simp only [feed, this, List.nil_append]
    exact ih

theorem feed_after_refusal (cfg : Cfg) (r : Req) (now : Int) (c : Conn) (st : Nat) (comp : Bool)
    (segs : List (Int × Nat)) :
    (feed cfg r (respond cfg now c st false comp false).1 segs).2 = [] := by
  cases h : (respond cfg now c st false comp false).1 with
  | none => cases segs <;> rfl
  | some c' => exact feed_closed cfg r c' (respond_close cfg now c st comp c' h).1 segs

theorem segs_nil_of_sum (segs : List (Int × Nat)) (hp : ∀ x ∈ segs, 0 < x.2) (h : segSum segs = 0) : segs = [] := by
  cases segs with
  | nil => rfl
  | cons x rest =>
    have := hp x List.mem_cons_self
    simp [segSum] at h
    omega

/-- request well-formedness assumed by the scenario language -/
def Req.Valid (r : Req) : Prop :=
  0 < r.H ∧ (r.kind = .post → 0 < r.B) ∧ (r.kind = .chunked → 0 < r.csz)

theorem feed_bodyStep (cfg : Cfg) (r : Req) (hH : r.H ≤ cfg.fs) (hk : r.kind ≠ .get)
    (hcl : r.kind = .post → ¬ (cfg.rs ≠ 0 ∧ r.B > cfg.rs * 1024)) (hv : r.Valid) :
    ∀ (segs : List (Int × Nat)) (now : Int) (c : Conn) (add : Nat), c.req = r →
      (∀ x ∈ segs, 0 < x.2) → c.bodyGot + add + segSum segs = bodyStreamLen r →
      (bodyStep cfg now c add).2 ++ (feed cfg r (bodyStep cfg now c add).1 segs).2 = [expectedStatus cfg r] := by
  have hexp431 : ¬ r.H > cfg.fs := by omega
  -- `key`: an answer of `bodyStep` ends the feed (200: no piece left; 413: closed), else `hcont` goes on
  have key : ∀ (segs : List (Int × Nat)) (now : Int) (c : Conn) (add : Nat), c.req = r →
      (∀ x ∈ segs, 0 < x.2) → c.bodyGot + add + segSum segs = bodyStreamLen r →
      (c.bodyGot + add < bodyStreamLen r →
        (feed cfg r (some { c with st := .readPost, bodyGot := c.bodyGot + add, inEv := true, outEv := false })
          segs).2 = [expectedStatus cfg r]) →
      (bodyStep cfg now c add).2 ++ (feed cfg r (bodyStep cfg now c add).1 segs).2 = [expectedStatus cfg r] := by
    intro segs now c add hreq hp hsum hcont
    subst hreq
    unfold bodyStep
    simp only
    cases hkind : c.req.kind with
    | get => exact absurd hkind hk
    | post =>
      simp only
      have hbl : bodyStreamLen c.req = c.req.B := by simp [bodyStreamLen, hkind]
      by_cases hdone : c.bodyGot + add ≥ c.req.B
      · rw [if_pos hdone, respond_status, segs_nil_of_sum segs hp (by omega)]
        simp [feed, expectedStatus, hexp431, hkind, hcl hkind]
      · rw [if_neg hdone]
        exact hcont (by omega)
    | chunked =>
      simp only
      have hbl : bodyStreamLen c.req = chunkedTotal c.req := by simp [bodyStreamLen, hkind]
      by_cases h413 : chunk413 cfg c.req (c.bodyGot + add) = true
      · rw [if_pos h413, respond_status, feed_after_refusal]
        have := (chunk413_iff cfg c.req _).mp h413
        simp [expectedStatus, hexp431, hkind, this.1, this.2.2.1]
      · rw [if_neg h413]
        by_cases hdone : c.bodyGot + add ≥ chunkedTotal c.req
        · rw [if_pos hdone, respond_status, segs_nil_of_sum segs hp (by omega)]
          have hsmall : ¬ (cfg.rs ≠ 0 ∧ chunkCount c.req * c.req.csz > cfg.rs * 1024) := fun ⟨hr, hbig⟩ =>
            h413 (chunk413_of_large cfg c.req _ hr (Nat.pos_iff_ne_zero.mp (hv.2.2 hkind)) hbig hdone)
          simp [feed, expectedStatus, hexp431, hkind, hsmall]
        · rw [if_neg hdone]
          exact hcont (by omega)
  intro segs
  induction segs with
  | nil =>
    intro now c add hreq hp hsum
    exact key [] now c add hreq hp hsum (fun hlt => by simp [segSum] at hsum; omega)
  | cons x rest ih =>
    intro now c add hreq hp hsum
    refine key (x :: rest) now c add hreq hp hsum (fun _ => ?_)
    obtain ⟨now', n⟩ := x
    simp only [feed]
    have hrecv : ∀ c' : Conn, c'.st = .readPost → recv cfg now' c' r n = bodyStep cfg now' { c' with rts := now' } n := by
      intro c' hs; unfold recv; simp [hs]
    rw [hrecv _ rfl]
    refine ih now' _ n hreq (fun y hy => hp y (List.mem_cons_of_mem _ hy)) ?_
    simp only [segSum, List.map_cons, List.sum_cons] at hsum ⊢
    omega

theorem feed_expected (cfg : Cfg) (r : Req) (hv : r.Valid) :
    ∀ (segs : List (Int × Nat)) (c : Conn), c.st = .read → c.hdrBuf < r.H → c.hdrBuf ≤ cfg.fs →
      (∀ x ∈ segs, 0 < x.2) → c.hdrBuf + segSum segs = reqLen r →
      (feed cfg r (some c) segs).2 = [expectedStatus cfg r] := by
  intro segs
  induction segs with
  | nil =>
    intro c _ hb _ _ hsum
    simp [segSum, reqLen] at hsum; omega
  | cons x rest ih =>
    intro c hs hb hf hp hsum
    obtain ⟨now, n⟩ := x
    have hn : 0 < n := hp (now, n) List.mem_cons_self
    have hp' : ∀ y ∈ rest, 0 < y.2 := fun y hy => hp y (List.mem_cons_of_mem _ hy)
    have hsum' : c.hdrBuf + n + segSum rest = reqLen r := by
      simp only [segSum, List.map_cons, List.sum_cons] at hsum ⊢; omega
    simp only [feed]
    unfold recv
    simp only [hs]
    by_cases hpart : c.hdrBuf + n < r.H  -- head incomplete: 431 if over the limit, else wait
    · rw [if_pos hpart]
      by_cases hover : c.hdrBuf + n > cfg.fs
      · rw [if_pos hover, respond_status, feed_after_refusal]
        have : r.H > cfg.fs := by omega
        simp [expectedStatus, this]
      · rw [if_neg hover]
        simp only [List.nil_append]
        exact ih _ rfl hpart (by show c.hdrBuf + n ≤ cfg.fs; omega) hp' hsum'
    · rw [if_neg hpart]  -- head complete: 431 on its length, else by kind
      by_cases hbig : r.H > cfg.fs
      · rw [if_pos hbig, respond_status, feed_after_refusal]
        simp [expectedStatus, hbig]
      · rw [if_neg hbig]
        have hbody : (0 : Nat) + (c.hdrBuf + n - r.H) + segSum rest = bodyStreamLen r := by
          simp only [reqLen] at hsum'; omega
        cases hkind : r.kind with
        | get =>
          simp only
          rw [respond_status]
          have hlen : reqLen r = r.H := by simp [reqLen, bodyStreamLen, hkind]
          rw [segs_nil_of_sum rest hp' (by omega)]
          simp [feed, expectedStatus, hbig, hkind]
        | post =>
          simp only
          by_cases hcl : cfg.rs ≠ 0 ∧ r.B > cfg.rs * 1024
          · rw [if_pos hcl, respond_status, feed_after_refusal]
            simp [expectedStatus, hbig, hkind, hcl]
          · rw [if_neg hcl]
            exact feed_bodyStep cfg r (by omega) (by rw [hkind]; simp) (fun _ => hcl) hv rest now _ _ rfl hp' hbody
        | chunked =>
          exact feed_bodyStep cfg r (by omega) (by rw [hkind]; simp) (fun h => by rw [hkind] at h; cases h) hv
            rest now _ _ rfl hp' hbody

/-! ## what is buffered at rest -/

theorem respond_not_readPost (cfg : Cfg) (now : Int) (c : Conn) (st : Nat) (big comp ka : Bool) (c' : Conn)
    (h : (respond cfg now c st big comp ka).1 = some c') : c'.st ≠ .readPost := by
  rcases (respond_cases cfg now c st big comp ka).2 c' h with ⟨_, hs, _⟩ | ⟨_, hs, _⟩ | ⟨hs, _⟩ <;> rw [hs] <;> simp

theorem bodyStep_rest_bounded (cfg : Cfg) (now : Int) (c : Conn) (add : Nat) (c' : Conn)
    (h : (bodyStep cfg now c add).1 = some c') (hs : c'.st = .readPost) :
    (c.req.kind = .post → c'.bodyGot < c.req.B) ∧
    (c.req.kind = .chunked → cfg.rs ≠ 0 → c.req.csz ≠ 0 →
      c'.bodyGot < (cfg.rs * 1024 / c.req.csz) * chunkUnit c.req.csz + hexLen c.req.csz + 7) := by
  revert c'
  refine bodyStep_ind cfg now c add ?_ ?_
  · intro st big comp ka c' h hs
    exact absurd hs (respond_not_readPost cfg now c st big comp ka c' h)
  · intro hpost hch _ _
    refine ⟨hpost, fun hk hr hc => ?_⟩
    obtain ⟨h413, hnd⟩ := hch hk
    simp only
    -- `+ 7` covers both: refused size line incomplete (`< … + hexLen + 2`), or none refused (`≤ … + 5`, last chunk)
    by_cases hbig : cfg.rs * 1024 < chunkCount c.req * c.req.csz
    · have : ¬ (cfg.rs * 1024 / c.req.csz * chunkUnit c.req.csz + hexLen c.req.csz + 2 ≤ c.bodyGot + add) :=
        fun hle => by rw [(chunk413_iff cfg c.req _).mpr ⟨hr, hc, hbig, hle⟩] at h413; cases h413
      omega
    · have hcnt : chunkCount c.req ≤ cfg.rs * 1024 / c.req.csz :=
        (Nat.le_div_iff_mul_le (Nat.pos_of_ne_zero hc)).mpr (by omega)
      have := Nat.mul_le_mul_right (chunkUnit c.req.csz) hcnt
      unfold chunkedTotal at hnd
      omega

end LtVerif.Lifecycle
