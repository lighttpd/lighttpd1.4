/-
  C17, chunk queue: files only grow at their end (`Ext`); names and ghost lengths (`WI`); the
  global invariant `GI`: a temp file is written only at its end, by the one chunk that owns it.
-/
import LtVerif.Proofs.CqBase
namespace LtVerif.Cq

/-! ## file contents only grow at the end -/

def Ext (w w' : World) : Prop := ∀ f, (w.files f).content <+: (w'.files f).content

theorem Ext.refl (w : World) : Ext w w := fun _ => List.prefix_refl _

theorem Ext.trans {a b c : World} (h1 : Ext a b) (h2 : Ext b c) : Ext a c :=
  fun f => List.IsPrefix.trans (h1 f) (h2 f)

theorem SameFiles.ext {w w' : World} (h : SameFiles w w') : Ext w w' :=
  fun f => by rw [h.content f]; exact List.prefix_refl _

theorem content_ext {w w' : World} {c : Chunk} (hv : c.Valid w) (he : Ext w w') : c.content w' = c.content w := by
  cases c with
  | mem d off cap => rfl
  | file fid off len t fd =>
    obtain ⟨t', ht⟩ := he fid
    simp only [Chunk.Valid, sz] at hv
    simp only [Chunk.content, ← ht, List.drop_append, List.take_append, List.length_drop]
    have h0 : len - off - ((w.files fid).content.length - off) = 0 := by omega
    simp [h0]

theorem absChunks_ext {w w' : World} {cs : List Chunk} (hv : ValidAll w cs) (he : Ext w w') :
    absChunks w' cs = absChunks w cs := by
  induction cs with
  | nil => rfl
  | cons c cs ih => simp [ih hv.tail, content_ext hv.head he]

/-! ## names, ghost, and the global invariant -/

/-- world-only invariant: a file has at most one name beyond its `base` ones;
    unused ids have none; while the extra name exists the ghost equals the size -/
structure WI (base : Nat → Int) (w : World) : Prop where
  nb : ∀ f, (w.files f).nlink ≤ base f + 1
  unused : ∀ f, w.nfiles ≤ f →
    (w.files f).nlink ≤ 0 ∧ base f = 0 ∧ ((w.files f).nlink = 0 → (w.files f).tl = 0)
  full : ∀ f, base f + 1 ≤ (w.files f).nlink → (w.files f).tl = sz w f

theorem SameFiles.wi {base : Nat → Int} {w w' : World} (h : SameFiles w w') (hw : WI base w) : WI base w' := by
  refine ⟨fun f => ?_, fun f hle => ?_, fun f hge => ?_⟩
  · rcases h.own f with ⟨a, _⟩ | a
    · rw [a]; exact hw.nb f
    · have := hw.nb f; omega
  · rw [h.nfiles] at hle
    obtain ⟨u1, u2, u3⟩ := hw.unused f hle
    rcases h.own f with ⟨a, b⟩ | a
    · rw [a, b]; exact ⟨u1, u2, u3⟩
    · exact ⟨by omega, u2, fun e => by omega⟩
  · rcases h.own f with ⟨a, b⟩ | a
    · rw [a] at hge; rw [b, h.sz]; exact hw.full f hge
    · have := hw.nb f; omega

theorem createTemp_wi {base : Nat → Int} {w : World} (dir : Nat) (hf : Fresh w) (hw : WI base w) :
    WI base (createTemp w dir).1 := by
  obtain ⟨u1, u2, u3⟩ := hw.unused w.nfiles (Nat.le_refl _)
  have hsz := hf w.nfiles (Nat.le_refl _)
  have key : ∀ f, f ≠ w.nfiles → (createTemp w dir).1.files f = w.files f := by
    intro f hne; simp [createTemp, World.addFile, hne]
  have knew : ((createTemp w dir).1.files w.nfiles).nlink = (w.files w.nfiles).nlink + 1 ∧
      ((createTemp w dir).1.files w.nfiles).tl = (w.files w.nfiles).tl ∧
      sz (createTemp w dir).1 w.nfiles = 0 := by
    simp [createTemp, World.addFile, sz]
  refine ⟨fun f => ?_, fun f hle => ?_, fun f hge => ?_⟩
  · by_cases hne : f = w.nfiles
    · subst hne; rw [knew.1]; omega
    · rw [key f hne]; exact hw.nb f
  · have hle' : w.nfiles + 1 ≤ f := hle
    rw [key f (by omega)]
    exact hw.unused f (by omega)
  · by_cases hne : f = w.nfiles
    · subst hne
      rw [knew.1] at hge
      rw [knew.2.1, knew.2.2]
      exact u3 (by omega)
    · rw [key f hne] at hge ⊢
      have : sz (createTemp w dir).1 f = sz w f := by simp [sz, key f hne]
      rw [this]; exact hw.full f hge

theorem cres_nonneg (k : Kind) (f : Nat) (c : Chunk) : 0 ≤ cres k f c := by
  cases c with
  | mem d off cap => simp
  | file fid off len t fd =>
    rw [cres_file]
    have h1 : ∀ k0, 0 ≤ hit k k0 fid f ∧ hit k k0 fid f ≤ 1 := fun k0 => by unfold hit; split <;> omega
    have a := h1 .fd; have b := h1 .name; have c := h1 .tlen
    have hm : 0 ≤ (len : Int) * hit k .tlen fid f := Int.mul_nonneg (Int.natCast_nonneg _) c.1
    split <;> split <;> omega

theorem csum_nonneg (k : Kind) (f : Nat) (cs : List Chunk) : 0 ≤ csum k f cs := by
  induction cs with
  | nil => simp
  | cons c cs ih => have := cres_nonneg k f c; simp only [csum_cons]; omega

theorem cres_le_csum {k : Kind} {f : Nat} {c : Chunk} {cs : List Chunk} (h : c ∈ cs) :
    cres k f c ≤ csum k f cs := by
  induction cs with
  | nil => cases h
  | cons x xs ih =>
    simp only [csum_cons]
    cases h with
    | head => have := csum_nonneg k f xs; omega
    | tail _ h => have := ih h; have := cres_nonneg k f x; omega

theorem cres_tlen_of_name {f : Nat} {x : Chunk} (hx : cres .name f x = 0) : cres .tlen f x = 0 := by
  cases x with
  | mem => simp
  | file fid off len t fd =>
    rw [cres_file] at hx ⊢
    unfold hit at hx ⊢
    by_cases h1 : fid = f <;> cases t <;> simp_all

theorem tlen_of_unique {f : Nat} {c : Chunk} {cs : List Chunk} (h : c ∈ cs) (hc : cres .name f c = 1)
    (hu : csum .name f cs = 1) : csum .tlen f cs = cres .tlen f c := by
  have zero_of : ∀ (xs : List Chunk), csum .name f xs = 0 → csum .tlen f xs = 0 := by
    intro xs
    induction xs with
    | nil => intro _; rfl
    | cons x xs ih =>
      intro h0
      simp only [csum_cons] at h0 ⊢
      have a := cres_nonneg .name f x
      have b := csum_nonneg .name f xs
      rw [cres_tlen_of_name (by omega), ih (by omega)]; rfl
  induction cs with
  | nil => cases h
  | cons x xs ih =>
    simp only [csum_cons] at hu ⊢
    cases h with
    | head =>
      rw [zero_of xs (by omega)]; omega
    | tail _ h =>
      have a := cres_nonneg .name f x
      have b := cres_le_csum (k := .name) (f := f) h
      rw [cres_tlen_of_name (by omega), ih h (by omega)]; omega

/-- the global invariant: `L` = all chunks of the system, `base f` = the names of `f` no queue
    owns; `acct`: the name and ghost part of `Acct` (Proofs/CqRes.lean) -/
structure GI (base : Nat → Int) (w : World) (L : List Chunk) : Prop where
  fresh : Fresh w
  wi : WI base w
  valid : ValidAll w L
  acct : ∀ f, (w.files f).nlink = base f + csum .name f L ∧ (w.files f).tl = csum .tlen f L

/-- a temp chunk spans its whole file: the next write through it is an append -/
theorem GI.full_of_mem {base : Nat → Int} {w : World} {L : List Chunk} (h : GI base w L)
    {fid off len : Nat} {fd : Fd} (hm : Chunk.file fid off len true fd ∈ L) : len = sz w fid := by
  obtain ⟨a, b⟩ := h.acct fid
  have hc : cres .name fid (.file fid off len true fd) = 1 := by rw [cres_file]; simp [hit]
  have hle := cres_le_csum (k := .name) (f := fid) hm
  have hnb := h.wi.nb fid
  have hu : csum .name fid L = 1 := by omega
  have ht := tlen_of_unique hm hc hu
  have hfull := h.wi.full fid (by omega)
  have : cres .tlen fid (.file fid off len true fd) = len := by rw [cres_file]; simp [hit]
  have : ((sz w fid : Nat) : Int) = len := by omega
  omega

theorem GI.step {base : Nat → Int} {w w' : World} {a a' X : List Chunk} (h : GI base w (a ++ X))
    (hc : Conserve w a w' a') (hg : Grows w w') (hf : Fresh w') (hw : WI base w') (hv : ValidAll w' a') :
    GI base w' (a' ++ X) := by
  refine ⟨hf, hw, ValidAll.append hv (h.valid.right.mono hg), fun f => ?_⟩
  obtain ⟨p, q⟩ := h.acct f
  have c1 := hc.bal .name f
  have c2 := hc.bal .tlen f
  simp only [wres, csum_append] at *
  exact ⟨by omega, by omega⟩

theorem GI.step2 {base : Nat → Int} {w w' : World} {a b a' b' X : List Chunk} (h : GI base w (a ++ (b ++ X)))
    (hc : Conserve w (a ++ b) w' (a' ++ b')) (hg : Grows w w') (hf : Fresh w') (hw : WI base w')
    (ha : ValidAll w' a') (hb : ValidAll w' b') : GI base w' (a' ++ (b' ++ X)) := by
  rw [← List.append_assoc] at h ⊢
  exact h.step hc hg hf hw (ha.append hb)

theorem GI.comm {base : Nat → Int} {w : World} {A B : List Chunk} (h : GI base w (A ++ B)) :
    GI base w (B ++ A) := by
  refine ⟨h.fresh, h.wi, fun c hc => h.valid c ?_, fun f => ?_⟩
  · simp only [List.mem_append] at hc ⊢
    exact hc.symm
  · obtain ⟨p, q⟩ := h.acct f
    simp only [csum_append] at p q ⊢
    exact ⟨by omega, by omega⟩

end LtVerif.Cq
