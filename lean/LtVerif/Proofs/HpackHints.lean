/-
  HPACK (C07): the static-table hint (`lsxpack_header.hpack_index`) the decoder
  hands to h2.c with every field names that very field — for arbitrary input.
  h2.c and http_request_parse_header() trust it (see `c07_hint_sound`).
-/
import LtVerif.Proofs.Hpack
namespace LtVerif.Hpack
open LtVerif B

def HintOk (hint : Nat) (name : Bytes) : Prop :=
  hint = 0 ∨ (hint ≤ Extracted.hpackStaticTableSize ∧ (staticTable[hint - 1]?).map (·.1) = some name)

def ZipOk (hints : List Nat) (dyn : List Header) : Prop :=
  hints.length = dyn.length ∧ ∀ p ∈ hints.zip dyn, HintOk p.1 p.2.1

/-- invariant of the decoder state (`dte_name_idx` of every dynamic entry) -/
def HintsOk (d : Dec) : Prop := ZipOk d.hints d.tbl.dyn

theorem ZipOk.take {hints : List Nat} {dyn : List Header} (h : ZipOk hints dyn) (k : Nat) :
    ZipOk (hints.take k) (dyn.take k) :=
  ⟨by simp [List.length_take, h.1], fun p hp => h.2 p <| List.mem_of_mem_take (i := k) <| by
    rw [List.zip, List.take_zipWith]; exact hp⟩

theorem ZipOk.cons {hints : List Nat} {dyn : List Header} (h : ZipOk hints dyn) {hint : Nat} {e : Header}
    (he : HintOk hint e.1) : ZipOk (hint :: hints) (e :: dyn) := by
  refine ⟨by simp [h.1], ?_⟩
  intro p hp
  simp only [List.zip_cons_cons, List.mem_cons] at hp
  rcases hp with hp | hp
  · subst hp; exact he
  · exact h.2 p hp

theorem HintsOk.updateMax {d : Dec} (h : HintsOk d) (n : Nat) : HintsOk (d.updateMax n) := by
  obtain ⟨k, hk, hle⟩ := evict_prefix n d.tbl.dyn
  unfold HintsOk Dec.updateMax Table.updateMax
  simp only [hk, List.length_take, Nat.min_eq_left hle]
  exact ZipOk.take h k

theorem HintsOk.push {d : Dec} (h : HintsOk d) {e : Header} {hint : Nat} (he : HintOk hint e.1) :
    HintsOk (d.push e hint) := by
  obtain ⟨k, hk, hle⟩ := evict_prefix d.tbl.curMax (e :: d.tbl.dyn)
  unfold HintsOk Dec.push Table.push
  simp only [hk, List.length_take, Nat.min_eq_left hle]
  exact ZipOk.take (ZipOk.cons h he) k

theorem HintsOk.init : HintsOk Dec.init := ⟨rfl, by intro p hp; simp [Dec.init] at hp⟩

theorem Dec.lookup_hint {d : Dec} (h : HintsOk d) {idx : Nat} {n v : Bytes} {hint : Nat}
    (hl : d.lookup idx = some ((n, v), hint)) : HintOk hint n := by
  unfold Dec.lookup at hl
  cases ht : d.tbl.lookup idx with
  | none => simp [ht] at hl
  | some e =>
    simp only [ht] at hl
    unfold Table.lookup at ht
    by_cases h0 : idx = 0
    · simp [h0] at ht
    · simp only [h0, if_false] at ht
      by_cases h1 : idx ≤ Extracted.hpackStaticTableSize
      · simp only [h1, if_true, Option.some.injEq, Prod.mk.injEq] at hl ht
        obtain ⟨he, hh⟩ := hl
        subst hh
        exact Or.inr ⟨h1, by rw [ht, he]; rfl⟩
      · simp only [h1, if_false, Option.some.injEq, Prod.mk.injEq] at hl ht
        obtain ⟨he, hh⟩ := hl
        generalize idx - Extracted.hpackStaticTableSize - 1 = j at ht hh
        obtain ⟨hj, hget⟩ := List.getElem?_eq_some_iff.mp ht
        have hj' : j < d.hints.length := by rw [h.1]; exact hj
        have hz : j < (d.hints.zip d.tbl.dyn).length := by simp [List.length_zip]; omega
        have hmem : (d.hints.zip d.tbl.dyn)[j] ∈ d.hints.zip d.tbl.dyn := List.getElem_mem hz
        rw [List.getElem_zip] at hmem
        have := h.2 _ hmem
        simp only [hget, he] at this
        have hg : d.hints.getD j 0 = d.hints[j] := by simp [List.getD_eq_getElem?_getD, hj']
        rw [← hh, hg]
        exact this

theorem Dec.HintFor.ok {d : Dec} {hint : Nat} {n : Bytes} (hf : d.HintFor hint n) (h : HintsOk d) :
    HintOk hint n := by
  rcases hf with rfl | ⟨idx, v, hl⟩
  · exact .inl rfl
  · exact Dec.lookup_hint h hl

theorem Dec.Next.hints {d d' : Dec} (hn : d.Next d') (h : HintsOk d) : HintsOk d' := by
  cases hn with
  | same => exact h
  | upd n _ => exact h.updateMax n
  | push e hint hf => exact h.push (hf.ok h)

theorem decodeBlock_hint (cap : Nat) (d : Dec) (bs : Bytes) (hd : HintsOk d) :
    HintsOk (decodeBlock cap d bs).dec ∧ ∀ f ∈ (decodeBlock cap d bs).fields, HintOk f.hint f.name :=
  decodeBlockAux_inv cap (P := HintsOk) (Q := fun f => HintOk f.hint f.name) (fun _ _ hd hn => hn.hints hd)
    (fun _ _ hd hf => hf.ok hd) _ d bs hd

end LtVerif.Hpack
