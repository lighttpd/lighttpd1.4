/-
  C12: the chunk-size hex loop with ck1/ck2, then the two chunked decoders over histories of reads (gw, h1) and the same
  bound over C01's automaton (Proofs/H1Chunked for `ckParseLine_sound`).  `inI64` is kept folded as in ArithBase.
-/
import LtVerif.Model.H1Chunked
import LtVerif.Proofs.ArithBase
import LtVerif.Proofs.Bytes
import LtVerif.Proofs.H1Chunked
namespace LtVerif
namespace Arith
open B

attribute [local irreducible] inI64

/-! ### chunk-size accumulation -/

/-- why `ckHex` may write `te <<= 4; te |= u` as `te * 16 + u` -/
theorem shl4_or (t u : Nat) (hu : u < 16) : (t <<< 4) ||| u = t * 16 + u := by
  rw [← Nat.shiftLeft_add_eq_or_of_lt (i := 4) hu, Nat.shiftLeft_eq]

/-- 2^59-3: what either decoder's guard lets through before a shift -/
def ckGuardMax : Int := 576460752303423485
def ckTeMax : Nat := 9223372036854775775      -- ckGuardMax*16 + 15 = 2^63 - 33

/-- `ckTeMax + 2`: largest `gw_chunked` / `te_chunked` of both decoders; the literal in `CkGood` and C12's statements -/
def gwTeMax : Int := 9223372036854775777

def HexOk (v : Nat) : HexOut → Prop
  | .ub _ => False
  | .tooLarge => True
  | .ok te _ _ => te = (v : Int) ∧ v ≤ ckTeMax

theorem ckHex_ok (guard : Int) (hg : guard ≤ ckGuardMax) (line : Bytes) :
    ∀ (t k : Nat), t ≤ ckTeMax → HexOk (hexValue line t) (ckHex guard line (t : Int) k) := by
  unfold ckGuardMax at hg
  induction line with
  | nil => intro t k ht; exact ⟨rfl, ht⟩
  | cons b rest ih =>
    intro t k ht
    rw [ckHex, hexValue]
    cases hb : hexVal b with
    | none => exact ⟨rfl, ht⟩
    | some u =>
      have hu := hexVal_le b u hb
      refine ite_ind (fun _ => trivial) fun h1 => ite_ind (fun c => absurd c (by omega)) fun _ =>
        chk_ind (by rw [inI64_iff]; omega) (chk_ind (by rw [inI64_iff]; omega) ?_)
      have hcast : ((t : Int) * 16 + (u.toNat : Int)) = ((t * 16 + u.toNat : Nat) : Int) := by simp
      rw [hcast]
      exact ih (t * 16 + u.toNat) (k + 1) (by unfold ckTeMax at *; omega)

theorem ckHex_match {α : Sort _} {P : α → Prop} {guard : Int} (hg : guard ≤ ckGuardMax)
    (line : Bytes) {f : String → α} {g : α} {h : Int → Nat → Bytes → α} (hgood : P g)
    (hok : ∀ (n k : Nat) r, n = hexValue line 0 → n ≤ ckTeMax → P (h n k r)) :
    P (match ckHex guard line 0 0 with
      | .ub w => f w
      | .tooLarge => g
      | .ok te k r => h te k r) := by
  have hx : HexOk _ (ckHex guard line 0 0) := ckHex_ok guard hg line 0 0 (Nat.zero_le _)
  cases hc : ckHex guard line 0 0 with
  | ub w => rw [hc] at hx; exact hx.elim
  | tooLarge => exact hgood
  | ok te k r =>
    rw [hc] at hx
    obtain ⟨hn1, hn2⟩ := hx
    subst hn1
    exact hok _ k r rfl hn2

theorem lfIdx_lt (data : Bytes) : ∀ (i j : Nat), lfIdx data i = some j → i ≤ j ∧ j < i + data.length := by
  induction data with
  | nil => intro i j h; simp [lfIdx] at h
  | cons b t ih =>
    intro i j h
    simp only [lfIdx] at h
    split at h
    · simp only [Option.some.injEq] at h; subst h; simp
    · have := ih _ _ h; simp only [List.length_cons]; omega

theorem lfIdx_mem (data : Bytes) : ∀ (k j : Nat), lfIdx data k = some j → lf ∈ data.take (j - k + 1) := by
  induction data with
  | nil => intro k j h; simp [lfIdx] at h
  | cons b t ih =>
    intro k j h
    simp only [lfIdx] at h
    split at h
    · rename_i hb; simp [hb]
    · have h1 := ih _ _ h
      have h2 := lfIdx_lt t (k + 1) j h
      have e : j - k + 1 = (j - (k + 1) + 1) + 1 := by omega
      rw [e, List.take_succ_cons]
      exact List.mem_cons_of_mem _ h1

theorem splitLf_some {data acc line rest : Bytes} (h : splitLf data acc = some (line, rest)) :
    lf ∈ data ∧ lf ∈ line ∧ line.length + rest.length = acc.length + data.length := by
  unfold splitLf at h
  split at h
  · cases h
  · rename_i i hi
    have hm := lfIdx_mem data 0 i hi
    have hl := lfIdx_lt data 0 i hi
    simp only [Nat.sub_zero] at hm
    simp only [Option.some.injEq, Prod.mk.injEq] at h
    obtain ⟨h1, h2⟩ := h
    subst h1 h2
    refine ⟨List.mem_of_mem_take hm, List.mem_append_right _ hm, ?_⟩
    simp only [List.length_append, List.length_take, List.length_drop]
    omega

theorem lfIdx_none (data : Bytes) : ∀ k, lfIdx data k = none → lf ∉ data := by
  induction data with
  | nil => intro k _; simp
  | cons b t ih =>
    intro k h
    simp only [lfIdx] at h
    split at h
    · cases h
    · rename_i hb
      have := ih _ h
      simp only [List.mem_cons, not_or]
      exact ⟨fun e => hb e.symm, this⟩

theorem splitLf_none {data acc : Bytes} (h : splitLf data acc = none) : noLf data = true := by
  unfold splitLf at h
  split at h
  · rename_i hn
    have := lfIdx_none data 0 hn
    simp [noLf, this]
  · cases h

/-- what the first chunk-header step may return -/
def CkGood (dataLen : Nat) : CkOut → Prop
  | .ub _ => False
  | .ok te moved _ _ => 0 ≤ te ∧ te ≤ 9223372036854775777 ∧ moved ≤ dataLen
  | _ => True

theorem ckGuardH1_le : Extracted.ckGuardH1 ≤ ckGuardMax := by decide +kernel
theorem ckGuardGw_le : Extracted.ckGuardGw ≤ ckGuardMax := by decide +kernel
theorem ckInMemMax_eq : Extracted.ckInMemMax = 65536 := by decide +kernel

theorem ck1_good (msKB : Nat) (bytesIn : Int) (data : Bytes) (hms : msKB ≤ 4294967295)
    (hin0 : 0 ≤ bytesIn) (hin : bytesIn + data.length ≤ 9223372036854775807) :
    CkGood data.length (ck1 msKB bytesIn data) := by
  rw [ck1]
  refine ite_ind (fun _ => by simp [CkGood]) fun _ => ?_
  cases hsplit : splitLf data [] with
  | none => exact ite_ind (fun _ => trivial) fun _ => by simp [CkGood]
  | some lr =>
    obtain ⟨line, rest⟩ := lr
    have hlen := (splitLf_some hsplit).2.2
    simp only [List.length_nil, Nat.zero_add] at hlen
    refine ckHex_match ckGuardH1_le line trivial fun n k after _ hn => ?_
    unfold ckTeMax at hn
    -- bad line, 1024 limit, last chunk
    refine ite_ind (fun _ => trivial) fun _ => ite_ind (fun _ => trivial) fun _ => ite_ind (fun _ => ?_) fun _ => ?_
    · exact ite_ind (fun _ => by simp [CkGood]) fun _ => trivial
    refine chk_ind (by rw [inI64_iff]; omega) (ite_ind (fun _ => trivial) fun _ => ?_)   -- max_request_size<<10 (`unsigned int` kB: `hms`), 413
    refine chk_ind (by rw [inI64_iff]; omega) (chk_ind (by rw [inI64_iff, ckInMemMax_eq]; omega) ?_)  -- te+2, 64k-bytes_in
    generalize hnn : (if ((rest.length : Nat) : Int) > (n : Int) + 2 - 2 then (n : Int) + 2 - 2
        else ((rest.length : Nat) : Int)) = nn
    have hb : 0 ≤ nn ∧ nn ≤ rest.length ∧ nn ≤ n := by split at hnn <;> omega
    refine chk_ind (by rw [inI64_iff]; omega) (ite_ind (fun _ => ?_) fun _ => trivial)
    simp only [CkGood]
    omega

theorem ck2_good (data : Bytes) (hlen' : data.length ≤ 9223372036854775807) :
    CkGood data.length (ck2 data) := by
  rw [ck2]
  refine ite_ind (fun _ => by simp [CkGood]) fun _ => ?_
  cases hsplit : splitLf data [] with
  | none => exact ite_ind (fun _ => trivial) fun _ => by simp [CkGood]
  | some lr =>
    obtain ⟨line, rest⟩ := lr
    have hlen := (splitLf_some hsplit).2.2
    simp only [List.length_nil, Nat.zero_add] at hlen
    refine ite_ind (fun _ => trivial) fun _ => ckHex_match ckGuardGw_le line trivial fun n k after _ hn => ?_
    unfold ckTeMax at hn
    refine ite_ind (fun _ => trivial) fun _ => ite_ind (fun _ => ?_) fun _ => ?_
    · exact ite_ind (fun _ => by simp [CkGood]) fun _ => trivial
    refine chk_ind (by rw [inI64_iff]; omega) (ite_ind (fun _ => by simp only [CkGood]; omega) fun _ => ?_)
    generalize hnn : (if (n : Int) + 2 - 2 > ((rest.length : Nat) : Int) then ((rest.length : Nat) : Int)
        else (n : Int) + 2 - 2) = nn
    have hb : 0 ≤ nn ∧ nn ≤ rest.length ∧ nn ≤ n := by split at hnn <;> omega
    refine ite_ind (fun _ => ?_) fun _ => trivial
    simp only [CkGood]
    omega

/-! ### accumulators that carry partial input across reads -/

/-- `Nat.max 1024 maxField` is what either decoder may carry across reads -/
theorem le_max1024 (n : Nat) : 1024 ≤ Nat.max 1024 n ∧ n ≤ Nat.max 1024 n :=
  ⟨Nat.le_max_left _ _, Nat.le_max_right _ _⟩

theorem noLf_false_of_mem {x : Bytes} (h : lf ∈ x) : noLf x = false := by
  simp [noLf, h]

/-- the hex digits of a line end in front of its LF -/
theorem hexValue_append_lf (a b : Bytes) (ha : lf ∈ a) : ∀ t, hexValue (a ++ b) t = hexValue a t := by
  induction a with
  | nil => simp at ha
  | cons x rest ih =>
    intro t
    rw [List.cons_append, hexValue, hexValue]
    cases hx : hexVal x with
    | none => rfl
    | some u =>
      have hne : lf ≠ x := by intro e; subst e; simp [hexVal, isDigit, lf] at hx
      exact ih ((List.mem_cons.mp ha).resolve_left hne) _

structure GwInv (maxField : Nat) (st : GwSt) : Prop where
  live : st.done = false → st.h.length ≤ Nat.max 1024 maxField
  all : st.h.length ≤ Nat.max 1024 maxField + 4    -- two CRLFs appended after the trailers are cut at `maxField`
  partialLine : noLf st.h = true → st.h.length ≤ 1024
  te0 : 0 ≤ st.te
  teMax : st.te ≤ gwTeMax
  -- a complete line stays buffered only if it is the last-chunk line (size 0)
  lastLine : st.done = false → lf ∈ st.h → hexValue st.h 0 = 0

theorem ckPartialMaxGw_eq : Extracted.ckPartialMaxGw = 1024 := by decide +kernel

theorem gwInv_nil {maxField : Nat} {st : GwSt} (hh : st.h = []) (h0 : 0 ≤ st.te) (h1 : st.te ≤ gwTeMax) :
    GwInv maxField st :=
  ⟨(by intro _; simp [hh]), (by simp [hh]), (by intro _; simp [hh]), h0, h1, (by intro _ hm; simp [hh] at hm)⟩

theorem gwInv_keep {maxField : Nat} {st s : GwSt} (hi : GwInv maxField st) (hh : s.h = st.h)
    (hd : s.done = st.done) (h0 : 0 ≤ s.te) (h1 : s.te ≤ st.te) : GwInv maxField s :=
  ⟨(by rw [hh, hd]; exact hi.live), (by rw [hh]; exact hi.all), (by rw [hh]; exact hi.partialLine), h0,
   Int.le_trans h1 hi.teMax, (by rw [hh, hd]; exact hi.lastLine)⟩

theorem gwInv_partial {maxField : Nat} {st s : GwSt} (hi : GwInv maxField st) (hte : s.te = st.te)
    (hn : noLf s.h = true) (hl : s.h.length ≤ 1024) : GwInv maxField s := by
  have h1024 := (le_max1024 maxField).1
  exact ⟨(by intro _; omega), (by omega), (fun _ => hl), hte ▸ hi.te0, hte ▸ hi.teMax,
    (by intro _ hmem; rw [noLf_false_of_mem hmem] at hn; cases hn)⟩

/-- one round of the `while (len)` loop on the rest `m` of the read -/
def IterOk (maxField : Nat) (st : GwSt) (m : Bytes) : GwIter → Prop
  | .ub _ => False
  | .err => True
  | .stop st' => GwInv maxField st'
  | .cont st' m' => GwInv maxField st' ∧ st'.done = st.done ∧ m'.length < m.length

theorem gwLastChunk_ok (maxField : Nat) (st : GwSt) (h m mFull : Bytes) (hsz : Nat) (p : Bytes)
    (hb : h.length ≤ Nat.max 1024 maxField) (hlf : lf ∈ h ++ m) (hline : hexValue (h ++ m) 0 = 0) :
    IterOk maxField st mFull (gwLastChunk maxField st h m hsz p) := by
  obtain ⟨h1024, hmf⟩ := le_max1024 maxField
  have hte : (0 : Int) ≤ gwTeMax := by unfold gwTeMax; omega
  rw [gwLastChunk]
  refine ite_ind (fun _ => ite_ind (fun _ => trivial) fun _ => gwInv_nil rfl (Int.le_refl _) hte) fun _ => ?_
  generalize hml : (if maxField > h.length then maxField - h.length else 0) = mlen
  have hm1 : h.length + mlen ≤ Nat.max 1024 maxField := by split at hml <;> omega
  have hm2 : maxField ≤ h.length + mlen := by split at hml <;> omega
  refine ite_ind (fun _ => ?_) fun c3 => ?_
  · -- trailers cut at max-request-field-size
    have hh1 : (h ++ m.take mlen).length ≤ Nat.max 1024 maxField := by
      simp only [List.length_append, List.length_take]; omega
    generalize (h ++ m.take mlen) = h1 at hh1 ⊢
    refine ⟨(fun hd => nomatch hd), ?_, ?_, Int.le_refl _, hte, (fun hd => nomatch hd)⟩
    · simp only
      split
      · split <;> (simp only [List.length_append, List.length_take, List.length_cons, List.length_nil]; omega)
      · simp only [List.length_append, List.length_cons, List.length_nil]; omega
    · intro hn
      rw [noLf_false_of_mem (by simp)] at hn; cases hn
  · have hlen : (h ++ m).length ≤ Nat.max 1024 maxField := by simp only [List.length_append]; omega
    have hnl : noLf (h ++ m) = false := noLf_false_of_mem hlf
    dsimp only
    split
    · exact ite_ind (fun _ => trivial) fun _ => ⟨(fun _ => hlen), (by simp only; omega),
        (by intro hn; simp only at hn; rw [hnl] at hn; cases hn), Int.le_refl _, hte, (fun hd => nomatch hd)⟩
    · exact ⟨(fun _ => hlen), (by simp only; omega), (by intro hn; simp only at hn; rw [hnl] at hn; cases hn),
        Int.le_refl _, hte, (fun _ _ => hline)⟩

/-- `hstale`: a line taken from the header buffer has size 0 (`lastLine`), so the `fromH && hsz ≠ 0` ub arm is
    dead; `hsrc` re-establishes `lastLine`; `hshort`: less than the read `mFull` is left -/
theorem gwLine_ok (maxField : Nat) (st : GwSt) (src : Bytes) (lineOk : Bool) (h m mFull : Bytes) (hsz adv : Nat)
    (p : Bytes) (fromH : Bool) (hb : h.length ≤ Nat.max 1024 maxField) (hlf : lf ∈ h ++ m)
    (hsrc : hexValue (h ++ m) 0 = hexValue src 0)
    (hstale : fromH = true → hsz ≠ 0 → hexValue src 0 = 0)
    (hshort : hexValue src 0 ≠ 0 → (m.drop adv).length < mFull.length) :
    IterOk maxField st mFull (gwLine maxField st src lineOk h m hsz adv p fromH) := by
  rw [gwLine]
  refine ckHex_match ckGuardGw_le src trivial fun n k after hx hn => ?_
  unfold ckTeMax at hn
  have hnz : (n : Int) = 0 ↔ hexValue src 0 = 0 := by omega
  refine ite_ind (fun _ => trivial) fun _ => ite_ind (fun hz => ?_) fun hne => ite_ind (fun hst => ?_) fun _ => ?_
  · exact gwLastChunk_ok maxField st h m mFull hsz p hb hlf (hsrc.trans (hnz.mp hz))
  · simp only [Bool.and_eq_true, decide_eq_true_eq] at hst
    exact absurd (hnz.mpr (hstale hst.1 hst.2)) hne
  · have hnil : GwInv maxField { st with te := (n : Int) + 2, h := [] } :=
      gwInv_nil rfl (by simp only; omega) (by simp only; unfold gwTeMax; omega)
    exact chk_ind (by rw [inI64_iff]; omega) (ite_ind (fun _ => hnil) fun _ => ⟨hnil, rfl, hshort (mt hnz.mpr hne)⟩)

theorem gwIter_ok (maxField : Nat) (st : GwSt) (m : Bytes) (hi : GwInv maxField st) (hd : st.done = false)
    (hm : 0 < m.length) : IterOk maxField st m (gwIter maxField st m) := by
  have hte0 := hi.te0
  rw [gwIter]
  -- gw_chunked = 0: header (buffer blank or not); ≥ 2: data; 1: LF
  refine ite_ind (fun _ => ite_ind (fun _ => ?_) fun _ => ?_) fun hnz => ite_ind (fun _ => ?_) fun _ => ?_
  · cases hs : splitLf m [] with
    | none =>
      refine ite_ind (fun _ => trivial) fun hlt => gwInv_partial hi rfl (splitLf_none hs) ?_
      rw [ckPartialMaxGw_eq] at hlt
      simp only; omega
    | some lr =>
      obtain ⟨line, rest⟩ := lr
      obtain ⟨hmm, hmem, hll⟩ := splitLf_some hs
      have hlpos := List.length_pos_of_mem hmem
      refine ite_ind (fun _ => trivial) fun _ => ?_
      exact gwLine_ok maxField st m _ [] m m line.length line.length rest false (by simp) (by simpa using hmm)
        rfl nofun (by intro _; simp only [List.length_drop]; simp at hll; omega)
  · cases hs : splitLf st.h [] with
    | some lr =>
      obtain ⟨line, rest⟩ := lr
      have hmm := (splitLf_some hs).1
      have h0 := hi.lastLine hd hmm
      exact gwLine_ok maxField st st.h _ st.h m m line.length 0 rest true (hi.live hd) (by simp [hmm])
        (hexValue_append_lf _ m hmm 0) (fun _ _ => h0) (fun hne => absurd h0 hne)
    | none =>
      have hnl1 := splitLf_none hs
      have hp := hi.partialLine hnl1
      have hw : wrap32 (Extracted.ckPartialMaxGw + (u32Max + 1) - st.h.length) = 1024 - st.h.length := by
        simp only [wrap32, ckPartialMaxGw_eq, u32Max_eq]; omega
      cases hsm : splitLf m [] with
      | none =>
        rw [hw]
        refine ite_ind (fun _ => trivial) fun hfit => gwInv_partial hi rfl ?_ ?_
        · have hnl2 := splitLf_none hsm
          simp only [noLf, List.contains_append, Bool.not_or, Bool.and_eq_true] at hnl1 hnl2 ⊢
          exact ⟨hnl1, hnl2⟩
        · simp only [List.length_append]; omega
      | some lr =>
        obtain ⟨line, rest⟩ := lr
        obtain ⟨_, hmem, hll⟩ := splitLf_some hsm
        have hlpos := List.length_pos_of_mem hmem
        rw [hw]
        refine ite_ind (fun _ => trivial) fun hfit => ?_
        have hl' : (st.h ++ line).length ≤ 1024 := by simp only [List.length_append]; omega
        have hlf : lf ∈ st.h ++ line := List.mem_append_right _ hmem
        have h1024 := (le_max1024 maxField).1
        exact gwLine_ok maxField st (st.h ++ line) _ (st.h ++ line) rest m 0 0 rest true (by omega)
          (List.mem_append_left _ hlf) (hexValue_append_lf _ rest hlf 0) (fun _ hne => absurd rfl hne)
          (by intro _; simp at hll ⊢; omega)
  · -- chunk data and its CRLF: the header buffer is not touched
    dsimp only
    generalize hcl : (if st.te - 2 > (m.length : Int) then (m.length : Int) else st.te - 2) = clen
    have hb : 0 ≤ clen ∧ clen ≤ st.te - 2 ∧ (clen = st.te - 2 ∨ clen = m.length) := by split at hcl <;> omega
    have hlen : (m.drop clen.toNat).length = m.length - clen.toNat := List.length_drop
    have keep (te : Int) (h0 : 0 ≤ te) (h1 : te ≤ st.te - clen) :
        GwInv maxField { st with te := te, out := st.out + clen.toNat } :=
      gwInv_keep hi rfl rfl h0 (by simp only; omega)
    refine ite_ind (fun _ => ite_ind (fun _ => ite_ind (fun _ => trivial) fun _ =>
        ⟨keep 0 (Int.le_refl _) (by omega), rfl, by simp only [List.length_drop]; omega⟩)
      fun _ => ite_ind (fun _ => ite_ind (fun _ => trivial) fun _ => keep 1 (by omega) (by omega))
      fun _ => ⟨keep _ (by omega) (Int.le_refl _), rfl, by omega⟩) fun _ => ⟨keep _ (by omega) (Int.le_refl _), rfl, by omega⟩
  · refine ite_ind (fun _ => ite_ind (fun _ => trivial) fun _ =>
      ⟨gwInv_keep hi rfl rfl (Int.le_refl _) (by simp only; omega), rfl, ?_⟩) fun _ => ?_
    · simp only [List.length_drop]; omega
    · exact absurd hte0 (by omega)

def GwOutOk (maxField : Nat) : GwOut → Prop
  | .ub _ => False
  | .err => True
  | .ok st' => GwInv maxField st'

theorem gwLoop_ok (maxField : Nat) : ∀ (fuel : Nat) (st : GwSt) (m : Bytes), GwInv maxField st → st.done = false →
    m.length < fuel → GwOutOk maxField (gwLoop maxField fuel st m) := by
  intro fuel
  induction fuel with
  | zero => intro st m _ _ hf; omega
  | succ fuel ih =>
    intro st m hi hd hf
    rw [gwLoop]
    refine ite_ind (fun _ => hi) fun hne => ?_
    have hk := gwIter_ok maxField st m hi hd (by cases m with | nil => simp at hne | cons _ _ => simp)
    split
    · rename_i hit; rw [hit] at hk; exact hk
    · trivial
    · rename_i hit; rw [hit] at hk; exact hk
    · rename_i st1 m1 hit
      rw [hit] at hk
      exact ih st1 m1 hk.1 (by rw [hk.2.1]; exact hd) (by have := hk.2.2; omega)

theorem gwRead_ok (maxField : Nat) (st : GwSt) (m : Bytes) (hi : GwInv maxField st) :
    GwOutOk maxField (gwRead maxField st m) := by
  rw [gwRead]
  exact ite_ind (fun _ => trivial) fun hd => gwLoop_ok maxField _ st m hi (by simpa using hd) (by omega)

structure GwRunInv (maxField : Nat) (r : GwRun) : Prop where
  st : GwInv maxField r.st
  maxh : r.maxh ≤ Nat.max 1024 maxField + 4
  maxp : r.maxp ≤ 1024
  noUb : r.fail = none ∨ r.fail = some "err"

theorem gwRunStep_inv (maxField : Nat) (r : GwRun) (m : Bytes) (hi : GwRunInv maxField r) :
    GwRunInv maxField (gwRunStep maxField r m) := by
  have hs := gwRead_ok maxField r.st m hi.st
  unfold gwRunStep
  split
  · exact hi
  · rename_i hnf
    split
    · rename_i hr; rw [hr] at hs; exact hs.elim
    · exact ⟨hi.st, hi.maxh, hi.maxp, Or.inr rfl⟩
    · rename_i st' hr
      rw [hr] at hs
      refine ⟨hs, ?_, ?_, ?_⟩
      · simp only; exact Nat.max_le.mpr ⟨hi.maxh, hs.all⟩
      · simp only
        split
        · rename_i hn; exact Nat.max_le.mpr ⟨hi.maxp, hs.partialLine hn⟩
        · exact hi.maxp
      · exact .inl (Option.not_isSome_iff_eq_none.mp hnf)

theorem gwRun_inv (maxField : Nat) (reads : List Bytes) : GwRunInv maxField (gwRun maxField reads) :=
  foldl_inv (GwRunInv maxField) _ reads {}
    ⟨gwInv_nil rfl (Int.le_refl _) (by decide), Nat.zero_le _, Nat.zero_le _, Or.inl rfl⟩ (gwRunStep_inv maxField)

/-! ### h1_chunked(): whole calls over arbitrary histories -/

theorem ckPartialMaxH1_eq : Extracted.ckPartialMaxH1 = 1024 := by decide +kernel

/-- `budget` bounds the bytes received so far (already counted in `bytes_in` or still in the read queue).
    `te1`: CR LF after the data goes as a pair, so te_chunked is 0 or ≥ 2; at 1 a round takes nothing and never ends. -/
structure H1Inv (budget : Int) (st : H1St) : Prop where
  te0 : 0 ≤ st.te
  teMax : st.te ≤ gwTeMax
  te1 : st.te ≠ 1
  in0 : 0 ≤ st.bytesIn
  sum : st.bytesIn + st.q.length ≤ budget

/-- what is left in the read queue when a call returns without completing the body -/
def H1Wait (maxField : Nat) (st : H1St) : Prop :=
  st.done = false → st.q.length < Nat.max 1024 maxField

theorem H1Inv.of_le {budget budget' : Int} {st st' : H1St} (hi : H1Inv budget st) (hte : st'.te = st.te)
    (hin : st'.bytesIn = st.bytesIn) (hq : (st'.q.length : Int) + budget ≤ st.q.length + budget') :
    H1Inv budget' st' :=
  ⟨hte ▸ hi.te0, hte ▸ hi.teMax, hte ▸ hi.te1, hin ▸ hi.in0, by have := hi.sum; rw [hin]; omega⟩

/-- one round of h1_chunked()'s do-while -/
def H1IterOk (budget : Int) (maxField : Nat) (st : H1St) : H1Iter → Prop
  | .ub _ => False
  | .err _ => True
  | .stop st' => H1Inv budget st' ∧ H1Wait maxField st'
  | .cont st' => H1Inv budget st' ∧ st'.done = st.done ∧ st'.q.length < st.q.length

theorem h1Iter_ok (budget : Int) (hbud : budget ≤ 9223372036854775807) (msKB maxField : Nat)
    (hms : msKB ≤ 4294967295) (st : H1St) (hi : H1Inv budget st) (hq : 0 < st.q.length) :
    H1IterOk budget maxField st (h1Iter msKB maxField st) := by
  obtain ⟨h1024, hmf⟩ := le_max1024 maxField
  have ⟨t0, tM, t1, i0, hs⟩ := hi
  unfold gwTeMax at tM
  rw [h1Iter]
  refine ite_ind (fun hz => ?_) fun hnz => ?_   -- te_chunked = 0: chunk header; else data
  · cases hidx : lfIdx (cstr st.q) 0 with
    | none =>
      refine ite_ind (fun _ => trivial) fun hlt => ⟨hi, fun _ => ?_⟩
      rw [ckPartialMaxH1_eq] at hlt
      omega
    | some i =>
      refine ckHex_match ckGuardH1_le _ trivial fun n k after _ hn => ?_
      unfold ckTeMax at hn
      -- bad line, 1024 limit, last chunk
      refine ite_ind (fun _ => trivial) fun _ => ite_ind (fun _ => trivial) fun _ => ite_ind (fun _ => ?_) fun hnz => ?_
      · refine ite_ind (fun _ => ⟨hi.of_le rfl rfl ?_, fun h => nomatch h⟩) fun _ => ?_
        · simp only [List.length_drop]; omega
        cases findCrlfCrlf (cstr (st.q.drop (i + 1 - 2))) 0 with
        | some j => exact ⟨hi.of_le rfl rfl (by simp only [List.length_drop]; omega), fun h => nomatch h⟩
        | none =>
          refine ite_ind (fun hlt => ⟨hi, fun _ => by omega⟩) fun _ => ⟨hi.of_le rfl rfl ?_, fun h => nomatch h⟩
          simp only [List.length_nil]; omega
      · refine chk_ind (by rw [inI64_iff]; omega) (ite_ind (fun _ => trivial) fun _ =>
          chk_ind (by rw [inI64_iff]; omega) ⟨?_, rfl, by simp only [List.length_drop]; omega⟩)
        exact {
          te0 := by simp only; omega
          teMax := by simp only; unfold gwTeMax; omega
          te1 := by simp only; omega
          in0 := i0
          sum := by simp only [List.length_drop]; omega }
  · refine chk_ind (by rw [inI64_iff]; omega) ?_
    generalize hnn : (if st.te > 2 then (if (st.q.length : Int) > st.te - 2 then st.te - 2 else (st.q.length : Int))
      else 0) = nn
    have hb : 0 ≤ nn ∧ nn ≤ st.q.length ∧ nn ≤ st.te - 2 ∧ (st.te > 2 → nn = st.te - 2 ∨ nn = st.q.length) := by
      split at hnn
      · split at hnn <;> omega
      · omega
    refine chk_ind (by rw [inI64_iff, ckInMemMax_eq]; omega) (chk_ind (by rw [inI64_iff]; omega)
      (chk_ind (by rw [inI64_iff]; omega) ?_))
    have hlen : (st.q.drop nn.toNat).length = st.q.length - nn.toNat := List.length_drop
    have moved : H1Inv budget { st with te := st.te - nn, bytesIn := st.bytesIn + nn, q := st.q.drop nn.toNat } := {
      te0 := by simp only; omega
      teMax := by simp only; unfold gwTeMax; omega
      te1 := by simp only; omega
      in0 := by simp only; omega
      sum := by simp only [hlen]; omega }
    -- chunk incomplete; CRLF due (else 400); more data
    refine ite_ind (fun hlt => ⟨moved, fun _ => by simp only [hlen] at hlt ⊢; omega⟩) fun hge => ite_ind (fun h2e =>
      ite_ind (fun _ => trivial) fun _ => ite_ind (fun _ => trivial) fun _ => ⟨?_, rfl, ?_⟩) fun h2ne => ?_
    · -- the chunk's CRLF consumed: `te = 0`, two bytes fewer
      exact {
        te0 := by simp
        teMax := by simp only; unfold gwTeMax; omega
        te1 := by simp
        in0 := by simp only; omega
        sum := by simp only [List.length_drop]; omega }
    · simp only [List.length_drop, hlen] at hge ⊢; omega
    · -- data left over with `te ≠ 2`: the chunk was not exhausted, so the test above held
      exfalso
      simp only [hlen] at hge
      omega

def H1OutOk (budget : Int) (maxField : Nat) : H1Out → Prop
  | .ub _ => False
  | .err _ => True
  | .ok st' => H1Inv budget st' ∧ H1Wait maxField st'

theorem h1Wait_of_isEmpty {maxField : Nat} {st : H1St} (he : st.q.isEmpty = true) : H1Wait maxField st := by
  intro _
  have := List.isEmpty_iff_length_eq_zero.mp he
  have := (le_max1024 maxField).1
  omega

theorem h1Loop_ok (budget : Int) (hbud : budget ≤ 9223372036854775807) (msKB maxField : Nat)
    (hms : msKB ≤ 4294967295) : ∀ (fuel : Nat) (st : H1St), H1Inv budget st → ¬ st.q.isEmpty = true →
    st.q.length < fuel → H1OutOk budget maxField (h1Loop msKB maxField fuel st) := by
  intro fuel
  induction fuel with
  | zero => intro st _ _ hf; omega
  | succ fuel ih =>
    intro st hi hq hf
    have hk := h1Iter_ok budget hbud msKB maxField hms st hi
      (by cases hq1 : st.q with | nil => simp [hq1] at hq | cons _ _ => simp)
    rw [h1Loop]
    split
    · rename_i hit; rw [hit] at hk; exact hk
    · trivial
    · rename_i hit; rw [hit] at hk; exact hk
    · rename_i st1 hit
      rw [hit] at hk
      exact ite_ind (fun he => ⟨hk.1, h1Wait_of_isEmpty he⟩) fun hne => ih st1 hk.1 hne (by have := hk.2.2; omega)

theorem h1Call_ok (budget : Int) (hbud : budget ≤ 9223372036854775807) (msKB maxField : Nat)
    (hms : msKB ≤ 4294967295) (st : H1St) (m : Bytes) (hi : H1Inv (budget - m.length) st)
    (_hw : H1Wait maxField st) : H1OutOk budget maxField (h1Call msKB maxField st m) := by
  have hi1 : H1Inv budget { st with q := st.q ++ m } :=
    hi.of_le rfl rfl (by simp only [List.length_append]; omega)
  rw [h1Call]
  exact ite_ind (fun he => ⟨hi1, h1Wait_of_isEmpty he⟩) fun hne =>
    h1Loop_ok budget hbud msKB maxField hms _ _ hi1 hne (by simp only; omega)

structure H1RunInv (budget : Int) (maxField : Nat) (r : H1Run) : Prop where
  st : H1Inv budget r.st
  wait : H1Wait maxField r.st
  maxrest : r.maxrest < Nat.max 1024 maxField
  noUb : r.fail = none ∨ ∃ e : Nat, r.fail = some ("err " ++ toString e)

theorem H1RunInv.init (maxField : Nat) : H1RunInv 0 maxField {} :=
  have h : 0 < Nat.max 1024 maxField := Nat.lt_of_lt_of_le (by decide) (le_max1024 maxField).1
  ⟨⟨Int.le_refl _, by decide, by decide, Int.le_refl _, Int.le_refl _⟩, fun _ => h, h, Or.inl rfl⟩

theorem h1RunStep_inv (budget : Int) (hbud : budget ≤ 9223372036854775807) (msKB maxField : Nat)
    (hms : msKB ≤ 4294967295) (r : H1Run) (m : Bytes) (hi : H1RunInv (budget - m.length) maxField r) :
    H1RunInv budget maxField (h1RunStep msKB maxField r m) := by
  have hmono : H1Inv budget r.st := hi.st.of_le rfl rfl (by omega)
  have hc := h1Call_ok budget hbud msKB maxField hms r.st m hi.st hi.wait
  unfold h1RunStep
  split
  · exact ⟨hmono, hi.wait, hi.maxrest, hi.noUb⟩
  · rename_i hnf
    split
    · rename_i hr; rw [hr] at hc; exact hc.elim
    · rename_i e _
      exact ⟨hmono, hi.wait, hi.maxrest, Or.inr ⟨e, rfl⟩⟩
    · rename_i st' hr
      rw [hr] at hc
      obtain ⟨h1, h2⟩ := hc
      refine ⟨h1, h2, ?_, ?_⟩
      · simp only
        split
        · exact hi.maxrest
        · rename_i hdn
          exact Nat.max_lt.mpr ⟨hi.maxrest, h2 (by simpa using hdn)⟩
      · exact .inl (Option.not_isSome_iff_eq_none.mp fun h => hnf (by rw [h]; rfl))

theorem h1Run_inv (msKB maxField : Nat) (hms : msKB ≤ 4294967295) (reads : List Bytes) :
    ∀ (r0 : H1Run) (budget : Int), budget + ((reads.map List.length).sum : Nat) ≤ 9223372036854775807 →
      H1RunInv budget maxField r0 →
      H1RunInv (budget + ((reads.map List.length).sum : Nat)) maxField (reads.foldl (h1RunStep msKB maxField) r0) := by
  induction reads with
  | nil => intro r0 budget _ h; simpa using h
  | cons m rest ih =>
    intro r0 budget hb h
    simp only [List.map_cons, List.sum_cons, List.foldl_cons] at hb ⊢
    have hstep := h1RunStep_inv (budget + m.length) (by omega) msKB maxField hms r0 m
      (by have : budget + (m.length : Int) - (m.length : Int) = budget := by omega
          rw [this]; exact h)
    have := ih (h1RunStep msKB maxField r0 m) (budget + m.length) (by push_cast at hb ⊢; omega) hstep
    have e : budget + ((m.length + (rest.map List.length).sum : Nat) : Int)
        = budget + (m.length : Int) + (((rest.map List.length).sum : Nat) : Int) := by push_cast; omega
    rw [e]; exact this

/-! ### the same bound over C01's byte automaton (Model/H1Chunked.lean) -/

/-- bytes of the request stream the HTTP/1 chunked decoder keeps unconsumed in the read queue
    (C01 automaton `ckStep`): the incomplete chunk-size line, the first byte of a chunk's CRLF,
    the last-chunk line with the trailer section -/
def ckBuffered : CkMode → Nat
  | .hdr acc _ => acc.length
  | .crlf (some _) => 1
  | .trailer acc _ _ => acc.length
  | _ => 0

theorem ckStep_buffered (cfg : CkCfg) (s : CkSt) (b : UInt8)
    (h : ckBuffered s.mode < Nat.max 1024 cfg.maxField) :
    ckBuffered (ckStep cfg s b).mode < Nat.max 1024 cfg.maxField := by
  obtain ⟨h1, h2⟩ := le_max1024 cfg.maxField
  obtain ⟨mode, out, ka, after⟩ := s
  cases mode with
  | hdr acc nul =>
    simp only [ckStep]
    split
    · rename_i hb
      simp only [Bool.and_eq_true, decide_eq_true_eq] at hb
      rw [hb.1]
      split
      · simp [ckBuffered]; omega
      · rename_i hp
        have := (ckParseLine_sound acc _ hp).short
        simp only [ckBuffered]; omega
      · split <;> (simp [ckBuffered]; omega)
    · split
      · simp [ckBuffered]; omega
      · rename_i hlt
        simp only [ckBuffered]
        simp only [ge_iff_le, Nat.not_le] at hlt
        omega
  | data n => simp only [ckStep]; split <;> (simp [ckBuffered]; omega)
  | crlf f =>
    cases f with
    | none => simp [ckStep, ckBuffered]; omega
    | some a => simp only [ckStep]; split <;> (simp [ckBuffered]; omega)
  | trailer acc off nul =>
    simp only [ckStep]
    split
    · simp [ckBuffered]; omega
    · split
      · simp [ckBuffered]; omega
      · rename_i hlt
        simp only [ckBuffered]
        simp only [ge_iff_le, Nat.not_le] at hlt
        omega
  | done => simp [ckStep, ckBuffered]; omega
  | err e => simpa [ckStep] using h

theorem ckFeed_buffered (cfg : CkCfg) (bs : Bytes) : ∀ s : CkSt,
    ckBuffered s.mode < Nat.max 1024 cfg.maxField →
    ckBuffered (ckFeed cfg s bs).mode < Nat.max 1024 cfg.maxField := by
  induction bs with
  | nil => intro s h; exact h
  | cons b rest ih =>
    intro s h
    show ckBuffered (ckFeed cfg (ckStep cfg s b) rest).mode < _
    exact ih _ (ckStep_buffered cfg s b h)

end Arith
end LtVerif
