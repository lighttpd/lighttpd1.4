/-
  C11, part 4: a HANDLER_COMEBACK has lowered the retry measure `mu` of GwPrim.lean (`Ret`, GwAct.lean), so the COMEBACK loop of
  http_response_handler() never uses up its fuel; the retry budget of each failure path; what a client
  sees when the code gives up; a timed-out request lets go of its backend.
-/
import LtVerif.Proofs.GwAct
import LtVerif.Proofs.GwPick
namespace LtVerif.Gw

/-! ### the COMEBACK loop ends by itself -/

theorem runCon_fuel (n m : Nat) (w : World) (s : Nat) (hn : mu s w < n) (hm : mu s w < m) :
    runCon n w s = runCon m w s := by
  induction n generalizing m w with
  | zero => omega
  | succ n ih =>
    cases m with
    | zero => omega
    | succ m =>
      unfold runCon
      cases hs : w.slot s with
      | none => rfl
      | some c =>
        dsimp only
        split
        · rfl
        · cases hr : (subrequest w s).1 with
          | comeback =>
            dsimp only
            have hlt := (ret_subrequest s w).2 hr (by simp [hs])
            exact ih _ _ (by omega) (by omega)
          | goOn => rfl
          | finished => rfl
          | waitForEvent => rfl
          | error => rfl

theorem conFuel_gt_mu (w : World) (s : Nat) : mu s w < conFuel w := by
  unfold mu conFuel; omega

/-! ### the retry budget -/

theorem backendError_rc (w : World) (s : Nat) : (backendError w s).1 = .finished := rfl

theorem writeErrorTail_rc (w : World) (s : Nat) : (writeErrorTail w s).1 = .finished := rfl

theorem reconnect_rc (w : World) (s : Nat) :
    (reconnect w s).1 = .comeback ∨ (reconnect w s).1 = .finished := by
  unfold reconnect; dsimp only
  split
  · exact Or.inr rfl
  · exact Or.inl rfl

theorem hostGet_fst (w : World) (s : Nat) : (hostGet w s).1 = (hostPick w (w.auxOf s).key).1 := by
  unfold hostGet; dsimp only
  split <;> simp_all

theorem active_updHost (w : World) (h : Nat) (f : Host → Host) (hf : ∀ H, (f H).active = H.active) (i : Nat) :
    ((w.updHost h f).host i).active = (w.host i).active := by
  simp only [World.updHost]; by_cases e : i = h <;> simp [e, hf]

/-- active_procs is only moved by gw_proc_set_state -/
theorem backendClose_active (w : World) (s : Nat) (h : Nat) :
    ((backendClose w s).host h).active = (w.host h).active := by
  unfold backendClose
  split
  · rfl
  · rename_i c _
    extract_lets wp wq w1
    have h1 : (w1.host h).active = (w.host h).active := by
      unfold w1; split
      · show (wq.host h).active = _
        unfold wq; split
        · exact active_updHost wp _ _ (by intro; rfl) h
        · rfl
      · rfl
    split
    · exact h1
    · extract_lets w2
      have h2 : (w2.host h).active = (w.host h).active := by
        unfold w2; split <;> exact h1
      refine Eq.trans ?_ h2
      unfold setHostLoad; dsimp only [World.updLink, World.updSlot]
      exact active_updHost w2 _ _ (by intro; rfl) h

/-- a retry restarts the request in GW_STATE_INIT on a host gw_host_get() chose, hence one with an active proc -/
theorem reconnect_comeback (w : World) (s : Nat) (hc : (reconnect w s).1 = .comeback) :
    ∃ h, (hostPick (backendClose w s) ((backendClose w s).auxOf s).key).1 = some h ∧
      h < w.nhosts ∧ (w.host h).active ≠ 0 ∧
      (∀ l, lk (reconnect w s).2 s = some l → l.host = some h ∧ l.state = .init) := by
  unfold reconnect at hc ⊢
  dsimp only at hc ⊢
  cases hg : (hostGet (backendClose w s) s).1 with
  | none => simp [hg] at hc
  | some h =>
    dsimp only
    rw [hostGet_fst] at hg
    obtain ⟨a1, a2⟩ := hostPick_available _ _ _ hg
    have S := reach_static (reach_backendClose w s)
    refine ⟨h, hg, by rw [← S.nhosts]; exact a1, by rw [← backendClose_active w s h]; exact a2, ?_⟩
    intro l hl
    rw [lk_updLink, if_pos rfl, lk_hostAssign] at hl
    cases hl' : lk (hostGet (backendClose w s) s).2 s with
    | none => simp [hl'] at hl
    | some l0 => simp [hl'] at hl; rw [← hl]; simp

theorem restartIfLocal_auxOf (w : World) (s : Nat) : (restartIfLocal w s).auxOf s = w.auxOf s := by
  unfold World.auxOf; rw [(frame_restartIfLocal w s).slot]

/-- gw_write_error() before the request was sent -/
theorem writeError_budget (w : World) (s : Nat)
    (hst : (w.linkOf s).state = .init ∨ (w.linkOf s).state = .connectDelayed) :
    (5 ≤ (w.auxOf s).reconnects → (writeError w s).1 = .finished) ∧
    ((w.auxOf s).reconnects < 5 →
      (writeError w s).1 = .finished ∨
      ((writeError w s).1 = .comeback ∧
        (writeError w s) = reconnect ((restartIfLocal w s).updAux s
          fun a => { a with reconnects := a.reconnects + 1 }) s)) := by
  unfold writeError
  rw [if_pos hst]
  dsimp only
  rw [restartIfLocal_auxOf]
  refine ⟨fun h5 => ?_, fun h5 => ?_⟩
  · rw [if_neg (by omega)]; rfl
  · rw [if_pos h5]
    rcases reconnect_rc ((restartIfLocal w s).updAux s fun a => { a with reconnects := a.reconnects + 1 }) s with h | h
    · exact Or.inr ⟨h, rfl⟩
    · exact Or.inl h

/-- gw_recv_response_error() -/
theorem recvResponseError_budget (w : World) (s : Nat) :
    (((w.auxOf s).started = true ∨ (w.auxOf s).bytesOut ≠ 0 ∨ 5 ≤ (w.auxOf s).reconnects) →
      (recvResponseError w s).1 = .finished) ∧
    ((recvResponseError w s).1 = .comeback →
      (w.auxOf s).started = false ∧ (w.auxOf s).bytesOut = 0 ∧ (w.auxOf s).reconnects < 5) := by
  unfold recvResponseError
  dsimp only
  by_cases h1 : (!(w.auxOf s).started && (w.auxOf s).bytesOut == 0) = true
  · rw [if_pos h1]
    have h1' : (w.auxOf s).started = false ∧ (w.auxOf s).bytesOut = 0 := by simpa using h1
    by_cases h2 : (w.auxOf s).reconnects < 5
    · rw [if_pos h2]
      refine ⟨?_, fun _ => ⟨h1'.1, h1'.2, h2⟩⟩
      rintro (h | h | h)
      · simp [h1'.1] at h
      · exact absurd h1'.2 h
      · omega
    · rw [if_neg h2]
      exact ⟨fun _ => rfl, fun h => by simp [backendError] at h⟩
  · rw [if_neg h1]
    exact ⟨fun _ => rfl, fun h => by simp [backendError] at h⟩

/-! ### giving up: an error status -/

/-- the request-side fields a client sees -/
structure Seen (w : World) (s : Nat) (st : Nat) (started handler : Bool) : Prop where
  some : (w.slot s).isSome
  status : (w.auxOf s).status = st
  started : (w.auxOf s).started = started
  handler : (w.auxOf s).handler = handler

theorem auxOf_updAux (w : World) (s : Nat) (f : Aux → Aux) (hs : (w.slot s).isSome) :
    (w.updAux s f).auxOf s = f (w.auxOf s) ∧ ((w.updAux s f).slot s).isSome := by
  unfold World.auxOf World.updAux World.updSlot
  cases hc : w.slot s with
  | none => simp [hc] at hs
  | some c => simp

theorem auxOf_updLink (w : World) (s : Nat) (f : Link → Link) :
    (w.updLink s f).auxOf s = w.auxOf s ∧ ((w.updLink s f).slot s).isSome = (w.slot s).isSome := by
  unfold World.auxOf World.updLink World.updSlot
  cases hc : w.slot s <;> simp

theorem backendClose_seen (w : World) (s : Nat) :
    AuxKept (w.auxOf s) ((backendClose w s).auxOf s) ∧ ((backendClose w s).slot s).isSome = (w.slot s).isSome := by
  unfold World.auxOf; rw [backendClose_slots]
  cases hc : w.slot s with
  | none => simp; exact ⟨rfl, rfl, rfl, rfl, rfl⟩
  | some c => simpa using closedCtx_aux c

/-- what the client is shown once the code has given up on a request whose response had not begun: the handler
    is dropped, the status an error (≥ 500, or the 400 a failed create_env left) -/
structure GaveUp (a a' : Aux) : Prop where
  handler : a'.handler = false
  started : a'.started = false
  status : a.handler = true → a'.status = (if a.status < 500 ∧ a.status ≠ 400 then 500 else a.status)
  statusKept : a.handler = false → a'.status = a.status

theorem connectionClose_seen (w : World) (s : Nat) (hs : (w.slot s).isSome) (hns : (w.auxOf s).started = false) :
    GaveUp (w.auxOf s) ((connectionClose w s).auxOf s) := by
  unfold connectionClose
  dsimp only
  obtain ⟨B, Bs⟩ := backendClose_seen w s
  have L := auxOf_updLink (backendClose w s) s fun l => { l with hctx := false }
  have hs1 : (((backendClose w s).updLink s fun l => { l with hctx := false }).slot s).isSome := by
    rw [L.2, Bs]; exact hs
  by_cases hh : (w.auxOf s).handler = true
  · -- http_response_backend_done() on a response that has not begun
    rw [if_pos (by rw [L.1, B.handler]; exact hh)]
    unfold backendDone
    have A := auxOf_updAux ((backendClose w s).updLink s fun l => { l with hctx := false }) s doneAux hs1
    rw [A.1, L.1]
    have e : doneAux ((backendClose w s).auxOf s) =
        { (backendClose w s).auxOf s with
          status := if ((backendClose w s).auxOf s).status < 500 ∧ ((backendClose w s).auxOf s).status ≠ 400
                    then 500 else ((backendClose w s).auxOf s).status,
          handler := false } := by
      unfold doneAux; rw [if_pos (by rw [B.started, hns]; rfl)]
    rw [e]
    exact ⟨rfl, by simp [B.started, hns], fun _ => by simp [B.status], fun h => (by rw [hh] at h; cases h)⟩
  · have hh' : (w.auxOf s).handler = false := by simpa using hh
    rw [if_neg (by rw [L.1, B.handler, hh']; simp), L.1]
    exact ⟨by rw [B.handler]; exact hh', by rw [B.started]; exact hns, fun h => (by rw [hh'] at h; cases h),
      fun _ => B.status⟩

theorem backendError_seen (w : World) (s : Nat) (hs : (w.slot s).isSome) (hns : (w.auxOf s).started = false) :
    GaveUp (w.auxOf s) ((backendError w s).2.auxOf s) := by
  unfold backendError
  dsimp only
  have A := auxOf_updAux w s errAux hs
  have ea : errAux (w.auxOf s) = w.auxOf s := by unfold errAux; simp [hns]
  have C := connectionClose_seen (w.updAux s errAux) s A.2 (by rw [A.1, ea]; exact hns)
  rw [A.1, ea] at C
  exact C

theorem backendError_incomplete_seen (w : World) (s : Nat) (hs : (w.slot s).isSome)
    (hst : (w.auxOf s).started = true) (hhs : (w.auxOf s).headSent = false) :
    ((backendError w s).2.auxOf s).handler = false ∧ ((backendError w s).2.auxOf s).started = false ∧
    ((backendError w s).2.auxOf s).status = 502 := by
  unfold backendError
  dsimp only
  have A := auxOf_updAux w s errAux hs
  have ea : errAux (w.auxOf s) = incompleteAux (w.auxOf s) := by unfold errAux; simp [hst, hhs]
  have C := connectionClose_seen (w.updAux s errAux) s A.2 (by rw [A.1, ea]; rfl)
  rw [A.1, ea] at C
  exact ⟨C.handler, C.started, C.statusKept rfl⟩

/-- giving up in gw_write_error() -/
theorem writeErrorTail_seen (w : World) (s : Nat) (hs : (w.slot s).isSome) (hns : (w.auxOf s).started = false)
    (hh : (w.auxOf s).handler = true) :
    ((writeErrorTail w s).2.auxOf s).handler = false ∧
    (500 ≤ ((writeErrorTail w s).2.auxOf s).status ∨ ((writeErrorTail w s).2.auxOf s).status = 400) := by
  unfold writeErrorTail
  dsimp only
  by_cases hc : !(w.auxOf s).started ∧ (w.auxOf s).status < 500 ∧ (w.auxOf s).status ≠ 400
  · rw [if_pos hc]
    have A := auxOf_updAux w s (fun a => { a with status := 503 }) hs
    have E := backendError_seen (w.updAux s fun a => { a with status := 503 }) s A.2 (by rw [A.1]; exact hns)
    refine ⟨E.handler, ?_⟩
    rw [E.status (by rw [A.1]; exact hh), A.1]
    simp
  · rw [if_neg hc]
    have E := backendError_seen w s hs hns
    refine ⟨E.handler, ?_⟩
    rw [E.status hh]
    have : ¬((w.auxOf s).status < 500 ∧ (w.auxOf s).status ≠ 400) := by
      intro h; exact hc ⟨by simp [hns], h⟩
    rw [if_neg this]
    by_cases h5 : (w.auxOf s).status < 500
    · right
      by_cases h4 : (w.auxOf s).status = 400
      · exact h4
      · exact absurd ⟨h5, h4⟩ this
    · left; omega

theorem hostGet_none_seen (w : World) (s : Nat) (hs : (w.slot s).isSome) (hn : (hostGet w s).1 = none) :
    ((hostGet w s).2.auxOf s).status = 503 ∧ ((hostGet w s).2.auxOf s).handler = false := by
  rcases hostGet_snd w s with ⟨h1, _⟩ | ⟨_, h2⟩
  · rw [hn] at h1; cases h1
  · rw [h2]
    have A := auxOf_updAux ({ w with lastUsed := (hostPick w (w.auxOf s).key).2 }) s
      (fun a => { a with status := 503, handler := false }) hs
    exact ⟨congrArg Aux.status A.1, congrArg Aux.handler A.1⟩

/-! ### timeouts release -/

/-- slot s no longer waits on a backend -/
def Released (s : Nat) (w : World) : Prop :=
  ∀ l, lk w s = some l → l.state = .init ∨ l.host = none

theorem released_updAux {s : Nat} {w : World} (f : Aux → Aux) (h : Released s w) : Released s (w.updAux s f) := by
  intro l hl; rw [lk_updAux] at hl; exact h l hl

theorem released_backendClose (s : Nat) (w : World) : Released s (backendClose w s) := by
  intro l hl
  rw [lk, backendClose_slots] at hl
  cases hs : w.slot s <;> simp [hs] at hl
  rw [← hl]; exact Or.inr rfl

theorem released_connectionClose (s : Nat) (w : World) : Released s (connectionClose w s) := by
  have R1 : Released s ((backendClose w s).updLink s fun l => { l with hctx := false }) := by
    intro l hl
    rw [lk_updLink, if_pos rfl, Option.map_eq_some_iff] at hl
    obtain ⟨l0, h0, e⟩ := hl
    rw [← e]; exact released_backendClose s w l0 h0
  unfold connectionClose; dsimp only
  split
  · exact released_updAux _ R1
  · exact R1

theorem released_backendError (s : Nat) (w : World) : Released s (backendError w s).2 :=
  released_connectionClose s _

theorem released_reconnect (s : Nat) (w : World) : Released s (reconnect w s).2 := by
  unfold reconnect; dsimp only
  split
  · intro l hl
    rw [lk_hostGet] at hl
    exact released_backendClose s w l hl
  · intro l hl
    dsimp only at hl
    rw [lk_updLink, if_pos rfl, Option.map_eq_some_iff] at hl
    obtain ⟨a, _, ha⟩ := hl
    rw [← ha]; exact Or.inl rfl

theorem released_recvResponseError (s : Nat) (w : World) : Released s (recvResponseError w s).2 := by
  unfold recvResponseError; dsimp only
  split
  · split
    · exact released_reconnect s _
    · exact released_backendError s _
  · exact released_backendError s _

theorem released_recvResponse (s : Nat) (w : World) (hne : (recvResponse w s).1 ≠ .goOn) :
    Released s (recvResponse w s).2 := by
  unfold recvResponse at hne ⊢
  dsimp only at hne ⊢
  split
  · rename_i h1; rw [if_pos h1] at hne; exact absurd rfl hne
  · rename_i h1
    split
    · rename_i h2; rw [if_neg h1, if_pos h2] at hne; exact absurd rfl hne
    · split
      · exact released_recvResponseError s _
      · exact released_connectionClose s _

theorem released_writeError (s : Nat) (w : World) : Released s (writeError w s).2 := by
  unfold writeError writeErrorTail; dsimp only
  split
  · split
    · exact released_reconnect s _
    · exact released_backendError s _
  · split
    · rename_i hne; exact released_recvResponse s w hne
    · exact released_backendError s _

theorem hctxTimeout_released (w : World) (s kind : Nat) : Released s (hctxTimeout w s kind) := by
  have fix : ∀ W, Released s W → Released s (fix504 W s) := by
    intro W R; unfold fix504; dsimp only
    split
    · exact released_updAux _ R
    · exact R
  unfold hctxTimeout; dsimp only
  generalize (if w.jobs.contains s then w else { w with jobs := s :: w.jobs }) = W
  split
  · split
    · exact released_reconnect s _
    · exact fix _ (released_backendError s _)
  · split
    · split
      · exact released_updAux _ (released_writeError s _)
      · exact released_writeError s _
    · exact fix _ (released_backendError s _)

theorem released_holds_nothing {s : Nat} {w : World} (hA : Acct none w) (hR : Released s w) :
    ∀ l, lk w s = some l → l.fd = false ∧ l.proc = none := by
  intro l hl
  unfold lk at hl
  cases hc : w.slot s with
  | none => simp [hc] at hl
  | some c =>
    simp [hc] at hl
    have hok := hA.slots s c hc
    subst hl
    rcases hR c.link (lk_some hc) with e | e
    · have := hok.3 (by simp) e
      exact ⟨this.2, this.1⟩
    · have hp : c.link.proc = none := by
        cases hp : c.link.proc with
        | none => rfl
        | some p => have := hok.1 (by simp [hp]); simp [e] at this
      refine ⟨?_, hp⟩
      cases hf : c.link.fd with
      | false => rfl
      | true => have := hok.2 hf; simp [hp] at this

/-- gw_handle_trigger_host_timeouts(): past its connect, read or write deadline a context goes to the handler -/
theorem timeoutStep_connect (h : Nat) (w : World) (s : Nat) (h1 : (w.linkOf s).state = .connectDelayed)
    (h2 : w.now - (w.auxOf s).writeTs > (w.host h).ctimeout) (h3 : (w.host h).ctimeout ≠ 0) :
    timeoutStep h w s = hctxTimeout w s 0 := by
  unfold timeoutStep; dsimp only
  rw [if_pos h1, if_pos ⟨h2, h3⟩]

theorem timeoutStep_read (h : Nat) (w : World) (s : Nat) (h1 : (w.linkOf s).state ≠ .connectDelayed)
    (h2 : (w.auxOf s).evIn = true) (h3 : w.now - (w.auxOf s).readTs > (w.host h).rtimeout)
    (h4 : (w.host h).rtimeout ≠ 0) : timeoutStep h w s = hctxTimeout w s 1 := by
  unfold timeoutStep; dsimp only
  rw [if_neg h1, if_pos ⟨h2, h3, h4⟩]

theorem timeoutStep_write (h : Nat) (w : World) (s : Nat)
    (h1 : (w.linkOf s).state ≠ .connectDelayed)
    (h2 : ¬((w.auxOf s).evIn = true ∧ w.now - (w.auxOf s).readTs > (w.host h).rtimeout ∧ (w.host h).rtimeout ≠ 0))
    (h3 : (w.auxOf s).evOut = true) (h4 : w.now - (w.auxOf s).writeTs > (w.host h).wtimeout)
    (h5 : (w.host h).wtimeout ≠ 0) : timeoutStep h w s = hctxTimeout w s 2 := by
  unfold timeoutStep; dsimp only
  rw [if_neg h1, if_neg h2, if_pos ⟨h3, h4, h5⟩]

end LtVerif.Gw
