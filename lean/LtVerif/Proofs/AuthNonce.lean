/-
  C16, the Digest nonce alone: mod_auth_digest_validate_nonce() accepts what mod_auth_append_nonce() issues
  (hex round trip of timestamp and random number), and accepts exactly the `NonceFresh` nonces.
-/
import LtVerif.Model.Auth
import LtVerif.Proofs.Bytes
namespace LtVerif.Auth
open LtVerif B

theorem toUInt8_lt16 (v : Nat) : (v % 16).toUInt8 < 16 :=
  (by decide +kernel : ∀ w : Fin 16, w.val.toUInt8 < 16) ⟨v % 16, Nat.mod_lt _ (by decide)⟩

theorem hexPrefix_stop (k : Nat) (rest : Bytes) (acc : Nat) :
    hexPrefix k (58 :: rest) acc = (acc, 58 :: rest) := by
  cases k with
  | zero => rfl
  | succ k => simp [hexPrefix, hexVal, isDigit]

theorem hexPrefix_hexFixed (n k : Nat) (v : Nat) (rest : Bytes) (acc : Nat) :
    hexPrefix (n + k) (hexFixed n v ++ rest) acc = hexPrefix k rest (acc * 16 ^ n + v % 16 ^ n) := by
  induction n generalizing v k rest acc with
  | zero => simp [hexFixed, Nat.mod_one]
  | succ n ih =>
    simp only [hexFixed, List.append_assoc, List.singleton_append]
    have := ih (k + 1) (v / 16) (hexDigitLC (v % 16).toUInt8 :: rest) acc
    rw [show n + 1 + k = n + (k + 1) by omega, this]
    obtain ⟨h1, h2⟩ := hexDigitLC_val ⟨v % 16, Nat.mod_lt _ (by decide)⟩
    simp only [hexPrefix, h1, h2]
    congr 1
    rw [Nat.pow_succ]
    have h1 : v % (16 ^ n * 16) = v % 16 + 16 * (v / 16 % 16 ^ n) := by
      rw [Nat.mul_comm (16 ^ n) 16, Nat.mod_mul]
    rw [h1, Nat.add_mul, Nat.mul_assoc]
    omega

theorem byteLen_le (fuel v m : Nat) (hm : 1 ≤ m) (hv : v < 256 ^ m) : byteLen fuel v ≤ m := by
  induction fuel generalizing v m with
  | zero => simpa [byteLen] using hm
  | succ f ih =>
    unfold byteLen
    split
    · exact hm
    · rename_i h256
      cases m with
      | zero => omega
      | succ m =>
        cases m with
        | zero => simp at hv; omega
        | succ m =>
          have : v / 256 < 256 ^ (m + 1) := by
            rw [Nat.div_lt_iff_lt_mul (by decide)]
            rw [Nat.pow_succ] at hv; exact hv
          have := ih (v / 256) (m + 1) (by omega) this
          omega

theorem lt_pow_byteLen (fuel v : Nat) (hv : v < 256 ^ (fuel + 1)) : v < 256 ^ byteLen fuel v := by
  induction fuel generalizing v with
  | zero => simpa [byteLen] using hv
  | succ f ih =>
    unfold byteLen
    split
    · rename_i h; simpa using h
    · have : v / 256 < 256 ^ (f + 1) := by
        rw [Nat.div_lt_iff_lt_mul (by decide)]
        rw [Nat.pow_succ] at hv; exact hv
      have h2 := ih (v / 256) this
      rw [Nat.add_comm, Nat.pow_succ]
      exact (Nat.div_lt_iff_lt_mul (by decide)).mp h2

theorem hexPrefix_hexLcEven (maxd m v : Nat) (rest : Bytes) (hm : 1 ≤ m) (hv : v < 256 ^ m) (hmax : 2 * m ≤ maxd)
    (hm17 : m ≤ 17) :
    hexPrefix maxd (hexLcEven v ++ 58 :: rest) 0 = (v, 58 :: rest) := by
  -- `hexLcEven` counts bytes with fuel 16, enough for `v < 256 ^ 17`
  unfold hexLcEven
  have hle := byteLen_le 16 v m hm hv
  have hlt : v < 256 ^ byteLen 16 v := lt_pow_byteLen 16 v (Nat.lt_of_lt_of_le hv (Nat.pow_le_pow_right (by decide) hm17))
  have h16 : v < 16 ^ (2 * byteLen 16 v) := by
    rw [Nat.pow_mul]; exact hlt
  obtain ⟨k, hk⟩ : ∃ k, maxd = 2 * byteLen 16 v + k := ⟨maxd - 2 * byteLen 16 v, by omega⟩
  rw [hk, hexPrefix_hexFixed, hexPrefix_stop, Nat.mod_eq_of_lt h16]
  simp

theorem toInt64_of_nonneg (ts : Int) (h0 : 0 ≤ ts) (h1 : ts < 2 ^ 63) :
    toInt64 (ts % 2 ^ 64).toNat = ts := by
  simp only [toInt64, Int.ofNat_eq_natCast]
  split <;> omega

theorem validateNonce_appendNonce (P : Prims) (rule : Rule) (epoch ts : Int) (rnd dalgo : Nat)
    (h0 : 0 ≤ ts) (h63 : ts < 2 ^ 63) (hle : ts ≤ epoch) (hage : epoch - ts ≤ 600) (hrnd : rnd < 2 ^ 32) :
    validateNonce P rule epoch (appendNonce P ts rule.secret rnd) dalgo = .ok (decide (epoch - ts > 540)) := by
  have hts := toInt64_of_nonneg ts h0 h63
  have htsU : (ts % 2 ^ 64).toNat < 256 ^ 8 := by omega
  have hr256 : rnd < 256 ^ 4 := by omega
  have hnts : ∀ rest, nonceTs (hexLcEven (ts % 2 ^ 64).toNat ++ 58 :: rest) = (ts, 58 :: rest) := by
    intro rest
    simp only [nonceTs, hexPrefix_hexLcEven 16 8 _ rest (by decide) htsU (by decide) (by decide), hts]
  -- the staleness test in the form `simp` leaves it in below (the ':' test has become `False`)
  have hfresh : ¬ (False ∨ ts < 0 ∨ ts > epoch ∨ epoch - ts > 600) := by
    simp only [false_or, not_or]; omega
  cases hs : rule.secret with
  | none =>
    simp only [validateNonce, appendNonce, hnts, List.head?_cons, hs, ne_eq, not_true_eq_false]
    rw [if_neg hfresh]
  | some sec =>
    have hr : ∀ rest, hexPrefix 8 (hexLcEven rnd ++ 58 :: rest) 0 = (rnd, 58 :: rest) :=
      fun rest => hexPrefix_hexLcEven 8 4 rnd rest (by decide) hr256 (by decide) (by decide)
    simp only [validateNonce, appendNonce, hnts, List.head?_cons, hs, List.drop_succ_cons,
               List.drop_zero, List.append_assoc, List.singleton_append, hr, Nat.mod_eq_of_lt hrnd,
               ne_eq, not_true_eq_false, ↓reduceIte]
    rw [if_neg hfresh]

theorem toInt64_lt (n : Nat) : toInt64 n < 2 ^ 63 := by
  simp only [toInt64, Int.ofNat_eq_natCast]
  split <;> omega

theorem validateNonce_spec {P : Prims} {rule : Rule} {epoch : Int} {nonce : Bytes} {dalgo : Nat}
    {x : Except Refusal Bool} (h : validateNonce P rule epoch nonce dalgo = x) :
    match x with
    | .ok _ => NonceFresh P rule epoch nonce
    | .error r => (∃ s, r = .s401d s true) ∨ r = .s400 := by
  simp only [validateNonce] at h
  rcases of_ite_eq h with ⟨_, rfl⟩ | ⟨hc, h⟩
  · exact Or.inl ⟨_, rfl⟩
  simp only [not_or, Decidable.not_not, Int.not_lt] at hc
  obtain ⟨h1, h2, h3, h4⟩ := hc
  cases hs : rule.secret with
  | none =>
    rw [hs] at h; subst h
    exact ⟨h1, h2, h3, h4, fun sec hsec => by rw [hs] at hsec; cases hsec⟩
  | some sec =>
    rw [hs] at h
    rcases of_ite_eq h with ⟨_, rfl⟩ | ⟨_, h⟩
    · exact Or.inr rfl
    rcases of_ite_eq h with ⟨_, rfl⟩ | ⟨heq, h⟩
    · exact Or.inl ⟨_, rfl⟩
    subst h
    refine ⟨h1, h2, h3, h4, fun sec' hsec => ?_⟩
    rw [hs] at hsec; cases hsec
    exact ⟨_, Nat.mod_lt _ (by decide), (Decidable.not_not.mp heq).symm⟩

theorem validateNonce_complete {P : Prims} {rule : Rule} {epoch : Int} {nonce : Bytes} (dalgo : Nat)
    (h : NonceFresh P rule epoch nonce) :
    validateNonce P rule epoch nonce dalgo = .ok (decide (epoch - (nonceTs nonce).1 > 540)) := by
  obtain ⟨h1, h2, h3, h4, h5⟩ := h
  cases hs : rule.secret with
  | none =>
    have hfresh : ¬ ((nonceTs nonce).2.head? ≠ some 58 ∨ (nonceTs nonce).1 < 0 ∨ (nonceTs nonce).1 > epoch
                     ∨ epoch - (nonceTs nonce).1 > 600) := by
      simp only [h1, ne_eq, not_true_eq_false, false_or, not_or]; omega
    simp only [validateNonce, hs]
    rw [if_neg hfresh]
  | some sec =>
    obtain ⟨rnd, hr, hn⟩ := h5 sec hs
    have := validateNonce_appendNonce P rule epoch (nonceTs nonce).1 rnd dalgo h2 (toInt64_lt _) h3 h4 hr
    rw [hs, ← hn] at this
    exact this

end LtVerif.Auth
