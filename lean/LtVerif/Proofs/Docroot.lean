/-
  From the canonical url-path to a filesystem path (Model/Docroot.lean): shared notions (dot-free
  segments, path joining, lexical containment), a section per lighttpd module, last the whole
  request (+ DocrootHost, DocrootEvhost).
-/
import LtVerif.Proofs.DocrootEvhost
namespace LtVerif
open B

/-! ### paths without "." and ".." segments -/

def NoDotSeg (p : Bytes) : Prop := ∀ seg ∈ splitOn slash p, seg ≠ segDot ∧ seg ≠ segDotDot

theorem nil_ne_dots : ([] : Bytes) ≠ segDot ∧ ([] : Bytes) ≠ segDotDot := by
  simp [segDot, segDotDot]

theorem noDotSeg_at_slash {a b : Bytes} : NoDotSeg (a ++ slash :: b) ↔ NoDotSeg a ∧ NoDotSeg b := by
  unfold NoDotSeg
  rw [splitOn_at_sep]
  simp only [List.mem_append]
  exact ⟨fun h => ⟨fun s hs => h s (Or.inl hs), fun s hs => h s (Or.inr hs)⟩,
    fun h s hs => hs.elim (h.1 s) (h.2 s)⟩

theorem noDotSeg_noslash {a : Bytes} (h : slash ∉ a) : NoDotSeg a ↔ a ≠ segDot ∧ a ≠ segDotDot := by
  unfold NoDotSeg
  rw [splitOn_of_not_mem h]
  simp

theorem noDotSeg_nil : NoDotSeg [] := (noDotSeg_noslash (by simp)).2 nil_ne_dots

theorem noDotSeg_cons_slash {t : Bytes} (h : NoDotSeg t) : NoDotSeg (slash :: t) :=
  (noDotSeg_at_slash (a := [])).2 ⟨noDotSeg_nil, h⟩

/-- the first segment `H` of `s` is all of `s` that a front `x` touches -/
theorem noDotSeg_first_seg (s : Bytes) : ∃ H, slash ∉ H ∧ (s = H ∨ ∃ r, s = H ++ slash :: r) ∧
    ∀ x, NoDotSeg (x ++ s) → NoDotSeg (x ++ H) ∧ ∀ y, NoDotSeg (y ++ H) → NoDotSeg (y ++ s) := by
  obtain ⟨H, hH, rfl | ⟨r, rfl⟩⟩ := first_seg slash s
  · exact ⟨_, hH, Or.inl rfl, fun x h => ⟨h, fun y hy => hy⟩⟩
  · refine ⟨H, hH, Or.inr ⟨r, rfl⟩, fun x h => ?_⟩
    rw [← List.append_assoc, noDotSeg_at_slash] at h
    exact ⟨h.1, fun y hy => by rw [← List.append_assoc, noDotSeg_at_slash]; exact ⟨hy, h.2⟩⟩

theorem canonical_noDotSeg {r : Bytes} (h : CanonicalAbs r) : NoDotSeg r := by
  obtain ⟨stack, hc, hs⟩ := canonical_split h
  have hstack : ∀ seg ∈ [] :: stack ++ [[]], seg ≠ segDot ∧ seg ≠ segDotDot := by
    intro seg hseg
    simp only [List.cons_append, List.mem_cons, List.mem_append, List.not_mem_nil, or_false] at hseg
    rcases hseg with rfl | e | rfl
    · exact nil_ne_dots
    · exact ⟨(hc seg e).notDot, (hc seg e).notDotDot⟩
    · exact nil_ne_dots
  intro seg hseg
  rcases hs with hs | ⟨_, hs⟩ <;> rw [hs] at hseg
  · exact hstack seg hseg
  · exact hstack seg (List.mem_append_left _ hseg)

theorem canonical_lower (lc : Bool) {r : Bytes} (h : CanonicalAbs r) :
    CanonicalAbs (if lc then lowerBytes r else r) := by
  cases lc
  · exact h
  · exact canonical_map_toLower h

theorem canonical_last {r : Bytes} (h : CanonicalAbs r) :
    endsWithSlash r = true ∨ ∃ w last, r = w ++ slash :: last ∧ Clean last := by
  obtain ⟨stack, hc, hr⟩ := h
  rcases hr with rfl | ⟨hne, rfl⟩
  · by_cases he : stack = []
    · left; simp [he, join, endsWithSlash]
    · right
      refine ⟨join slash ([] :: stack.dropLast), stack.getLast he, ?_, hc _ (List.getLast_mem he)⟩
      rw [← join_concat slash _ _ (by simp), List.cons_append, List.dropLast_concat_getLast he]
      cases stack with
      | nil => exact absurd rfl he
      | cons q qs => simp [join]
  · left
    unfold endsWithSlash
    rw [← List.cons_append, List.getLast?_concat]; simp

/-! ### path joining -/

def stripSlash (root : Bytes) : Bytes := if endsWithSlash root then root.dropLast else root

theorem stripSlash_append_slash {root : Bytes} (h : endsWithSlash root = true) :
    stripSlash root ++ [slash] = root := by
  unfold stripSlash; rw [if_pos h]
  unfold endsWithSlash at h
  have hne : root ≠ [] := by intro e; simp [e] at h
  have := List.dropLast_concat_getLast hne
  rw [List.getLast?_eq_some_getLast hne] at h
  simp only [decide_eq_true_eq, Option.some.injEq] at h
  rw [h] at this; exact this

theorem stripSlash_of_not {X : Bytes} (h : endsWithSlash X = false) : stripSlash X = X := by
  unfold stripSlash; simp [h]

theorem stripSlash_append {Y r : Bytes} (hr : r ≠ [] ∨ endsWithSlash Y = false) :
    stripSlash (Y ++ r) = Y ++ stripSlash r := by
  by_cases he : r = []
  · subst he
    rw [List.append_nil, stripSlash_of_not (hr.resolve_left (by simp))]
    simp [stripSlash, endsWithSlash]
  · have hend : endsWithSlash (Y ++ r) = endsWithSlash r := by
      unfold endsWithSlash; rw [List.getLast?_append, List.getLast?_eq_some_getLast he]; rfl
    unfold stripSlash
    rw [hend]
    split
    · exact List.dropLast_append_of_ne_nil he
    · rfl

theorem noDotSeg_suffix {a b : Bytes} (ha : a = [] ∨ endsWithSlash a = true) (h : NoDotSeg (a ++ b)) :
    NoDotSeg b := by
  rcases ha with rfl | ha
  · exact h
  · rw [← stripSlash_append_slash ha, List.append_assoc] at h
    exact (noDotSeg_at_slash.1 h).2

theorem noDotSeg_stripSlash {x : Bytes} (hx : NoDotSeg x) : NoDotSeg (stripSlash x) := by
  by_cases he : endsWithSlash x = true
  · rw [← stripSlash_append_slash he] at hx
    exact (noDotSeg_at_slash.1 hx).1
  · rw [stripSlash_of_not (by simpa using he)]; exact hx

theorem noDotSeg_append {x y : Bytes} (hx : NoDotSeg x) (hy : NoDotSeg y) (hh : y.head? = some slash) :
    NoDotSeg (x ++ y) := by
  cases y with
  | nil => simp at hh
  | cons c r =>
    simp only [List.head?_cons, Option.some.injEq] at hh
    subst hh
    exact noDotSeg_at_slash.2 ⟨hx, (noDotSeg_at_slash (a := []).1 hy).2⟩

def absName (v : Bytes) : Bytes := if v.head? = some slash then v else slash :: v

theorem absName_head (v : Bytes) : (absName v).head? = some slash := by
  unfold absName; split
  · assumption
  · simp

/-- buffer_append_path_len(): the parts meet at exactly one '/' -/
theorem pathAppend_absName (X v : Bytes) : pathAppend X v = stripSlash X ++ absName v := by
  unfold pathAppend absName
  by_cases he : endsWithSlash X = true
  · rw [if_pos he]
    conv => lhs; rw [← stripSlash_append_slash he]
    by_cases hv : v.head? = some slash
    · rw [if_pos hv, if_pos hv]
      cases v with
      | nil => simp at hv
      | cons c r => simp at hv; subst hv; simp
    · rw [if_neg hv, if_neg hv]; simp
  · simp only [he]
    rw [stripSlash_of_not (by simpa using he)]
    by_cases hv : v.head? = some slash <;> simp [hv]

theorem pathAppend_abs (root : Bytes) {u : Bytes} (hu : u.head? = some slash) :
    pathAppend root u = stripSlash root ++ u := by
  rw [pathAppend_absName, absName, if_pos hu]

theorem pathAppend_ne_nil (X v : Bytes) : pathAppend X v ≠ [] := by
  rw [pathAppend_absName]
  intro e
  have := absName_head v
  simp only [List.append_eq_nil_iff] at e
  rw [e.2] at this; simp at this

theorem appendSlash_eq {b : Bytes} (hb : b ≠ []) : appendSlash b = stripSlash b ++ [slash] := by
  unfold appendSlash
  by_cases he : endsWithSlash b = true
  · simp only [he, Bool.not_true, Bool.false_eq_true, and_false, if_false]
    exact (stripSlash_append_slash he).symm
  · have he' : endsWithSlash b = false := by simpa using he
    simp only [he', Bool.not_false, and_true, hb, ne_eq, not_false_eq_true, if_true]
    rw [stripSlash_of_not he']

theorem canonical_appendSlash {r : Bytes} (h : CanonicalAbs r) :
    CanonicalAbs (appendSlash r) ∧ endsWithSlash (appendSlash r) = true := by
  by_cases he : endsWithSlash r = true
  · have : appendSlash r = r := by unfold appendSlash; simp [he]
    rw [this]; exact ⟨h, he⟩
  · rw [appendSlash_eq (canonical_ne_nil h), stripSlash_of_not (by simpa using he)]
    refine ⟨?_, by simp [endsWithSlash]⟩
    obtain ⟨stack, hc, hr⟩ := h
    rcases hr with rfl | ⟨_, rfl⟩
    · refine ⟨stack, hc, Or.inr ⟨?_, rfl⟩⟩
      rintro rfl
      simp [join, endsWithSlash] at he
    · exfalso
      apply he
      unfold endsWithSlash
      rw [← List.cons_append, List.getLast?_concat]; simp

theorem pathAppend_cut {S A B : Bytes} (hd : CanonicalAbs (A ++ B)) (hS : endsWithSlash S = false)
    (hB : A = [] ∨ B.head? = some slash) : pathAppend (S ++ A) B = S ++ (A ++ B) := by
  have hh : B.head? = some slash := by
    rcases hB with rfl | hB
    · exact canonical_head hd
    · exact hB
  rw [pathAppend_abs _ hh, stripSlash_of_not, List.append_assoc]
  rcases List.eq_nil_or_concat A with rfl | ⟨A', x, rfl⟩
  · simpa using hS
  · cases B with
    | nil => simp at hh
    | cons c B' =>
      simp only [List.head?_cons, Option.some.injEq] at hh
      subst hh
      rw [List.concat_eq_append] at hd ⊢
      unfold endsWithSlash
      rw [← List.append_assoc, List.getLast?_concat]
      simp only [Option.some.injEq, decide_eq_false_iff_not]
      intro e
      rw [e, List.append_assoc] at hd
      exact canonical_no_double_slash hd

/-! ### lexical containment -/

/-- `p` lies lexically below the directory `d` -/
def LexBelow (d p : Bytes) : Prop := ∃ r, p = stripSlash d ++ r ∧ r.head? = some slash ∧ NoDotSeg r

theorem lexBelow_of_prefix_slash {v rest : Bytes} (hv : endsWithSlash v = true) (h : NoDotSeg (v ++ rest)) :
    LexBelow v (v ++ rest) := by
  refine ⟨slash :: rest, ?_, by simp, noDotSeg_cons_slash (noDotSeg_suffix (Or.inr hv) h)⟩
  conv => lhs; rw [← stripSlash_append_slash hv]
  simp

theorem lexBelow_pathAppend {root X v : Bytes} (hX : LexBelow root X)
    (hv : NoDotSeg (absName v)) : LexBelow root (pathAppend X v) := by
  obtain ⟨r1, rfl, hh, hn⟩ := hX
  have hr1 : r1 ≠ [] := by intro e; simp [e] at hh
  rw [pathAppend_absName, stripSlash_append (Or.inl hr1), List.append_assoc]
  refine ⟨_, rfl, ?_, noDotSeg_append (noDotSeg_stripSlash hn) hv (absName_head v)⟩
  cases r1 with
  | nil => exact absurd rfl hr1
  | cons c t =>
    by_cases ht : t = []
    · subst ht; simp at hh; simp [hh, stripSlash, endsWithSlash, absName_head]
    · rw [← List.singleton_append, stripSlash_append (Or.inl ht)]; simpa using hh

theorem prefix_pathAppend {v p w : Bytes} (hv : endsWithSlash v = false)
    (hp : ∃ rest, p = v ++ rest ∧ NoDotSeg p) (hw : NoDotSeg (absName w)) :
    ∃ rest, pathAppend p w = v ++ rest ∧ NoDotSeg (pathAppend p w) := by
  obtain ⟨r0, rfl, hn⟩ := hp
  rw [pathAppend_absName]
  refine ⟨stripSlash r0 ++ absName w, by rw [stripSlash_append (Or.inr hv), List.append_assoc], ?_⟩
  exact noDotSeg_append (noDotSeg_stripSlash hn) hw (absName_head w)

theorem lexBelow_pathAppend_root (root v : Bytes) (hv : NoDotSeg (absName v)) :
    LexBelow root (pathAppend root v) := by
  rw [pathAppend_absName]
  exact ⟨absName v, rfl, absName_head v, hv⟩

/-- how a physical path is tied to physical.basedir: lexically below it, or - for an alias target
    written without trailing '/' - prefixed by it and free of dot segments -/
def TiedTo (aliases : List (Bytes × Bytes)) (d p : Bytes) : Prop :=
  LexBelow d p ∨
    ∃ k v, (k, v) ∈ aliases ∧ d = v ∧ endsWithSlash v = false ∧ ∃ rest, p = v ++ rest ∧ NoDotSeg p

/-! ### mod_alias -/

theorem aliasMatch_spec {lc : Bool} {uri : Bytes} {aliases : List (Bytes × Bytes)} {k v : Bytes}
    (h : aliasMatch lc uri aliases = some (k, v)) :
    (k, v) ∈ aliases ∧ k.length ≤ uri.length ∧
      (if lc then eqIcase (uri.take k.length) k = true else uri.take k.length = k) := by
  induction aliases with
  | nil => simp [aliasMatch] at h
  | cons kv rest ih =>
    obtain ⟨k0, v0⟩ := kv
    unfold aliasMatch at h
    by_cases hc : (decide (k0.length ≤ uri.length) &&
        (if lc then eqIcase (uri.take k0.length) k0 else uri.take k0.length == k0)) = true
    · rw [if_pos hc] at h
      simp only [Option.some.injEq, Prod.mk.injEq] at h
      obtain ⟨rfl, rfl⟩ := h
      simp only [Bool.and_eq_true, decide_eq_true_eq] at hc
      refine ⟨by simp, hc.1, ?_⟩
      cases lc <;> simpa using hc.2
    · rw [if_neg hc] at h
      obtain ⟨h1, h2⟩ := ih h
      exact ⟨by simp [h1], h2⟩

theorem endsWithSlash_map_toLower (x : Bytes) : endsWithSlash (x.map toLower) = endsWithSlash x := by
  unfold endsWithSlash
  rw [List.getLast?_map]
  cases x.getLast? with
  | none => rfl
  | some y =>
    by_cases hy : y = slash
    · simp [hy, toLower_slash]
    · simpa [hy] using fun e => hy (toLower_eq_slash e)

theorem eqIcase_endsWithSlash {a b : Bytes} (h : eqIcase a b = true) :
    endsWithSlash a = endsWithSlash b := by
  rw [← endsWithSlash_map_toLower a, ← endsWithSlash_map_toLower b, beq_iff_eq.mp h]

theorem eqIcase_nil_iff {a b : Bytes} (h : eqIcase a b = true) : a = [] ↔ b = [] := by
  rw [← List.map_eq_nil_iff (f := toLower), beq_iff_eq.mp h, List.map_eq_nil_iff]

theorem aliasGuard_of_first_dot {k v after H : Bytes} (hd : H = segDot ∨ H = segDotDot)
    (hs : after = H ∨ ∃ r, after = H ++ slash :: r)
    (hk : k ≠ []) (hks : endsWithSlash k = false) (hv : v ≠ []) (hvs : endsWithSlash v = true) :
    aliasGuard k v after = true := by
  have hcfg : (!k.isEmpty && !endsWithSlash k && !v.isEmpty && endsWithSlash v) = true := by
    simp [hks, hvs, hk, hv]
  rcases hd with rfl | rfl <;> rcases hs with rfl | ⟨r, rfl⟩ <;>
    simp [aliasGuard, segDot, segDotDot, hcfg, dot, slash]

theorem clean_append_not_dot {c x : Bytes} (hc : Clean c) : c ++ x ≠ segDot ∧ c ++ x ≠ segDotDot := by
  obtain ⟨hne, hd, hdd, _⟩ := hc
  constructor
  · intro e
    cases c with
    | nil => exact hne rfl
    | cons a as =>
      simp only [segDot, List.cons_append, List.cons.injEq, List.append_eq_nil_iff] at e
      exact hd (by simp [segDot, e.1, e.2.1])
  · intro e
    cases c with
    | nil => exact hne rfl
    | cons a as =>
      simp only [segDotDot, List.cons_append, List.cons.injEq] at e
      obtain ⟨ha, hrest⟩ := e
      cases as with
      | nil => exact hd (by simp [segDot, ha, dot])
      | cons b bs =>
        simp only [List.cons_append, List.cons.injEq, List.append_eq_nil_iff] at hrest
        exact hdd (by simp [segDotDot, ha, hrest.1, hrest.2.1])

theorem alias_noDotSeg {uri k v : Bytes} (hu : CanonicalAbs uri) (hv : CanonicalAbs v)
    (hke : (uri.take k.length = []) ↔ k = [])
    (hks : endsWithSlash (uri.take k.length) = endsWithSlash k)
    (hg : aliasGuard k v (uri.drop k.length) = false) :
    NoDotSeg (v ++ uri.drop k.length) := by
  have hun := canonical_noDotSeg hu
  rw [← List.take_append_drop k.length uri] at hun
  -- only the first segment `H` behind the matched prefix meets the value; the others are the url's
  obtain ⟨H, hH, hA, hx⟩ := noDotSeg_first_seg (uri.drop k.length)
  obtain ⟨hT, hglue⟩ := hx _ hun
  refine hglue v ?_
  have hvn := canonical_noDotSeg hv
  rcases canonical_last hv with hvs | ⟨w, last, rfl, hcl⟩
  · -- v ends in '/': `H` becomes a segment of its own
    rw [← stripSlash_append_slash hvs] at hvn ⊢
    rw [List.append_assoc, List.singleton_append]
    refine noDotSeg_at_slash.2 ⟨(noDotSeg_at_slash.1 hvn).1, ?_⟩
    by_cases hk : k = [] ∨ endsWithSlash k = true
    · -- the prefix ends at a segment boundary: `H` is a whole segment of the url
      exact noDotSeg_suffix (hk.imp hke.2 (fun h => hks.trans h)) hT
    · -- key does not end in '/', value does: the guard protects
      refine (noDotSeg_noslash hH).2 ⟨fun e => ?_, fun e => ?_⟩ <;>
      · have := aliasGuard_of_first_dot (k := k) (v := v) (by simp [e]) hA (fun e => hk (Or.inl e))
          (by simpa using fun e => hk (Or.inr e)) (canonical_ne_nil hv) hvs
        rw [this] at hg; exact Bool.noConfusion hg
  · -- v ends in a name: `H` is glued to it
    rw [List.append_assoc, List.cons_append]
    refine noDotSeg_at_slash.2 ⟨(noDotSeg_at_slash.1 hvn).1, ?_⟩
    exact (noDotSeg_noslash (by simp [hH, hcl.noSlash])).2 (clean_append_not_dot hcl)

theorem aliasRemap_spec (lc : Bool) (aliases : List (Bytes × Bytes)) (basedir uri : Bytes)
    (hu : CanonicalAbs uri) (hwf : ∀ kv ∈ aliases, CanonicalAbs kv.2) :
    aliasRemap lc aliases basedir (stripSlash basedir ++ uri) = .forbidden ∨
    aliasRemap lc aliases basedir (stripSlash basedir ++ uri) = .go (stripSlash basedir ++ uri) basedir ∨
    ∃ k v, (k, v) ∈ aliases ∧
      aliasRemap lc aliases basedir (stripSlash basedir ++ uri) = .go (v ++ uri.drop k.length) v ∧
      NoDotSeg (v ++ uri.drop k.length) ∧ (v ++ uri.drop k.length).head? = some slash := by
  have hlen : (if endsWithSlash basedir then basedir.length - 1 else basedir.length)
      = (stripSlash basedir).length := by
    unfold stripSlash; split <;> simp
  have hune := canonical_ne_nil hu
  unfold aliasRemap
  simp only [hlen, List.drop_left]
  have hnot : ((stripSlash basedir ++ uri).length = 0 ||
      (stripSlash basedir ++ uri).length < (stripSlash basedir).length) = false := by
    have : 0 < uri.length := List.length_pos_iff.mpr hune
    simp only [List.length_append, Bool.or_eq_false_iff, decide_eq_false_iff_not]
    omega
  simp only [hnot, Bool.false_eq_true, if_false]
  cases hm : aliasMatch lc uri aliases with
  | none => right; left; rfl
  | some kv =>
    obtain ⟨k, v⟩ := kv
    simp only
    obtain ⟨hmem, hkl, heq⟩ := aliasMatch_spec hm
    have hv := hwf _ hmem
    cases hg : aliasGuard k v (uri.drop k.length) with
    | true => left; simp
    | false =>
      right; right
      refine ⟨k, v, hmem, by simp, ?_, ?_⟩
      · -- the matched prefix is the key, up to case: empty and ending in '/' when the key is
        cases lc
        · simp only [Bool.false_eq_true, if_false] at heq
          exact alias_noDotSeg hu hv (by rw [heq]) (by rw [heq]) hg
        · simp only [if_true] at heq
          exact alias_noDotSeg hu hv (eqIcase_nil_iff heq) (eqIcase_endsWithSlash heq) hg
      · have := canonical_head hv
        cases v with
        | nil => simp at this
        | cons x xs => simpa using this

/-! ### the doc root after mod_simple_vhost / mod_evhost -/

theorem svhostGuard_lenient {a : Bytes} (hg : svhostGuard false a = true) :
    a.head? ≠ some dot ∧ slash ∉ a := by
  unfold svhostGuard at hg
  rw [Bool.and_eq_true] at hg
  obtain ⟨_, hg2⟩ := hg
  simp only [Bool.false_or] at hg2
  rw [Bool.and_eq_true] at hg2
  exact ⟨of_decide_eq_true hg2.1, by simpa using hg2.2⟩

theorem evhostGuard_eq : evhostGuard = svhostGuard := rfl

/-- what the handle_docroot hooks may leave as doc root -/
inductive VhostRootOk (docroot : Bytes) (a : Bytes) : VhostCfg → Bytes → Prop
  | configured (vh : VhostCfg) : VhostRootOk docroot a vh docroot
  | simpleHost (sroot : Bytes) (defhost droot : Option Bytes) :
      (hostPart a = [] ∨ Clean (hostPart a)) →
      VhostRootOk docroot a (.simple sroot defhost droot) (svhostPath sroot (some a) droot)
  | simpleDefault (sroot : Bytes) (defhost droot : Option Bytes) :
      VhostRootOk docroot a (.simple sroot defhost droot) (svhostPath sroot defhost droot)
  | evhost (pieces : List EvPiece) :
      (∀ p ∈ pieces, (∀ s, p ≠ .lit s) →
        evPieceValue (evParseHost a) a p ≠ segDotDot ∧ slash ∉ evPieceValue (evParseHost a) a p) →
      VhostRootOk docroot a (.evhost pieces) (evBuildPath pieces a)

theorem vhostRoot_ok {o : Opts} {raw a docroot : Bytes} {vh : VhostCfg} {isdir : Bytes → Bool}
    (ha : authorityOf o 80 raw = some a) :
    VhostRootOk docroot a vh (vhostRoot o.hostStrict docroot vh isdir a) := by
  -- the authority once a module's guard let it through: strict mode by the host policy, else by the guard
  have hfacts : svhostGuard o.hostStrict a = true → a.head? ≠ some dot ∧ slash ∉ a := by
    intro hg
    cases hs : o.hostStrict with
    | true => exact authorityOf_strict hs ha
    | false => exact svhostGuard_lenient (hs ▸ hg)
  cases vh with
  | none => exact .configured _
  | simple sroot defhost droot =>
    unfold vhostRoot svhostDocroot
    simp only
    split
    · rename_i d sn heq
      split at heq
      · rename_i hc
        simp only [Option.some.injEq, Prod.mk.injEq] at heq
        rw [← heq.1]
        rw [Bool.and_eq_true] at hc
        obtain ⟨hd, hsl⟩ := hfacts hc.1
        apply VhostRootOk.simpleHost
        obtain ⟨g1, g2, g3⟩ := hostPart_of_guard hd hsl
        by_cases he : hostPart a = []
        · left; exact he
        · right; exact ⟨he, g2, g3, g1⟩
      · split at heq
        · simp only [Option.some.injEq, Prod.mk.injEq] at heq
          rw [← heq.1]; exact .simpleDefault _ _ _
        · simp at heq
    · exact .configured _
  | evhost pieces =>
    unfold vhostRoot evhostDocroot
    simp only
    split
    · rename_i d heq
      split at heq
      · simp at heq
      · rename_i hg
        split at heq
        · simp only [Option.some.injEq] at heq
          rw [← heq]
          obtain ⟨hd, hsl⟩ := hfacts (evhostGuard_eq ▸ (by simpa using hg))
          exact .evhost pieces (fun p _ hp => evPieceValue_safe a hd hsl p hp)
        · simp at heq
    · exact .configured _

/-! ### mod_userdir -/

theorem userdirNameOk_clean {u : Bytes} (h : userdirNameOk u = true) (hne : u ≠ []) : Clean u := by
  unfold userdirNameOk at h
  rw [Bool.and_eq_true] at h
  obtain ⟨h1, h2⟩ := h
  rw [List.all_eq_true] at h2
  refine ⟨hne, ?_, ?_, fun hm => absurd (h2 _ hm) (by decide)⟩
  · intro e; subst e; simp [segDot, dot] at h1
  · intro e; subst e; simp [segDotDot, dot] at h1

theorem userdirRemap_go {lc lh : Bool} {basepath upath uriPath relPath p b : Bytes}
    (h : userdirRemap lc lh basepath upath uriPath relPath = .go p b) :
    ∃ name, Clean name ∧
      b = pathAppend (pathAppend (if lh then pathAppend basepath (name.take 1) else basepath) name) upath ∧
      p = appendSlash b ++ ((relPath.drop 2).dropWhile (· ≠ slash)).drop 1 := by
  unfold userdirRemap at h
  split at h
  · rename_i rest
    obtain ⟨_, h⟩ := ite_ne_left (by split <;> simp) h
    obtain ⟨hne, h⟩ := ite_ne_left (by simp) h
    obtain ⟨_, h⟩ := ite_ne_left (by simp) h
    obtain ⟨hok, h⟩ := ite_ne_left (by simp) h
    obtain ⟨_, h⟩ := ite_ne_left (by simp) h
    simp only [UserdirRes.go.injEq] at h
    rw [Bool.not_eq_true', Bool.not_eq_false] at hok
    rw [List.isEmpty_iff] at hne
    have hc := userdirNameOk_clean hok hne
    refine ⟨if lc then lowerBytes (rest.takeWhile (· ≠ slash)) else rest.takeWhile (· ≠ slash), ?_,
      h.2.symm, ?_⟩
    · cases lc
      · exact hc
      · exact clean_map_toLower hc
    · rw [← h.1, ← h.2]
      cases (relPath.drop 2).dropWhile (· ≠ slash) <;> simp
  · simp at h

theorem userdirRemap_spec {lc lh : Bool} {basepath upath uriPath relPath p b : Bytes}
    (hrel : NoDotSeg relPath)
    (h : userdirRemap lc lh basepath upath uriPath relPath = .go p b) :
    (∃ name, Clean name ∧
      b = pathAppend (pathAppend (if lh then pathAppend basepath (name.take 1) else basepath) name) upath) ∧
    LexBelow b p := by
  obtain ⟨name, hc, hb, hp⟩ := userdirRemap_go h
  refine ⟨⟨name, hc, hb⟩, slash :: ((relPath.drop 2).dropWhile (· ≠ slash)).drop 1, ?_, by simp, ?_⟩
  · rw [hp, appendSlash_eq (by rw [hb]; exact pathAppend_ne_nil _ _)]; simp
  · -- the tail of rel_path behind "/~user/"
    refine noDotSeg_cons_slash ?_
    obtain ⟨H, hH, e | ⟨t, e⟩⟩ := first_seg slash (relPath.drop 2)
    all_goals
      have hall : ∀ y ∈ H, decide (y ≠ slash) = true := fun y hy => by simpa using fun (ey : y = slash) => hH (ey ▸ hy)
      rw [e]
    · rw [dropWhile_all hall]; exact noDotSeg_nil
    · rw [← List.take_append_drop 2 relPath, e, ← List.append_assoc] at hrel
      rw [(span_stop t hall (by simp)).2]; exact (noDotSeg_at_slash.1 hrel).2

/-! ### mod_indexfile -/

theorem indexResolve_cases (exists_ : Bytes → Bool) (docroot phys : Bytes) (names : List Bytes) :
    indexResolve exists_ docroot phys names = phys ∨
    ∃ v ∈ names, indexResolve exists_ docroot phys names
      = pathAppend (if v.head? = some slash then docroot else phys) v := by
  induction names with
  | nil => left; rfl
  | cons v rest ih =>
    unfold indexResolve
    dsimp only
    by_cases he : exists_ (pathAppend (if v.head? = some slash then docroot else phys) v) = true
    · rw [if_pos he]; right; exact ⟨v, by simp, rfl⟩
    · rw [if_neg he]
      rcases ih with h | ⟨w, hw, h⟩
      · left; exact h
      · right; exact ⟨w, by simp [hw], h⟩

theorem index_contained {C : Bytes → Prop} {exists_ : Bytes → Bool} {dr p : Bytes} {names : List Bytes}
    (hidx : ∀ v ∈ names, NoDotSeg (absName v)) (happ : ∀ w, NoDotSeg (absName w) → C (pathAppend p w))
    (hp : C p) :
    C (indexResolve exists_ dr p names) ∨ LexBelow dr (indexResolve exists_ dr p names) := by
  rcases indexResolve_cases exists_ dr p names with e | ⟨v, hv, e⟩ <;> rw [e]
  · exact Or.inl hp
  · by_cases hs : v.head? = some slash
    · right; rw [if_pos hs]; exact lexBelow_pathAppend_root dr v (hidx v hv)
    · left; rw [if_neg hs]; exact happ v (hidx v hv)

theorem TiedTo.index {aliases : List (Bytes × Bytes)} {exists_ : Bytes → Bool} {dr d p : Bytes}
    {names : List Bytes} (hidx : ∀ v ∈ names, NoDotSeg (absName v)) (h : TiedTo aliases d p) :
    TiedTo aliases d (indexResolve exists_ dr p names) ∨ LexBelow dr (indexResolve exists_ dr p names) := by
  rcases h with hb | ⟨k, v, hm, e, hv, hrest⟩
  · exact (index_contained hidx (fun w hw => lexBelow_pathAppend hb hw) hb).imp_left Or.inl
  · exact (index_contained (C := fun p => ∃ rest, p = v ++ rest ∧ NoDotSeg p) hidx
      (fun w hw => prefix_pathAppend hv hrest hw) hrest).imp_left fun hx => Or.inr ⟨k, v, hm, e, hv, hx⟩

/-! ### X-Sendfile -/

theorem isPrefixOf_head {lc : Bool} {x p : Bytes} (h : isPrefixOf lc x p = true)
    (hx : x.head? = some slash) : p.head? = some slash := by
  unfold isPrefixOf at h
  simp only [Bool.and_eq_true, decide_eq_true_eq] at h
  obtain ⟨hl, he⟩ := h
  cases x with
  | nil => simp at hx
  | cons a as =>
    simp only [List.head?_cons, Option.some.injEq] at hx
    subst hx
    cases p with
    | nil => simp at hl
    | cons b bs =>
      cases lc
      · simp only [Bool.false_eq_true, if_false, List.length_cons, List.take_succ_cons, beq_iff_eq,
                   List.cons.injEq] at he
        simp [he.1]
      · simp only [if_true, eqIcase, List.length_cons, List.take_succ_cons, List.map_cons, beq_iff_eq,
                   List.cons.injEq, toLower_slash] at he
        simp [toLower_eq_slash he.1]

theorem isPrefixOf_exact {x p : Bytes} (h : isPrefixOf false x p = true) : ∃ rest, p = x ++ rest := by
  unfold isPrefixOf at h
  simp only [Bool.and_eq_true, decide_eq_true_eq, Bool.false_eq_true, if_false, beq_iff_eq] at h
  refine ⟨p.drop x.length, ?_⟩
  have := List.take_append_drop x.length p
  rw [h.2] at this
  exact this.symm

theorem lowerBytes_head_slash {q : Bytes} (h : (lowerBytes q).head? = some slash) : q.head? = some slash := by
  cases q with
  | nil => simp [lowerBytes] at h
  | cons a as =>
    simp only [lowerBytes, List.map_cons, List.head?_cons, Option.some.injEq] at h
    simp [toLower_eq_slash h]

theorem xsendfilePath_send {lc : Bool} {xdoc : List Bytes} {raw p : Bytes}
    (h : xsendfilePath lc xdoc raw = .send p) :
    ∃ q, p = (if lc then lowerBytes (pathSimplify q) else pathSimplify q) ∧
      (xdoc ≠ [] → ∃ x ∈ xdoc, isPrefixOf lc x p = true) := by
  unfold xsendfilePath at h
  obtain ⟨_, h⟩ := ite_ne_left (by simp) h
  obtain ⟨hunder, h⟩ := ite_ne_left (by simp) h
  obtain ⟨_, h⟩ := ite_ne_left (by simp) h
  simp only [XsfRes.send.injEq] at h
  refine ⟨_, h.symm, ?_⟩
  rw [← h]
  simpa using hunder

theorem xsendfile2First_send {lc : Bool} {xdoc : List Bytes} {value p : Bytes}
    (h : xsendfile2First lc xdoc value = .send p) :
    ∃ q, p = (if lc then lowerBytes (pathSimplify q) else pathSimplify q) ∧
      (xdoc ≠ [] → ∃ x ∈ xdoc, isPrefixOf lc x p = true) := by
  unfold xsendfile2First at h
  obtain ⟨_, h⟩ := ite_ne_left (by simp) h
  obtain ⟨_, h⟩ := ite_ne_left (by simp) h
  obtain ⟨_, h⟩ := ite_ne_left (by simp) h
  obtain ⟨_, h⟩ := ite_ne_left (by simp) h
  obtain ⟨hunder, h⟩ := ite_ne_left (by simp) h
  simp only [XsfRes.send.injEq] at h
  refine ⟨_, h.symm, ?_⟩
  rw [← h]
  simpa using hunder

theorem xsf_contained {lc : Bool} {xdoc : List Bytes} {q p : Bytes}
    (hx : xdoc ≠ []) (hwf : ∀ x ∈ xdoc, x.head? = some slash)
    (hp : p = (if lc then lowerBytes (pathSimplify q) else pathSimplify q))
    (hunder : xdoc ≠ [] → ∃ x ∈ xdoc, isPrefixOf lc x p = true) :
    CanonicalAbs p ∧ ∃ x ∈ xdoc, isPrefixOf lc x p = true ∧ (lc = false → ∃ rest, p = x ++ rest) ∧
      (lc = false → endsWithSlash x = true → LexBelow x p) := by
  obtain ⟨x, hxm, hpre⟩ := hunder hx
  have hhead := isPrefixOf_head hpre (hwf x hxm)
  have hcan : CanonicalAbs p := by
    rw [hp] at hhead ⊢
    refine canonical_lower lc (pathSimplify_head_canonical _ ?_)
    cases lc
    · exact hhead
    · exact lowerBytes_head_slash hhead
  refine ⟨hcan, x, hxm, hpre, fun hl => isPrefixOf_exact (hl ▸ hpre), fun hl hxs => ?_⟩
  obtain ⟨rest, hr⟩ := isPrefixOf_exact (hl ▸ hpre)
  rw [hr] at hcan ⊢
  exact lexBelow_of_prefix_slash hxs (canonical_noDotSeg hcan)

/-! ### WebDAV Destination -/

theorem davDstRel_canonical {lc : Bool} {scheme authority dest d : Bytes}
    (h : davDstRel lc scheme authority dest = .ok d) : CanonicalAbs d := by
  unfold davDstRel at h
  cases hs : davStripOrigin scheme authority dest with
  | error st => rw [hs] at h; simp at h
  | ok p =>
    rw [hs] at h
    obtain ⟨_, h⟩ := ite_ne_left (by simp) h
    obtain ⟨_, h⟩ := ite_ne_left (by simp) h
    obtain ⟨hhead, h⟩ := ite_ne_left (by simp) h
    simp only [Except.ok.injEq] at h
    exact h ▸ canonical_lower lc (pathSimplify_head_canonical _ (Decidable.not_not.mp hhead))

theorem commonLen_spec : ∀ (a b : Bytes), commonLen a b ≤ a.length ∧ commonLen a b ≤ b.length ∧
    a.take (commonLen a b) = b.take (commonLen a b) := by
  intro a
  induction a with
  | nil => intro b; simp [commonLen]
  | cons x xs ih =>
    intro b
    cases b with
    | nil => simp [commonLen]
    | cons y ys =>
      unfold commonLen
      split
      · rename_i hxy; subst hxy; simp [ih ys]
      · simp

theorem backToSlash_spec (p : Bytes) : ∀ (c : Nat), backToSlash p c ≤ c ∧
    (backToSlash p c = 0 ∨ (p.getD (backToSlash p c) 0 = slash ∧ backToSlash p c < c)) := by
  intro c
  induction c with
  | zero => simp [backToSlash]
  | succ k ih =>
    unfold backToSlash
    split
    · rename_i hk
      refine ⟨by omega, ?_⟩
      by_cases e : k = 0
      · left; exact e
      · right; exact ⟨hk, by omega⟩
    · obtain ⟨h1, h2⟩ := ih
      refine ⟨by omega, ?_⟩
      rcases h2 with h2 | h2
      · left; exact h2
      · right; exact ⟨h2.1, by omega⟩

theorem davDstPath_plain {docroot srcRel S d : Bytes} (hd : CanonicalAbs d)
    (hS : endsWithSlash S = false) :
    davDstPath docroot srcRel (S ++ srcRel) d = S ++ d := by
  unfold davDstPath davRemapIdx
  obtain ⟨hc, -, htk⟩ := commonLen_spec srcRel d
  obtain ⟨hi1, hi2⟩ := backToSlash_spec srcRel (commonLen srcRel d)
  generalize backToSlash srcRel (commonLen srcRel d) = i at hi1 hi2 ⊢
  have htake : srcRel.take i = d.take i := by
    have := congrArg (List.take i) htk
    simpa [List.take_take, Nat.min_eq_left hi1] using this
  have hlen : (S ++ srcRel).length - (srcRel.length - i) = S.length + i := by
    simp only [List.length_append]; omega
  simp only [hlen, List.drop_append, List.take_append, List.drop_of_length_le (Nat.le_add_right _ _),
    List.take_of_length_le (Nat.le_add_right _ _), Nat.add_sub_cancel_left, List.nil_append, if_true, htake]
  rw [← List.take_append_drop i d] at hd
  conv => rhs; rw [← List.take_append_drop i d]
  refine pathAppend_cut hd hS (hi2.imp (fun e => by simp [e]) fun ⟨hsl, hlt⟩ => ?_)
  -- the common directory ends at a '/' of `srcRel`, which `d` shares
  have h1 := congrArg (fun l => l[i]?) htk
  simp only [List.getElem?_take, hlt, if_true] at h1
  rw [List.head?_drop, ← h1]
  rw [List.getD_eq_getElem?_getD] at hsl
  cases hx : srcRel[i]? with
  | none => rw [hx] at hsl; exact absurd hsl (by decide)
  | some x => rw [hx] at hsl; exact congrArg some hsl

theorem davDestination_ok {lc : Bool} {scheme authority docroot srcRel srcPath dest d p : Bytes}
    (h : davDestination lc scheme authority docroot srcRel srcPath dest = .ok d p) :
    davDstRel lc scheme authority dest = .ok d ∧ p = davDstPath docroot srcRel srcPath d := by
  unfold davDestination at h
  cases hr : davDstRel lc scheme authority dest with
  | error st => simp [hr] at h
  | ok d0 =>
    simp only [hr] at h
    obtain ⟨_, h⟩ := ite_ne_left (by simp) h
    obtain ⟨_, h⟩ := ite_ne_left (by simp) h
    obtain ⟨_, h⟩ := ite_ne_left (by simp) h
    simp only [DavDst.ok.injEq] at h
    exact ⟨by rw [h.1], h.2.symm.trans (by rw [h.1])⟩

/-! ### symlink walk -/

theorem lastSlashBefore_spec (s : Bytes) : ∀ (n : Nat),
    (∀ j, lastSlashBefore s n = some j → j < n ∧ s.getD j 0 = slash ∧
        ∀ i, i < n → s.getD i 0 = slash → i ≤ j) ∧
    (lastSlashBefore s n = none → ∀ i, i < n → s.getD i 0 ≠ slash) := by
  intro n
  induction n with
  | zero => simp [lastSlashBefore]
  | succ k ih =>
    unfold lastSlashBefore
    split
    · rename_i hk
      refine ⟨?_, by simp⟩
      intro j hj
      simp only [Option.some.injEq] at hj
      subst hj
      exact ⟨by omega, hk, fun i hi _ => by omega⟩
    · rename_i hk
      refine ⟨?_, ?_⟩
      · intro j hj
        obtain ⟨h1, h2, h3⟩ := ih.1 j hj
        refine ⟨by omega, h2, ?_⟩
        intro i hi hs
        by_cases e : i = k
        · subst e; exact absurd hs hk
        · exact h3 i (by omega) hs
      · intro hn i hi
        by_cases e : i = k
        · subst e; exact hk
        · exact ih.2 hn i (by omega)

def fsOk (k : FsKind) : Prop := k ≠ .link ∧ k ≠ .missing

/-- strong induction: the walk recurses at the last '/', and every '/' is at or before it -/
theorem symLoop_zero (fs : Bytes → FsKind) : ∀ (n : Nat) (cur : Bytes), cur.length = n →
    symLoop fs cur = 0 →
    fsOk (fs cur) ∧ ∀ i, 0 < i → i < cur.length → cur.getD i 0 = slash → fsOk (fs (cur.take i)) := by
  intro n
  induction n using Nat.strongRecOn with
  | _ n ih =>
    intro cur hlen h
    unfold symLoop at h
    -- a link or a missing entry ends the walk with 1 / -1
    have hk : fsOk (fs cur) ∧ (match lastSlash cur with
        | some j => if _h : 0 < j ∧ j < cur.length then symLoop fs (cur.take j) else 0
        | none => 0) = 0 := by
      unfold fsOk
      cases hf : fs cur <;> simp [hf] at h <;> exact ⟨by simp, h⟩
    obtain ⟨hk, h'⟩ := hk
    refine ⟨hk, ?_⟩
    intro i hi0 hil his
    have hspec := lastSlashBefore_spec cur cur.length
    cases hls : lastSlash cur with
    | none =>
      unfold lastSlash at hls
      exact absurd his (hspec.2 hls i hil)
    | some j =>
      have hls' := hls
      unfold lastSlash at hls'
      obtain ⟨hj1, hj2, hj3⟩ := hspec.1 j hls'
      have hij : i ≤ j := hj3 i hil his
      rw [hls] at h'
      simp only at h'
      have hcond : 0 < j ∧ j < cur.length := ⟨by omega, hj1⟩
      rw [dif_pos hcond] at h'
      have hlen' : (cur.take j).length = j := by simp [List.length_take]; omega
      obtain ⟨r1, r2⟩ := ih j (by omega) (cur.take j) hlen' h'
      by_cases e : i = j
      · subst e; exact r1
      · have := r2 i hi0 (by rw [hlen']; omega) (by
          have hlt : i < j := by omega
          simp only [List.getD_eq_getElem?_getD, List.getElem?_take, hlt, if_true] at his ⊢
          exact his)
        rw [List.take_take] at this
        have hmin : min i j = i := by omega
        rw [hmin] at this
        exact this

/-! ### the whole request -/

inductive DesignatedRoot (cfg : ServeCfg) (a : Bytes) : Bytes → Prop
  | vhost {dr : Bytes} : VhostRootOk cfg.docroot a cfg.vh dr → DesignatedRoot cfg a dr
  | alias {k v : Bytes} : (k, v) ∈ cfg.aliases → DesignatedRoot cfg a v
  | userdir {u : UserdirCfg} {name : Bytes} : cfg.userdir = some u → Clean name →
      DesignatedRoot cfg a
        (pathAppend (pathAppend (if u.letterhomes then pathAppend u.basepath (name.take 1) else u.basepath) name) u.path)

/-- http_request_parse_target() (Model/Burl.lean); here because it rests on Proofs/Path.lean -/
theorem parseTarget_canonical {o : Opts} {t : Bytes} {u : Target}
    (h : parseTarget o false t = .ok u) : CanonicalAbs u.path := by
  unfold parseTarget at h
  simp only [Bool.false_eq_true, ↓reduceIte] at h
  split at h
  · simp at h   -- burl_normalize() refused the target
  · split at h <;>   -- with and without a query: the same test on the simplified path
    · split at h
      · rename_i hhead
        cases h
        exact pathSimplify_head_canonical _ hhead
      · simp at h

theorem servePath_spec {o : Opts} {lc : Bool} {docroot : Bytes} {vh : VhostCfg} {isdir : Bytes → Bool}
    {aliases : List (Bytes × Bytes)} {raw target p d : Bytes}
    (hal : ∀ kv ∈ aliases, CanonicalAbs kv.2)
    (h : servePath o lc docroot vh isdir aliases raw target = .path p d) :
    ∃ a t, authorityOf o 80 raw = some a ∧ parseTarget o false target = .ok t ∧
      (d = vhostRoot o.hostStrict docroot vh isdir a ∨ ∃ k, (k, d) ∈ aliases) ∧ TiedTo aliases d p := by
  unfold servePath at h
  cases ht : parseTarget o false target with
  | error e => simp [ht] at h
  | ok t =>
    simp only [ht] at h
    cases ha : authorityOf o 80 raw with
    | none => simp [ha] at h
    | some a =>
      simp only [ha] at h
      refine ⟨a, t, rfl, rfl, ?_⟩
      have hr := canonical_lower lc (parseTarget_canonical ht)
      have hphys : physicalPath lc (vhostRoot o.hostStrict docroot vh isdir a) t.path
          = stripSlash (vhostRoot o.hostStrict docroot vh isdir a) ++ (if lc then lowerBytes t.path else t.path) := by
        unfold physicalPath; exact pathAppend_abs _ (canonical_head hr)
      rw [hphys] at h
      -- without a matching alias: doc root + url-path
      have hplain : ∀ {p d}, ServeRes.path (stripSlash (vhostRoot o.hostStrict docroot vh isdir a) ++
            (if lc then lowerBytes t.path else t.path)) (vhostRoot o.hostStrict docroot vh isdir a) = .path p d →
          (d = vhostRoot o.hostStrict docroot vh isdir a ∨ ∃ k, (k, d) ∈ aliases) ∧ TiedTo aliases d p := by
        intro p d h
        simp only [ServeRes.path.injEq] at h
        exact ⟨Or.inl h.2.symm, Or.inl (by rw [← h.1, ← h.2]; exact ⟨_, rfl, canonical_head hr, canonical_noDotSeg hr⟩)⟩
      split at h
      · exact hplain h
      · rcases aliasRemap_spec lc aliases (vhostRoot o.hostStrict docroot vh isdir a) _ hr hal with hf | hg | ⟨k, v, hm, hg, hn, _⟩
        · rw [hf] at h; simp at h
        · rw [hg] at h; exact hplain h
        · rw [hg] at h
          simp only [ServeRes.path.injEq] at h
          obtain ⟨rfl, rfl⟩ := h
          refine ⟨Or.inr ⟨k, hm⟩, ?_⟩
          by_cases hv : endsWithSlash v = true
          · exact Or.inl (lexBelow_of_prefix_slash hv hn)
          · exact Or.inr ⟨k, v, hm, rfl, by simpa using hv, _, rfl, hn⟩

theorem serveRequest_spec {o : Opts} {cfg : ServeCfg} {isdir exists_ : Bytes → Bool} {special : Bool}
    {raw target p d : Bytes}
    (hal : ∀ kv ∈ cfg.aliases, CanonicalAbs kv.2)
    (hidx : ∀ v ∈ cfg.index, NoDotSeg (absName v))
    (h : serveRequest o cfg isdir exists_ special raw target = .file p d) :
    special = false ∧ ∃ a, authorityOf o 80 raw = some a ∧ DesignatedRoot cfg a d ∧
      ∃ root, DesignatedRoot cfg a root ∧ TiedTo cfg.aliases root p := by
  unfold serveRequest at h
  cases special with
  | true => simp at h
  | false =>
    refine ⟨rfl, ?_⟩
    simp only [Bool.false_eq_true, ↓reduceIte] at h
    cases ht : parseTarget o false target with
    | error e => rw [ht] at h; simp at h
    | ok t =>
      cases ha : authorityOf o 80 raw with
      | none => rw [ht, ha] at h; simp at h
      | some a =>
        rw [ht, ha] at h
        simp only at h
        refine ⟨a, rfl, ?_⟩
        have hdr : DesignatedRoot cfg a (vhostRoot o.hostStrict cfg.docroot cfg.vh isdir a) :=
          .vhost (vhostRoot_ok ha)
        cases hsp : servePath o cfg.lc cfg.docroot cfg.vh isdir cfg.aliases raw target with
        | reject st => rw [hsp] at h; simp at h
        | path p0 d0 =>
          rw [hsp] at h
          simp only at h
          -- the state after mod_alias: basedir d0 designated, p0 tied to it
          obtain ⟨a', t', ha', ht', hd0, htied⟩ := servePath_spec hal hsp
          rw [ha] at ha'; rw [ht] at ht'
          simp only [Option.some.injEq, Except.ok.injEq] at ha' ht'
          subst ha'; subst ht'
          have hd0 : DesignatedRoot cfg a d0 := hd0.elim (fun e => e ▸ hdr) fun ⟨_, hm⟩ => .alias hm
          have hrel := canonical_noDotSeg (canonical_lower cfg.lc (parseTarget_canonical ht))
          -- after mod_userdir
          generalize hud : userdirStep cfg t.path = ud at h
          have hstate : DesignatedRoot cfg a (afterUserdir ud p0 d0).2 ∧
              TiedTo cfg.aliases (afterUserdir ud p0 d0).2 (afterUserdir ud p0 d0).1 := by
            cases ud with
            | go p' b =>
              unfold userdirStep at hud
              cases hu : cfg.userdir with
              | none => rw [hu] at hud; simp at hud
              | some u =>
                rw [hu] at hud
                obtain ⟨⟨name, hcl, hb⟩, hbelow⟩ := userdirRemap_spec hrel hud
                exact ⟨by rw [hb]; exact .userdir hu hcl, Or.inl hbelow⟩
            | pass => exact ⟨hd0, htied⟩
            | redirect => exact ⟨hd0, htied⟩
          generalize afterUserdir ud p0 d0 = pd at h hstate
          obtain ⟨hd1, hb1⟩ := hstate
          obtain ⟨_, h⟩ := ite_ne_left (by simp) h
          split at h <;> simp only [ServeOut.file.injEq] at h <;> obtain ⟨rfl, rfl⟩ := h
          · rcases hb1.index hidx with hx | hx
            · exact ⟨hd1, _, hd1, hx⟩
            · exact ⟨hd1, _, hdr, Or.inl hx⟩
          · exact ⟨hd1, _, hd1, hb1⟩

end LtVerif
