/-
  History-level stream legality of the HTTP/2 model (Model/H2.lean) against the monitor of
  Model/H2Monitor.lean: the invariant `Inv`; scheduler passes keep it (`passAux_mon`); so do receive
  actions (`Act.inv`, from the relation `Recv` and the analysis `Act.frame` of Proofs/H2Recv.lean); hence
  batches, steps and histories (`runInv_good`).
-/
import LtVerif.Proofs.H2Recv
namespace LtVerif

/-! ### the invariant -/

/-- a stream not in error: `headersSent` says whether its response HEADERS are out, and nothing final
    (END_STREAM, RST_STREAM) was sent on it -/
def StrmsOk (ss : List Strm) (m : Mon) : Prop :=
  ∀ s ∈ ss, s.err = false → (s.headersSent = true ↔ s.id ∈ m.hdr) ∧ s.id ∉ m.fin

/-- the connection state agrees with what the monitor has seen -/
structure Inv (c : H2Conn) (m : Mon) : Prop where
  hs : ∀ s ∈ c.streams, s.err = false → (s.headersSent = true ↔ s.id ∈ m.hdr) ∧ s.id ∉ m.fin   -- `StrmsOk c.streams m`
  le : ∀ s ∈ c.streams, s.id ≤ c.cid
  nd : (c.streams.map (·.id)).Nodup
  fresh : ∀ sid, c.cid < sid → sid ∉ m.hdr ∧ sid ∉ m.fin   -- nothing was ever sent above the highest id seen

/-- the invariant, or the terminal state after a connection error (nothing is emitted any more) -/
def Good (c : H2Conn) (m : Mon) : Prop := c.goaway > 0 ∨ Inv c m

/-- `m'` agrees with `m` on every stream but `sid` -/
def Mon.sameBut (m m' : Mon) (sid : Nat) : Prop :=
  ∀ x, x ≠ sid → (x ∈ m'.hdr ↔ x ∈ m.hdr) ∧ (x ∈ m'.fin ↔ x ∈ m.fin)

theorem inv_init (ss : Bool) : Inv { sentSettings := ss } {} :=
  ⟨fun s hs => by simp at hs, fun s hs => by simp at hs, by simp, fun _ _ => by simp⟩

/-! ### the monitor on lists of frames -/

theorem monAll_append (a b : List Out) : ∀ m, monAll m (a ++ b) = (monAll m a).bind fun m' => monAll m' b := by
  induction a with
  | nil => intro m; rfl
  | cons o os ih =>
    intro m
    simp only [List.cons_append, monAll]
    cases monOut m o with
    | none => rfl
    | some m' => exact ih m'

theorem monOut_ctl (m : Mon) (o : Out) (h : o.isCtl = true) :
    ∃ fin', monOut m o = some ⟨m.hdr, fin'⟩ ∧ ∀ x, x ∈ fin' ↔ x ∈ m.fin ∨ ∃ code, o = .rst x code := by
  cases o with
  | headers | data => cases h
  | rst sid code => exact ⟨sid :: m.fin, rfl, fun x => by simp [or_comm, eq_comm]⟩
  | _ => exact ⟨m.fin, rfl, fun x => by simp⟩

theorem monAll_ctl : ∀ (os : List Out) (m : Mon), AllCtl os →
    ∃ m', monAll m os = some m' ∧ m'.hdr = m.hdr ∧
      (∀ x, x ∈ m'.fin ↔ x ∈ m.fin ∨ ∃ code, Out.rst x code ∈ os) := by
  intro os
  induction os with
  | nil => intro m _; exact ⟨m, rfl, rfl, fun x => by simp⟩
  | cons o os ih =>
    intro m h
    obtain ⟨fin', e, hf⟩ := monOut_ctl m o (h o List.mem_cons_self)
    obtain ⟨m', h1, h2, h3⟩ := ih ⟨m.hdr, fin'⟩ fun x hx => h x (List.mem_cons_of_mem _ hx)
    refine ⟨m', by simp only [monAll, e]; exact h1, h2, fun x => ?_⟩
    rw [h3 x, hf x]
    simp only [List.mem_cons, or_assoc, exists_or, eq_comm]

theorem monAll_data (sid : Nat) (m : Mon) (h1 : sid ∈ m.hdr) (h2 : sid ∉ m.fin) :
    ∀ l : List Nat, monAll m (l.map fun x => Out.data sid x false) = some m := by
  intro l
  induction l with
  | nil => rfl
  | cons x xs ih => simp [monAll, monOut, h1, h2, ih]

theorem Mon.sameBut_refl (m : Mon) (sid : Nat) : m.sameBut m sid := fun _ _ => ⟨Iff.rfl, Iff.rfl⟩

theorem Mon.sameBut_trans {m m1 m2 : Mon} {sid : Nat} (a : m.sameBut m1 sid) (b : m1.sameBut m2 sid) :
    m.sameBut m2 sid := fun x hx => ⟨(b x hx).1.trans (a x hx).1, (b x hx).2.trans (a x hx).2⟩

/-! ### scheduler passes -/

theorem endStream_mon (s : Strm) (m : Mon)
    (h : s.err = false → s.st ≠ .closed → s.st ≠ .hcLocal → s.id ∈ m.hdr ∧ s.id ∉ m.fin) :
    ∃ m', monAll m (endStream s).1 = some m' ∧ m.sameBut m' s.id := by
  -- RST_STREAM is accepted whatever was sent before
  have rst : ∀ (m1 : Mon) (code : Nat), m.sameBut m1 s.id →
      ∃ m', monAll m1 [Out.rst s.id code] = some m' ∧ m.sameBut m' s.id :=
    fun m1 code sb => ⟨⟨m1.hdr, s.id :: m1.fin⟩, rfl, fun x hx => ⟨(sb x hx).1, by simp [hx, (sb x hx).2]⟩⟩
  have ite := @ite_ind (List Out × Bool) fun r => ∃ m', monAll m r.1 = some m' ∧ m.sameBut m' s.id
  refine ite (fun _ => ⟨m, rfl, m.sameBut_refl _⟩) fun hc => ite (fun _ => rst m _ (m.sameBut_refl _)) fun herr => ?_
  by_cases hl : s.st = .hcLocal
  · -- END_STREAM went out on the HEADERS: only the RST_STREAM is left
    simp only [hl, ne_eq, not_true_eq_false, if_false, List.nil_append, reduceCtorEq, not_false_eq_true, if_true]
    exact rst m _ (m.sameBut_refl _)
  · -- DATA(END_STREAM): the HEADERS are out and nothing final was sent
    obtain ⟨h1, h2⟩ := h (Bool.eq_false_iff.mpr herr) hc hl
    have hd : monAll m [Out.data s.id 0 true] = some ⟨m.hdr, s.id :: m.fin⟩ := by simp [monAll, monOut, h1, h2]
    have sb : m.sameBut ⟨m.hdr, s.id :: m.fin⟩ s.id := fun x hx => by simp [hx]
    simp only [hl, ne_eq, not_false_eq_true, if_true]
    refine ite (fun _ => ?_) fun _ => ⟨_, hd, sb⟩
    obtain ⟨m', e, sb'⟩ := rst ⟨m.hdr, s.id :: m.fin⟩ 0 sb
    exact ⟨m', by rw [monAll_append, hd]; exact e, sb'⟩

theorem strmTurn_mon (fsize : Nat) (cswin : Int) (budget : Nat) (s : Strm) (m : Mon) (he : s.err = false)
    (hh : s.headersSent = true ↔ s.id ∈ m.hdr) (hf : s.id ∉ m.fin) :
    ∃ m', monAll m (strmTurn fsize cswin budget s).2.1 = some m' ∧ m.sameBut m' s.id ∧
      (∀ s', (strmTurn fsize cswin budget s).1 = some s' →
         s'.id = s.id ∧ s'.err = false ∧ s'.headersSent = true ∧ s.id ∈ m'.hdr ∧ s.id ∉ m'.fin) := by
  have hn0 : s.pending = 0 → turnAmount cswin budget s = 0 := by intro h; simp [turnAmount, h]
  unfold strmTurn
  simp only [he, Bool.false_eq_true, if_false]
  generalize hn : turnAmount cswin budget s = n at hn0
  -- the response HEADERS, unless they are out already: END_STREAM on them iff there is no body
  obtain ⟨m1, e1, sb1, hin1, hfin1, hid, herr, hsent⟩ : ∃ m1, monAll m (sendHdrs s).2 = some m1 ∧ m.sameBut m1 s.id ∧
      s.id ∈ m1.hdr ∧ (s.id ∉ m1.fin ∨ s.pending = 0 ∧ ((sendHdrs s).1.st = .closed ∨ (sendHdrs s).1.st = .hcLocal)) ∧
      (sendHdrs s).1.id = s.id ∧ (sendHdrs s).1.err = false ∧ (sendHdrs s).1.headersSent = true := by
    by_cases hs : s.headersSent = true
    · have : sendHdrs s = (s, []) := by simp [sendHdrs, hs]
      rw [this]
      exact ⟨m, rfl, m.sameBut_refl _, hh.mp hs, Or.inl hf, rfl, he, hs⟩
    · have hnh : s.id ∉ m.hdr := fun h => hs (hh.mpr h)
      have hsf : s.headersSent = false := Bool.eq_false_iff.mpr hs
      refine ⟨⟨s.id :: m.hdr, if s.pending = 0 then s.id :: m.fin else m.fin⟩, ?_, fun x hx => ?_, List.mem_cons_self, ?_,
        by simp [sendHdrs, hsf], by simp [sendHdrs, hsf, he], by simp [sendHdrs, hsf]⟩
      · simp [sendHdrs, hsf, monAll, monOut, hnh, hf]
      · split <;> simp [hx]
      · by_cases hp0 : s.pending = 0
        · refine Or.inr ⟨hp0, ?_⟩
          simp only [sendHdrs, hsf, Bool.false_eq_true, if_false, hp0, if_true]
          cases s.st <;> simp
        · exact Or.inl (by simp [hp0, hf])
  -- the DATA frames: none without a body
  have e2 : monAll m1 ((dataSplit s.file fsize n n).map fun l => Out.data s.id l false) = some m1 := by
    rcases hfin1 with hnf | ⟨hp0, _⟩
    · exact monAll_data s.id m1 hin1 hnf _
    · rw [hn0 hp0]; rfl
  have e12 : monAll m ((sendHdrs s).2 ++ (dataSplit s.file fsize n n).map fun l => Out.data s.id l false) = some m1 := by
    rw [monAll_append, e1]; exact e2
  by_cases hp : s.pending - n = 0
  · simp only [hp, if_true]
    obtain ⟨m', e, sb⟩ := endStream_mon { (sendHdrs s).1 with swin := s.swin - n, pending := s.pending - n } m1
      (fun _ hc hl => ⟨hid ▸ hin1, hfin1.elim (hid ▸ ·) fun h => (h.2.elim hc hl).elim⟩)
    exact ⟨m', by rw [monAll_append, e12]; exact e, Mon.sameBut_trans sb1 (hid ▸ sb), fun _ h => nomatch h⟩
  · simp only [hp, if_false]
    refine ⟨m1, e12, sb1, fun s' h => ?_⟩
    injection h with h
    subst h
    exact ⟨hid, herr, hsent, hin1, hfin1.elim id fun h => absurd (by rw [h.1]; omega) hp⟩

theorem passAux_mon (fsize : Nat) : ∀ (ss : List Strm) (cswin : Int) (budget : Nat) (m : Mon),
    StrmsOk ss m → (ss.map (·.id)).Nodup →
    ∃ m', monAll m (passAux fsize cswin budget ss).outs = some m' ∧
      StrmsOk (passAux fsize cswin budget ss).streams m' ∧
      ((passAux fsize cswin budget ss).streams.map (·.id)).Sublist (ss.map (·.id)) ∧
      (∀ x, x ∉ ss.map (·.id) → (x ∈ m'.hdr ↔ x ∈ m.hdr) ∧ (x ∈ m'.fin ↔ x ∈ m.fin)) := by
  intro ss
  induction ss with
  | nil =>
    intro cswin budget m _ _
    exact ⟨m, rfl, fun s hs => by simp [passAux] at hs, by simp [passAux], fun x _ => ⟨Iff.rfl, Iff.rfl⟩⟩
  | cons s rest ih =>
    intro cswin budget m hok hnd
    simp only [List.map_cons, List.nodup_cons] at hnd
    obtain ⟨hnotin, hndr⟩ := hnd
    have hturn : ∃ m1, monAll m (strmTurn fsize cswin budget s).2.1 = some m1 ∧ m.sameBut m1 s.id ∧
        (∀ s', (strmTurn fsize cswin budget s).1 = some s' →
           s'.id = s.id ∧ s'.err = false ∧ s'.headersSent = true ∧ s.id ∈ m1.hdr ∧ s.id ∉ m1.fin) := by
      by_cases he : s.err = true
      · -- a stream in error is only retired
        obtain ⟨m1, e, sb⟩ := endStream_mon s m fun h => absurd (he.symm.trans h) nofun
        simp only [strmTurn, he, if_true]
        exact ⟨m1, e, sb, fun _ h => nomatch h⟩
      · have he' : s.err = false := Bool.eq_false_iff.mpr he
        have h0 := hok s (by simp) he'
        exact strmTurn_mon fsize cswin budget s m he' h0.1 h0.2
    obtain ⟨m1, e1, sb1, hstay⟩ := hturn
    have hok1 : StrmsOk rest m1 := by
      intro x hx hxe
      have hne : x.id ≠ s.id := by
        intro h; apply hnotin; rw [← h]; exact List.mem_map_of_mem hx
      have h0 := hok x (by simp [hx]) hxe
      have hsb := sb1 x.id hne
      exact ⟨h0.1.trans hsb.1.symm, fun h => h0.2 (hsb.2.mp h)⟩
    simp only [passAux]
    generalize hgt : strmTurn fsize cswin budget s = t at e1 hstay
    obtain ⟨t1, t2, t3, t4⟩ := t
    simp only at e1 hstay
    obtain ⟨m', e2, hok2, hsub, hout⟩ := ih (cswin - t3) (budget - t3) m1 hok1 hndr
    refine ⟨m', ?_, ?_, ?_, ?_⟩
    · rw [monAll_append, e1]; exact e2
    · cases t1 with
      | none => exact hok2
      | some s' =>
        obtain ⟨hid, herr, hsent, hin, hnf⟩ := hstay s' rfl
        intro x hx hxe
        simp only [List.mem_cons] at hx
        rcases hx with rfl | hx
        · have ho := hout x.id (by rw [hid]; exact hnotin)
          exact ⟨⟨fun _ => ho.1.mpr (by rw [hid]; exact hin), fun _ => hsent⟩, fun h => hnf (by rw [← hid]; exact ho.2.mp h)⟩
        · exact hok2 x hx hxe
    · cases t1 with
      | none => exact List.Sublist.cons _ hsub
      | some s' =>
        obtain ⟨hid, _⟩ := hstay s' rfl
        simp only [List.map_cons, hid]
        exact List.Sublist.cons_cons _ hsub
    · intro x hx
      simp only [List.map_cons, List.mem_cons, not_or] at hx
      have h1 := sb1 x hx.1
      have h2 := hout x hx.2
      exact ⟨h2.1.trans h1.1, h2.2.trans h1.2⟩

theorem processPass_inv (c : H2Conn) (budget : Nat) (m : Mon) (h : Inv c m) :
    ∃ m', monAll m (processPass c budget).2 = some m' ∧ Inv (processPass c budget).1 m' := by
  unfold processPass
  split
  · exact ⟨m, rfl, h⟩
  · split
    · exact ⟨m, rfl, ⟨fun s hs => by simp at hs, fun s hs => by simp at hs, by simp, h.fresh⟩⟩
    · obtain ⟨m', e, hok, hsub, hout⟩ := passAux_mon c.peerMaxFrame c.streams c.swin budget m h.hs h.nd
      refine ⟨m', e, ⟨hok, ?_, hsub.nodup h.nd, ?_⟩⟩
      · intro s hs
        have : s.id ∈ c.streams.map (·.id) := hsub.subset (List.mem_map_of_mem hs)
        obtain ⟨s0, hs0, e0⟩ := List.mem_map.mp this
        simp only at e0 ⊢
        rw [← e0]; exact h.le s0 hs0
      · intro sid hsid
        have hni : sid ∉ c.streams.map (·.id) := by
          intro hin
          obtain ⟨s0, hs0, e0⟩ := List.mem_map.mp hin
          have := h.le s0 hs0
          simp only at e0 hsid
          omega
        have ho := hout sid hni
        have hf := h.fresh sid hsid
        exact ⟨fun x => hf.1 (ho.1.mp x), fun x => hf.2 (ho.2.mp x)⟩

/-! ### the invariant over receive actions, batches, steps and histories -/

theorem Act.inv {c : H2Conn} {r : Res} {m : Mon} (a : Act c r) (h : Inv c m) :
    ∃ m', monAll m r.2 = some m' ∧ (r.1.goaway > 0 ∨ Inv r.1 m') := by
  obtain ⟨m', e, hh, hfin⟩ := monAll_ctl r.2 m a.ctl
  refine ⟨m', e, ?_⟩
  -- control frames only: accepted, `hdr` unchanged, `fin` gains exactly the streams reset (`hfin`)
  rcases a.rst h.le with hg | hr
  · exact Or.inl hg
  · refine Or.inr ⟨?_, a.recv.le h.le, a.recv.nd h.le h.nd, ?_⟩
    · -- a stream not in error afterwards was not reset (`RstOk`); it is an old one, not in error before,
      -- with the same `headersSent`, or a new one with nothing sent (`Recv.old`)
      intro s' hs' he
      have hnotrst : ¬ ∃ code, Out.rst s'.id code ∈ r.2 := by
        rintro ⟨code, hm⟩
        have := (hr s'.id code hm).2 s' hs' rfl
        rw [he] at this
        cases this
      rcases a.recv.old s' hs' with ⟨s, hs, e1, e2, e3⟩ | ⟨hlt, hsent⟩
      · have hes : s.err = false := Bool.eq_false_iff.mpr fun hx => Bool.noConfusion ((e3 hx).symm.trans he)
        have h0 := h.hs s hs hes
        rw [e1, e2] at h0
        refine ⟨by rw [hh]; exact h0.1, fun hf => ?_⟩
        rcases (hfin s'.id).mp hf with hf | hf
        · exact h0.2 hf
        · exact hnotrst hf
      · have hf := h.fresh s'.id hlt
        refine ⟨?_, fun hx => ?_⟩
        · rw [hh, hsent]
          exact ⟨fun x => Bool.noConfusion x, fun x => absurd x hf.1⟩
        rcases (hfin s'.id).mp hx with hx | hx
        · exact hf.2 hx
        · exact hnotrst hx
    · -- above the new `cid` nothing was sent before, and a reset is at most for `cid` (`RstOk`)
      intro sid hsid
      have hsid0 : c.cid < sid := Nat.lt_of_le_of_lt a.recv.cid hsid
      have hf := h.fresh sid hsid0
      refine ⟨by rw [hh]; exact hf.1, fun hx => ?_⟩
      rcases (hfin sid).mp hx with hx | ⟨code, hx⟩
      · exact hf.2 hx
      · have := (hr sid code hx).1
        omega

theorem runInv_good (m : Mon) : RunInv fun c os => ∃ m', monAll m os = some m' ∧ Good c m' := by
  refine ⟨fun c os f ⟨m1, e, g⟩ => ?_, fun c os b ⟨m1, e, g⟩ => ?_, fun c os ⟨m1, e, g⟩ => ⟨m1, e, ?_⟩⟩
  · rw [monAll_append, e]
    rcases g with h | h
    · rw [recvFrame_term c f h]; exact ⟨m1, rfl, Or.inl h⟩
    · exact (Act.frame c f).inv h
  · rw [monAll_append, e]
    rcases g with h | h
    · have := processPass_term c b h
      rw [this.1]; exact ⟨m1, rfl, Or.inl this.2⟩
    · obtain ⟨m', e', hi⟩ := processPass_inv c b m1 h
      exact ⟨m', e', Or.inr hi⟩
  · exact g.imp id fun h => ⟨h.hs, h.le, h.nd, h.fresh⟩

end LtVerif
