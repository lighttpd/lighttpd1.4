/-
  Lemmas about Model/Access.lean for Props/C03.lean; `Served` collects what
  `serveFrom` has checked for a file that is sent.  `hostEq` is `Cond.eqLike` on a host node:
  its facts come from the characterisation in Proofs/CondLocal.lean; the `hostPart_*` lemmas are
  Proofs/DocrootHost.lean's.
-/
import LtVerif.Model.Access
import LtVerif.Proofs.DocrootHost
import LtVerif.Proofs.CondLocal
import LtVerif.Proofs.Extforward
import LtVerif.Proofs.Bytes
namespace LtVerif.Access
open LtVerif B

/-! ### bytes -/

theorem alpha_iff_fold (a : UInt8) : lightIsAlpha a = (toLower a == toLower (a ^^^ 0x20)) :=
  forall_uint8 (P := fun a => lightIsAlpha a = (toLower a == toLower (a ^^^ 0x20))) (by decide +kernel) a

theorem eqIcaseByte_eq (a b : UInt8) : eqIcaseByte a b = (toLower a == toLower b) := by
  unfold eqIcaseByte
  by_cases hab : a = b
  · simp [hab]
  by_cases hx : a ^^^ b = 0x20
  · -- `b` is `a` with the bit flipped: equal up to case iff `a` is a letter
    obtain rfl := (xor_eq_iff a b 0x20).1 hx
    simp [hab, ← UInt8.xor_assoc, alpha_iff_fold]
  · -- otherwise the lower-case forms differ: each is the byte itself up to that bit
    have hne : toLower a ≠ toLower b := by
      intro h
      rcases toLower_xor a with ha | ha <;> rcases toLower_xor b with hb | hb <;> rw [ha, hb] at h
      · exact hab h
      · exact hx ((xor_eq_iff a b 0x20).2 (by rw [h, UInt8.xor_assoc, UInt8.xor_self, UInt8.xor_zero]))
      · exact hx ((xor_eq_iff a b 0x20).2 h.symm)
      · exact hab ((UInt8.xor_left_inj _).1 h)
    have hab' : (a == b) = false := by simpa using hab
    have hx' : (a ^^^ b == 0x20) = false := by simpa using hx
    rw [hab', hx', beq_eq_false_iff_ne.2 hne]; rfl

theorem eqIcaseN_eq : ∀ (x v : Bytes), x.length = v.length →
    eqIcaseN x v = (x.map toLower == v.map toLower)
  | [], [], _ => by simp [eqIcaseN]
  | a :: as, b :: bs, h => by
    have h' : as.length = bs.length := by simpa using h
    simp only [eqIcaseN, eqIcaseByte_eq, eqIcaseN_eq as bs h', List.map_cons]
    by_cases h1 : toLower a = toLower b <;> simp [h1]
  | [], _ :: _, h => by simp at h
  | _ :: _, [], h => by simp at h

theorem map_toLower_idem (p : Bytes) : (p.map toLower).map toLower = p.map toLower :=
  B.map_toLower_idem p

/-! ### case-insensitive tests are the plain tests on lower-cased arguments -/

theorem sufMatch_nc_eq (v b : Bytes) :
    sufMatch true v b = sufMatch false (v.map toLower) (b.map toLower) := by
  unfold sufMatch
  by_cases h : v.length ≤ b.length
  · have hl : (b.drop (b.length - v.length)).length = v.length := by simp; omega
    simp [h, eqIcaseN_eq _ _ hl, List.map_drop]
  · simp [h]

theorem preMatch_nc_eq (v b : Bytes) :
    preMatch true v b = preMatch false (v.map toLower) (b.map toLower) := by
  unfold preMatch
  by_cases h : v.length ≤ b.length
  · have hl : (b.take v.length).length = v.length := by simp; omega
    simp [h, eqIcaseN_eq _ _ hl, List.map_take]
  · simp [h]

theorem matchValueSuffix_nc_eq (a : List Bytes) (p : Bytes) :
    matchValueSuffix true a p = matchValueSuffix false (a.map (·.map toLower)) (p.map toLower) := by
  simp only [matchValueSuffix, List.findIdx?_map, Function.comp_def, sufMatch_nc_eq]

theorem matchKeyPrefix_nc_eq (a : List Bytes) (p : Bytes) :
    matchKeyPrefix true a p = matchKeyPrefix false (a.map (·.map toLower)) (p.map toLower) := by
  simp only [matchKeyPrefix, List.findIdx?_map, Function.comp_def, preMatch_nc_eq]

theorem accessCheck_nc_eq (allow deny : List Bytes) (p : Bytes) :
    accessCheck allow deny p true =
      accessCheck (allow.map (·.map toLower)) (deny.map (·.map toLower)) (p.map toLower) false := by
  unfold accessCheck
  rw [matchValueSuffix_nc_eq allow, matchValueSuffix_nc_eq deny]
  simp

theorem accessCheck_casefold (allow deny : List Bytes) (p q : Bytes) (h : p.map toLower = q.map toLower) :
    accessCheck allow deny p true = accessCheck allow deny q true := by
  rw [accessCheck_nc_eq, accessCheck_nc_eq allow deny q, h]

theorem authRule_casefold (rules : List Bytes) (p q : Bytes) (h : p.map toLower = q.map toLower) :
    authRule rules p true = authRule rules q true := by
  rw [authRule, authRule, matchKeyPrefix_nc_eq, matchKeyPrefix_nc_eq rules q, h]

/-! ### prefix tests and the auth.require lookup -/

theorem sufMatch_iff (v b : Bytes) : sufMatch false v b = true ↔ v <:+ b := by
  unfold sufMatch
  constructor
  · intro h
    simp only [Bool.and_eq_true, decide_eq_true_eq, Bool.false_eq_true, ↓reduceIte, beq_iff_eq] at h
    rw [← h.2]
    exact List.drop_suffix _ _
  · intro h
    obtain ⟨t, rfl⟩ := h
    simp

theorem preMatch_iff (v b : Bytes) : preMatch false v b = true ↔ v <+: b := by
  unfold preMatch
  constructor
  · intro h
    simp only [Bool.and_eq_true, decide_eq_true_eq, Bool.false_eq_true, ↓reduceIte, beq_iff_eq] at h
    rw [← h.2]
    exact List.take_prefix _ _
  · intro h
    obtain ⟨t, rfl⟩ := h
    simp

theorem preMatch_append (nc : Bool) (v b x : Bytes) (h : preMatch nc v b = true) :
    preMatch nc v (b ++ x) = true := by
  cases nc
  · rw [preMatch_iff] at h ⊢
    exact h.trans (List.prefix_append _ _)
  · rw [preMatch_nc_eq, preMatch_iff] at h
    rw [preMatch_nc_eq, preMatch_iff, List.map_append]
    exact h.trans (List.prefix_append _ _)

theorem findIdx?_mono {α : Type} (p q : α → Bool) (l : List α) (h : ∀ x ∈ l, p x = true → q x = true)
    (i : Nat) (hi : l.findIdx? p = some i) : ∃ j, j ≤ i ∧ l.findIdx? q = some j := by
  induction l generalizing i with
  | nil => simp at hi
  | cons a t ih =>
    simp only [List.findIdx?_cons] at hi ⊢
    by_cases hq : q a = true
    · exact ⟨0, Nat.zero_le _, by simp [hq]⟩
    · have hp : p a = false := by
        cases hpa : p a with
        | false => rfl
        | true => exact absurd (h a (by simp) hpa) hq
      simp only [hp, Bool.false_eq_true, ↓reduceIte, Option.map_eq_some_iff] at hi
      obtain ⟨k, hk, rfl⟩ := hi
      obtain ⟨j, hj, hjq⟩ := ih (fun x hx => h x (by simp [hx])) k hk
      refine ⟨j + 1, by omega, ?_⟩
      simp [hq, hjq]

theorem authRule_append (rules : List Bytes) (p x : Bytes) (lc : Bool) (i : Nat)
    (h : authRule rules p lc = some i) : ∃ j, j ≤ i ∧ authRule rules (p ++ x) lc = some j :=
  findIdx?_mono _ _ rules (fun k _ hk => preMatch_append lc k p x hk) i h

theorem authRule_lt (rules : List Bytes) (p : Bytes) (lc : Bool) (i : Nat)
    (h : authRule rules p lc = some i) : i < rules.length := by
  unfold authRule matchKeyPrefix at h
  rw [List.findIdx?_eq_some_iff_getElem] at h
  exact h.1

/-! ### from URL path to file -/

theorem relPath_length (lc : Bool) (p : Bytes) : (relPath lc p).length = p.length := by
  cases lc <;> simp [relPath]

theorem relPath_take (lc : Bool) (p : Bytes) (i : Nat) : relPath lc (p.take i) = (relPath lc p).take i := by
  cases lc <;> simp [relPath, List.map_take]

theorem relPath_fold (p : Bytes) : relPath true p = p.map toLower := rfl

theorem authRule_relPath (rules : List Bytes) (p : Bytes) (lc : Bool) :
    authRule rules (relPath lc p) lc = authRule rules p lc := by
  cases lc
  · rfl
  · exact authRule_casefold rules _ _ (B.map_toLower_idem p)

theorem splitGo_spec (fs : Fs) (rel : Bytes) (is : List Nat) (i : Nat) (h : splitGo fs rel is = some i) :
    i ∈ is ∧ fs (rel.take i) = some .file := by
  induction is with
  | nil => simp [splitGo] at h
  | cons k ks ih =>
    simp only [splitGo] at h
    split at h
    · obtain ⟨h1, h2⟩ := ih h
      exact ⟨by simp [h1], h2⟩
    · injection h with h; subst h
      exact ⟨by simp, by assumption⟩
    · simp at h

theorem slashIdx_lt (p : Bytes) (i : Nat) (h : i ∈ slashIdx p) : i < p.length := by
  simp only [slashIdx, List.mem_filter, List.mem_range] at h
  exact h.1

theorem walkDirs_err (fs : Fs) (p : Bytes) (is : List Nat) (e : Stat) (h : walkDirs fs p is = some e) :
    e = .enotdir ∨ e = .enoent := by
  induction is with
  | nil => simp [walkDirs] at h
  | cons k ks ih =>
    simp only [walkDirs] at h
    split at h
    · exact ih h
    · injection h with h; exact Or.inl h.symm
    · injection h with h; exact Or.inr h.symm

theorem statFull_file (fs : Fs) (rel : Bytes) (h : statFull fs rel = .ok .file) : fs rel = some .file := by
  unfold statFull at h
  simp only at h
  split at h
  · rename_i e he
    rcases walkDirs_err _ _ _ _ he with rfl | rfl <;> simp at h
  · split at h
    · simp at h
    · rename_i hf
      split at h
      · simp at h
      · rename_i hts
        simp only [hts] at hf
        simpa using hf
    · simp at h

theorem resolve_file (fs : Fs) (lc : Bool) (p script : Bytes) (n : Nat)
    (h : resolve fs lc p = .file script n) :
    n ≤ p.length ∧ script = relPath lc (p.take (p.length - n)) ∧ fs script = some .file := by
  unfold resolve at h
  simp only at h
  split at h
  · -- the whole path is a regular file
    rename_i hs
    injection h with h1 h2
    subst h1 h2
    exact ⟨Nat.zero_le _, by simp, statFull_file fs _ hs⟩
  · split at h <;> simp at h
  · simp at h
  · split at h
    · -- ENOTDIR: the path-info split found the regular file at '/' position `i`
      rename_i i hi
      injection h with h1 h2
      obtain ⟨him, hfile⟩ := splitGo_spec fs _ _ i hi
      have hlt := slashIdx_lt _ i him
      rw [relPath_length] at hlt h2
      subst h1 h2
      have hk : p.length - (p.length - i) = i := by omega
      exact ⟨by omega, by rw [hk, relPath_take], hfile⟩
    · simp at h

/-! ### PCRE2's UTF-8 check does not depend on ASCII letter case -/

theorem u8Step_ascii (st : Option U8St) (b c : UInt8) (hb : b < 0x80) (hc : c < 0x80) :
    u8Step st b = u8Step st c := by
  -- every continuation range starts at 0x80 or above
  have has : ∀ (r : U8Range) (x : UInt8), x < 0x80 → r.has x = false := by
    intro r x hx
    cases r <;> simp only [U8Range.has, Bool.and_eq_false_iff, decide_eq_false_iff_not, UInt8.not_le] <;>
      exact Or.inl (UInt8.lt_of_lt_of_le hx (by decide))
  cases st with
  | none => rfl
  | some st => simp only [u8Step, u8Lead, hb, hc, has, ↓reduceIte]

theorem u8Step_fold (st : Option U8St) (b : UInt8) : u8Step st (toLower b) = u8Step st b := by
  rcases toLower_ascii b with h | ⟨hb, hl⟩
  · rw [h]
  · exact u8Step_ascii st _ _ hl hb

theorem validUtf8_fold (u : Bytes) : validUtf8 (u.map toLower) = validUtf8 u := by
  -- `Access.validUtf8` (PCRE2's subject check), not `LtVerif.validUtf8` (buffer_is_valid_UTF8, Model/Docroot)
  unfold validUtf8
  rw [List.foldl_map]
  simp only [u8Step_fold]

theorem reCaselessPrefix_fold (lit u v : Bytes) (h : u.map toLower = v.map toLower) :
    reCaselessPrefix lit u = reCaselessPrefix lit v := by
  unfold reCaselessPrefix
  rw [← validUtf8_fold u, ← validUtf8_fold v, preMatch_nc_eq, preMatch_nc_eq lit v, h]

theorem reCaselessSuffix_fold (lit u v : Bytes) (h : u.map toLower = v.map toLower) :
    reCaselessSuffix lit u = reCaselessSuffix lit v := by
  unfold reCaselessSuffix
  rw [← validUtf8_fold u, ← validUtf8_fold v, sufMatch_nc_eq, sufMatch_nc_eq lit v, h]

/-! ### `$HTTP["host"] ==`: names match with or without a port -/

theorem hostEq_iff (s l : Bytes) (hsl : s.head? ≠ some slash) : hostEq s l = true ↔ Cond.HostMatches l s :=
  Cond.host_eq_iff _ _ rfl hsl

theorem not_mem_append_colon {s l p : Bytes} (hs : colon ∉ s) : s ≠ l ++ colon :: p :=
  fun e => hs (e ▸ by simp)

theorem hostMatches_plain (s n : Bytes) (hs : colon ∉ s) (hn : colon ∉ n) : Cond.HostMatches n s ↔ n = s := by
  constructor
  · rintro (h | ⟨_, ⟨p, h, _⟩ | ⟨p, h⟩⟩)
    · exact h
    · exact absurd h (not_mem_append_colon hn)
    · exact absurd h (not_mem_append_colon hs)
  · exact Or.inl

/-- the port-tolerant comparison (`llen - dlen <= 6`) -/
theorem hostMatches_port (s n port : Bytes) (hs : colon ∉ s) (hn : colon ∉ n) (hlen : port.length ≤ 5) :
    Cond.HostMatches (n ++ colon :: port) s ↔ n = s := by
  constructor
  · rintro (h | ⟨_, ⟨p, h, _⟩ | ⟨p, h⟩⟩)
    · exact absurd h.symm (not_mem_append_colon hs)
    · -- both names are what `hostPart` cuts off at the first ':'
      have := congrArg hostPart h
      rwa [hostPart_append_colon hn, hostPart_append_colon hs] at this
    · exact absurd h (not_mem_append_colon hs)
  · rintro rfl
    exact Or.inr ⟨by simp, Or.inl ⟨port, rfl, hlen⟩⟩

theorem hostEq_plain (s n : Bytes) (hs : colon ∉ s) (hn : colon ∉ n) (hsl : s.head? ≠ some slash) :
    hostEq s n = (n == s) := by
  rw [Bool.eq_iff_iff, hostEq_iff _ _ hsl, hostMatches_plain s n hs hn, beq_iff_eq]

theorem hostEq_port (s n port : Bytes) (hs : colon ∉ s) (hn : colon ∉ n) (hsl : s.head? ≠ some slash)
    (hlen : port.length ≤ 5) : hostEq s (n ++ colon :: port) = (n == s) := by
  rw [Bool.eq_iff_iff, hostEq_iff _ _ hsl, hostMatches_port s n port hs hn hlen, beq_iff_eq]

/-! ### conditions that cannot tell two spellings of a request apart -/

theorem holds_caseBlind (sc : Scope) (hb : sc.caseBlind) (u v h : Bytes) (a : Addr)
    (huv : u.map toLower = v.map toLower) : sc.holds ⟨u, h, a⟩ = sc.holds ⟨v, h, a⟩ := by
  induction sc with
  | global | hostRe | ip | ipRe => rfl
  | url op s => exact absurd hb (by simp [Scope.caseBlind])
  | urlRe neg m =>
    simp only [Scope.caseBlind] at hb
    simp [Scope.holds, hb u v huv]
  | host op s => cases op <;> rfl
  | both x y ihx ihy =>
    simp only [Scope.caseBlind] at hb
    simp [Scope.holds, ihx hb.1, ihy hb.2]
  | non x ih =>
    simp only [Scope.caseBlind] at hb
    simp [Scope.holds, ih hb]

theorem holds_urlFree (sc : Scope) (hb : sc.urlFree) (u v h : Bytes) (a : Addr) :
    sc.holds ⟨u, h, a⟩ = sc.holds ⟨v, h, a⟩ := by
  induction sc with
  | global | hostRe | ip | ipRe => rfl
  | url | urlRe => exact absurd hb (by simp [Scope.urlFree])
  | host op s => cases op <;> rfl
  | both x y ihx ihy =>
    simp only [Scope.urlFree] at hb
    simp [Scope.holds, ihx hb.1, ihy hb.2]
  | non x ih =>
    simp only [Scope.urlFree] at hb
    simp [Scope.holds, ih hb]

theorem setting_congr {α : Type} (sel : Block → Option α) (cfg : List Block) (e e' : Env)
    (h : ∀ b ∈ cfg, (sel b).isSome = true → b.scope.holds e = b.scope.holds e') :
    setting sel cfg e = setting sel cfg e' := by
  unfold setting
  generalize (none : Option α) = acc
  induction cfg generalizing acc with
  | nil => rfl
  | cons b bs ih =>
    simp only [List.foldl_cons]
    have hb := h b (by simp)
    have ih' := ih fun b' hb' => h b' (by simp [hb'])
    cases hs : sel b with
    | none =>
      simp only [ite_self]
      exact ih' acc
    | some v =>
      rw [hb (by simp [hs])]
      exact ih' _

theorem accessHook_casefold (cfg : List Block)
    (hcb : ∀ b ∈ cfg, (b.allow.isSome = true ∨ b.deny.isSome = true) → b.scope.caseBlind)
    (u v h : Bytes) (a : Addr) (huv : u.map toLower = v.map toLower) :
    accessHook cfg ⟨u, h, a⟩ true = accessHook cfg ⟨v, h, a⟩ true := by
  unfold accessHook
  rw [setting_congr (·.allow) cfg ⟨u, h, a⟩ ⟨v, h, a⟩
        (fun b hb hs => holds_caseBlind _ (hcb b hb (Or.inl hs)) u v h a huv),
      setting_congr (·.deny) cfg ⟨u, h, a⟩ ⟨v, h, a⟩
        (fun b hb hs => holds_caseBlind _ (hcb b hb (Or.inr hs)) u v h a huv)]
  exact accessCheck_casefold _ _ u v huv

theorem holds_portBlind (sc : Scope) (hb : sc.portBlind) (u n port : Bytes) (a : Addr)
    (hn : colon ∉ n) (hp : colon ∉ port) (hlen : port.length ≤ 5) :
    sc.holds ⟨u, n ++ colon :: port, a⟩ = sc.holds ⟨u, n, a⟩ := by
  induction sc with
  | global | url | urlRe | ip | ipRe => rfl
  | host op s =>
    cases op with
    | eq | ne =>
      simp only [Scope.portBlind] at hb
      simp only [Scope.holds, hostEq_port s n port hb.1 hn hb.2 hlen, hostEq_plain s n hb.1 hn hb.2]
    | prefix_ | suffix => exact absurd hb (by simp [Scope.portBlind])
  | hostRe neg m =>
    simp only [Scope.portBlind] at hb
    simp [Scope.holds, hb n port hn hp hlen]
  | both x y ihx ihy =>
    simp only [Scope.portBlind] at hb
    simp [Scope.holds, ihx hb.1, ihy hb.2]
  | non x ih =>
    simp only [Scope.portBlind] at hb
    simp [Scope.holds, ih hb]

/-! ### `serveFrom` and `serve` -/

/-- `n`: the last `n` bytes of the URL are PATH_INFO -/
structure Served (s : Server) (e : Env) (user : Option Bytes) (f : Bytes) (n : Nat) : Prop where
  access : accessHook s.cfg e s.lc = true
  auth : authPass s.cfg e s.lc user = true
  resolved : resolve s.fs s.lc e.url = .file f n
  access2 : accessHook s.cfg { e with url := e.url.take (e.url.length - n) } s.lc = true
  pathinfo : ((setting (·.noPathinfo) s.cfg { e with url := e.url.take (e.url.length - n) }).getD false
    && n != 0) = false
  notExcluded : staticExclude (listOf (setting (·.exclude) s.cfg { e with url := e.url.take (e.url.length - n) }))
    (s.docroot ++ f) = false

theorem serveFrom_file (s : Server) (t : Target) (e : Env) (user : Option Bytes) (f : Bytes)
    (h : (serveFrom s t e user).file = some f) :
    ∃ n pi, serveFrom s t e user = ⟨200, e.url.take (e.url.length - n), pi, e.addr.text, some f⟩ ∧
      Served s e user f n := by
  unfold serveFrom at h ⊢
  simp only at h ⊢
  -- `cases` on the tested values (not `split`): the term is large
  cases hacc : accessHook s.cfg e s.lc
  · simp [hacc] at h
  cases hauth : authPass s.cfg e s.lc user
  · simp [hacc, hauth] at h
  cases hres : resolve s.fs s.lc e.url with
  | file script n =>
    simp only [hacc, hauth, hres] at h
    cases hacc2 : accessHook s.cfg { e with url := e.url.take (e.url.length - n) } s.lc
    · simp [hacc2] at h
    cases hnp : ((setting (·.noPathinfo) s.cfg { e with url := e.url.take (e.url.length - n) }).getD false && n != 0)
    · cases hex : staticExclude (listOf (setting (·.exclude) s.cfg { e with url := e.url.take (e.url.length - n) }))
          (s.docroot ++ script)
      · simp only [hacc2, hnp, hex, Bool.not_true, Bool.false_eq_true, ↓reduceIte, Option.some.injEq] at h
        subst h
        refine ⟨n, ?pi, ?eq, hacc, hauth, hres, hacc2, hnp, hex⟩
        case eq => simp only [hacc2, hnp, hex, Bool.not_true, Bool.false_eq_true, ↓reduceIte]; rfl
      · simp [hacc2, hnp, hex] at h
    · simp [hacc2, hnp] at h
  | _ => simp [hacc, hauth, hres] at h

/-- `serveFrom` uses the spelling of the request-target for PATH_INFO's letter case only, and
    the parse options not at all -/
theorem serveFrom_indep (s : Server) (o : Opts) (t t' : Target) (e : Env) (user : Option Bytes) :
    ∃ pi, serveFrom s t e user = { serveFrom { s with opts := o } t' e user with pathinfo := pi } := by
  unfold serveFrom
  simp only
  cases accessHook s.cfg e s.lc
  · exact ⟨_, rfl⟩
  cases authPass s.cfg e s.lc user
  · exact ⟨_, rfl⟩
  cases resolve s.fs s.lc e.url with
  | file script n =>
    simp only
    cases accessHook s.cfg { e with url := e.url.take (e.url.length - n) } s.lc
    · exact ⟨_, rfl⟩
    cases ((setting (·.noPathinfo) s.cfg { e with url := e.url.take (e.url.length - n) }).getD false && n != 0)
    · cases staticExclude (listOf (setting (·.exclude) s.cfg { e with url := e.url.take (e.url.length - n) }))
          (s.docroot ++ script) <;> exact ⟨_, rfl⟩
    · exact ⟨_, rfl⟩
  | _ => exact ⟨_, rfl⟩

theorem serveFrom_auth_guard (s : Server) (t : Target) (e : Env) (user : Option Bytes) (f : Bytes)
    (hfree : ∀ b ∈ s.cfg, b.auth.isSome = true → b.scope.urlFree)
    (h : (serveFrom s t e user).file = some f) (i : Nat)
    (hi : authHook s.cfg { e with url := f } s.lc = some i) :
    ∃ j rule, j ≤ i ∧ (authRules s.cfg { e with url := f })[j]? = some rule ∧ rule.accepts user = true := by
  obtain ⟨n, _, _, hS⟩ := serveFrom_file s t e user f h
  have hauth := hS.auth
  obtain ⟨_, hfu, _⟩ := resolve_file s.fs s.lc e.url f n hS.resolved
  have hrules : authRules s.cfg e = authRules s.cfg { e with url := f } := by
    unfold authRules
    rw [setting_congr _ _ e { e with url := f } (fun b hb hs => holds_urlFree _ (hfree b hb hs) _ _ _ _)]
  -- the rule that guards `f` also guards the split URL, of which `f` is the case-folded form …
  have hu : authRule ((authRules s.cfg { e with url := f }).map (·.pfx))
      (e.url.take (e.url.length - n)) s.lc = some i := by
    rw [← authRule_relPath, ← hfu]; exact hi
  -- … and the full path, which extends it by the path-info, is guarded by it or an earlier one
  obtain ⟨j, hji, hj⟩ := authRule_append _ _ (e.url.drop (e.url.length - n)) _ _ hu
  rw [List.take_append_drop] at hj
  unfold authPass authHook at hauth
  simp only [hrules, hj] at hauth
  cases hr : (authRules s.cfg { e with url := f })[j]? with
  | none => simp [hr] at hauth
  | some rule => exact ⟨j, rule, hji, hr, by simpa [hr] using hauth⟩

theorem effAddr_untrusted (bf : Bool) (parse : Bytes → Option SockAddr) (s : Server) (r : Req) (path : Bytes)
    (h : ∀ fw, (extConf s.cfg ⟨path, r.host, ⟨r.peerAddr, r.peer⟩⟩).forwarder = some fw →
      Extforward.isConnectionTrusted fw r.peer = false) :
    effAddr bf parse s r path = some ⟨r.peerAddr, r.peer⟩ := by
  simp only [effAddr, Extforward.remoteAddr_untrusted bf parse _ r.peer r.hdrs h]

theorem serve_eq_serveFrom (bf : Bool) (parse : Bytes → Option SockAddr) (s : Server) (r : Req) (t : Target)
    (a : Addr) (h : parseTarget s.opts false r.target = .ok t) (ha : effAddr bf parse s r t.path = some a) :
    serve bf parse s r = serveFrom s t ⟨t.path, r.host, a⟩ r.user := by
  unfold serve
  simp [h, ha]

theorem serve_file (bf : Bool) (parse : Bytes → Option SockAddr) (s : Server) (r : Req) (f : Bytes)
    (h : (serve bf parse s r).file = some f) :
    ∃ t a, parseTarget s.opts false r.target = .ok t ∧ effAddr bf parse s r t.path = some a ∧
      serve bf parse s r = serveFrom s t ⟨t.path, r.host, a⟩ r.user := by
  unfold serve at h
  split at h
  · cases h
  · rename_i t ht
    cases ha : effAddr bf parse s r t.path with
    | none => simp [ha] at h
    | some a => exact ⟨t, a, ht, ha, serve_eq_serveFrom bf parse s r t a ht ha⟩

theorem serve_host_congr (bf : Bool) (parse : Bytes → Option SockAddr) (s : Server) (r : Req) (h' : Bytes)
    (hh : ∀ b ∈ s.cfg, ∀ u a, b.scope.holds ⟨u, h', a⟩ = b.scope.holds ⟨u, r.host, a⟩) :
    serve bf parse s { r with host := h' } = serve bf parse s r := by
  have hset : ∀ {α : Type} (sel : Block → Option α) (u : Bytes) (a : Addr),
      setting sel s.cfg ⟨u, h', a⟩ = setting sel s.cfg ⟨u, r.host, a⟩ :=
    fun sel u a => setting_congr sel s.cfg _ _ (fun b hb _ => hh b hb u a)
  unfold serve effAddr extConf
  simp only [hset]
  split
  · rfl
  · split
    · rfl
    · unfold serveFrom accessHook authPass authHook authRules
      simp only [hset]

end LtVerif.Access
