/-
  Host policy of request.c (Model/Docroot.lean, Model/H1Parse.lean): what request_check_hostname() and
  http_request_host_normalize() let through, and the name part `hostPart` of an authority.
  Bytes: 45 '-', 91 '[', 93 ']'.
-/
import LtVerif.Proofs.Path
import LtVerif.Proofs.Burl
import LtVerif.Model.Docroot
namespace LtVerif
open B

def hostByte (b : UInt8) : Bool := isDigit b || isAlpha b || b == 45 || b == dot

theorem hostByte_ne {b : UInt8} (h : hostByte b = true) : b ≠ slash ∧ b ≠ colon :=
  ⟨ne_of_test h (by decide), ne_of_test h (by decide)⟩

theorem isDigit_ne {b : UInt8} (h : isDigit b = true) : b ≠ slash ∧ b ≠ colon ∧ b ≠ dot :=
  ⟨ne_of_test h (by decide), ne_of_test h (by decide), ne_of_test h (by decide)⟩

theorem hostScan_step {ch : UInt8} {more : Bytes} {idx labelLen : Nat} {allnum numeric : Bool} {level : Nat}
    {r : Nat × Bool × Bool × Nat}
    (h : checkHostnameV4.scan (ch :: more) idx labelLen allnum numeric level = some r) :
    hostByte ch = true ∧ ∃ idx' labelLen' allnum' numeric' level',
      checkHostnameV4.scan more idx' labelLen' allnum' numeric' level' = some r ∧
      (ch = dot → labelLen ≠ 0 ∧ labelLen' = 0) := by
  unfold checkHostnameV4.scan at h
  simp only at h
  split at h
  · rename_i hd   -- a digit
    exact ⟨by simp [hostByte, hd], _, _, _, _, _, h, fun e => absurd e (isDigit_ne hd).2.2⟩
  · split at h
    · rename_i ha   -- a letter, or '-' not in front
      simp only [Bool.or_eq_true, Bool.and_eq_true, decide_eq_true_eq] at ha
      have hb : hostByte ch = true := by
        rcases ha with ha | ha
        · simp [hostByte, ha]
        · simp [hostByte, ha.1]
      exact ⟨hb, _, _, _, _, _, h, fun e => by subst e; rcases ha with ha | ha <;> simp [dot, isAlpha, isUpper, isLower] at ha⟩
    · split at h
      · rename_i hdot   -- '.' behind a non-empty label
        simp only [Bool.and_eq_true, decide_eq_true_eq, ne_eq] at hdot
        exact ⟨by simp [hostByte, hdot.1.1], _, _, _, _, _, h, fun _ => ⟨by omega, rfl⟩⟩
      · simp at h

/-- the label scan of request_check_hostname(): accepted bytes, and no empty label (`labelLen = 0` right
    behind a '.'; `r.1` is the length of the last label) -/
theorem hostScan_spec : ∀ (rest : Bytes) (idx labelLen : Nat) (allnum numeric : Bool) (level : Nat)
    (r : Nat × Bool × Bool × Nat),
    checkHostnameV4.scan rest idx labelLen allnum numeric level = some r →
    (∀ b ∈ rest, hostByte b = true) ∧
    (r.1 ≠ 0 → ∀ H T, splitOn dot rest = H :: T → (labelLen = 0 → H ≠ []) ∧ ∀ seg ∈ T, seg ≠ []) := by
  intro rest
  induction rest with
  | nil =>
    intro idx labelLen allnum numeric level r h
    unfold checkHostnameV4.scan at h
    simp only [Option.some.injEq] at h
    subst h
    refine ⟨by simp, fun hr H T hs => ?_⟩
    simp [splitOn] at hs
    exact ⟨fun e => absurd e hr, by simp [hs.2]⟩
  | cons ch more ih =>
    intro idx labelLen allnum numeric level r h
    obtain ⟨hb, idx', labelLen', allnum', numeric', level', h', hdot⟩ := hostScan_step h
    obtain ⟨h1, h2⟩ := ih _ _ _ _ _ _ h'
    refine ⟨fun b hb' => (List.mem_cons.mp hb').elim (fun e => e ▸ hb) (h1 b), fun hr H T hs => ?_⟩
    obtain ⟨Hm, Tm, hm⟩ := splitOn_cons_exists dot more
    obtain ⟨g1, g2⟩ := h2 hr Hm Tm hm
    by_cases hc : ch = dot
    · rw [hc, splitOn_cons_sep, hm, List.cons.injEq] at hs
      obtain ⟨rfl, rfl⟩ := hs
      refine ⟨fun e => absurd e (hdot hc).1, fun seg hseg => ?_⟩
      rcases List.mem_cons.mp hseg with rfl | hseg
      · exact g1 (hdot hc).2
      · exact g2 seg hseg
    · rw [splitOn_cons_ne hc hm, List.cons.injEq] at hs
      obtain ⟨rfl, rfl⟩ := hs
      exact ⟨fun _ => by simp, g2⟩

/-- request_check_hostname() after the host/port split (same code, the split made a parameter) -/
def hostCore (hp0 port : Bytes) : Option Bytes :=
  if hp0.isEmpty then none else
  let hp := if hp0.getLast? = some dot then hp0.dropLast else hp0
  if hp.isEmpty then none else
  match checkHostnameV4.scan hp 0 0 true true 0 with
  | none => none
  | some (labelLen, allnum, numeric, level) =>
    if labelLen = 0 || (numeric && (level ≠ 3 || !allnum)) then none else
    match port with
    | [] => some hp
    | _ :: digits =>
      if digits.all isDigit then (if digits.isEmpty then some hp else some (hp ++ port)) else none

theorem checkHostnameV4_eq (h : Bytes) :
    checkHostnameV4 h =
      hostCore (match findIdx (· = colon) h 0 with | some i => h.take i | none => h)
               (match findIdx (· = colon) h 0 with | some i => h.drop i | none => []) := by
  unfold checkHostnameV4 hostCore
  rfl

/-- a name as request_check_hostname() accepts it in front of the port -/
structure HostName (hp : Bytes) : Prop where
  ne : hp ≠ []
  bytes : ∀ b ∈ hp, hostByte b = true
  labels : ∀ seg ∈ splitOn dot hp, seg ≠ []

theorem checkHostnameV4_spec {h h' : Bytes} (hh : checkHostnameV4 h = some h') :
    ∃ hp port, h' = hp ++ port ∧ HostName hp ∧
      (port = [] ∨ ∃ ds, port = colon :: ds ∧ ds.all isDigit = true) := by
  have hport : (match findIdx (· = colon) h 0 with | some i => h.drop i | none => ([] : Bytes)) = [] ∨
      ∃ ds, (match findIdx (· = colon) h 0 with | some i => h.drop i | none => ([] : Bytes)) = colon :: ds := by
    rcases findIdx_cut (· = colon) h 0 with ⟨e, _⟩ | ⟨a, x, r, e, hl, _, hx⟩ <;> rw [e]
    · left; rfl
    · right; exact ⟨r, by simp [hl, (by simpa using hx : x = colon)]⟩
  rw [checkHostnameV4_eq] at hh
  generalize (match findIdx (· = colon) h 0 with | some i => h.take i | none => h) = A at hh
  generalize (match findIdx (· = colon) h 0 with | some i => h.drop i | none => ([] : Bytes)) = B at hh hport
  unfold hostCore at hh
  obtain ⟨_, hh⟩ := ite_ne_left (by simp) hh
  generalize (if A.getLast? = some dot then A.dropLast else A) = hp at hh
  obtain ⟨hpne, hh⟩ := ite_ne_left (by simp) hh
  rw [List.isEmpty_iff] at hpne
  cases hscan : checkHostnameV4.scan hp 0 0 true true 0 with
  | none => rw [hscan] at hh; simp at hh
  | some r =>
    obtain ⟨ll, an, nu, lv⟩ := r
    rw [hscan] at hh
    dsimp only at hh
    obtain ⟨h3, hh⟩ := ite_ne_left (by simp) hh
    obtain ⟨hbytes, hlabels⟩ := hostScan_spec _ _ _ _ _ _ _ hscan
    have hsegs : ∀ seg ∈ splitOn dot hp, seg ≠ [] := by
      obtain ⟨H, T, hs⟩ := splitOn_cons_exists dot hp
      have := hlabels (fun (e : ll = 0) => by simp [e] at h3) H T hs
      intro seg hseg
      rw [hs] at hseg
      rcases List.mem_cons.mp hseg with rfl | e
      · exact this.1 rfl
      · exact this.2 seg e
    -- port: ":" digits*; a lone trailing ':' is removed
    rcases hport with rfl | ⟨ds, rfl⟩
    · simp only [Option.some.injEq] at hh
      exact ⟨hp, [], by simp [hh], ⟨hpne, hbytes, hsegs⟩, Or.inl rfl⟩
    · dsimp only at hh
      by_cases hd : ds.all isDigit = true
      · rw [if_pos hd] at hh
        by_cases he : ds.isEmpty = true
        · rw [if_pos he] at hh
          simp only [Option.some.injEq] at hh
          exact ⟨hp, [], by simp [hh], ⟨hpne, hbytes, hsegs⟩, Or.inl rfl⟩
        · rw [if_neg he] at hh
          simp only [Option.some.injEq] at hh
          exact ⟨hp, colon :: ds, hh.symm, ⟨hpne, hbytes, hsegs⟩, Or.inr ⟨ds, rfl, hd⟩⟩
      · rw [if_neg hd] at hh; simp at hh

theorem hostPart_append {hp : Bytes} (rest : Bytes) (h : colon ∉ hp) :
    hostPart (hp ++ rest) = hp ++ hostPart rest :=
  List.takeWhile_append_of_pos fun b hb => by simpa using fun (e : b = colon) => h (e ▸ hb)

theorem hostPart_append_colon {hp rest : Bytes} (h : colon ∉ hp) : hostPart (hp ++ colon :: rest) = hp := by
  rw [hostPart_append _ h]; simp [hostPart]

theorem hostPart_self {hp : Bytes} (h : colon ∉ hp) : hostPart hp = hp := by
  simpa [hostPart] using hostPart_append [] h

theorem checkHostnameV4_clean {h h' : Bytes} (hh : checkHostnameV4 h = some h') :
    slash ∉ h' ∧ Clean (hostPart h') ∧ ∀ seg ∈ splitOn dot (hostPart h'), seg ≠ [] := by
  obtain ⟨hp, port, rfl, hN, hport⟩ := checkHostnameV4_spec hh
  have hnc : colon ∉ hp := fun hm => (hostByte_ne (hN.bytes _ hm)).2 rfl
  have hhp : hostPart (hp ++ port) = hp := by
    rcases hport with rfl | ⟨ds, rfl, _⟩
    · rw [List.append_nil, hostPart_self hnc]
    · exact hostPart_append_colon hnc
  have hns : slash ∉ hp := fun hm => (hostByte_ne (hN.bytes _ hm)).1 rfl
  refine ⟨?_, ?_, ?_⟩
  · intro hm
    simp only [List.mem_append] at hm
    rcases hm with hm | hm
    · exact hns hm
    · rcases hport with rfl | ⟨ds, rfl, hds⟩
      · simp at hm
      · simp only [List.mem_cons] at hm
        rcases hm with e | e
        · exact absurd e (by decide)
        · rw [List.all_eq_true] at hds
          exact (isDigit_ne (hds _ e)).1 rfl
  · rw [hhp]
    refine ⟨hN.ne, ?_, ?_, hns⟩ <;>
    · intro e; exact hN.labels [] (by rw [e]; decide) rfl
  · rw [hhp]; exact hN.labels

def v6Byte (b : UInt8) : Bool := isXDigit b || b == dot || b == colon

theorem v6Body_spec : ∀ (t : Bytes) (cnt : Nat), t = (v6Body t cnt).1 ++ (v6Body t cnt).2 ∧
    ∀ b ∈ (v6Body t cnt).1, v6Byte b = true := by
  intro t
  induction t with
  | nil => intro cnt; simp [v6Body]
  | cons b rest ih =>
    intro cnt
    have hkeep : ∀ c, v6Byte b = true → b :: rest = (b :: (v6Body rest c).1) ++ (v6Body rest c).2 ∧
        ∀ y ∈ b :: (v6Body rest c).1, v6Byte y = true := by
      intro c hb
      obtain ⟨h1, h2⟩ := ih c
      refine ⟨by rw [List.cons_append, ← h1], fun y hy => ?_⟩
      rcases List.mem_cons.mp hy with rfl | e
      · exact hb
      · exact h2 y e
    unfold v6Body
    split
    · rename_i hc
      simp only [Bool.or_eq_true, decide_eq_true_eq] at hc
      exact hkeep cnt (by rcases hc with hc | hc <;> simp [v6Byte, hc])
    · split
      · rename_i hc
        simp only [Bool.and_eq_true, decide_eq_true_eq] at hc
        exact hkeep (cnt + 1) (by simp [v6Byte, hc.1])
      · simp

theorem v6_nomem {body after : Bytes} (hb : slash ∉ body) (ha : slash ∉ after) :
    slash ∉ (91 : UInt8) :: (body ++ 93 :: after) := by
  have h91 : slash ≠ (91 : UInt8) := by decide +kernel
  have h93 : slash ≠ (93 : UInt8) := by decide +kernel
  simp [h91, h93, hb, ha]

theorem checkHostnameV6_spec {h h' : Bytes} (hh : checkHostnameV6 h = some h') :
    slash ∉ h' ∧ h'.head? = some 91 := by
  unfold checkHostnameV6 at hh
  split at hh
  · rename_i t
    obtain ⟨hsplit, hbody⟩ := v6Body_spec t 0
    generalize v6Body t 0 = br at hh hsplit hbody
    obtain ⟨body, rest⟩ := br
    simp only at hh hsplit hbody
    have hbs : slash ∉ body := fun hm => ne_of_test (hbody _ hm) (by decide) rfl
    split at hh
    · rename_i after
      by_cases hbe : body.isEmpty = true
      · rw [if_pos hbe] at hh; simp at hh
      · rw [if_neg hbe] at hh
        split at hh
        · simp only [Option.some.injEq] at hh
          subst hh
          exact ⟨by rw [hsplit]; exact v6_nomem hbs (by simp), by simp⟩
        · rename_i digits
          by_cases hdig : digits.all isDigit = true
          · rw [if_pos hdig] at hh
            have hds : slash ∉ digits := by
              intro hm; rw [List.all_eq_true] at hdig; exact (isDigit_ne (hdig _ hm)).1 rfl
            by_cases hde : digits.isEmpty = true
            · rw [if_pos hde] at hh
              simp only [Option.some.injEq] at hh
              subst hh
              exact ⟨v6_nomem hbs (by simp), by simp⟩
            · rw [if_neg hde] at hh
              simp only [Option.some.injEq] at hh
              subst hh
              refine ⟨?_, by simp⟩
              rw [hsplit]
              refine v6_nomem hbs ?_
              have h58 : slash ≠ (58 : UInt8) := by decide +kernel
              simp [h58, hds]
          · rw [if_neg hdig] at hh; simp at hh
        · simp at hh
    · simp at hh
  · simp at hh

theorem hostPart_subset (a : Bytes) : ∀ b ∈ hostPart a, b ∈ a := by
  intro b hb
  unfold hostPart at hb
  exact (List.takeWhile_sublist _).subset hb

theorem hostPart_head (a : Bytes) : (hostPart a).head? = none ∨ (hostPart a).head? = a.head? := by
  unfold hostPart
  cases a with
  | nil => left; rfl
  | cons x xs =>
    simp only [List.takeWhile_cons]
    split
    · right; simp
    · left; rfl

theorem hostPart_head_of_ne {a : Bytes} (h : hostPart a ≠ []) : (hostPart a).head? = a.head? :=
  (hostPart_head a).resolve_left fun e => h (List.head?_eq_none_iff.mp e)

theorem hostPart_of_guard {a : Bytes} (hd : a.head? ≠ some dot) (hs : slash ∉ a) :
    slash ∉ hostPart a ∧ hostPart a ≠ segDot ∧ hostPart a ≠ segDotDot := by
  have hh : (hostPart a).head? ≠ some dot := by
    rcases hostPart_head a with e | e
    · rw [e]; simp
    · rw [e]; exact hd
  refine ⟨fun hm => hs (hostPart_subset a _ hm), ?_, ?_⟩
  · intro e; rw [e] at hh; simp [segDot] at hh
  · intro e; rw [e] at hh; simp [segDotDot] at hh

theorem hostPart_takeWhile_prefix {h : Bytes} {ci : Nat} (hci : findIdx (· = colon) h 0 = some ci) :
    hostPart h = h.take ci ∧ colon ∉ h.take ci := by
  rcases findIdx_cut (· = colon) h 0 with ⟨e, _⟩ | ⟨a, x, r, e, hl, ha, hx⟩ <;> rw [e] at hci
  · simp at hci
  · have hnc : colon ∉ a := fun hm => by simpa using ha _ hm
    simp only [Option.some.injEq, Nat.zero_add] at hci
    rw [← hci, hl, (by simpa using hx : x = colon), List.take_left']
    · exact ⟨hostPart_append_colon hnc, hnc⟩
    · rfl

theorem hostPart_no_colon {h : Bytes} (hn : findIdx (· = colon) h 0 = none) : hostPart h = h := by
  rcases findIdx_cut (· = colon) h 0 with ⟨_, hall⟩ | ⟨a, x, r, e, _⟩
  · exact hostPart_self fun hm => by simpa using hall _ hm
  · rw [e] at hn; simp at hn

/-- http_request_host_normalize() (hosts not starting with '['): only the port may change (dropped when
    default or empty, rewritten in decimal) -/
theorem hostNormalizeV4_hostPart {p : Nat} {h a : Bytes} (hh : hostNormalizeV4 p h = some a) :
    hostPart a = hostPart h ∧ ∀ b ∈ a, b ∈ h ∨ b = colon ∨ isDigit b = true := by
  unfold hostNormalizeV4 at hh
  cases hci : findIdx (· = colon) h 0 with
  | none =>
    rw [hci] at hh
    simp only [Option.some.injEq] at hh
    subst hh
    exact ⟨rfl, fun b hb => Or.inl hb⟩
  | some ci =>
    rw [hci] at hh
    obtain ⟨hhp, hnc⟩ := hostPart_takeWhile_prefix hci
    have hsub : ∀ b ∈ h.take ci, b ∈ h := fun b hb => (List.take_sublist _ _).subset hb
    have hdrop : ∀ {a}, some (h.take ci) = some a →
        hostPart a = hostPart h ∧ ∀ b ∈ a, b ∈ h ∨ b = colon ∨ isDigit b = true := by
      intro a e
      cases e
      exact ⟨by rw [hhp, hostPart_self hnc], fun b hb => Or.inl (hsub b hb)⟩
    dsimp only at hh
    obtain ⟨_, hh⟩ := ite_ne_left (by simp) hh
    by_cases he : (h.drop (ci + 1)).isEmpty = true
    · rw [if_pos he] at hh; exact hdrop hh
    · rw [if_neg he] at hh
      cases hst : strtolBase0 (h.drop (ci + 1)) with
      | none => rw [hst] at hh; simp at hh
      | some pc =>
        obtain ⟨port, consumed⟩ := pc
        rw [hst] at hh
        dsimp only at hh
        by_cases hc : (decide (0 < port) && decide (port ≤ 65535) && consumed) = true
        · rw [if_pos hc] at hh
          by_cases hp : port ≠ p
          · rw [if_pos hp] at hh
            simp only [Option.some.injEq] at hh
            subst hh
            refine ⟨by rw [List.append_assoc, List.singleton_append, hostPart_append_colon hnc, hhp], ?_⟩
            intro b hb
            simp only [List.mem_append, List.mem_singleton] at hb
            rcases hb with (hb | hb) | hb
            · exact Or.inl (hsub b hb)
            · exact Or.inr (Or.inl hb)
            · exact Or.inr (Or.inr (natToDec_digits _ b hb))
          · rw [if_neg hp] at hh; exact hdrop hh
        · rw [if_neg hc] at hh; simp at hh

theorem hostPolicyPlain_strict_spec {h h' : Bytes} (hh : hostPolicyPlain true h = some h') :
    slash ∉ h' ∧ Clean (hostPart h') ∧
    (h'.head? ≠ some 91 → ∀ seg ∈ splitOn dot (hostPart h'), seg ≠ []) := by
  unfold hostPolicyPlain at hh
  simp only [if_true] at hh
  split at hh
  · obtain ⟨h1, h2⟩ := checkHostnameV6_spec hh
    refine ⟨h1, ?_, fun hn => absurd h2 hn⟩
    have hsub := hostPart_subset h'
    have hhead : (hostPart h').head? = some 91 := by
      unfold hostPart
      cases h' with
      | nil => simp at h2
      | cons x xs =>
        simp only [List.head?_cons, Option.some.injEq] at h2
        subst h2
        simp [colon]
    refine ⟨?_, ?_, ?_, fun hm => h1 (hsub _ hm)⟩
    · intro e; simp [e] at hhead
    · intro e; rw [e] at hhead; simp [segDot, dot] at hhead
    · intro e; rw [e] at hhead; simp [segDotDot, dot] at hhead
  · obtain ⟨h1, h2, h3⟩ := checkHostnameV4_clean hh
    exact ⟨h1, h2, fun _ => h3⟩

/-- a leading '.' would be an empty first label -/
theorem hostPolicyPlain_strict_head {h h' : Bytes} (hh : hostPolicyPlain true h = some h') :
    h'.head? ≠ some dot := by
  obtain ⟨_, g2, g3⟩ := hostPolicyPlain_strict_spec hh
  intro e
  have hh1 := hostPart_head_of_ne g2.ne
  cases hhp : hostPart h' with
  | nil => exact g2.ne hhp
  | cons c r =>
    rw [hhp, e] at hh1
    simp only [List.head?_cons, Option.some.injEq] at hh1
    exact g3 (by rw [e]; decide) [] (by rw [hhp, hh1, splitOn_cons_sep]; simp) rfl

/-- strict mode: normalisation keeps the name part, so the authority starts like the accepted host -/
theorem authorityOf_strict {o : Opts} {p : Nat} {raw a : Bytes} (hs : o.hostStrict = true)
    (h : authorityOf o p raw = some a) : a.head? ≠ some dot ∧ slash ∉ a := by
  unfold authorityOf at h
  cases hp : hostPolicyPlain o.hostStrict (lowerBytes raw) with
  | none => rw [hp] at h; simp at h
  | some h1 =>
    rw [hp] at h
    simp only at h
    rw [hs] at hp
    obtain ⟨g1, g2, _⟩ := hostPolicyPlain_strict_spec hp
    have g4 := hostPolicyPlain_strict_head hp
    split at h
    · obtain ⟨e1, e2⟩ := hostNormalizeV4_hostPart h
      refine ⟨?_, fun hm => ?_⟩
      · rw [← hostPart_head_of_ne (e1 ▸ g2.ne), e1, hostPart_head_of_ne g2.ne]; exact g4
      · rcases e2 _ hm with e | e | e
        · exact g1 e
        · exact absurd e.symm (by decide)
        · exact (isDigit_ne e).1 rfl
    · simp only [Option.some.injEq] at h
      exact h ▸ ⟨g4, g1⟩

end LtVerif
