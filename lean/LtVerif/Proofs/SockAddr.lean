/-
  C14 (CIDR): the masks and the byte loop of sock_addr_is_addr_eq_bits() compare exactly
  the first n bits; `v4mapped`.
-/
import LtVerif.Model.SockAddr
namespace LtVerif.SockAddr

theorem beVal_lt : ∀ (l : List UInt8), beVal l < 2 ^ (8 * l.length)
  | [] => by simp [beVal]
  | x :: xs => by
    rw [beVal, List.length_cons, Nat.mul_succ, Nat.pow_add, Nat.mul_comm _ (2 ^ 8)]
    refine Nat.lt_of_lt_of_le (Nat.add_lt_add_left (beVal_lt xs) _) ?_
    rw [← Nat.succ_mul]
    exact Nat.mul_le_mul_right _ (UInt8.toNat_lt x)

theorem beVal_append (x y : List UInt8) :
    beVal (x ++ y) = beVal x * 2 ^ (8 * y.length) + beVal y := by
  induction x with
  | nil => simp [beVal]
  | cons c cs ih =>
    simp only [List.cons_append, beVal, ih, List.length_append]
    rw [Nat.add_mul, Nat.mul_assoc, ← Nat.pow_add, Nat.add_assoc]
    congr 3
    omega

/-- `(2 ^ w - 1) ^^^ (2 ^ k - 1)`: all ones above bit k, within w bits -/
theorem and_highmask {w k x : Nat} (hk : k ≤ w) (hx : x < 2 ^ w) :
    x &&& ((2 ^ w - 1) ^^^ (2 ^ k - 1)) = x >>> k <<< k := by
  apply Nat.eq_of_testBit_eq
  intro i
  rw [Nat.testBit_and, Nat.testBit_xor, Nat.testBit_two_pow_sub_one, Nat.testBit_two_pow_sub_one,
    Nat.testBit_shiftLeft, Nat.testBit_shiftRight]
  by_cases h1 : k ≤ i
  · rw [Nat.add_sub_cancel' h1]
    by_cases h2 : i < w
    · simp [h1, h2, Nat.not_lt.mpr h1]
    · simp [Nat.testBit_lt_two_pow
        (Nat.lt_of_lt_of_le hx (Nat.pow_le_pow_right (by decide) (Nat.not_lt.mp h2)))]
  · have : i < w := by omega
    simp [h1, this, Nat.not_le.mp h1]

theorem and_highmask_eq_iff {w k x y : Nat} (hk : k ≤ w) (hx : x < 2 ^ w) (hy : y < 2 ^ w) :
    (x &&& ((2 ^ w - 1) ^^^ (2 ^ k - 1)) = y &&& ((2 ^ w - 1) ^^^ (2 ^ k - 1))) ↔
      x >>> k = y >>> k := by
  rw [and_highmask hk hx, and_highmask hk hy, Nat.shiftLeft_eq, Nat.shiftLeft_eq,
    Nat.mul_left_inj (Nat.pos_iff_ne_zero.mp (Nat.pow_pos (by decide)))]

theorem ones_shiftRight {w j : Nat} (hj : j ≤ w) : (2 ^ w - 1) >>> j = 2 ^ (w - j) - 1 := by
  apply Nat.eq_of_testBit_eq
  intro i
  rw [Nat.testBit_shiftRight, Nat.testBit_two_pow_sub_one, Nat.testBit_two_pow_sub_one]
  congr 1
  apply propext
  omega

theorem shift_lt {X s j : Nat} (hX : X < 2 ^ (s + j)) : X >>> s < 2 ^ j := by
  rw [Nat.shiftRight_eq_div_pow, Nat.div_lt_iff_lt_mul (Nat.pow_pos (by decide)), ← Nat.pow_add,
    Nat.add_comm]
  exact hX

theorem shift_eq_zero {X m s : Nat} (hX : X < 2 ^ m) (hs : m ≤ s) : X >>> s = 0 := by
  rw [Nat.shiftRight_eq_div_pow]
  exact Nat.div_eq_of_lt (Nat.lt_of_lt_of_le hX (Nat.pow_le_pow_right (by decide) hs))

/-! `P * 2 ^ m + X` with `X < 2 ^ m` shifted by less (`_le`) or more (`_ge`) than `m` -/

theorem shift_add_le {P X s j : Nat} :
    (P * 2 ^ (s + j) + X) >>> s = P * 2 ^ j + X >>> s := by
  rw [Nat.shiftRight_eq_div_pow, Nat.shiftRight_eq_div_pow, Nat.add_comm s j, Nat.pow_add,
    ← Nat.mul_assoc, Nat.add_comm, Nat.add_mul_div_right _ _ (Nat.pow_pos (by decide)),
    Nat.add_comm]

theorem shift_add_ge {P X m j : Nat} (hX : X < 2 ^ m) :
    (P * 2 ^ m + X) >>> (m + j) = P >>> j := by
  rw [Nat.shiftRight_add]
  congr 1
  rw [Nat.shiftRight_eq_div_pow, Nat.add_comm, Nat.add_mul_div_right _ _ (Nat.pow_pos (by decide)),
    Nat.div_eq_of_lt hX, Nat.zero_add]

theorem mul_add_inj {K P Q A B : Nat} (hA : A < K) (hB : B < K) :
    P * K + A = Q * K + B ↔ P = Q ∧ A = B := by
  constructor
  · intro h
    have hK : 0 < K := by omega
    have h1 : (P * K + A) / K = P := by
      rw [Nat.add_comm, Nat.add_mul_div_right _ _ hK, Nat.div_eq_of_lt hA]; simp
    have h2 : (Q * K + B) / K = Q := by
      rw [Nat.add_comm, Nat.add_mul_div_right _ _ hK, Nat.div_eq_of_lt hB]; simp
    have hPQ : P = Q := by rw [← h1, ← h2, h]
    subst hPQ
    exact ⟨rfl, by omega⟩
  · rintro ⟨h1, h2⟩; rw [h1, h2]

theorem shift_prefix_iff {P A B m s : Nat} (hA : A < 2 ^ m) (hB : B < 2 ^ m) :
    (P * 2 ^ m + A) >>> s = (P * 2 ^ m + B) >>> s ↔ A >>> s = B >>> s := by
  rcases Nat.le_total s m with h | h
  · obtain ⟨j, rfl⟩ := Nat.exists_eq_add_of_le h
    rw [shift_add_le, shift_add_le, Nat.add_left_cancel_iff]
  · rw [shift_eq_zero hA h, shift_eq_zero hB h]
    obtain ⟨j, rfl⟩ := Nat.exists_eq_add_of_le h
    rw [shift_add_ge hA, shift_add_ge hB]
    exact iff_of_true rfl rfl

/-- the byte loop of the AF_INET6 branch: `n` bits left to compare, `k` bits below them -/
theorem eqBits6_iff : ∀ (a b : List UInt8) (n k : Nat), a.length = b.length → 1 ≤ n →
    n + k = 8 * a.length → (eqBits6 a b n = true ↔ beVal a >>> k = beVal b >>> k) := by
  intro a
  induction a with
  | nil => intro b n k _ h1 h2; simp at h2; omega
  | cons c cs ih =>
    intro b n k hlen h1 h2
    cases b with
    | nil => simp at hlen
    | cons d ds =>
      have hl : cs.length = ds.length := by simpa using hlen
      rw [List.length_cons, Nat.mul_succ] at h2
      have hds := beVal_lt ds
      rw [← hl] at hds
      rw [eqBits6, beVal, beVal, ← hl]
      split
      · obtain ⟨n', rfl⟩ := Nat.exists_eq_add_of_le ‹n ≥ 8›  -- a whole byte
        have hm : 8 * cs.length = k + n' := by omega
        have hcs := beVal_lt cs
        rw [hm] at hcs hds ⊢
        rw [shift_add_le, shift_add_le, mul_add_inj (shift_lt hcs) (shift_lt hds),
          Bool.and_eq_true, beq_iff_eq, ← UInt8.toNat_inj, Nat.add_sub_cancel_left]
        refine and_congr_right fun _ => ?_
        split
        · exact ih ds n' k hl ‹_› (by omega)
        · obtain rfl : n' = 0 := by omega
          rw [shift_eq_zero (s := k) hcs (Nat.le_refl _), shift_eq_zero (s := k) hds (Nat.le_refl _)]
          exact iff_of_true rfl rfl
      · obtain ⟨j, rfl⟩ : ∃ j, k = 8 * cs.length + j := ⟨8 - n, by omega⟩  -- the partial byte
        rw [shift_add_ge (beVal_lt cs), shift_add_ge hds, beq_iff_eq,
          show 8 - n = j by omega]

/-- ::ffff:a.b.c.d -/
def v4mapped (b : List UInt8) : List UInt8 := List.replicate 10 0 ++ [0xff, 0xff] ++ b

theorem addrEqBits_v4_iff {a b : List UInt8} {n : Nat} (ha : a.length = 4) (hb : b.length = 4)
    (h1 : 1 ≤ n) (h2 : n ≤ 32) :
    addrEqBits (.v4 a) (.v4 b) n = true ↔ beVal a >>> (32 - n) = beVal b >>> (32 - n) := by
  have hx := beVal_lt a
  have hy := beVal_lt b
  rw [ha] at hx; rw [hb] at hy
  have h32 : ¬ n > 32 := by omega
  have h0 : n ≠ 0 := by omega
  simp only [addrEqBits, mask4, h32, if_false, h0, ne_eq, not_false_eq_true, if_true, beq_iff_eq]
  exact and_highmask_eq_iff (w := 32) (k := 32 - n) (by omega) hx hy

theorem addrEqBits_v6_iff {a b : List UInt8} {n : Nat} (ha : a.length = 16) (hb : b.length = 16)
    (h1 : 1 ≤ n) (h2 : n ≤ 128) :
    addrEqBits (.v6 a) (.v6 b) n = true ↔ beVal a >>> (128 - n) = beVal b >>> (128 - n) := by
  rw [addrEqBits, if_neg (by omega)]
  exact eqBits6_iff a b n (128 - n) (by rw [ha, hb]) h1 (by rw [ha]; omega)

theorem addrEqBits_v4_v6_iff {a b : List UInt8} {n : Nat} (ha : a.length = 4) (hb : b.length = 16)
    (h1 : 1 ≤ n) (h2 : n ≤ 32) :
    addrEqBits (.v4 a) (.v6 b) n = true ↔
      isV4Mapped b = true ∧ beVal a >>> (32 - n) = beVal (low4 b) >>> (32 - n) := by
  rw [← addrEqBits_v4_iff ha (by simp [low4, hb]) h1 h2]
  exact Bool.and_eq_true_iff

theorem v4mapped_split {a : List UInt8} (h : isV4Mapped a = true) : a = v4mapped (low4 a) := by
  simp only [isV4Mapped, Bool.and_eq_true, beq_iff_eq] at h
  have h1 := List.take_append_drop 10 a
  have h2 := List.take_append_drop 2 (a.drop 10)
  rw [List.drop_drop] at h2
  rw [h.1] at h1
  rw [h.2] at h2
  rw [v4mapped, low4, List.append_assoc, h2, h1]

theorem low4_v4mapped (x : List UInt8) : low4 (v4mapped x) = x := rfl

theorem beVal_v4mapped {x : List UInt8} (hx : x.length = 4) :
    beVal (v4mapped x) = beVal (List.replicate 10 0 ++ [0xff, 0xff]) * 2 ^ 32 + beVal x := by
  rw [v4mapped, beVal_append, hx]

/-- `j`: low bits of the embedded IPv4 word the mask leaves out -/
theorem mask4of6_eq {n j : Nat} (hj : j ≤ 32) (h : max n 96 + j = 128) :
    mask4of6 n = (2 ^ 32 - 1) ^^^ (2 ^ j - 1) := by
  unfold mask4of6
  split
  · rw [ones_shiftRight (by split <;> omega)]
    congr 3
    split <;> omega
  · obtain rfl : j = 0 := by omega
    rfl

/-- an IPv4 peer is compared with an IPv6 network as its mapped form -/
theorem addrEqBits_v6_v4_iff {a b : List UInt8} {n : Nat} (ha : a.length = 16) (hb : b.length = 4)
    (h1 : 1 ≤ n) (h2 : n ≤ 128) :
    addrEqBits (.v6 a) (.v4 b) n = true ↔
      isV4Mapped a = true ∧ beVal a >>> (128 - n) = beVal (v4mapped b) >>> (128 - n) := by
  simp only [addrEqBits, if_neg (Nat.not_lt.mpr h2), Bool.and_eq_true, beq_iff_eq]
  refine and_congr_right fun hm => ?_
  obtain ⟨x, hx, rfl⟩ : ∃ x, x.length = 4 ∧ a = v4mapped x :=
    ⟨low4 a, by simp [low4, ha], v4mapped_split hm⟩
  have hX : beVal x < 2 ^ 32 := by have := beVal_lt x; rwa [hx] at this
  have hY : beVal b < 2 ^ 32 := by have := beVal_lt b; rwa [hb] at this
  rw [low4_v4mapped, beVal_v4mapped hx, beVal_v4mapped hb, shift_prefix_iff hX hY,
    mask4of6_eq (j := min 32 (128 - n)) (by omega) (by omega),
    and_highmask_eq_iff (by omega) hX hY]
  rcases Nat.le_total (128 - n) 32 with h | h
  · rw [Nat.min_eq_right h]
  · -- fewer than 96 bits: nothing of the embedded address is compared
    rw [Nat.min_eq_left h, shift_eq_zero hX h, shift_eq_zero hY h,
      shift_eq_zero hX (Nat.le_refl _), shift_eq_zero hY (Nat.le_refl _)]

end LtVerif.SockAddr
