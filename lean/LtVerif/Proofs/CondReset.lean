/-
  C14: the clear walk config_cond_clear_node() (`CInv`, `clearNode_inv`) and
  config_cond_cache_reset_item() (`resetItem_coh`); independent of `check`.
-/
import LtVerif.Proofs.CondSpec
namespace LtVerif.Cond
open LtVerif B

/-! ### config_cond_clear_node() -/

/-- the calls config_cond_clear_node() makes from a block it clears -/
def clearSucc (t : Tree) (i : Nat) : List Nat :=
  ((t.node i).children.filter fun ch => (t.node ch).prev.isNone) ++ (t.node i).next.toList

theorem mem_clearSucc {t : Tree} (hwf : WF t) {i x : Nat} (hi : i < t.length)
    (hx : x ∈ clearSucc t i) : i < x ∧ x < t.length := by
  rcases List.mem_append.mp hx with hx | hx
  · exact wf_child_gt hwf hi (List.mem_filter.mp hx).1
  · exact wf_next_gt hwf hi (Option.mem_toList.mp hx)

theorem clearNode_succ (always : Bool) (t : Tree) (f i : Nat) (res : Col) :
    clearNode always t (f + 1) i res =
      if colGet res i ≠ .unset then
        (clearSucc t i).foldl (fun r ch => clearNode always t f ch r) (colSet res i .unset)
      else if always then (t.node i).next.toList.foldl (fun r ch => clearNode always t f ch r) res
      else res := by
  rw [clearNode, clearSucc]
  cases (t.node i).next <;> simp

theorem clearNode_rel {R : Col → Col → Prop} (hrefl : ∀ r, R r r)
    (htrans : ∀ {a b c}, R a b → R b c → R a c) (hset : ∀ r i, R r (colSet r i .unset))
    (always : Bool) (t : Tree) :
    ∀ f (L : List Nat) res, R res (L.foldl (fun r i => clearNode always t f i r) res) := by
  intro f
  induction f with
  | zero => exact fun L res => List.foldlRecOn (motive := R res) L _ (hrefl res) fun _ h _ _ => h
  | succ f ih =>
    refine fun L res0 => List.foldlRecOn (motive := R res0) L _ (hrefl res0) fun res h i _ => htrans h ?_
    rw [clearNode_succ]
    split
    · exact htrans (hset res i) (ih _ _)
    · split
      · exact ih _ _
      · exact hrefl res

theorem clearNode_length (always : Bool) (t : Tree) :
    ∀ f i res, (clearNode always t f i res).length = res.length := fun f i =>
  clearNode_rel (R := fun a b => b.length = a.length) (fun _ => rfl) (fun h h' => h'.trans h)
    (fun r i => length_colSet r i .unset) always t f [i]

theorem clearNode_unset_stays (always : Bool) (t : Tree) (f : Nat) (L : List Nat) (res : Col)
    (j : Nat) : colGet res j = .unset →
      colGet (L.foldl (fun r i => clearNode always t f i r) res) j = .unset :=
  clearNode_rel (R := fun a b => colGet a j = .unset → colGet b j = .unset) (fun _ h => h)
    (fun h h' x => h' (h x)) (fun r i h => by rw [colGet_colSet]; split <;> simp [h]) always t f L res

/-- bookkeeping for one run of the clear walk: `res0` = the column before the walk,
    `S` = blocks the walk has been called on, `Pnd` = blocks whose call is still open -/
structure CInv (t : Tree) (res0 res : Col) (S Pnd : Nat → Prop) : Prop where
  len : res.length = res0.length
  cleared : ∀ i, S i → colGet res i = .unset
  changed : ∀ j, colGet res j = colGet res0 j ∨ (colGet res j = .unset ∧ (S j ∨ Pnd j))
  next_closed : ∀ i k, S i → (t.node i).next = some k → S k
  heads : ∀ i h, S i → colGet res0 i ≠ .unset → h ∈ (t.node i).children →
      (t.node h).prev = none → S h
  inrange : ∀ i, S i → i < t.length

theorem CInv.enter {t : Tree} {res0 res : Col} {S Pnd : Nat → Prop} (h : CInv t res0 res S Pnd)
    {i : Nat} (hi : i < res.length) (hset : colGet res i ≠ .unset) :
    CInv t res0 (colSet res i .unset) S (fun p => Pnd p ∨ p = i) := by
  refine ⟨by simp [h.len], fun x hx => ?_, fun j => ?_, h.next_closed, h.heads, h.inrange⟩
  · rw [colGet_colSet_ne _ (fun hxi => hset (by rw [← hxi]; exact h.cleared x hx))]
    exact h.cleared x hx
  · by_cases hji : j = i
    · subst hji; exact Or.inr ⟨colGet_colSet_eq _ hi, Or.inr (Or.inr rfl)⟩
    · rw [colGet_colSet_ne _ hji]
      exact (h.changed j).imp id fun ⟨h1, h2⟩ => ⟨h1, h2.imp id Or.inl⟩

theorem CInv.leave {t : Tree} {res0 r : Col} {S Pnd1 Pnd : Nat → Prop} (h : CInv t res0 r S Pnd1)
    {i : Nat} (hi : i < t.length) (hP : ∀ p, Pnd1 p → Pnd p ∨ p = i) (hun : colGet r i = .unset)
    (hnx : ∀ k, (t.node i).next = some k → S k)
    (hheads : colGet res0 i ≠ .unset → ∀ h ∈ (t.node i).children, (t.node h).prev = none → S h) :
    CInv t res0 r (fun x => S x ∨ x = i) Pnd := by
  refine ⟨h.len, ?_, fun j => ?_, ?_, ?_, ?_⟩
  · rintro x (hx | rfl)
    · exact h.cleared x hx
    · exact hun
  · refine (h.changed j).imp id fun ⟨h1, h2⟩ => ⟨h1, ?_⟩
    rcases h2 with h2 | h2
    · exact Or.inl (Or.inl h2)
    · exact (hP j h2).elim Or.inr fun e => Or.inl (Or.inr e)
  · rintro x k (hx | rfl) hk
    · exact Or.inl (h.next_closed x k hx hk)
    · exact Or.inl (hnx k hk)
  · rintro x hd (hx | rfl) hx0 hh hp
    · exact Or.inl (h.heads x hd hx hx0 hh hp)
    · exact Or.inl (hheads hx0 hd hh hp)
  · rintro x (hx | rfl)
    · exact h.inrange x hx
    · exact hi

theorem foldl_grow {Inv : Col → (Nat → Prop) → Prop} {g : Col → Nat → Col} :
    ∀ (L : List Nat),
      (∀ x ∈ L, ∀ r S, Inv r S → ∃ S', Inv (g r x) S' ∧ (∀ y, S y → S' y) ∧ S' x) →
      ∀ r S, Inv r S → ∃ S', Inv (L.foldl g r) S' ∧ (∀ y, S y → S' y) ∧ ∀ x ∈ L, S' x
  | [], _, r, S, h => ⟨S, h, fun _ h => h, fun _ hx => nomatch hx⟩
  | x :: xs, hL, r, S, h => by
    obtain ⟨S1, h1, hsub1, hx1⟩ := hL x List.mem_cons_self r S h
    obtain ⟨S2, h2, hsub2, hall2⟩ :=
      foldl_grow xs (fun y hy => hL y (List.mem_cons_of_mem _ hy)) _ S1 h1
    refine ⟨S2, h2, fun y hy => hsub2 y (hsub1 y hy), ?_⟩
    rintro y (_ | ⟨_, hy⟩)
    · exact hsub2 _ hx1
    · exact hall2 y hy

/-- walks from the blocks of `L`: a walk only moves to larger indices, so fuel `t.length - x`
    suffices; the calls still open are on smaller indices -/
theorem clearNode_inv {t : Tree} (hwf : WF t) (res0 : Col) (hlen0 : res0.length = t.length) :
    ∀ f (L : List Nat) (Pnd : Nat → Prop),
      (∀ x ∈ L, x < t.length ∧ t.length - x ≤ f ∧ ∀ p, Pnd p → p < x) →
      ∀ res S, CInv t res0 res S Pnd →
      ∃ S', CInv t res0 (L.foldl (fun r x => clearNode true t f x r) res) S' Pnd ∧
        (∀ x, S x → S' x) ∧ ∀ x ∈ L, S' x := by
  intro f
  induction f with
  | zero =>
    intro L Pnd hL
    refine foldl_grow L fun x hx => ?_
    have := hL x hx
    omega
  | succ f ih =>
    intro L Pnd hL
    refine foldl_grow (Inv := fun r S => CInv t res0 r S Pnd) L fun i hiL res S hinv => ?_
    obtain ⟨hi, hf, hpnd⟩ := hL i hiL
    rw [clearNode_succ]
    split
    · rename_i hc
      have hilen : i < res.length := by rw [hinv.len, hlen0]; exact hi
      obtain ⟨S2, h2, hsub, hall⟩ := ih (clearSucc t i) (fun p => Pnd p ∨ p = i)
        (fun x hx => by
          have := mem_clearSucc hwf hi hx
          exact ⟨this.2, by omega, fun p hp => hp.elim (fun hp => Nat.lt_trans (hpnd p hp) this.1)
            fun e => e ▸ this.1⟩) _ S (hinv.enter hilen hc)
      refine ⟨_, h2.leave hi (fun p hp => hp) ?_ ?_ ?_, fun x hx => Or.inl (hsub x hx), Or.inr rfl⟩
      · exact clearNode_unset_stays true t f _ _ i (colGet_colSet_eq _ hilen)
      · exact fun k hk => hall k (List.mem_append_right _ (Option.mem_toList.mpr hk))
      · exact fun _ h hh hp => hall h (List.mem_append_left _
          (List.mem_filter.mpr ⟨hh, by simp [hp]⟩))
    · rename_i hc
      have hun : colGet res i = .unset := by simpa using hc
      rw [if_pos rfl]
      obtain ⟨S2, h2, hsub, hall⟩ := ih (t.node i).next.toList Pnd
        (fun x hx => by
          have := wf_next_gt hwf hi (Option.mem_toList.mp hx)
          exact ⟨this.2, by omega, fun p hp => Nat.lt_trans (hpnd p hp) this.1⟩) res S hinv
      refine ⟨_, h2.leave hi (fun p hp => Or.inl hp) ?_ ?_ ?_, fun x hx => Or.inl (hsub x hx),
        Or.inr rfl⟩
      · exact clearNode_unset_stays true t f _ _ i hun
      · exact fun k hk => hall k (Option.mem_toList.mpr hk)
      · -- `i` was unset when the walk reached it: either it never was set, or an earlier
        -- call of this walk cleared it (and then went on to its children)
        intro hx0 h hh hp
        rcases hinv.changed i with h' | ⟨_, h' | h'⟩
        · exact absurd (h' ▸ hun) hx0
        · exact hsub h (hinv.heads i h h' hx0 hh hp)
        · exact absurd (hpnd i h') (Nat.lt_irrefl i)

/-! ### config_cond_cache_reset_item() -/

theorem resetItem_res (always : Bool) (t : Tree) (a : Comp) (c : Cache) :
    (resetItem always t a c).res =
      ((List.range t.length).filter fun i => (t.node i).comp = a).foldl
        (fun r i => clearNode always t t.length i r) c.res := by
  rw [List.foldl_filter]
  simp only [decide_eq_true_eq]
  exact (List.foldl_hom Cache.res fun c i => by split <;> rfl).symm

theorem resetItem_loc (always : Bool) (t : Tree) (a : Comp) (c : Cache) :
    (resetItem always t a c).loc = (List.range t.length).foldl
      (fun l i => if (t.node i).comp = a then colSet l i .unset else l) c.loc :=
  (List.foldl_hom Cache.loc fun c i => by split <;> rfl).symm

theorem resetLoc_get (t : Tree) (a : Comp) : ∀ (L : List Nat) (l : Col) (j : Nat), j < l.length →
    colGet (L.foldl (fun l i => if (t.node i).comp = a then colSet l i .unset else l) l) j =
      if j ∈ L ∧ (t.node j).comp = a then .unset else colGet l j
  | [], l, j, _ => by simp
  | x :: xs, l, j, hj => by
    rw [List.foldl_cons, resetLoc_get t a xs _ j (by split <;> simpa using hj)]
    by_cases hjx : j = x
    · subst hjx
      by_cases hja : (t.node j).comp = a <;> simp [hja, colGet_colSet_eq, hj]
    · by_cases hxa : (t.node x).comp = a <;> simp [hjx, hxa, colGet_colSet_ne]

theorem resetItem_loc_length (always : Bool) (t : Tree) (a : Comp) (c : Cache) :
    (resetItem always t a c).loc.length = c.loc.length := by
  rw [resetItem_loc]
  exact List.foldlRecOn (motive := fun b : Col => b.length = c.loc.length) _ _ rfl fun l h i _ => by
    rw [← h]; split <;> simp

theorem spec_unaffected {t : Tree} (hwf : WF t) (a : Comp) (e e' : Env)
    (hagree : ∀ j, j < t.length → (t.node j).comp ≠ a →
      evalLocal (t.node j) e' = evalLocal (t.node j) e) :
    ∀ j, j < t.length → ¬ Deps t j a → spec t e' j = spec t e j := by
  refine hwf.induction fun j hj ihp ihq hna => ?_
  rw [spec_unfold hwf e' hj, spec_unfold hwf e hj,
    hagree j hj (fun h => hna (h ▸ .self j))]
  congr 1
  · unfold parentSpec
    split
    · exact ihp ‹_› (fun h => hna (.parent ‹_› h))
    · rfl
  · unfold prevSpec
    cases hpv : (t.node j).prev with
    | none => rfl
    | some q => exact ihq q hpv fun h => hna (.prev hpv h)

theorem CInv.child {t : Tree} (hwf : WF t) {res0 res : Col} {S : Nat → Prop}
    (h : CInv t res0 res S (fun _ => False)) :
    ∀ j, j < t.length → (t.node j).parent ≠ 0 → S (t.node j).parent →
      colGet res0 (t.node j).parent ≠ .unset → S j := by
  refine hwf.induction fun j hj _ ihq h0 hp hp0 => ?_
  cases hpv : (t.node j).prev with
  | none =>
    have := hwf.parent_lt j hj h0
    exact h.heads _ j hp hp0 (hwf.children_sup j hj (by omega)) hpv
  | some q =>
    obtain ⟨_, _, hqp, hqn⟩ := hwf.prev_ok j hj q (Option.mem_def.mpr hpv)
    exact h.next_closed q j (ihq q hpv (hqp ▸ h0) (hqp ▸ hp) (hqp ▸ hp0)) hqn

theorem CInv.kept {t : Tree} {res0 res : Col} {S Pnd : Nat → Prop} (h : CInv t res0 res S Pnd)
    {j : Nat} (hne : colGet res j ≠ .unset) : colGet res j = colGet res0 j :=
  (h.changed j).resolve_right fun h' => hne h'.1

theorem resetItem_coh {t : Tree} (hwf : WF t) (a : Comp) {e e' : Env} {c : Cache}
    (hc : Coh t e c)
    (hagree : ∀ j, j < t.length → (t.node j).comp ≠ a →
      evalLocal (t.node j) e' = evalLocal (t.node j) e) :
    Coh t e' (resetItem true t a c) := by
  have h0 : CInv t c.res c.res (fun _ => False) (fun _ => False) :=
    ⟨rfl, fun _ h => h.elim, fun _ => Or.inl rfl, fun _ _ h => h.elim, fun _ _ h => h.elim,
      fun _ h => h.elim⟩
  obtain ⟨S, hS, _, hall⟩ := clearNode_inv hwf c.res hc.len_res t.length
    ((List.range t.length).filter fun i => (t.node i).comp = a) _
    (fun x hx => ⟨List.mem_range.mp (List.mem_filter.mp hx).1, by omega, fun p hp => hp.elim⟩)
    c.res _ h0
  rw [← resetItem_res] at hS
  -- every block that may depend on `a` is reached by the walk, unless its parent's entry was
  -- unset before (then, by `Closed`, so was its own)
  have hreach : ∀ j k, Deps t j k → k = a → j < t.length →
      S j ∨ ((t.node j).parent ≠ 0 ∧ colGet c.res (t.node j).parent = .unset) := by
    intro j k hd
    induction hd with
    | self i =>
      exact fun ha hi =>
        .inl (hall _ (List.mem_filter.mpr ⟨List.mem_range.mpr hi, by simpa using ha⟩))
    | @parent i k h0 _ ih =>
      intro ha hi
      have := hwf.parent_lt i hi h0
      by_cases hp0 : colGet c.res (t.node i).parent = .unset
      · exact .inr ⟨h0, hp0⟩
      · refine .inl (hS.child hwf i hi h0 ((ih ha (by omega)).resolve_right fun h => ?_) hp0)
        exact hc.closed _ (by omega) hp0 h.1 h.2
    | @prev i q k hpv _ ih =>
      intro ha hi
      obtain ⟨_, hqi, hqp, hqn⟩ := hwf.prev_ok i hi q (Option.mem_def.mpr hpv)
      exact (ih ha (by omega)).imp (hS.next_closed q i · hqn) (hqp ▸ ·)
  refine ⟨by rw [hS.len, hc.len_res], by rw [resetItem_loc_length, hc.len_loc],
    fun j hj => ?_, fun j hj hne => ?_, fun j hj hne h0 hpu => ?_⟩
  · rw [resetItem_loc, resetLoc_get t a _ _ j (hc.len_loc ▸ hj)]
    split
    · exact fun h => absurd rfl h
    · rename_i hn
      intro hne
      rw [hc.loc_ok j hj hne, hagree j hj (fun ha => hn ⟨List.mem_range.mpr hj, ha⟩)]
  · have hj0 := hS.kept hne ▸ hne
    rw [hS.kept hne, hc.res_ok j hj hj0, spec_unaffected hwf a e e' hagree j hj fun h => ?_]
    rcases hreach j a h rfl hj with h | h
    · exact hne (hS.cleared j h)
    · exact hc.closed j hj hj0 h.1 h.2
  · -- the parent was cleared by the walk, which then went on to `j`
    have hp0 := hc.closed j hj (hS.kept hne ▸ hne) h0
    rcases hS.changed (t.node j).parent with h' | ⟨_, h' | h'⟩
    · exact hp0 (h' ▸ hpu)
    · exact hne (hS.cleared j (hS.child hwf j hj h0 h' hp0))
    · exact h'.elim

end LtVerif.Cond
