/-
  The lemmas of `Model/Burl.lean` (URL normalisation, request-target): `findIdx` cuts a string at its first hit;
  a control character (`isCtl`) in the target leaves its percent-encoding in `normBasic`'s output, which `burlNormalize`
  rejects.
-/
import LtVerif.Model.Burl
import LtVerif.Proofs.Bytes
namespace LtVerif
open B

/-- `strchr`/`memchr` by index -/
theorem findIdx_cut (p : UInt8 → Bool) : ∀ (l : Bytes) (k : Nat),
    (findIdx p l k = none ∧ ∀ y ∈ l, p y = false) ∨
    ∃ a x r, findIdx p l k = some (k + a.length) ∧ l = a ++ x :: r ∧ (∀ y ∈ a, p y = false) ∧ p x = true := by
  intro l
  induction l with
  | nil => intro k; left; simp [findIdx]
  | cons b rest ih =>
    intro k
    unfold findIdx
    by_cases hp : p b = true
    · right; exact ⟨[], b, rest, by simp [hp], rfl, by simp, hp⟩
    · rw [if_neg hp]
      rcases ih (k + 1) with ⟨e, hall⟩ | ⟨a, x, r, e, hl, ha, hx⟩
      · left; exact ⟨e, fun y hy => (List.mem_cons.mp hy).elim (fun e => by simpa [e] using hp) (hall y)⟩
      · right
        refine ⟨b :: a, x, r, by rw [e, List.length_cons]; congr 1; omega, by rw [hl]; rfl, fun y hy => ?_, hx⟩
        exact (List.mem_cons.mp hy).elim (fun e => by simpa [e] using hp) (ha y)

/-- control byte, 0x00-0x1f or DEL (`Req.isCtl` of Model/Server tests a head's first byte) -/
def isCtl (b : UInt8) : Bool := b < 32 || b = 127

-- 50, 55, 70 = '2', '7', 'F': a control byte is encoded `%0x`, `%1x` or `%7F`, what `containsCtrls` looks for

theorem ctl_facts : ∀ b : UInt8, isCtl b = true →
    reqd b = true ∧ b ≠ pct ∧ b ≠ hash ∧
    (hexDigitUC (b >>> 4) < 50 ∨ (hexDigitUC (b >>> 4) = 55 ∧ hexDigitUC (b &&& 0xf) = 70)) := by
  apply forall_uint8
  decide +kernel

theorem hex_facts : ∀ b : UInt8, (hexVal b).isSome = true → isCtl b = false ∧ b ≠ hash := by
  apply forall_uint8
  decide +kernel

theorem notreqd_facts : ∀ b : UInt8, reqd b = false → isCtl b = false := by
  intro b h
  cases hc : isCtl b with
  | false => rfl
  | true => rw [(ctl_facts b hc).1] at h; exact absurd h (by decide)

/-- the (reversed) output holds the percent-encoding of a control character -/
def HasCtlEnc (out : Bytes) : Prop :=
  ∃ pre post h l, out = post ++ l :: h :: pct :: pre ∧ (h < 50 ∨ (h = 55 ∧ l = 70))

theorem HasCtlEnc.append {out : Bytes} (x : Bytes) (h : HasCtlEnc out) : HasCtlEnc (x ++ out) := by
  obtain ⟨pre, post, hh, l, he, hf⟩ := h
  exact ⟨pre, x ++ post, hh, l, by simp [he], hf⟩

theorem containsCtrls_cons (x : UInt8) (ys : Bytes) (h : containsCtrls ys = true) :
    containsCtrls (x :: ys) = true := by
  cases ys with
  | nil => simp [containsCtrls] at h
  | cons a ys' =>
    cases ys' with
    | nil => simp [containsCtrls] at h
    | cons b rest => simp only [containsCtrls]; simp [h]

theorem containsCtrls_of_infix : ∀ (pre post : Bytes) (h l : UInt8), (h < 50 ∨ (h = 55 ∧ l = 70)) →
    containsCtrls (pre ++ pct :: h :: l :: post) = true := by
  intro pre
  induction pre with
  | nil =>
    intro post h l hf
    simp only [List.nil_append, containsCtrls]
    rcases hf with hf | ⟨h1, h2⟩ <;> simp_all
  | cons x pre' ih =>
    intro post h l hf
    exact containsCtrls_cons x _ (ih post h l hf)

theorem containsCtrls_of_hasCtlEnc {out : Bytes} (h : HasCtlEnc out) : containsCtrls out.reverse = true := by
  obtain ⟨pre, post, hh, l, he, hf⟩ := h
  subst he
  have : (post ++ l :: hh :: pct :: pre).reverse = pre.reverse ++ pct :: hh :: l :: post.reverse := by simp
  rw [this]
  exact containsCtrls_of_infix _ _ _ _ hf

theorem hex2_some {rest : Bytes} {hv lv : UInt8} (h : hex2 rest = some (hv, lv)) :
    ∃ h1 h2 rest', rest = h1 :: h2 :: rest' ∧ (hexVal h1).isSome = true ∧ (hexVal h2).isSome = true := by
  unfold hex2 at h
  split at h
  · rename_i h1 h2 rest'
    split at h
    · rename_i a b ha hb
      exact ⟨h1, h2, rest', rfl, by simp [ha], by simp [hb]⟩
    · simp at h
  · simp at h

theorem mem_takeWhile_drop2 {rest : Bytes} {c hv lv : UInt8} (hx : hex2 rest = some (hv, lv))
    (hc : c ∈ rest.takeWhile (· ≠ hash)) (hctl : isCtl c = true) : c ∈ (rest.drop 2).takeWhile (· ≠ hash) := by
  obtain ⟨h1, h2, rest', rfl, e1, e2⟩ := hex2_some hx
  have f1 := hex_facts h1 e1
  have f2 := hex_facts h2 e2
  simp only [List.takeWhile_cons, ne_eq, f1.2, f2.2, not_false_eq_true, decide_true, if_true,
             List.mem_cons] at hc
  rcases hc with rfl | rfl | hc
  · simp [f1.1] at hctl
  · simp [f2.1] at hctl
  · simpa using hc

theorem mem_takeWhile_cons {b c : UInt8} {rest : Bytes} (hc : c ∈ (b :: rest).takeWhile (· ≠ hash)) :
    b ≠ hash ∧ (c = b ∨ c ∈ rest.takeWhile (· ≠ hash)) := by
  by_cases hb : b = hash
  · simp [hb] at hc
  · exact ⟨hb, by simpa [hb] using hc⟩

theorem normBasic_hasCtlEnc (req : Bool) (s : Bytes) (acc : NormAcc)
    (h : HasCtlEnc acc.out ∨ ∃ c ∈ s.takeWhile (· ≠ hash), isCtl c = true) :
    HasCtlEnc (normBasic req s acc).out := by
  fun_induction normBasic req s acc with
  | case1 acc => exact h.resolve_right (by simp)  -- end of input
  | case2 b rest acc hb acc' ih =>  -- a byte that needs no encoding
    have hout : acc'.out = acc.out := by simp only [acc']; split <;> rfl
    refine ih (h.imp (fun h => hout ▸ h.append [b]) fun ⟨c, hc, hctl⟩ => ⟨c, ?_, hctl⟩)
    rcases (mem_takeWhile_cons hc).2 with rfl | hc
    · rw [(ctl_facts c hctl).1] at hb; cases hb
    · exact hc
  | case3 rest acc hv lv hx x _ _ _ ih =>  -- `%XX` decoded
    refine ih (h.imp (·.append [x]) fun ⟨c, hc, hctl⟩ => ⟨c, ?_, hctl⟩)
    rcases (mem_takeWhile_cons hc).2 with rfl | hc
    · cases hctl
    · exact mem_takeWhile_drop2 hx hc hctl
  | case4 rest acc hv lv hx x _ _ _ ih =>  -- `%XX` kept
    refine ih (h.imp (·.append [_, _, _]) fun ⟨c, hc, hctl⟩ => ⟨c, ?_, hctl⟩)
    rcases (mem_takeWhile_cons hc).2 with rfl | hc
    · cases hctl
    · exact mem_takeWhile_drop2 hx hc hctl
  | case5 rest acc _ _ ih =>  -- `%` without two hex digits: encoded
    refine ih (h.imp (·.append _) fun ⟨c, hc, hctl⟩ => ⟨c, ?_, hctl⟩)
    rcases (mem_takeWhile_cons hc).2 with rfl | hc
    · cases hctl
    · exact hc
  | case6 rest acc => exact h.resolve_right (by simp)  -- '#': the rest is dropped
  | case7 b rest acc _ _ _ ih =>  -- any other byte: encoded
    refine ih ?_
    rcases h with h | ⟨c, hc, hctl⟩
    · exact .inl (h.append _)
    · rcases (mem_takeWhile_cons hc).2 with rfl | hc
      · -- the control character itself: it is percent-encoded
        exact .inl ⟨acc.out, [], hexDigitUC (c >>> 4), hexDigitUC (c &&& 0xf), by simp [pctEnc],
          (ctl_facts c hctl).2.2.2⟩
      · exact .inr ⟨c, hc, hctl⟩

theorem normBasic_ctl (req : Bool) : ∀ (n : Nat) (s : Bytes) (acc : NormAcc), s.length ≤ n →
    (∃ c ∈ s.takeWhile (· ≠ hash), isCtl c = true) → HasCtlEnc (normBasic req s acc).out :=
  fun _ s acc _ h => normBasic_hasCtlEnc req s acc (.inr h)

theorem burlNormalize_ctl (o : Opts) (hc : o.ctrlsReject = true) (s : Bytes)
    (h : ∃ c ∈ s.takeWhile (· ≠ hash), isCtl c = true) : burlNormalize o s = none := by
  have := containsCtrls_of_hasCtlEnc (normBasic_hasCtlEnc o.urlRequired s {} (.inr h))
  unfold burlNormalize
  simp only [hc, this, Bool.true_and, if_true]
  split <;> rfl

theorem parseTarget_ctl (o : Opts) (hc : o.ctrlsReject = true) (hn : o.urlNormalize = true) (t : Bytes)
    (h : ∃ c ∈ t.takeWhile (· ≠ hash), isCtl c = true) : parseTarget o false t = .error 400 := by
  unfold parseTarget
  simp [hn, burlNormalize_ctl o hc t h]

theorem parseTarget_err {o : Opts} {sp : Bool} {t : Bytes} {e : Nat} :
    parseTarget o sp t = .error e → e = 400 := by
  fun_cases parseTarget o sp t
  all_goals (intro h; cases h)
  all_goals rfl

end LtVerif
