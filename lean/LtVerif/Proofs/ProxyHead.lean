/-
  Helper lemmas for C09: structure of the request head mod_proxy builds (Model/ProxyReq.lean
  `headFields`): where its fields come from, the outcomes of the framing decision, serialisation
  round trip; with Content-Length framing the whole run is `RawSt.run` behind the head.
-/
import LtVerif.Proofs.Proxy
import LtVerif.Proofs.Scgi
import LtVerif.Proofs.Bytes
namespace LtVerif.Proxy
open LtVerif B

/-! ### field names -/

theorem nameIs_self (n : String) : nameIs (ofString n) n = true := by
  simp [nameIs, eqIcase]

theorem nameIs_excl (k : Bytes) (a b : String)
    (hab : ((ofString a).map toLower == (ofString b).map toLower) = false)
    (ha : nameIs k a = true) : nameIs k b = false := by
  simp only [nameIs, eqIcase, beq_iff_eq] at ha
  cases hb : nameIs k b with
  | false => rfl
  | true =>
    simp only [nameIs, eqIcase, beq_iff_eq] at hb
    rw [ha] at hb
    simp [hb] at hab

theorem nameIs_ne_nil (k : Bytes) (n : String) (hn : ofString n ≠ []) (h : nameIs k n = true) : k ≠ [] := by
  intro e
  simp only [nameIs, eqIcase, beq_iff_eq, e, List.map_nil] at h
  cases hs : ofString n with
  | nil => exact hn hs
  | cons a t => rw [hs] at h; simp at h

/-- the names proxy_set_Forwarded() writes -/
def fwdNames : List String :=
  ["Forwarded", "X-Forwarded-For", "X-Host", "X-Forwarded-Host", "X-Forwarded-Proto"]

def isFwdName (k : Bytes) : Bool := fwdNames.any fun n => nameIs k n

theorem fwd_excl (k : Bytes) (x : String)
    (hx : ∀ n ∈ fwdNames, ((ofString n).map toLower == (ofString x).map toLower) = false)
    (h : isFwdName k = true) : nameIs k x = false := by
  simp only [isFwdName, List.any_eq_true] at h
  obtain ⟨n, hn, hk⟩ := h
  exact nameIs_excl k n x (hx n hn) hk

theorem cl_not_fwd (k : Bytes) (hk : nameIs k "Content-Length" = true) : isFwdName k = false := by
  simp only [nameIs, eqIcase, beq_iff_eq] at hk
  simp only [isFwdName, nameIs, eqIcase, hk]
  decide +kernel

/-! ### the stored-field list operations -/

theorem mem_setHdr (hs : Hdrs) (n : String) (w : Bytes) (p : Bytes × Bytes) (h : p ∈ setHdr hs n w) :
    nameIs p.1 n = true ∨ p ∈ hs := by
  unfold setHdr at h
  split at h
  · obtain ⟨q, hq, rfl⟩ := List.mem_map.mp h
    by_cases hn : nameIs q.1 n = true
    · left; simp only [hn, ↓reduceIte]
    · right; simp only [hn, Bool.false_eq_true, ↓reduceIte]; exact hq
  · rcases List.mem_append.mp h with h | h
    · right; exact h
    · left; simp only [List.mem_singleton] at h; rw [h]; exact nameIs_self n

theorem mem_setHdr_other (hs : Hdrs) (n : String) (w : Bytes) (p : Bytes × Bytes) (h : p ∈ hs)
    (hn : nameIs p.1 n = false) : p ∈ setHdr hs n w := by
  unfold setHdr
  split
  · exact List.mem_map.mpr ⟨p, h, by simp [hn]⟩
  · exact List.mem_append_left _ h

theorem mem_appendHdr (hs : Hdrs) (n : String) (w : Bytes) (p : Bytes × Bytes)
    (h : p ∈ appendHdr hs n w) : nameIs p.1 n = true ∨ p ∈ hs := by
  unfold appendHdr at h
  split at h
  · right; exact h
  · split at h
    · obtain ⟨q, hq, rfl⟩ := List.mem_map.mp h
      by_cases hn : nameIs q.1 n = true
      · left; simp only [hn, ↓reduceIte]
      · right; simp only [hn, Bool.false_eq_true, ↓reduceIte]; exact hq
    · rcases List.mem_append.mp h with h | h
      · right; exact h
      · left; simp only [List.mem_singleton] at h; rw [h]; exact nameIs_self n

theorem mem_appendHdr_other (hs : Hdrs) (n : String) (w : Bytes) (p : Bytes × Bytes) (h : p ∈ hs)
    (hn : nameIs p.1 n = false) : p ∈ appendHdr hs n w := by
  unfold appendHdr
  split
  · exact h
  · split
    · exact List.mem_map.mpr ⟨p, h, by simp [hn]⟩
    · exact List.mem_append_left _ h

theorem mem_setForwarded (flags : Nat) (r : Req) (hs : Hdrs) (p : Bytes × Bytes)
    (h : p ∈ setForwarded flags r hs) : isFwdName p.1 = true ∨ p ∈ hs := by
  have fw : ∀ n ∈ fwdNames, nameIs p.1 n = true → isFwdName p.1 = true := by
    intro n hn hp
    simp only [isFwdName, List.any_eq_true]
    exact ⟨n, hn, hp⟩
  unfold setForwarded at h
  rcases mem_setHdr _ _ _ _ h with h | h
  · left; exact fw _ (by simp [fwdNames]) h
  · have h3 : isFwdName p.1 = true ∨
        p ∈ appendHdr (setFwdForwarded flags r hs) "X-Forwarded-For" r.remoteAddr := by
      unfold setFwdHost at h
      split at h
      · rcases mem_setHdr _ _ _ _ h with h | h
        · left; exact fw _ (by simp [fwdNames]) h
        · rcases mem_setHdr _ _ _ _ h with h | h
          · left; exact fw _ (by simp [fwdNames]) h
          · right; exact h
      · right; exact h
    rcases h3 with h | h
    · left; exact h
    · rcases mem_appendHdr _ _ _ _ h with h | h
      · left; exact fw _ (by simp [fwdNames]) h
      · unfold setFwdForwarded at h
        split at h
        · right; exact h
        · rcases mem_setHdr _ _ _ _ h with h | h
          · left; exact fw _ (by simp [fwdNames]) h
          · right; exact h

theorem mem_setForwarded_other (flags : Nat) (r : Req) (hs : Hdrs) (p : Bytes × Bytes) (h : p ∈ hs)
    (hn : isFwdName p.1 = false) : p ∈ setForwarded flags r hs := by
  have nf : ∀ n ∈ fwdNames, nameIs p.1 n = false := by
    intro n hn'
    simp only [isFwdName, List.any_eq_false] at hn
    simpa using hn n hn'
  have h1 : p ∈ setFwdForwarded flags r hs := by
    unfold setFwdForwarded
    split
    · exact h
    · exact mem_setHdr_other _ _ _ _ h (nf _ (by simp [fwdNames]))
  have h2 := mem_appendHdr_other _ "X-Forwarded-For" r.remoteAddr p h1 (nf _ (by simp [fwdNames]))
  have h3 : p ∈ setFwdHost r (appendHdr (setFwdForwarded flags r hs) "X-Forwarded-For" r.remoteAddr) := by
    unfold setFwdHost
    split
    · apply mem_setHdr_other _ _ _ _ _ (nf _ (by simp [fwdNames]))
      exact mem_setHdr_other _ _ _ _ h2 (nf _ (by simp [fwdNames]))
    · exact h2
  unfold setForwarded
  exact mem_setHdr_other _ _ _ _ h3 (nf _ (by simp [fwdNames]))

/-! ### serialisation round trip -/

theorem takeLine_append (l rest : Bytes) (h : cr ∉ l) :
    takeLine (l ++ cr :: lf :: rest) = some (l, rest) := by
  induction l with
  | nil => simp [takeLine]
  | cons x xs ih =>
    have hx : x ≠ cr := fun e => h (by simp [e])
    have hxs : cr ∉ xs := fun e => h (by simp [e])
    have ht : ∃ b r', xs ++ cr :: lf :: rest = b :: r' := by
      cases xs with
      | nil => exact ⟨cr, lf :: rest, rfl⟩
      | cons y ys => exact ⟨y, ys ++ cr :: lf :: rest, rfl⟩
    obtain ⟨b, r', hbr⟩ := ht
    simp only [List.cons_append, takeLine]
    rw [hbr]
    simp only [hx, false_and, ↓reduceIte]
    rw [← hbr, ih hxs]

/-- `renderHead` writes CRLF in front of each field (`emitField`); the same bytes grouped with the CRLF
    behind each field are one piece per field for `decode_flatMap` (`render_assoc`) -/
def fieldLine (f : Bytes × Bytes) : Bytes := f.1 ++ [colon, sp] ++ f.2 ++ crlf

theorem render_assoc (line : Bytes) (fs : Hdrs) (body : Bytes) :
    renderHead line fs ++ body = line ++ crlf ++ (fs.flatMap fieldLine ++ (crlf ++ body)) := by
  have key : ∀ fs : Hdrs, fs.flatMap (fun (k, v) => emitField k v) ++ crlf = crlf ++ fs.flatMap fieldLine := by
    intro fs
    induction fs with
    | nil => simp
    | cons f tl ih =>
      obtain ⟨k, v⟩ := f
      simp only [List.flatMap_cons, List.append_assoc, ih]
      simp [emitField, fieldLine, List.append_assoc]
  simp only [renderHead, List.append_assoc]
  congr 1
  rw [← List.append_assoc, key, List.append_assoc]

/-- a field name the serialisation is faithful for -/
def NameOk (k : Bytes) : Prop := k ≠ [] ∧ colon ∉ k ∧ cr ∉ k

instance (k : Bytes) : Decidable (NameOk k) := by unfold NameOk; infer_instance

instance (v : Bytes) : Decidable (ValueOk v) := by unfold ValueOk; infer_instance

theorem wfField_iff (f : Bytes × Bytes) : WfField f ↔ NameOk f.1 ∧ ValueOk f.2 := by
  simp only [WfField, NameOk, ValueOk, and_assoc]

theorem wf_mk {k v : Bytes} (hk : NameOk k) (hv : ValueOk v) : WfField (k, v) :=
  (wfField_iff (k, v)).mpr ⟨hk, hv⟩

theorem decodeFields_end (fuel : Nat) (body : Bytes) :
    decodeFields (fuel + 1) (crlf ++ body) = some ([], body) := by
  have : takeLine (crlf ++ body) = some ([], body) := by
    have := takeLine_append [] body (by simp)
    simpa [crlf] using this
  simp only [decodeFields, this, List.isEmpty_nil, ↓reduceIte]

theorem decodeFields_line (fuel : Nat) (f : Bytes × Bytes) (rest : Bytes) (hf : WfField f) :
    decodeFields (fuel + 1) (fieldLine f ++ rest) =
      (decodeFields fuel rest).map fun b => (f :: b.1, b.2) := by
  obtain ⟨k, v⟩ := f
  obtain ⟨⟨hne, hcolon, hcr⟩, hvcr, hows⟩ := (wfField_iff _).mp hf
  have hline : cr ∉ k ++ [colon, sp] ++ v := by
    intro hm
    simp only [List.mem_append, List.mem_cons, List.not_mem_nil, or_false] at hm
    rcases hm with (hm | hm | hm) | hm
    · exact hcr hm
    · exact absurd hm (by decide +kernel)
    · exact absurd hm (by decide +kernel)
    · exact hvcr hm
  have shape : fieldLine (k, v) ++ rest = (k ++ [colon, sp] ++ v) ++ cr :: lf :: rest := by
    simp [fieldLine, crlf, List.append_assoc]
  rw [shape, decodeFields, takeLine_append _ _ hline]
  have hne' : (k ++ [colon, sp] ++ v).isEmpty = false := by
    cases k with
    | nil => exact absurd rfl hne
    | cons a b => rfl
  have hsplit : splitAtByte colon (k ++ [colon, sp] ++ v) = (k, some (sp :: v)) := by
    have := splitAtByte_append colon k (sp :: v) hcolon
    simpa [List.append_assoc] using this
  have hdw : (sp :: v).dropWhile isOws = v := by
    have hs : isOws sp = true := by decide +kernel
    simp only [List.dropWhile_cons, hs, ↓reduceIte]
    cases v with
    | nil => rfl
    | cons b t =>
      have := hows b rfl
      simp [this]
  simp only [hne', Bool.false_eq_true, ↓reduceIte, hsplit, hdw]
  cases decodeFields fuel rest <;> rfl

theorem decodeFields_render (fs : Hdrs) (body : Bytes) (hf : ∀ f ∈ fs, WfField f) :
    ∀ fuel, (fs.flatMap fieldLine ++ (crlf ++ body)).length < fuel →
      decodeFields fuel (fs.flatMap fieldLine ++ (crlf ++ body)) = some (fs, body) := by
  intro fuel hfu
  rw [decode_flatMap fieldLine decodeFields (fun f b => (f :: b.1, b.2)) (crlf ++ body) ([], body) fs
    (fun _ _ => by simp [fieldLine, crlf]) (fun n => decodeFields_end n body) (fun f hm n rest => decodeFields_line n f rest (hf f hm)) fuel hfu,
    foldr_pair, List.foldr_cons_nil]

theorem decodeHead_render (line : Bytes) (fs : Hdrs) (body : Bytes) (hl : cr ∉ line)
    (hf : ∀ f ∈ fs, WfField f) :
    decodeHead (renderHead line fs ++ body) = some (line, fs, body) := by
  rw [render_assoc]
  unfold decodeHead
  have : line ++ crlf ++ (fs.flatMap fieldLine ++ (crlf ++ body)) =
      line ++ cr :: lf :: (fs.flatMap fieldLine ++ (crlf ++ body)) := by simp [crlf]
  rw [this, takeLine_append _ _ hl]
  simp only
  rw [decodeFields_render fs body hf _ (Nat.lt_succ_self _)]

/-! ### the fields of the head -/

/-- the outcomes of `framing` (other than 411): the field written after Host, the stored fields the
    header loop then runs over, and whether the body is re-chunked -/
inductive Framed (c : Cfg) (r : Req) : Option (Bytes × Bytes) → Hdrs → Bool → Prop
  | authorizer (ha : c.authorizer = true) :
      Framed c r (some (ofString "Content-Length", ofString "0")) r.headers false
  | plain (ha : c.authorizer = false)
      (hcl : r.bodyLen > 0 ∨ (r.bodyLen = 0 ∧ r.isGetOrHead = false) → ∃ v, getHdr r.headers "Content-Length" = some v) :
      Framed c r none r.headers false
  | ownCL (ha : c.authorizer = false) (hg : getHdr r.headers "Content-Length" = none) :
      Framed c r none (setHdr r.headers "Content-Length" (intDec r.bodyLen)) false
  | chunked (ha : c.authorizer = false) (hneg : r.bodyLen < 0) (h10 : c.forceHttp10 = false) :
      Framed c r (some (ofString "Transfer-Encoding", ofString "chunked")) r.headers true

theorem framing_cases (c : Cfg) (r : Req) (ff : Option (Bytes × Bytes)) (hs0 : Hdrs) (ch : Bool)
    (h : framing c r = some (ff, hs0, ch)) : Framed c r ff hs0 ch := by
  let P : Option (Option (Bytes × Bytes) × Hdrs × Bool) → Prop :=
    fun o => o = some (ff, hs0, ch) → Framed c r ff hs0 ch
  revert h
  unfold framing
  refine ite_ind (P := P) (fun ha e => ?_) fun ha => ?_                       -- authorizer
  · cases e; exact .authorizer ha
  have ha' : c.authorizer = false := by simpa using ha
  refine ite_ind (P := P) (fun _ => ?_) fun hnk => ?_                          -- body of known length
  · cases hg : getHdr r.headers "Content-Length" with
    | some v => intro e; cases e; exact .plain ha' fun _ => ⟨v, hg⟩
    | none => intro e; cases e; exact .ownCL ha' hg
  have plain : P (some (none, r.headers, false)) := fun e => by
    cases e; exact .plain ha' fun hn => absurd (by simpa using hn) hnk
  exact ite_ind (P := P) (fun _ => plain) fun _ =>                             -- extended CONNECT
    ite_ind (P := P)
      (fun hb => ite_ind (P := P)                                              -- streamed, length unknown
        (fun _ => ite_ind (P := P) (fun _ e => nomatch e) fun _ => plain)      --   to HTTP/1.0: 411 / plain
        fun h10 e => by cases e; exact .chunked ha' hb.1 (by simpa using h10)) --   to HTTP/1.1: chunked
      fun _ => plain

theorem headFields_inv (c : Cfg) (r : Req) (line : Bytes) (fs : Hdrs) (ch : Bool)
    (h : headFields c r = some (line, fs, ch)) :
    ∃ ff hs0, Framed c r ff hs0 ch ∧ line = (reqLine c r).1 ∧
      fs = (reqLine c r).2.toList ++ ff.toList ++
        (setForwarded c.forwarded r hs0).filter (fun (k, v) => fieldAct c r.version k v = .emit) ++
        connTail c r (setForwarded c.forwarded r hs0) := by
  unfold headFields at h
  cases hf : framing c r with
  | none => rw [hf] at h; cases h
  | some x =>
    obtain ⟨ff, hs0, ch'⟩ := x
    rw [hf] at h
    simp only [Option.some.injEq, Prod.mk.injEq] at h
    obtain ⟨h1, h2, rfl⟩ := h
    exact ⟨ff, hs0, framing_cases c r ff hs0 ch' hf, h1.symm, h2.symm⟩

/-- the field names lighttpd writes itself: Host behind the request line, and those of `connTail` -/
def ownNames : List String := ["Host", "Connection", "Upgrade", "Sec-WebSocket-Key"]

theorem mem_connTail (c : Cfg) (r : Req) (hs : Hdrs) :
    ∀ p ∈ connTail c r hs, p = (ofString "Connection", connValue c r hs) ∨
      p ∈ [(ofString "Sec-WebSocket-Key", ofString "MDAwMDAwMDAwMDAwMDAwMA=="), (ofString "Upgrade", ofString "websocket"),
           (ofString "Connection", ofString "close, upgrade"), (ofString "Connection", ofString "close")] := by
  intro p hp
  unfold connTail at hp
  split at hp
  · exact .inl (List.mem_singleton.mp hp)
  · right
    split at hp
    · split at hp <;> simp only [List.nil_append, List.cons_append, List.mem_cons, List.not_mem_nil, or_false] at hp
      · rcases hp with rfl | rfl <;> simp
      · rcases hp with rfl | rfl | rfl <;> simp
    · rw [List.mem_singleton.mp hp]; simp

theorem connTail_names (c : Cfg) (r : Req) (hs : Hdrs) :
    ∀ p ∈ connTail c r hs, ∃ n ∈ ownNames, p.1 = ofString n := by
  intro p hp
  rcases mem_connTail c r hs p hp with rfl | hp
  · exact ⟨_, by decide, rfl⟩
  · simp only [List.mem_cons, List.not_mem_nil, or_false] at hp
    rcases hp with rfl | rfl | rfl | rfl <;> exact ⟨_, by decide, rfl⟩

theorem connTail_connection (c : Cfg) (r : Req) (hs : Hdrs) :
    ∃ v, (connTail c r hs).filter (fun p => nameIs p.1 "Connection") = [(ofString "Connection", v)] ∧
      ofString "close" <+: v := by
  have hC : nameIs (ofString "Connection") "Connection" = true := by decide +kernel
  have hU : nameIs (ofString "Upgrade") "Connection" = false := by decide +kernel
  have hS : nameIs (ofString "Sec-WebSocket-Key") "Connection" = false := by decide +kernel
  unfold connTail
  by_cases h1 : connListed c r hs = true
  · simp only [h1, ↓reduceIte]
    refine ⟨connValue c r hs, by simp [hC], ?_⟩
    unfold connValue; exact List.prefix_append _ _
  · simp only [h1, Bool.false_eq_true, ↓reduceIte]
    by_cases h2 : r.h2ConnectExt = true
    · simp only [h2, ↓reduceIte]
      by_cases h3 : (getHdr hs "Sec-WebSocket-Key").isSome = true
      · simp only [h3, ↓reduceIte]
        exact ⟨ofString "close, upgrade", by simp [hC, hU], by decide⟩
      · simp only [h3, Bool.false_eq_true, ↓reduceIte]
        exact ⟨ofString "close, upgrade", by simp [hC, hU, hS], by decide⟩
    · simp only [h2, Bool.false_eq_true, ↓reduceIte]
      exact ⟨ofString "close", by simp [hC], by decide⟩

theorem reqLine_host (c : Cfg) (r : Req) : ∀ p ∈ (reqLine c r).2.toList, p.1 = ofString "Host" := by
  intro p hp
  unfold reqLine at hp
  simp only at hp
  split at hp <;> simp at hp <;> (try rw [hp])

/-! ### where a field of the head comes from -/

/-- where a field of `headFields` comes from; the Bool index: is the body re-chunked -/
inductive Origin (c : Cfg) (r : Req) : Bool → Bytes × Bytes → Prop
  | own {ch} (n : String) (v : Bytes) (hn : n ∈ ownNames) : Origin c r ch (ofString n, v)
  | authCL (ha : c.authorizer = true) : Origin c r false (ofString "Content-Length", ofString "0")
  | chunkedTE : Origin c r true (ofString "Transfer-Encoding", ofString "chunked")
  /-- a field proxy_set_Forwarded() wrote or rewrote -/
  | forwarded {ch p} (hf : isFwdName p.1 = true) (hem : Emitted c r.version p.1 p.2) : Origin c r ch p
  /-- lighttpd's own decimal length, set among the stored fields when the client sent none -/
  | ownCL {p} (hk : nameIs p.1 "Content-Length" = true) : Origin c r false p
  | stored {ch p} (hp : p ∈ r.headers) (hem : Emitted c r.version p.1 p.2) : Origin c r ch p

theorem head_field_origin (c : Cfg) (r : Req) (line : Bytes) (fs : Hdrs) (ch : Bool)
    (h : headFields c r = some (line, fs, ch)) (p : Bytes × Bytes) (hp : p ∈ fs) : Origin c r ch p := by
  obtain ⟨ff, hs0, hfr, _, rfl⟩ := headFields_inv c r line fs ch h
  have own : ∀ q : Bytes × Bytes, (∃ n ∈ ownNames, q.1 = ofString n) → Origin c r ch q :=
    fun ⟨_, v⟩ ⟨n, hn, e⟩ => by cases e; exact .own n v hn
  simp only [List.mem_append, List.mem_filter, decide_eq_true_eq, Option.mem_toList] at hp
  rcases hp with ((hp | hp) | ⟨hp, hem⟩) | hp
  · exact own p ⟨"Host", by decide, reqLine_host c r p (Option.mem_toList.mpr hp)⟩
  · cases hfr with
    | authorizer ha => cases hp; exact .authCL ha
    | plain _ _ => cases hp
    | ownCL _ _ => cases hp
    | chunked _ _ _ => cases hp; exact .chunkedTE
  · have hem := fieldAct_emit c r.version p.1 p.2 hem
    rcases mem_setForwarded _ _ _ _ hp with hf | hf
    · exact .forwarded hf hem
    · cases hfr with
      | ownCL _ _ => exact (mem_setHdr _ _ _ _ hf).elim .ownCL (.stored · hem)
      | _ => exact .stored hf hem
  · exact own p (connTail_names c r _ p hp)

theorem head_te (c : Cfg) (r : Req) (hw : WfReq r) (line : Bytes) (fs : Hdrs) (ch : Bool)
    (h : headFields c r = some (line, fs, ch)) :
    (ch = true → (ofString "Transfer-Encoding", ofString "chunked") ∈ fs) ∧
    (∀ p ∈ fs, nameIs p.1 "Transfer-Encoding" = true →
      ch = true ∧ p = (ofString "Transfer-Encoding", ofString "chunked")) := by
  constructor
  · rintro rfl
    obtain ⟨ff, hs0, hfr, _, rfl⟩ := headFields_inv c r line fs true h
    cases hfr; simp
  · intro p hp hte
    cases head_field_origin c r line fs ch h p hp with
    | own n v hn =>
      rw [(by decide +kernel : ∀ n ∈ ownNames, nameIs (ofString n) "Transfer-Encoding" = false) n hn] at hte
      cases hte
    | authCL _ => exact absurd hte (by decide +kernel)
    | chunkedTE => exact ⟨rfl, rfl⟩
    | forwarded hf _ => rw [fwd_excl p.1 "Transfer-Encoding" (by decide +kernel) hf] at hte; cases hte
    | ownCL hk =>
      rw [nameIs_excl p.1 "Content-Length" "Transfer-Encoding" (by decide +kernel) hk] at hte; cases hte
    | stored hs _ => rw [hw.noTE p hs] at hte; cases hte

theorem head_no_cl_when_chunked (c : Cfg) (r : Req) (hw : WfReq r) (line : Bytes) (fs : Hdrs)
    (h : headFields c r = some (line, fs, true)) :
    ∀ p ∈ fs, nameIs p.1 "Content-Length" = false := by
  intro p hp
  obtain ⟨_, _, (_ | _ | _ | ⟨_, hneg, _⟩), _⟩ := headFields_inv c r line fs true h
  cases hcl : nameIs p.1 "Content-Length" with
  | false => rfl
  | true =>
    cases head_field_origin c r line fs true h p hp with
    | own n v hn =>
      rw [(by decide +kernel : ∀ n ∈ ownNames, nameIs (ofString n) "Content-Length" = false) n hn] at hcl
      cases hcl
    | chunkedTE => exact absurd hcl (by decide +kernel)
    | forwarded hf _ => rw [fwd_excl p.1 "Content-Length" (by decide +kernel) hf] at hcl; cases hcl
    | stored hs hem => exact absurd (hw.clOpen hneg p hs hcl) hem.value

/-! ### Content-Length -/

theorem fieldAct_cl (c : Cfg) (ver : Nat) (k v : Bytes) (hk : nameIs k "Content-Length" = true)
    (ha : c.authorizer = false) (hv : v ≠ []) : fieldAct c ver k v = .emit := by
  have x1 := nameIs_excl k "Content-Length" "Host" (by decide +kernel) hk
  have x2 := nameIs_excl k "Content-Length" "Proxy-Connection" (by decide +kernel) hk
  have x3 := nameIs_excl k "Content-Length" "Proxy" (by decide +kernel) hk
  have x4 := nameIs_excl k "Content-Length" "TE" (by decide +kernel) hk
  have x5 := nameIs_excl k "Content-Length" "Upgrade" (by decide +kernel) hk
  have x6 := nameIs_excl k "Content-Length" "Connection" (by decide +kernel) hk
  have x7 := nameIs_excl k "Content-Length" "Set-Cookie" (by decide +kernel) hk
  have hk0 := List.isEmpty_eq_false_iff.mpr (nameIs_ne_nil k "Content-Length" (by decide +kernel) hk)
  have hv0 := List.isEmpty_eq_false_iff.mpr hv
  simp [fieldAct, x1, x2, x3, x4, x5, x6, x7, ha, hk0, hv0]

theorem getHdr_some (hs : Hdrs) (n : String) (v : Bytes) (h : getHdr hs n = some v) :
    ∃ k, (k, v) ∈ hs ∧ nameIs k n = true ∧ v ≠ [] := by
  unfold getHdr at h
  split at h
  · rename_i k v' hf
    simp only [Option.some.injEq] at h
    subst h
    have h1 := List.mem_of_find?_eq_some hf
    have h2 := List.find?_some hf
    simp only [Bool.and_eq_true, Bool.not_eq_true'] at h2
    exact ⟨k, h1, h2.1, by intro e; rw [e] at h2; simp at h2⟩
  · exact absurd h (by simp)

theorem setHdr_has (hs : Hdrs) (n : String) (w : Bytes) :
    ∃ k, nameIs k n = true ∧ (k, w) ∈ setHdr hs n w := by
  unfold setHdr
  split
  · rename_i h
    simp only [List.any_eq_true] at h
    obtain ⟨q, hq, hn⟩ := h
    exact ⟨q.1, hn, List.mem_map.mpr ⟨q, hq, by simp [hn]⟩⟩
  · exact ⟨ofString n, nameIs_self n, by simp⟩

theorem head_cl (c : Cfg) (r : Req) (ha : c.authorizer = false)
    (hneed : r.bodyLen > 0 ∨ (r.bodyLen = 0 ∧ r.isGetOrHead = false))
    (line : Bytes) (fs : Hdrs) (ch : Bool) (h : headFields c r = some (line, fs, ch)) :
    ch = false ∧ ∃ p ∈ fs, nameIs p.1 "Content-Length" = true ∧ p.2 ≠ [] ∧
      (getHdr r.headers "Content-Length" = none → p.2 = intDec r.bodyLen) := by
  obtain ⟨ff, hs0, hfr, _, rfl⟩ := headFields_inv c r line fs ch h
  have key : ∀ p : Bytes × Bytes, p ∈ hs0 → nameIs p.1 "Content-Length" = true → p.2 ≠ [] →
      p ∈ (reqLine c r).2.toList ++ ff.toList ++
        (setForwarded c.forwarded r hs0).filter (fun (k, v) => fieldAct c r.version k v = .emit) ++
        connTail c r (setForwarded c.forwarded r hs0) := by
    intro p hp hk hv
    simp only [List.mem_append, List.mem_filter, decide_eq_true_eq]
    exact Or.inl (Or.inr ⟨mem_setForwarded_other _ _ _ _ hp (cl_not_fwd p.1 hk),
      fieldAct_cl c r.version p.1 p.2 hk ha hv⟩)
  cases hfr with
  | authorizer ha' => rw [ha] at ha'; cases ha'
  | chunked _ hneg _ => rcases hneed with h | ⟨h, _⟩ <;> omega
  | plain _ hcl =>
    obtain ⟨v, hg⟩ := hcl hneed
    obtain ⟨k, hk1, hk2, hk3⟩ := getHdr_some _ _ _ hg
    exact ⟨rfl, (k, v), key (k, v) hk1 hk2 hk3, hk2, hk3, fun e => by rw [hg] at e; cases e⟩
  | ownCL _ hg =>
    obtain ⟨k, hk1, hk2⟩ := setHdr_has r.headers "Content-Length" (intDec r.bodyLen)
    exact ⟨rfl, (k, intDec r.bodyLen), key _ hk2 hk1 (intDec_ne_nil _), hk1, intDec_ne_nil _, fun _ => rfl⟩

/-! ### Content-Length framing: the run is the unframed hand-over of SCGI / uwsgi -/

theorem arrive_raw (c : Cfg) (ha : c.authorizer = false) (st : RawSt) (seg : Bytes) :
    arrive c false st seg = RawSt.arrive st seg := by
  unfold arrive RawSt.arrive
  simp only [ha, Bool.false_eq_true, or_false, ↓reduceIte]
  split
  · rename_i he
    have : st.pending ++ seg = [] := by simpa using he
    simp [RawSt.moveAll, this]
  · rfl

theorem run_raw (c : Cfg) (r : Req) (ha : c.authorizer = false) (hdr : Bytes)
    (hb : headerBlock c r = some (hdr, false)) (hpos : 0 ≤ r.bodyLen) (seg0 : Bytes) (segs : List Bytes) :
    run c r seg0 segs = some (RawSt.run hdr r.bodyLen seg0 segs, false) := by
  have hce : createEnv c r seg0 = .ok (RawSt.startBody hdr r.bodyLen seg0) false := by
    unfold createEnv RawSt.startBody
    rw [hb]
    simp only [ha, Bool.false_eq_true, Bool.not_false, and_true]
    split <;> rfl
  have hfold : segs.foldl (arrive c false) (RawSt.startBody hdr r.bodyLen seg0) =
      segs.foldl RawSt.arrive (RawSt.startBody hdr r.bodyLen seg0) := by
    congr 1; funext st seg; exact arrive_raw c ha st seg
  have hreq : ¬ (segs.foldl RawSt.arrive (RawSt.startBody hdr r.bodyLen seg0)).reqlen < -1 := by
    rw [rawFold_reqlen]
    unfold RawSt.startBody
    split
    · have : r.bodyLen > 0 := by omega
      simp only [this, ↓reduceIte]; omega
    · simp only; omega
  unfold run
  rw [hce]
  simp only [hfold, complete, hreq, ↓reduceIte, ha, Bool.false_eq_true, or_false, RawSt.run]
  split
  · rename_i he
    generalize segs.foldl RawSt.arrive (RawSt.startBody hdr r.bodyLen seg0) = st at he
    have : st.pending = [] := by simpa using he
    cases st
    simp_all [RawSt.moveAll]
  · rfl

end LtVerif.Proxy
