/-
  C18 — request sequences: reference tree, confinement.  `refRun` takes the statuses the model reported, `refRunPre`
  decides by `rfcPre` itself; `c18_matches_reference` uses the second.
-/
import LtVerif.Proofs.DavRef
import LtVerif.Proofs.DavWF
import LtVerif.Proofs.DavStatus

namespace LtVerif.Dav
open LtVerif

theorem step_matches {t : Tree} {r : Req} (hwf : WF t) (hc : Conforming t r) :
    get (step t r).2 = if isSuccess (step t r).1 then rfcEffect (get t) r else get t := by
  rcases step_cases t r with ⟨h0, h⟩ | h | ⟨hm, -, hd, hch⟩
  · rw [h0, h]
    rfl
  · rw [h, if_pos rfl]
    funext q
    exact step_effect hwf hc (isSuccess_iff.1 h).1 (isSuccess_iff.1 h).2 q
  · exact (hc.no_merge hm hd hch).elim

theorem ConformingRun.covered : ∀ {reqs : List Req} {t : Tree}, ConformingRun t reqs → CoveredRun t reqs
  | [], _, _ => trivial
  | _ :: _, _, ⟨h1, _, h3⟩ => ⟨h1, ConformingRun.covered h3⟩

theorem run_matches_covered : ∀ (reqs : List Req) (t : Tree), WF t → CoveredRun t reqs →
    get (run t reqs) = refRun (get t) reqs ((statuses t reqs).map isSuccess) ∧ WF (run t reqs)
  | [], _, hwf, _ => ⟨rfl, hwf⟩
  | r :: rs, t, hwf, ⟨h1, h3⟩ => by
    simp only [run, statuses, List.map_cons, refRun]
    rw [← step_matches hwf h1]
    exact run_matches_covered rs (step t r).2 (step_wf hwf h1) h3

theorem run_matches : ∀ (reqs : List Req) (t : Tree), WF t → ConformingRun t reqs →
    get (run t reqs) = refRun (get t) reqs ((statuses t reqs).map isSuccess) :=
  fun reqs t hwf hc => (run_matches_covered reqs t hwf hc.covered).1

theorem run_wf : ∀ (reqs : List Req) (t : Tree), WF t → ConformingRun t reqs → WF (run t reqs) :=
  fun reqs t hwf hc => (run_matches_covered reqs t hwf hc.covered).2

theorem step_matches_pre {t : Tree} {r : Req} (hwf : WF t) (hc : Conforming t r) :
    get (step t r).2 = if rfcPre (get t) r then rfcEffect (get t) r else get t := by
  by_cases hg : r.m = .get
  · have h1 : (step t r).2 = t := by simp [step, hg]
    have h2 : rfcEffect (get t) r = get t := by simp [rfcEffect, hg]
    rw [h1, h2]; simp
  · rw [← step_status hwf hc hg]
    exact step_matches hwf hc

theorem run_matches_pre : ∀ (reqs : List Req) (t : Tree), WF t → CoveredRun t reqs →
    get (run t reqs) = refRunPre (get t) reqs ∧ WF (run t reqs)
  | [], _, hwf, _ => ⟨rfl, hwf⟩
  | r :: rs, t, hwf, hc => by
    obtain ⟨h1, h3⟩ := hc
    simp only [run, refRunPre]
    rw [← step_matches_pre hwf h1]
    exact run_matches_pre rs (step t r).2 (step_wf hwf h1) h3

theorem run_decisions : ∀ (reqs : List Req) (t : Tree), WF t → CoveredRun t reqs → (∀ r ∈ reqs, r.m ≠ .get) →
    (statuses t reqs).map isSuccess = refDecisions (get t) reqs
  | [], _, _, _, _ => rfl
  | r :: rs, t, hwf, hc, hg => by
    obtain ⟨h1, h3⟩ := hc
    simp only [statuses, List.map_cons, refDecisions]
    rw [step_status hwf h1 (hg r (List.mem_cons_self ..)), ← step_matches_pre hwf h1,
      run_decisions rs (step t r).2 (step_wf hwf h1) h3 (fun r' hr' => hg r' (List.mem_cons_of_mem _ hr'))]

def Below (root : Path) (r : Req) : Prop :=
  under root r.src.segs = true ∧ ∀ d, r.dst = .ok d → under root d.segs = true

theorem step_confined {root : Path} {t : Tree} {r : Req} (hb : Below root r) {q : Path}
    (hq : under root q = false) : get (step t r).2 q = get t q :=
  step_frame (not_under_of_not_under_prefix hb.1 hq)
    (fun d hd => not_under_of_not_under_prefix (hb.2 d hd) hq)

theorem run_confined {root : Path} : ∀ (reqs : List Req) (t : Tree), (∀ r ∈ reqs, Below root r) →
    ∀ {q : Path}, under root q = false → get (run t reqs) q = get t q
  | [], _, _, _, _ => rfl
  | r :: rs, t, hb, q, hq => by
    simp only [run]
    rw [run_confined rs _ (fun r' hr' => hb r' (List.mem_cons_of_mem _ hr')) hq]
    exact step_confined (hb r (List.mem_cons_self ..)) hq

end LtVerif.Dav
