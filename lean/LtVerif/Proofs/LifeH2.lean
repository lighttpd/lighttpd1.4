/-
  HTTP/2 in the connection-lifetime model (C13): h2_check_timeout() as an equation, the bound on what
  h2_recv_data() keeps, the header size scan.
-/
import LtVerif.Model.Lifecycle
namespace LtVerif.Lifecycle

/-- a stream stalled for longer than allowed: request body outstanding beyond max-read-idle, or response in
    progress beyond max-write-idle -/
def H2Stream.fires (v : H2View) (now : Int) (s : H2Stream) : Prop :=
  s.st ≠ .error ∧ ((s.bodyPending = true ∧ now - v.rts > s.ri) ∨
                   (s.st ≠ .readPost ∧ v.wts ≠ 0 ∧ now - v.wts > v.wi))

section
local instance (v : H2View) (now : Int) (s : H2Stream) : Decidable (s.fires v now) := by
  unfold H2Stream.fires; infer_instance

theorem h2StreamStep_eq (v : H2View) (now : Int) (acc : Bool × CState) (s : H2Stream) (hne : s.st ≠ .error) :
    h2StreamStep v now acc s = if s.fires v now then (true, .error) else acc := by
  unfold h2StreamStep
  rw [if_neg hne]
  by_cases hw : s.st ≠ .readPost ∧ v.wts ≠ 0 ∧ now - v.wts > v.wi
  · rw [if_pos hw, if_pos (show s.fires v now from ⟨hne, Or.inr hw⟩)]
  · rw [if_neg hw]
    by_cases hb : s.bodyPending = true ∧ now - v.rts > s.ri
    · rw [if_pos hb, if_pos (show s.fires v now from ⟨hne, Or.inl hb⟩)]
    · rw [if_neg hb, if_neg (fun h : s.fires v now => h.2.elim hb hw)]

/-- the per-stream loop: one stalled stream decides, whatever the others do -/
theorem h2_foldl_eq (v : H2View) (now : Int) (l : List H2Stream) (hne : ∀ s ∈ l, s.st ≠ .error)
    (acc : Bool × CState) :
    l.foldl (h2StreamStep v now) acc = if ∃ s ∈ l, s.fires v now then (true, .error) else acc := by
  induction l generalizing acc with
  | nil => simp
  | cons x rest ih =>
    rw [List.foldl_cons, ih (fun s hs => hne s (List.mem_cons_of_mem _ hs)),
      h2StreamStep_eq v now acc x (hne x List.mem_cons_self)]
    by_cases hr : ∃ s ∈ rest, s.fires v now
    · obtain ⟨s, hs, hf⟩ := hr
      rw [if_pos ⟨s, hs, hf⟩, if_pos ⟨s, List.mem_cons_of_mem _ hs, hf⟩]
    · rw [if_neg hr]
      by_cases hx : x.fires v now
      · rw [if_pos hx, if_pos ⟨x, List.mem_cons_self, hx⟩]
      · rw [if_neg hx, if_neg]
        rintro ⟨s, hs, hf⟩
        rcases List.mem_cons.mp hs with rfl | hs
        · exact hx hf
        · exact hr ⟨s, hs, hf⟩

theorem checkTimeoutH2_eq (v : H2View) (now : Int) (hs : v.st = .write) (hne : ∀ s ∈ v.streams, s.st ≠ .error) :
    checkTimeoutH2 v now =
      if v.streams = [] then (if now - v.rts > v.kaIdle then (true, .respEnd, false) else (false, .write, true))
      else if ∃ s ∈ v.streams, s.fires v now then (true, .error, false) else (false, .write, true) := by
  unfold checkTimeoutH2
  rw [if_neg (by simp [hs]), h2_foldl_eq v now _ hne, hs]
  by_cases he : v.streams = []
  · simp only [he, ne_eq, not_true_eq_false, if_false, if_true]; split <;> rfl
  · simp only [he, ne_eq, not_false_eq_true, if_true, if_false]; split <;> rfl
end

/-- the invariant of h2_recv_data() over a stream's DATA frames of at most `F` bytes; the closing
    frame counts whole -/
def H2Body.Bounded (max F : Nat) (b : H2Body) : Prop :=
  (b.status = 0 ∨ b.status = 413) ∧
  (b.isOpen = true → b.bytesIn ≤ max + h2SinkAllowance ∧ (max < b.bytesIn → b.status = 413)) ∧
  (b.isOpen = false → b.bytesIn ≤ max + h2SinkAllowance + F)

theorem H2Body.Bounded.seen {max F : Nat} {b : H2Body} (h : b.Bounded max F) :
    b.bytesIn ≤ max + h2SinkAllowance + F ∧ (max < b.bytesIn → b.status = 413 ∨ b.isOpen = false) := by
  obtain ⟨_, hop, hcl⟩ := h
  cases ho : b.isOpen with
  | true => have := hop ho; exact ⟨by omega, fun h => Or.inl (this.2 h)⟩
  | false => exact ⟨hcl ho, fun _ => Or.inr rfl⟩

theorem h2DataStep_bounded (max F : Nat) (hm : max ≠ 0) (b : H2Body) (alen : Nat) (es : Bool) (ha : alen ≤ F)
    (h : b.Bounded max F) : (h2DataStep max b alen es).1.Bounded max F := by
  obtain ⟨hst, hop, hcl⟩ := h
  unfold h2DataStep
  cases hopen : b.isOpen with
  | false => simp only [Bool.not_false, if_true]; exact ⟨hst, by simp [hopen], fun _ => hcl hopen⟩  -- stream closed
  | true =>
    have ho := hop hopen
    simp only [Bool.not_true, Bool.false_eq_true, if_false]
    by_cases hov : b.overLength alen = true
    · rw [if_pos hov]  -- more than Content-Length
      exact ⟨hst, by simp, fun _ => by simp only; omega⟩
    · rw [if_neg hov]
      cases es with
      | true =>  -- END_STREAM: the final frame is taken
        simp only [if_true]
        cases hc : b.cl with
        | none => exact ⟨hst, by simp, fun _ => by simp only; omega⟩
        | some n =>
          simp only
          split
          · exact ⟨hst, by simp, fun _ => by simp only; omega⟩
          · exact ⟨hst, by simp, fun _ => by simp only; omega⟩
      | false =>
        simp only [Bool.false_eq_true, if_false]
        by_cases hle : max = 0 ∨ b.bytesIn + alen ≤ max
        · rw [if_pos hle]  -- within max-request-size
          refine ⟨hst, fun _ => ?_, by simp⟩
          simp only
          rcases hle with h0 | h0
          · exact absurd h0 hm
          · exact ⟨by omega, fun hgt => by omega⟩
        · rw [if_neg hle]
          by_cases hsink : b.bytesIn + alen - max > h2SinkAllowance ∨ b.status = 0
          · rw [if_pos hsink]
            by_cases hs0 : b.status = 0
            · rw [if_pos hs0]  -- 413 prepared, frame dropped
              refine ⟨Or.inr rfl, fun _ => ?_, by simp⟩
              simp only
              exact ⟨ho.1, fun _ => trivial⟩
            · rw [if_neg hs0]  -- beyond the allowance: RST
              exact ⟨hst, fun _ => ho, by simp [hopen]⟩
          · rw [if_neg hsink]  -- sunk
            refine ⟨hst, fun _ => ?_, by simp⟩
            simp only
            have hs413 : b.status = 413 := by
              rcases hst with h0 | h0
              · exact absurd (Or.inr h0) hsink
              · exact h0
            have : ¬ (b.bytesIn + alen - max > h2SinkAllowance) := fun hh => hsink (Or.inl hh)
            exact ⟨by omega, fun _ => hs413⟩

theorem h2DataRun_bounded (max F : Nat) (hm : max ≠ 0) (frames : List (Nat × Bool))
    (hf : ∀ f ∈ frames, f.1 ≤ F) (b : H2Body) (h : b.Bounded max F) : (h2DataRun max b frames).Bounded max F := by
  induction frames generalizing b with
  | nil => exact h
  | cons f rest ih =>
    simp only [h2DataRun]
    exact ih (fun g hg => hf g (List.mem_cons_of_mem _ hg)) _
      (h2DataStep_bounded max F hm b f.1 f.2 (hf f List.mem_cons_self) h)

theorem h2HeadScan_eq (fs : Nat) (fields : List (Nat × Nat)) (hlen i : Nat) (h0 : hlen ≤ fs) :
    (h2HeadScan fs hlen i fields).1 =
      if hlen + (fields.map fun f => f.1 + f.2 + 4).sum > fs then 431 else 0 := by
  induction fields generalizing hlen i with
  | nil => simp [h2HeadScan]; omega
  | cons f rest ih =>
    obtain ⟨k, v⟩ := f
    unfold h2HeadScan
    simp only [List.map_cons, List.sum_cons]
    by_cases h : hlen + k + v + 4 > fs
    · rw [if_pos h, if_pos (by omega)]
    · rw [if_neg h, ih _ _ (by omega)]
      have : hlen + k + v + 4 + (rest.map fun f => f.1 + f.2 + 4).sum = hlen + (k + v + 4 + (rest.map fun f => f.1 + f.2 + 4).sum) := by omega
      rw [this]

end LtVerif.Lifecycle
