/-
  The HTTP/1.x and the HTTP/2 header parsers of Model/Server.lean store the same request (`asH2`, `PlainField`,
  `ValidPseudo`, `SemReqOk`, `parseSemH1`/`parseSemH2`; `applyFields` is Proofs/H1Fields.lean's).  Uses nothing of the
  response path.
-/
import LtVerif.Model.Server
import LtVerif.Proofs.H1Fields
import LtVerif.Proofs.Bytes
namespace LtVerif.Req
open LtVerif LtVerif.B

/-- the HTTP/2 loop's record where the HTTP/1.1 loop holds `r`; every stage commutes with it -/
def asH2 (r : PReq) : PReq := { r with version := 2, keepAlive := false }

theorem appendHeader_asH2 (r : PReq) (k v : Bytes) : appendHeader (asH2 r) k v = asH2 (appendHeader r k v) := by
  unfold appendHeader asH2; split <;> rfl

theorem getHeader_asH2 (r : PReq) (k : Bytes) : getHeader (asH2 r) k = getHeader r k := rfl

def versionFree (k : Bytes) : Prop :=
  (classifyHeader k = .other ∨ classifyHeader k = .dupCheck ∨ classifyHeader k = .ifNoneMatch)

theorem singleHeader_asH2 (r : PReq) (k v : Bytes) (hk : versionFree k) :
    singleHeader (asH2 r) k v = Except.map asH2 (singleHeader r k v) := by
  unfold singleHeader
  rcases hk with h | h | h <;> simp only [h, getHeader_asH2]
  · simp [Except.map, appendHeader_asH2]
  · split <;> (try split) <;> simp [Except.map, appendHeader_asH2]
  · split <;> simp [Except.map, appendHeader_asH2]

/-- a version-free field spelled the way both parsers accept -/
structure PlainField (o : Opts) (kv : Bytes × Bytes) : Prop where
  nameNe : kv.1 ≠ []
  nameChars : ∀ b ∈ kv.1, (isLower b || b = 45) = true
  free : versionFree kv.1
  notTE : kv.1 ≠ ofString "te"
  valNe : kv.2 ≠ []
  valTrim : trimWs kv.2 = kv.2
  valStrict : kv.2.any lineCharInvalidStrict = false
  valMin : kv.2.any (fun b => b = 0 || b = cr || b = lf) = false

theorem applyField_plain (o : Opts) (r : PReq) (kv : Bytes × Bytes) (h : PlainField o kv) :
    applyField o r kv = singleHeader r kv.1 kv.2 := by
  obtain ⟨k, v⟩ := kv
  have hv : v.isEmpty = false := by simpa using h.valNe
  simp [applyField, hv, h.valStrict]

structure ValidPseudo (o : Opts) (r : PReq) (c : H2Ctx) : Prop where
  methodNe : r.method ≠ []
  notConnect : r.method ≠ ofString "CONNECT"
  scheme : c.scheme = true
  targetSlash : r.target.head? = some slash
  targetOk : (if o.headerStrict then (if o.ctrlsReject then fragmentInvalidStrict r.target else r.target.any uriCharInvalidStrict)
              else r.target.any (fun b => b = 0 || b = cr || b = lf)) = false

theorem validatePseudo_ok (o : Opts) (r : PReq) (c : H2Ctx) (h : ValidPseudo o r c) :
    validatePseudo o r c = .ok (r, { c with ext := false }) := by
  have hm : r.method.isEmpty = false := by simpa using h.methodNe
  have ht : r.target.isEmpty = false := by
    cases ht : r.target with
    | nil => have := h.targetSlash; simp [ht] at this
    | cons _ _ => rfl
  unfold validatePseudo
  simp only [hm, Bool.false_eq_true, if_false, ne_eq, h.notConnect, not_false_eq_true, if_true, decide_true,
             Bool.true_or, h.scheme, Bool.not_true, ht, h.targetSlash, not_true_eq_false, Bool.false_and, decide_false]
  simp only [h.targetOk]
  simp

theorem h2Field_plain (o : Opts) (mf : Nat) (r : PReq) (c : H2Ctx) (kv : Bytes × Bytes)
    (h : PlainField o kv) (hc : c.pseudo = true → ValidPseudo o r c) (hr : r.version = 2)
    (hsz : c.hlen + kv.1.length + kv.2.length + 4 ≤ mf) :
    h2Field o mf (r, c) kv =
      Except.map (fun r' => (r', { c with pseudo := false, hlen := c.hlen + kv.1.length + kv.2.length + 4,
                                          ext := if c.pseudo then false else c.ext }))
        (singleHeader r kv.1 kv.2) := by
  obtain ⟨k, v⟩ := kv
  have hk : k.isEmpty = false := by simpa using h.nameNe
  have hv : v.isEmpty = false := by simpa using h.valNe
  have hcolon : k.head? ≠ some colon := by
    cases k with
    | nil => simp
    | cons b rest =>
      have hb := h.nameChars b (by simp)
      intro hh
      simp only [List.head?_cons, Option.some.injEq] at hh
      subst hh
      revert hb; decide
  have hbadv : (if o.headerStrict then v.any lineCharInvalidStrict
                else v.any (fun b => b = 0 || b = cr || b = lf)) = false := by
    split
    · exact h.valStrict
    · exact h.valMin
  have htrim : trimWs v = v := h.valTrim
  have htail : k.dropWhile (fun b => isLower b || b = 45) = [] := dropWhile_all h.nameChars
  have hnot431 : ¬ (c.hlen + k.length + v.length + 4 > mf) := by simp only [] at hsz; omega
  have hsv : singleHeaderV r k v = singleHeader r k v := by
    unfold singleHeaderV
    have : ¬ r.version ≤ 1 := by omega
    simp only [this, if_false]
    rcases h.free with hh | hh | hh <;> simp [hh]
  unfold h2Field
  simp only [hk, hcolon, hnot431]
  by_cases hp : c.pseudo = true
  · have hvp : ValidPseudo o r { c with hlen := c.hlen + k.length + v.length + 4, pseudo := false } :=
      ⟨(hc hp).methodNe, (hc hp).notConnect, (hc hp).scheme, (hc hp).targetSlash, (hc hp).targetOk⟩
    simp only [hp, if_true, validatePseudo_ok o r _ hvp, hbadv, htrim, hv, htail, h.notTE]
    simp
    rw [hsv]
    cases singleHeader r k v <;> simp [Except.map]
  · have hp' : c.pseudo = false := by simpa using hp
    simp only [hp', hbadv, htrim, hv, htail, h.notTE]
    simp
    rw [hsv]
    cases singleHeader r k v <;> simp [Except.map]

/-- header-size count of h2_parse_headers_frame(): name + value + 4 per field -/
def fieldsSize (fs : List (Bytes × Bytes)) : Nat := (fs.map fun kv => kv.1.length + kv.2.length + 4).sum

theorem foldl_h2FieldStep_error (o : Opts) (mf : Nat) (fs : List (Bytes × Bytes)) (e : Nat) :
    fs.foldl (h2FieldStep o mf) (.error e) = .error e := by
  induction fs with
  | nil => rfl
  | cons f rest ih => simpa [List.foldl_cons, h2FieldStep] using ih

/-- what neither a version-free field nor the host policy changes in a request record -/
structure Fixed where
  version : Nat
  method : Bytes
  target : Bytes
  bodyLen : Int
  clSeen : Bool

def _root_.LtVerif.PReq.fixed (r : PReq) : Fixed := ⟨r.version, r.method, r.target, r.bodyLen, r.clSeen⟩

theorem singleHeader_fixed (r r' : PReq) (k v : Bytes) (hk : versionFree k) (h : singleHeader r k v = .ok r') :
    r'.fixed = r.fixed := by
  unfold singleHeader at h
  rcases hk with hh | hh | hh <;> simp only [hh] at h
  · simp at h; subst h; unfold appendHeader; split <;> rfl
  · split at h
    · split at h <;> simp at h; subst h; rfl
    · simp at h; subst h; unfold appendHeader; split <;> rfl
  · split at h
    · simp at h; subst h; rfl
    · simp at h; subst h; unfold appendHeader; split <;> rfl

theorem applyFields_fixed (o : Opts) : ∀ (fs : List (Bytes × Bytes)) (r r' : PReq),
    (∀ kv ∈ fs, PlainField o kv) → applyFields o r fs = .ok r' → r'.fixed = r.fixed := by
  intro fs
  induction fs with
  | nil => intro r r' _ h; simp [applyFields] at h; subst h; rfl
  | cons kv rest ih =>
    intro r r' hpl h
    have hkv := hpl kv (by simp)
    simp only [applyFields, applyField_plain o r kv hkv] at h
    cases hs : singleHeader r kv.1 kv.2 with
    | error e => simp [hs] at h
    | ok r1 =>
      simp only [hs] at h
      exact (ih r1 r' (fun x hx => hpl x (by simp [hx])) h).trans (singleHeader_fixed r r1 kv.1 kv.2 hkv.free hs)

theorem h2_fold_plain (o : Opts) (mf : Nat) : ∀ (fs : List (Bytes × Bytes)) (r : PReq) (c : H2Ctx),
    (∀ kv ∈ fs, PlainField o kv) → (c.pseudo = true → ValidPseudo o (asH2 r) c) →
    c.hlen + fieldsSize fs ≤ mf →
    match applyFields o r fs with
    | .error e => fs.foldl (h2FieldStep o mf) (.ok (asH2 r, c)) = .error e
    | .ok r1 => ∃ c', fs.foldl (h2FieldStep o mf) (.ok (asH2 r, c)) = .ok (asH2 r1, c') ∧
        (fs ≠ [] → c'.pseudo = false) ∧ (c.ext = false → c'.ext = false) := by
  intro fs
  induction fs with
  | nil => intro r c _ _ _; exact ⟨c, rfl, fun h => absurd rfl h, id⟩
  | cons kv rest ih =>
    intro r c hpl hvp hsz
    have hkv := hpl kv (by simp)
    simp only [fieldsSize, List.map_cons, List.sum_cons] at hsz
    simp only [List.foldl_cons, h2FieldStep]
    rw [h2Field_plain o mf (asH2 r) c kv hkv hvp rfl (by omega), singleHeader_asH2 _ _ _ hkv.free]
    simp only [applyFields, applyField_plain o r kv hkv]
    cases singleHeader r kv.1 kv.2 with
    | error e => exact foldl_h2FieldStep_error o mf rest e
    | ok r1 =>
      have h := ih r1 { c with pseudo := false, hlen := c.hlen + kv.1.length + kv.2.length + 4,
                               ext := if c.pseudo then false else c.ext }
        (fun x hx => hpl x (by simp [hx])) (by simp) (by simp only [fieldsSize]; omega)
      simp only [Except.map]
      cases ha : applyFields o r1 rest with
      | error e => simpa only [ha] using h
      | ok r2 =>
        simp only [ha] at h
        obtain ⟨c', hc, hp, he⟩ := h
        refine ⟨c', hc, fun _ => ?_, fun h0 => he (by simp [h0])⟩
        cases rest with
        | nil => simp only [List.foldl_nil, Except.ok.injEq, Prod.mk.injEq] at hc; rw [← hc.2]
        | cons x xs => exact hp (by simp)

/-- the record after the request line `m t HTTP/1.1`, before any field -/
def pre1 (m t : Bytes) : PReq := { version := 1, keepAlive := true, method := m, target := t }
/-- the record an HTTP/2 stream starts from -/
def pre2 : PReq := { version := 2 }
def pseudoFields (m t a : Bytes) : List (Bytes × Bytes) :=
  [(ofString ":method", m), (ofString ":scheme", ofString "http"), (ofString ":path", t), (ofString ":authority", a)]

theorem asH2_setHost (r : PReq) (a : Bytes) : asH2 (setHost r a) = setHost (asH2 r) a := rfl

theorem h2_pseudo_prefix (o : Opts) (mf : Nat) (m t a : Bytes) (hm : methodTable.contains m = true)
    (hmne : m ≠ []) (htne : t ≠ []) (hane : a ≠ []) (halen : a.length < 1024)
    (hsz : fieldsSize (pseudoFields m t a) ≤ mf) :
    (pseudoFields m t a).foldl (h2FieldStep o mf) (.ok (pre2, {})) =
      .ok (asH2 (setHost (pre1 m t) a),
           { pseudo := true, scheme := true, hlen := fieldsSize (pseudoFields m t a), ext := false }) := by
  -- four `h2Field` steps, each taken by evaluating its guards; the facts about the literals first
  have e1 : (ofString ":method").isEmpty = false := by decide
  have e2 : (ofString ":scheme").isEmpty = false := by decide
  have e3 : (ofString ":path").isEmpty = false := by decide
  have e4 : (ofString ":authority").isEmpty = false := by decide
  have c1 : (ofString ":method").head? = some colon := by decide
  have c2 : (ofString ":scheme").head? = some colon := by decide
  have c3 : (ofString ":path").head? = some colon := by decide
  have c4 : (ofString ":authority").head? = some colon := by decide
  have n1 : ofString ":method" ≠ ofString ":authority" := by decide
  have n2 : ofString ":scheme" ≠ ofString ":authority" := by decide
  have n3 : ofString ":scheme" ≠ ofString ":method" := by decide
  have n4 : ofString ":scheme" ≠ ofString ":path" := by decide
  have n5 : ofString ":path" ≠ ofString ":authority" := by decide
  have n6 : ofString ":path" ≠ ofString ":method" := by decide
  have hm' : m.isEmpty = false := by simpa using hmne
  have ht' : t.isEmpty = false := by simpa using htne
  have ha' : a.isEmpty = false := by simpa using hane
  have hh : (ofString "http").isEmpty = false := by decide
  simp only [fieldsSize, pseudoFields, List.map_cons, List.map_nil, List.sum_cons, List.sum_nil] at hsz
  have s1 : ¬ (0 + (ofString ":method").length + m.length + 4 > mf) := by omega
  have s2 : ¬ (0 + (ofString ":method").length + m.length + 4 + (ofString ":scheme").length + (ofString "http").length + 4 > mf) := by omega
  have s3 : ¬ (0 + (ofString ":method").length + m.length + 4 + (ofString ":scheme").length + (ofString "http").length + 4
               + (ofString ":path").length + t.length + 4 > mf) := by omega
  have s4 : ¬ (0 + (ofString ":method").length + m.length + 4 + (ofString ":scheme").length + (ofString "http").length + 4
               + (ofString ":path").length + t.length + 4 + (ofString ":authority").length + a.length + 4 > mf) := by omega
  have hal : ¬ (a.length ≥ 1024) := by omega
  simp only [pseudoFields, List.foldl_cons, List.foldl_nil, h2FieldStep, h2Field, e1, e2, e3, e4, c1, c2, c3, c4,
             n1, n2, n3, n4, n5, n6, hm', ht', ha', hh, s1, s2, s3, s4, hal, hm, pre2, Bool.false_eq_true, if_false,
             if_true, Bool.not_true, Bool.not_false, List.isEmpty_nil, Option.isSome_none, fieldsSize,
             List.map_cons, List.map_nil, List.sum_cons, List.sum_nil]
  simp [asH2, setHost, pre1]
  omega

theorem applyFields_host (o : Opts) (m t a : Bytes) (fs : List (Bytes × Bytes)) (hane : a ≠ [])
    (halen : a.length < 1024) (haval : a.any lineCharInvalidStrict = false) :
    applyFields o (pre1 m t) ((ofString "host", a) :: fs) = applyFields o (setHost (pre1 m t) a) fs := by
  have ha' : a.isEmpty = false := by simpa using hane
  have hcls : classifyHeader (ofString "host") = .host := by decide
  have hal : ¬ (a.length ≥ 1024) := by omega
  have htag : hasTag (pre1 m t) (ofString "host") = false := by simp [hasTag, getHeader, pre1]
  simp [applyFields, applyField, ha', haval, singleHeader, hcls, htag, hal]

/-- the semantic request `m t`, `Host: a`, fields `fs` on which the two parsers are compared -/
structure SemReqOk (o : Opts) (mf : Nat) (m t a : Bytes) (fs : List (Bytes × Bytes)) : Prop where
  method : methodTable.contains m = true
  methodNe : m ≠ []
  notConnect : m ≠ ofString "CONNECT"
  targetSlash : t.head? = some slash
  targetOk : (if o.headerStrict then (if o.ctrlsReject then fragmentInvalidStrict t else t.any uriCharInvalidStrict)
              else t.any (fun b => b = 0 || b = cr || b = lf)) = false
  hostNe : a ≠ []
  hostLen : a.length < 1024
  hostOk : a.any lineCharInvalidStrict = false
  plain : ∀ kv ∈ fs, PlainField o kv
  size : fieldsSize (pseudoFields m t a) + fieldsSize fs ≤ mf

theorem h2Fields_spec (o : Opts) (mf : Nat) (m t a : Bytes) (fs : List (Bytes × Bytes))
    (h : SemReqOk o mf m t a fs) :
    match applyFields o (pre1 m t) ((ofString "host", a) :: fs) with
    | .error e => h2Fields o mf pre2 {} (pseudoFields m t a ++ fs) = .error e
    | .ok r1 => ∃ c, h2Fields o mf pre2 {} (pseudoFields m t a ++ fs) = .ok (asH2 r1, c) ∧ c.ext = false := by
  have htne : t ≠ [] := by intro h0; simpa [h0] using h.targetSlash
  rw [applyFields_host o m t a fs h.hostNe h.hostLen h.hostOk]
  unfold h2Fields
  rw [List.foldl_append, h2_pseudo_prefix o mf m t a h.method h.methodNe htne h.hostNe h.hostLen (by have := h.size; omega)]
  have hvp : ValidPseudo o (asH2 (setHost (pre1 m t) a))
      { pseudo := true, scheme := true, hlen := fieldsSize (pseudoFields m t a), ext := false } :=
    { methodNe := by simpa [asH2, setHost, pre1] using h.methodNe
      notConnect := by simpa [asH2, setHost, pre1] using h.notConnect
      scheme := rfl
      targetSlash := by simpa [asH2, setHost, pre1] using h.targetSlash
      targetOk := by simpa [asH2, setHost, pre1] using h.targetOk }
  have hfold := h2_fold_plain o mf fs (setHost (pre1 m t) a)
    { pseudo := true, scheme := true, hlen := fieldsSize (pseudoFields m t a), ext := false } h.plain (fun _ => hvp) h.size
  cases ha : applyFields o (setHost (pre1 m t) a) fs with
  | error e => simp only [ha] at hfold; simp only [hfold]
  | ok r1 =>
    simp only [ha] at hfold
    obtain ⟨c', hc, hp, he⟩ := hfold
    simp only [hc]
    cases fs with
    | nil =>
      -- no field after the pseudo-headers: they are validated at the end of the block
      simp only [applyFields, Except.ok.injEq] at ha
      simp only [List.foldl_nil, Except.ok.injEq, Prod.mk.injEq] at hc
      rw [← hc.2, ← hc.1, if_pos rfl, validatePseudo_ok o _ _ hvp]
      exact ⟨_, rfl, rfl⟩
    | cons x xs =>
      simp only [hp (by simp), Bool.false_eq_true, if_false]
      exact ⟨c', rfl, he trivial⟩

def liftHeadRes : HeadRes → HeadRes
  | .ok r t => .ok (asH2 r) t
  | .err e => .err e
  | .skipV6 => .skipV6

theorem hostPolicy_asH2 (o : Opts) (p : Nat) (r : PReq) (hv : r.version = 1) :
    hostPolicy o p (asH2 r) = (hostPolicy o p r).map (·.map asH2) := by
  unfold hostPolicy
  simp only [show (asH2 r).host = r.host from rfl, show (asH2 r).version = 2 from rfl, hv]
  cases r.host with
  | none => simp
  | some h =>
    simp only []
    split
    · rfl          -- IPv6 literal
    · split
      · rfl        -- host check fails
      · split
        · rfl      -- normalisation fails
        · rfl      -- accepted: host and its header rewritten, `asH2` outside

theorem hostPolicy_fixed (o : Opts) (p : Nat) (r r' : PReq) (h : hostPolicy o p r = some (some r')) :
    r'.fixed = r.fixed := by
  unfold hostPolicy at h
  cases hh : r.host with
  | none =>
    simp only [hh] at h
    split at h
    · simp at h
    · simp at h; subst h; rfl
  | some x =>
    simp only [hh] at h
    split at h
    · simp at h          -- IPv6 literal
    · split at h
      · simp at h        -- host check fails
      · split at h
        · simp at h      -- normalisation fails
        · simp at h; subst h; rfl

theorem postChecks_asH2 (o : Opts) (r : PReq) (t : Target) (hv : r.version = 1) (hb : r.bodyLen = 0)
    (hpost : r.method ≠ ofString "POST")
    (hup : (hasTag r (ofString "upgrade") || hasTag r (ofString "http2-settings")) = false) :
    postChecks o (asH2 r) t = liftHeadRes (postChecks o r t) := by
  unfold postChecks
  simp only [show (asH2 r).version = 2 from rfl, show (asH2 r).bodyLen = r.bodyLen from rfl,
             show (asH2 r).method = r.method from rfl, show hasTag (asH2 r) = hasTag r from rfl,
             hv, hb, hup, hpost]
  simp [liftHeadRes]

theorem parsePostV_asH2 (o : Opts) (r : PReq) (hv : r.version = 1)
    (hok : ∀ r', hostPolicy o 80 r = some (some r') →
      r'.bodyLen = 0 ∧ r'.method ≠ ofString "POST" ∧
      (hasTag r' (ofString "upgrade") || hasTag r' (ofString "http2-settings")) = false) :
    parsePostV o 80 false (asH2 r) = liftHeadRes (parsePostV o 80 false r) := by
  unfold parsePostV
  simp only [show (asH2 r).method = r.method from rfl, show (asH2 r).target = r.target from rfl]
  cases parseTarget o ((r.method = ofString "CONNECT" && !false) || (r.method = ofString "OPTIONS" && r.target = [42])) r.target with
  | error e => rfl
  | ok t =>
    simp only [hostPolicy_asH2 o 80 r hv]
    cases hp : hostPolicy o 80 r with
    | none => rfl
    | some x =>
      cases x with
      | none => rfl
      | some r' =>
        simp only [Option.map_some]
        obtain ⟨hb, hm, hu⟩ := hok r' hp
        exact postChecks_asH2 o r' t ((congrArg Fixed.version (hostPolicy_fixed o 80 r r' hp)).trans hv) hb hm hu

/-- what the parsers make of a semantic request: HTTP/1.1 (`m t HTTP/1.1`, `Host: a`, fields) and
    HTTP/2 (pseudo-headers, fields, END_STREAM) -/
def parseSemH1 (o : Opts) (m t a : Bytes) (fs : List (Bytes × Bytes)) : HeadRes :=
  match applyFields o (pre1 m t) ((ofString "host", a) :: fs) with
  | .error e => .err e
  | .ok r => parsePostV o 80 false r

def parseSemH2 (o : Opts) (mf : Nat) (m t a : Bytes) (fs : List (Bytes × Bytes)) : HeadRes :=
  match h2Fields o mf pre2 {} (pseudoFields m t a ++ fs) with
  | .error e => .err e
  | .ok (r, c) => parsePostV o 80 c.ext r

/-- (`postChecks`: POST without length is 411 on 1.x only, Upgrade / HTTP2-Settings 400 but on 1.1) -/
theorem parseSem_same (o : Opts) (mf : Nat) (m t a : Bytes) (fs : List (Bytes × Bytes))
    (h : SemReqOk o mf m t a fs) (hnp : m ≠ ofString "POST")
    (hup : ∀ r r', applyFields o (pre1 m t) ((ofString "host", a) :: fs) = .ok r →
      hostPolicy o 80 r = some (some r') →
      (hasTag r' (ofString "upgrade") || hasTag r' (ofString "http2-settings")) = false) :
    parseSemH2 o mf m t a fs = liftHeadRes (parseSemH1 o m t a fs) := by
  have hspec := h2Fields_spec o mf m t a fs h
  unfold parseSemH1 parseSemH2
  cases ha : applyFields o (pre1 m t) ((ofString "host", a) :: fs) with
  | error e =>
    simp only [ha] at hspec
    simp only [hspec]; rfl
  | ok r1 =>
    simp only [ha] at hspec
    obtain ⟨c, hc, hext⟩ := hspec
    simp only [hc, hext]
    have hf : r1.fixed = ⟨1, m, t, 0, false⟩ := by
      rw [applyFields_host o m t a fs h.hostNe h.hostLen h.hostOk] at ha
      exact applyFields_fixed o fs _ r1 h.plain ha
    apply parsePostV_asH2 o r1 (congrArg Fixed.version hf)
    intro r' hr'
    have hh := (hostPolicy_fixed o 80 r1 r' hr').trans hf
    exact ⟨congrArg Fixed.bodyLen hh, by rw [show r'.method = m from congrArg Fixed.method hh]; exact hnp, hup r1 r' ha hr'⟩

end LtVerif.Req
