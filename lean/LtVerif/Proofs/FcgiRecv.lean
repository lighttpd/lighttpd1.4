/-
  FastCGI record reassembly (Model/FcgiRecv.lean): `frFeed` inside a record in closed form, a whole
  record, a proper prefix of one, a sequence of records.
-/
import LtVerif.Model.FcgiRecv
import LtVerif.Proofs.Bytes
namespace LtVerif.BeResp
open LtVerif B

theorem frFeed_nil (s : FrSt) : frFeed s [] = s := rfl

theorem frFeed_cons (s : FrSt) (b : UInt8) (bs : Bytes) : frFeed s (b :: bs) = frFeed (frStep s b) bs := rfl

theorem frFeed_append (s : FrSt) (a b : Bytes) : frFeed s (a ++ b) = frFeed (frFeed s a) b := by
  simp [frFeed, List.foldl_append]

def FrIdle (s : FrSt) : Prop :=
  s.hdr = [] ∧ s.inRec = false ∧ s.ended = false ∧ s.got = 0 ∧ s.acc = [] ∧ s.need = 0 ∧ s.pad = 0 ∧ s.typ = 0

theorem frStep_inRec (s : FrSt) (b : UInt8) (he : s.ended = false) (hi : s.inRec = true) :
    frStep s b =
      if s.need > 0 then
        if s.need = 1 ∧ s.pad = 0 then frEmit s s.typ (b :: s.acc)
        else { s with need := s.need - 1, acc := b :: s.acc, got := s.got + 1 }
      else if s.pad ≤ 1 then frEmit s s.typ s.acc
      else { s with pad := s.pad - 1, got := s.got + 1 } := by
  simp [frStep, he, hi]

theorem frFeed_inRec (x : Bytes) (s : FrSt) (he : s.ended = false) (hi : s.inRec = true)
    (hx : x.length < s.need + s.pad) :
    frFeed s x = { s with need := s.need - x.length, pad := s.pad - (x.length - s.need),
                          acc := (x.take s.need).reverse ++ s.acc, got := s.got + x.length } := by
  refine foldl_closed frStep (fun q => { s with need := s.need - q.length, pad := s.pad - (q.length - s.need),
                                                acc := (q.take s.need).reverse ++ s.acc, got := s.got + q.length })
    x (by simp) ?_
  intro q b r hq
  have hl : q.length + 1 + r.length < s.need + s.pad := by simpa [hq, Nat.add_assoc, Nat.add_comm 1] using hx
  rw [frStep_inRec _ b (by exact he) (by exact hi)]
  dsimp only
  by_cases hc : q.length < s.need
  · -- a content byte, not the last of the record
    rw [if_pos (Nat.sub_pos_of_lt hc), if_neg (by omega), take_snoc_lt q b hc, List.reverse_append, List.length_append]
    simp only [FrSt.mk.injEq, true_and, and_true, List.reverse_cons, List.reverse_nil, List.nil_append,
      List.cons_append, List.length_singleton]
    exact ⟨Nat.sub_sub .., by omega, rfl⟩
  · -- a padding byte
    rw [if_neg (by omega), if_neg (by omega), List.take_append_of_le_length (Nat.le_of_not_lt hc), List.length_append]
    simp only [FrSt.mk.injEq, true_and, and_true, List.length_singleton]
    exact ⟨by omega, by omega, rfl⟩

theorem frFeed_inRec_end (x : Bytes) (b : UInt8) (s : FrSt) (he : s.ended = false) (hi : s.inRec = true)
    (hx : x.length + 1 = s.need + s.pad) :
    frFeed s (x ++ [b]) = frEmit s s.typ (((x ++ [b]).take s.need).reverse ++ s.acc) := by
  rw [frFeed_append, frFeed_inRec x s he hi (by omega), frFeed_cons, frFeed_nil,
      frStep_inRec _ b (by exact he) (by exact hi)]
  dsimp only
  by_cases hc : x.length < s.need
  · rw [if_pos (Nat.sub_pos_of_lt hc), if_pos (by omega), take_snoc_lt x b hc]
    simp [frEmit]
  · rw [if_neg (by omega), if_pos (by omega), List.take_append_of_le_length (Nat.le_of_not_lt hc)]
    rfl

/-- the receiver between records, the event of the completed record appended -/
def frAfter (s : FrSt) (t : UInt8) (content : Bytes) : FrSt :=
  { hdr := [], inRec := false, typ := 0, need := 0, pad := 0, acc := [], got := 0,
    ended := frEvent t content = .endRequest, evs := s.evs ++ [frEvent t content] }

theorem frFeed_header (s : FrSt) (t : UInt8) (rid clen plen : Nat) (x : UInt8)
    (h0 : s.hdr = []) (hi : s.inRec = false) (he : s.ended = false)
    (hc : clen < 65536) (hp : plen < 256) :
    frFeed s [1, t, (rid / 256).toUInt8, (rid % 256).toUInt8, (clen / 256).toUInt8, (clen % 256).toUInt8,
              plen.toUInt8, x]
      = if clen + plen = 0 then frAfter s t []
        else { s with hdr := [], inRec := true, typ := t, need := clen, pad := plen, acc := [], got := s.got + 8 } := by
  have h1 : (clen / 256).toUInt8.toNat = clen / 256 := UInt8.toNat_ofNat_of_lt' (by simp only [UInt8.size]; omega)
  have h2 : (clen % 256).toUInt8.toNat = clen % 256 := UInt8.toNat_ofNat_of_lt' (by simp only [UInt8.size]; omega)
  have h3 : plen.toUInt8.toNat = plen := UInt8.toNat_ofNat_of_lt' hp
  have h4 : clen / 256 * 256 + clen % 256 = clen := by omega
  simp only [frFeed_cons, frFeed_nil]
  simp [frStep, h0, hi, he, h1, h2, h3, h4, frEmit, frAfter]

theorem frFeed_record (s : FrSt) (t : UInt8) (rid : Nat) (content pad : Bytes)
    (h0 : s.hdr = []) (hi : s.inRec = false) (he : s.ended = false)
    (hc : content.length < 65536) (hp : pad.length < 256) :
    frFeed s (frEncode t rid content pad) = frAfter s t content := by
  unfold frEncode
  rw [List.append_assoc, frFeed_append, frFeed_header s t rid content.length pad.length 0 h0 hi he hc hp]
  rcases List.eq_nil_or_concat (content ++ pad) with hnil | ⟨y, z, hyz⟩
  · rw [hnil]
    simp at hnil
    simp [hnil.1, hnil.2, frFeed_nil]
  · have hl : content.length + pad.length = y.length + 1 := by simpa using congrArg List.length hyz
    rw [List.concat_eq_append] at hyz
    rw [if_neg (by omega), hyz, frFeed_inRec_end y z _ (by simpa using he) (by simp) (by simp; omega), ← hyz]
    simp [frEmit, frAfter]

theorem frFeed_ended (bs : Bytes) (s : FrSt) (h : s.ended = true) : frFeed s bs = s :=
  foldl_inv (fun t => t = s) frStep bs s rfl fun _ _ ht => by rw [ht]; simp [frStep, h]

theorem frFeed_hdr_partial (r : Bytes) (s : FrSt) (hi : s.inRec = false) (he : s.ended = false)
    (hl : s.hdr.length + r.length < 8) :
    frFeed s r = { s with hdr := s.hdr ++ r, got := s.got + r.length } := by
  refine foldl_closed frStep (fun q => { s with hdr := s.hdr ++ q, got := s.got + q.length }) r (by simp) ?_
  intro q b t hq
  have : s.hdr.length + (q.length + 1) < 8 := by simp [hq] at hl; omega
  simp [frStep, hi, he, this, Nat.add_assoc]

theorem frFeed_partial_record (s : FrSt) (t : UInt8) (rid : Nat) (content pad : Bytes) (k : Nat)
    (h0 : s.hdr = []) (hi : s.inRec = false) (he : s.ended = false)
    (hc : content.length < 65536) (hp : pad.length < 256)
    (hk : k < (frEncode t rid content pad).length) :
    (frFeed s ((frEncode t rid content pad).take k)).ended = false ∧
    (frFeed s ((frEncode t rid content pad).take k)).evs = s.evs := by
  unfold frEncode at hk ⊢
  simp only [List.length_append, List.length_cons, List.length_nil] at hk
  rw [List.append_assoc]
  by_cases hk8 : k < 8
  · -- inside the header
    rw [List.take_append_of_le_length (by simp; omega), frFeed_hdr_partial _ s hi he (by simp [h0]; omega)]
    simp [he]
  · rw [List.take_append, List.take_of_length_le (by simp; omega), frFeed_append,
        frFeed_header s t rid content.length pad.length 0 h0 hi he hc hp, if_neg (by omega),
        frFeed_inRec _ _ (by simpa using he) (by simp) (by simp; omega)]
    simp [he]

/-- a FastCGI record as `frEncode` takes it -/
structure FrRec where
  typ : UInt8
  rid : Nat
  content : Bytes
  pad : Bytes

def FrRec.ok (r : FrRec) : Prop := r.content.length < 65536 ∧ r.pad.length < 256

def FrRec.enc (r : FrRec) : Bytes := frEncode r.typ r.rid r.content r.pad

def FrRec.ev (r : FrRec) : FrEv := frEvent r.typ r.content

theorem frFeed_records (rs : List FrRec) : ∀ (s : FrSt), s.hdr = [] → s.inRec = false → s.ended = false →
    (∀ r ∈ rs, r.ok ∧ r.ev ≠ .endRequest) →
    (frFeed s (rs.flatMap FrRec.enc)).hdr = [] ∧ (frFeed s (rs.flatMap FrRec.enc)).inRec = false ∧
    (frFeed s (rs.flatMap FrRec.enc)).ended = false ∧
    (frFeed s (rs.flatMap FrRec.enc)).evs = s.evs ++ rs.map FrRec.ev := by
  induction rs with
  | nil => intro s h0 hi he _; simp [frFeed_nil, h0, hi, he]
  | cons r rest ih =>
    intro s h0 hi he hall
    have hr := hall r (by simp)
    have hrest : ∀ x ∈ rest, x.ok ∧ x.ev ≠ .endRequest := fun x hx => hall x (by simp [hx])
    simp only [List.flatMap_cons, frFeed_append]
    have hrec : frFeed s r.enc = frAfter s r.typ r.content :=
      frFeed_record s r.typ r.rid r.content r.pad h0 hi he hr.1.1 hr.1.2
    rw [hrec]
    have c : (frAfter s r.typ r.content).ended = false := by simpa [frAfter, FrRec.ev] using hr.2
    obtain ⟨i1, i2, i3, i4⟩ := ih (frAfter s r.typ r.content) rfl rfl c hrest
    refine ⟨i1, i2, i3, ?_⟩
    rw [i4]
    simp [frAfter, FrRec.ev]

end LtVerif.BeResp
