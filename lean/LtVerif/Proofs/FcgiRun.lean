/-
  Helper lemmas for C09: invariant of the FastCGI STDIN framing loop
  (fcgi_stdin_append() driven by fcgi_create_env() and gw_write_refill_wb()), and what the
  application decodes from the queued bytes while the stream is open / once it is closed.
-/
import LtVerif.Proofs.Fcgi
import LtVerif.Proofs.Bytes
namespace LtVerif.Fcgi
open LtVerif B

/-- bytes one fcgi_stdin_append() call takes from the request-body queue (responder) -/
def takeN (st : St) : Nat := min st.pending.length Extracted.C09.maxWriteLimit
/-- the pieces it frames them in -/
def newChunks (st : St) : List Bytes := chunksOf maxLen (takeN st) (st.pending.take (takeN st))

theorem stdinAppend_resp (st : St) (h1 : ¬ st.reqlen = -1) (h2 : st.reqlen ≥ 0) :
    stdinAppend false false st =
      if (((st.out ++ stdinRecs 1 (newChunks st)).length : Nat) : Int) =
          st.reqlen + ((8 * (newChunks st).length : Nat) : Int) then
        { out := st.out ++ stdinRecs 1 (newChunks st) ++ header tStdin 1 0 0,
          reqlen := st.reqlen + ((8 * (newChunks st).length : Nat) : Int) + 8,
          pending := st.pending.drop (takeN st) }
      else
        { out := st.out ++ stdinRecs 1 (newChunks st),
          reqlen := st.reqlen + ((8 * (newChunks st).length : Nat) : Int),
          pending := st.pending.drop (takeN st) } := by
  have hk : Extracted.C09.fcgiHeaderLen = 8 := rfl
  simp only [stdinAppend, Bool.false_eq_true, ↓reduceIte, h1, h2, hk, Bool.not_false, and_true,
    newChunks, takeN]
  rfl

def ChunksOk (cs : List Bytes) : Prop := ∀ c ∈ cs, c ≠ [] ∧ c.length ≤ maxLen

theorem header_length (t rid l p : Nat) : (header t rid l p).length = 8 := by simp [header]

theorem newChunks_flatten (st : St) : (newChunks st).flatten = st.pending.take (takeN st) := by
  have hmax : 0 < maxLen := by decide
  exact chunksOf_flatten maxLen hmax (takeN st) _ (by simp [List.length_take]; omega)

theorem newChunks_ok (st : St) : ChunksOk (newChunks st) := by
  have hmax : 0 < maxLen := by decide
  exact chunksOf_bounds maxLen hmax (takeN st) _

/-! ### the invariant of a responder run (no upgrade) -/

/-- lighttpd's own bookkeeping: the chunks `cs` are framed behind `Hb` (`head role params`), `term` follows
    them in hctx->wb, `fut` are the announced body bytes not yet arrived; wb_reqlen exceeds what is
    queued by exactly the body bytes still owed (in the request-body queue, or not arrived). -/
structure Inv (Hb body term : Bytes) (st : St) (cs : List Bytes) (fut : Bytes) : Prop where
  ok : ChunksOk cs
  split : cs.flatten ++ (st.pending ++ fut) = body
  out : st.out = Hb ++ stdinRecs 1 cs ++ term
  reqlen : st.reqlen = ((st.out.length + (st.pending ++ fut).length : Nat) : Int)

/-- what follows the STDIN records in hctx->wb: the empty STDIN record once no body byte is owed
    (lighttpd tests `wb.bytes_in == wb_reqlen`) -/
def closing (owed : Bytes) : Bytes := if owed = [] then header tStdin 1 0 0 else []

theorem inv_stdinAppend {Hb body : Bytes} {st : St} {cs : List Bytes} {fut : Bytes}
    (h : Inv Hb body [] st cs fut) :
    Inv Hb body (closing ((stdinAppend false false st).pending ++ fut)) (stdinAppend false false st)
      (cs ++ newChunks st) fut ∧
    (stdinAppend false false st).pending = st.pending.drop (takeN st) := by
  obtain ⟨hok, hsplit, hout, hreq⟩ := h
  rw [List.append_nil] at hout
  have hst := stdinAppend_resp st (by rw [hreq]; omega) (by rw [hreq]; omega)
  have hflat := newChunks_flatten st
  have hn : takeN st ≤ st.pending.length := Nat.min_le_left _ _
  have hpend : (stdinAppend false false st).pending = st.pending.drop (takeN st) := by
    rw [hst]; split <;> rfl
  have hlen1 : (st.out ++ stdinRecs 1 (newChunks st)).length =
      st.out.length + 8 * (newChunks st).length + takeN st := by
    rw [List.length_append, stdinRecs_length, hflat, List.length_take]; omega
  -- this call closes the stream exactly when it leaves nothing owed
  have hiff : (((st.out ++ stdinRecs 1 (newChunks st)).length : Nat) : Int) =
      st.reqlen + ((8 * (newChunks st).length : Nat) : Int) ↔ st.pending.drop (takeN st) ++ fut = [] := by
    rw [hlen1, hreq, ← List.length_eq_zero_iff]
    simp only [List.length_append, List.length_drop]
    push_cast
    omega
  refine ⟨⟨fun c hc => (List.mem_append.mp hc).elim (hok c) (newChunks_ok st c), ?_, ?_, ?_⟩, hpend⟩
  · rw [hpend, List.flatten_append, hflat, ← hsplit]
    simp only [List.append_assoc]
    rw [← List.append_assoc (st.pending.take _), List.take_append_drop]
  · rw [hpend, stdinRecs_append, ← List.append_assoc, ← hout, hst, closing]
    split <;> rename_i hc
    · rw [if_pos (hiff.mp hc)]
    · rw [if_neg (fun e => hc (hiff.mpr e)), List.append_nil]
  · rw [hpend, hst]
    split <;> rename_i hc
    · have := hiff.mp hc
      simp only [this, List.length_nil, List.length_append, header_length] at hc ⊢
      push_cast at hc ⊢; omega
    · simp only [hlen1, hreq, List.length_append, List.length_drop]
      push_cast; omega

theorem inv_arrive {Hb body term : Bytes} {st : St} {cs : List Bytes} {seg fut : Bytes}
    (h : Inv Hb body term st cs (seg ++ fut)) :
    Inv Hb body term { st with pending := st.pending ++ seg } cs fut := by
  obtain ⟨h1, h2, h3, h4⟩ := h
  exact ⟨h1, by simpa only [List.append_assoc] using h2, h3, by simpa only [List.append_assoc] using h4⟩

/-- between the fcgi_stdin_append() calls -/
def RunInv (Hb body : Bytes) (st : St) (fut : Bytes) : Prop :=
  ∃ cs, Inv Hb body (closing (st.pending ++ fut)) st cs fut

theorem runInv_stdinAppend {Hb body : Bytes} {st : St} {fut : Bytes}
    (h : RunInv Hb body st fut) (hne : st.pending ≠ []) :
    RunInv Hb body (stdinAppend false false st) fut ∧
    (stdinAppend false false st).pending.length < st.pending.length := by
  obtain ⟨cs, h⟩ := h
  rw [closing, if_neg (fun e => hne (List.append_eq_nil_iff.mp e).1)] at h
  obtain ⟨h1, h2⟩ := inv_stdinAppend h
  refine ⟨⟨_, h1⟩, ?_⟩
  have hpos : 0 < st.pending.length := List.length_pos_iff.mpr hne
  have hm : 0 < Extracted.C09.maxWriteLimit := by decide
  rw [h2, List.length_drop, takeN]
  omega

theorem runInv_arrive {Hb body : Bytes} {st : St} {seg fut : Bytes}
    (h : RunInv Hb body st (seg ++ fut)) : RunInv Hb body (arrive false false st seg) fut := by
  obtain ⟨cs, h⟩ := h
  have h' : RunInv Hb body { st with pending := st.pending ++ seg } fut :=
    ⟨cs, by simpa only [List.append_assoc] using inv_arrive h⟩
  exact ite_ind (P := fun s => RunInv Hb body s fut) (fun _ => h') fun he =>
    (runInv_stdinAppend h' fun e => he (.inl (List.isEmpty_iff.mpr e))).1

theorem runInv_foldl {Hb body : Bytes} (segs : List Bytes) :
    ∀ (st : St) (fut : Bytes), RunInv Hb body st (segs.flatten ++ fut) →
      RunInv Hb body (segs.foldl (arrive false false) st) fut := by
  induction segs with
  | nil => intro st fut h; simpa using h
  | cons s tl ih =>
    intro st fut h
    exact ih _ _ (runInv_arrive (by simpa [List.append_assoc] using h))

theorem runInv_flush {Hb body fut : Bytes} :
    ∀ (fuel : Nat) (st : St), RunInv Hb body st fut → st.pending.length < fuel →
      RunInv Hb body (flush false false fuel st) fut ∧ (flush false false fuel st).pending = [] := by
  intro fuel
  induction fuel with
  | zero => intro st _ hlt; omega
  | succ f ih =>
    intro st h hlt
    unfold flush
    refine ite_ind (P := fun s => RunInv Hb body s fut ∧ s.pending = [])
      (fun he => ⟨h, he.elim List.isEmpty_iff.mp nofun⟩) fun he => ?_
    obtain ⟨h1, h2⟩ := runInv_stdinAppend h fun e => he (.inl (List.isEmpty_iff.mpr e))
    exact ih _ h1 (by omega)

theorem runInv_final {Hb body : Bytes} {st : St} (h : RunInv Hb body st []) (hp : st.pending = []) :
    ∃ cs, ChunksOk cs ∧ st.out = Hb ++ stdinRecs 1 cs ++ header tStdin 1 0 0 ∧ cs.flatten = body ∧
      st.reqlen = (st.out.length : Int) := by
  obtain ⟨cs, h1, h2, h3, h4⟩ := h
  rw [hp] at h2 h4
  rw [hp, closing, if_pos (List.append_nil _)] at h3
  exact ⟨cs, h1, h3, by simpa using h2, by simpa using h4⟩

/-! ### what the application decodes from the queued bytes -/

/-- a record as lighttpd sends it: request id 1 -/
def mkRec (t : Nat) (c : Bytes) : Rec := { type := t, reqId := 1, content := c }

theorem stdinRecs_wire (cs : List Bytes) : stdinRecs 1 cs = wire (cs.map (mkRec tStdin)) := by
  induction cs with
  | nil => simp [stdinRecs, wire]
  | cons c t ih =>
    simp only [stdinRecs, wire, List.flatMap_cons, List.map_cons, mkRec] at *
    rw [ih]

theorem header_eq_record (t : Nat) : header t 1 0 0 = record t 1 [] := by simp [record]

theorem takeStream_open (t : Nat) (cs : List Bytes) (h : ∀ c ∈ cs, c ≠ []) :
    takeStream t (cs.map (mkRec t)) = none := by
  induction cs with
  | nil => simp [takeStream]
  | cons c tl ih =>
    have hce := List.isEmpty_eq_false_iff.mpr (h c (by simp))
    have e1 : (mkRec t c).type = t := rfl
    have e2 : (mkRec t c).content = c := rfl
    simp only [List.map_cons, takeStream, e1, e2, ne_eq, not_true_eq_false, ↓reduceIte, hce,
      Bool.false_eq_true, ih (fun x hx => h x (by simp [hx]))]

theorem mkRec_ok (t : Nat) (c : Bytes) (ht : t < 256) (hc : c.length ≤ 65535) :
    (mkRec t c).ok ∧ (mkRec t c).reqId = 1 :=
  ⟨⟨ht, by simp [mkRec], hc⟩, rfl⟩

theorem decode_head (role : Nat) (env : List (Bytes × Bytes)) (henv : env ≠ [])
    (hfit : (nvPairs env).length ≤ maxLen) (rest : List Rec) (hrest : ∀ r ∈ rest, r.ok ∧ r.reqId = 1) :
    decode (head role (nvPairs env) ++ wire rest) =
      match takeStream tStdin rest with
      | some (body, []) => some { role := role % 256, flags := 0, env := env, stdin := body }
      | _ => none := by
  have hm : maxLen = 65535 := rfl
  -- records first, then the two streams
  have hw : head role (nvPairs env) ++ wire rest =
      wire (mkRec tBegin (beginBody role) :: mkRec tParams (nvPairs env) :: mkRec tParams [] :: rest) := by
    simp only [head, header_eq_record, wire, mkRec, List.flatMap_cons, List.append_assoc]
  rw [hw]
  generalize hrecs : (mkRec tBegin (beginBody role) :: mkRec tParams (nvPairs env) :: mkRec tParams [] ::
    rest) = recs
  have hall : ∀ r ∈ recs, r.ok ∧ r.reqId = 1 := by
    intro r hr
    rw [← hrecs] at hr
    simp only [List.mem_cons] at hr
    rcases hr with rfl | rfl | rfl | hr
    · exact mkRec_ok _ _ (by decide) (by simp [beginBody])
    · exact mkRec_ok _ _ (by decide) (by omega)
    · exact mkRec_ok _ _ (by decide) (by simp)
    · exact hrest r hr
  unfold decode
  rw [decodeRecords_wire recs (fun r hr => (hall r hr).1) _ (Nat.lt_succ_self _)]
  have hany : (recs.any fun r => decide (r.reqId ≠ (mkRec tBegin (beginBody role)).reqId)) = false := by
    rw [List.any_eq_false]
    intro r hr
    simp [(hall r hr).2, mkRec]
  rw [← hrecs] at hany ⊢
  have hb1 : (mkRec tBegin (beginBody role)).type = tBegin := rfl
  have hb2 : (mkRec tBegin (beginBody role)).content.length = 8 := by simp [mkRec, beginBody]
  have hb3 : (mkRec tBegin (beginBody role)).reqId = 1 := rfl
  simp only [hany]
  simp only [hb1, hb2, hb3, ne_eq, not_true_eq_false, Bool.false_eq_true, Nat.one_ne_zero,
    ↓reduceIte, or_self]
  have hpne : nvPairs env ≠ [] := by
    cases env with
    | nil => exact absurd rfl henv
    | cons a t => simp [nvPairs, nvPair, lenEnc_ne_nil]
  have hparams : takeStream tParams (mkRec tParams (nvPairs env) :: mkRec tParams [] :: rest) =
      some (nvPairs env, rest) := by
    have := takeStream_chunks tParams 1 [nvPairs env] rest
      (by intro c hc; simp only [List.mem_singleton] at hc; rw [hc]; exact hpne)
    simp only [List.map_cons, List.map_nil, List.cons_append, List.nil_append, List.flatten_cons,
      List.flatten_nil, List.append_nil] at this
    exact this
  rw [hparams]
  simp only
  have hlens : ∀ p ∈ env, p.1.length ≤ 0x7fffffff ∧ p.2.length ≤ 0x7fffffff := by
    intro p hp
    have hsub : (nvPair p.1 p.2).length ≤ (nvPairs env).length := by
      obtain ⟨a, b, rfl⟩ := List.append_of_mem hp
      simp only [nvPairs_eq, List.flatMap_append, List.flatMap_cons, List.length_append]
      omega
    have h1 : p.1.length ≤ (nvPair p.1 p.2).length := by simp [nvPair, List.length_append]; omega
    have h2 : p.2.length ≤ (nvPair p.1 p.2).length := by simp [nvPair, List.length_append]; omega
    omega
  rw [decodeNV_pairs env hlens _ (Nat.lt_succ_self _)]
  have h0 : (0 : UInt8).toNat = 0 := rfl
  have hr : role.toUInt8.toNat = role % 256 := by simp [Nat.toUInt8, UInt8.toNat_ofNat']
  rcases takeStream tStdin rest with _ | ⟨body, _ | _⟩ <;>
    simp [mkRec, beginBody, h0, hr]

theorem decode_closed (role : Nat) (hrole : role < 256) (env : List (Bytes × Bytes)) (henv : env ≠ [])
    (hfit : (nvPairs env).length ≤ maxLen) (cs : List Bytes) (hcs : ChunksOk cs) :
    decode (head role (nvPairs env) ++ stdinRecs 1 cs ++ header tStdin 1 0 0) =
      some { role := role, flags := 0, env := env, stdin := cs.flatten } := by
  have hm : maxLen = 65535 := rfl
  have hw : head role (nvPairs env) ++ stdinRecs 1 cs ++ header tStdin 1 0 0 =
      head role (nvPairs env) ++ wire (cs.map (mkRec tStdin) ++ [mkRec tStdin []]) := by
    simp only [stdinRecs_wire, header_eq_record, wire, mkRec, List.flatMap_append, List.flatMap_cons,
      List.flatMap_nil, List.append_nil, List.append_assoc]
  have hst : takeStream tStdin (cs.map (mkRec tStdin) ++ [mkRec tStdin []]) = some (cs.flatten, []) :=
    takeStream_chunks tStdin 1 cs [] (fun c hc => (hcs c hc).1)
  rw [hw, decode_head role env henv hfit, hst, Nat.mod_eq_of_lt hrole]
  intro r hr
  rcases List.mem_append.mp hr with hr | hr
  · obtain ⟨c, hc, rfl⟩ := List.mem_map.mp hr
    exact mkRec_ok _ _ (by decide) (by have := (hcs c hc).2; omega)
  · rw [List.mem_singleton.mp hr]
    exact mkRec_ok _ _ (by decide) (by simp)

theorem decode_open (role : Nat) (env : List (Bytes × Bytes)) (henv : env ≠ [])
    (hfit : (nvPairs env).length ≤ maxLen) (cs : List Bytes) (hcs : ChunksOk cs) :
    decode (head role (nvPairs env) ++ stdinRecs 1 cs) = none := by
  have hm : maxLen = 65535 := rfl
  rw [stdinRecs_wire, decode_head role env henv hfit, takeStream_open tStdin cs (fun c hc => (hcs c hc).1)]
  intro r hr
  obtain ⟨c, hc, rfl⟩ := List.mem_map.mp hr
  exact mkRec_ok _ _ (by decide) (by have := (hcs c hc).2; omega)

/-! ### the whole run: create_env, arrivals, flush -/

theorem foldl_arrive_authorizer (segs : List Bytes) : ∀ st : St,
    segs.foldl (arrive true false) st = { st with pending := st.pending ++ segs.flatten } := by
  induction segs with
  | nil => intro st; simp
  | cons s tl ih => intro st; simp [List.foldl_cons, arrive, ih, List.append_assoc]

/-- The root of the FastCGI results: a responder run where `missing` are the announced body bytes
    that never arrive (`[]`: complete request; otherwise truncated). -/
theorem run_inv (role : Nat) (hresp : role ≠ Extracted.C09.gwAuthorizer)
    (env : List (Bytes × Bytes)) (hfit : (nvPairs env).length ≤ maxLen)
    (seg0 : Bytes) (segs : List Bytes) (missing : Bytes) :
    ∃ st, run role false env ((((seg0 :: segs).flatten ++ missing).length : Nat) : Int) seg0 segs = some st ∧
      RunInv (head role (nvPairs env)) ((seg0 :: segs).flatten ++ missing) st missing ∧
      st.pending = [] := by
  have hauth : (decide (role = Extracted.C09.gwAuthorizer)) = false := by simp [hresp]
  rcases addAll_spec env [] (by decide) with ⟨h1, _⟩ | ⟨_, h2⟩
  · simp only [List.nil_append] at h1
    generalize hbody : (seg0 :: segs).flatten ++ missing = body
    let Hb := head role (nvPairs env)
    let st0 : St := { out := Hb, reqlen := ((Hb.length + body.length : Nat) : Int), pending := seg0 }
    have hce : createEnv role false env ((body.length : Nat) : Int) seg0 = some (stdinAppend false false st0) := by
      simp only [createEnv, h1, hauth]
      congr 2
      simp only [st0, Hb]
      congr 1
      by_cases hz : body.length = 0
      · simp [hz]
      · have : ((body.length : Nat) : Int) > 0 := by omega
        have hne : ¬ (((body.length : Nat) : Int) = 0) := by omega
        simp only [ne_eq, hne, not_false_eq_true, Bool.not_false, and_self, ↓reduceIte, this]
        push_cast; rfl
    have h0 : Inv Hb body [] st0 [] (segs.flatten ++ missing) :=
      ⟨nofun, by rw [← hbody]; simp [st0], by simp [st0, stdinRecs], by simp [st0, ← hbody]⟩
    obtain ⟨hinv3, hp3⟩ := runInv_flush (_ + 1) _ (runInv_foldl segs _ missing ⟨_, (inv_stdinAppend h0).1⟩)
      (Nat.lt_succ_self _)
    exact ⟨_, by simp only [run, hce, hauth], hinv3, hp3⟩
  · simp only [List.nil_append] at h2
    omega

end LtVerif.Fcgi
