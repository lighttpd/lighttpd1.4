/-
  Lemmas for C20 about Model/BurlAppend.lean and Model/KeyValue.lean, and the flag-level reference
  interpreter of templates (`Tok`, `interpret`) that pcre_keyvalue_buffer_subst is proved equal to.
-/
import LtVerif.Model.KeyValue
import LtVerif.Proofs.Bytes
namespace LtVerif
open B

/-! ### templates: modifiers, tokens and the flag-level reference interpreter -/

inductive Modifier
  | esc | escape | escnde | escpsnde | noesc | noescape | tolower | toupper | encb64u | decb64u
deriving Repr, DecidableEq

def Modifier.name : Modifier → Bytes
  | .esc => ofString "esc:" | .escape => ofString "escape:" | .escnde => ofString "escnde:"
  | .escpsnde => ofString "escpsnde:" | .noesc => ofString "noesc:" | .noescape => ofString "noescape:"
  | .tolower => ofString "tolower:" | .toupper => ofString "toupper:" | .encb64u => ofString "encb64u:"
  | .decb64u => ofString "decb64u:"

/-- the recoding a modifier is documented to select (burl.h flag) -/
def Modifier.flag : Modifier → Nat
  | .esc => Extracted.burlEncodeAll | .escape => Extracted.burlEncodeAll | .escnde => Extracted.burlEncodeNde
  | .escpsnde => Extracted.burlEncodePsnde | .noesc => Extracted.burlEncodeNone
  | .noescape => Extracted.burlEncodeNone | .tolower => Extracted.burlToLower
  | .toupper => Extracted.burlToUpper | .encb64u => Extracted.burlEncodeB64u
  | .decb64u => Extracted.burlDecodeB64u

/-- the recoding keyvalue.c selects for the modifier: the flag *extracted from the C function* -/
def Modifier.kvFlag : Modifier → Nat
  | .esc => Extracted.kvMod_esc | .escape => Extracted.kvMod_escape | .escnde => Extracted.kvMod_escnde
  | .escpsnde => Extracted.kvMod_escpsnde | .noesc => Extracted.kvMod_noesc
  | .noescape => Extracted.kvMod_noescape | .tolower => Extracted.kvMod_tolower
  | .toupper => Extracted.kvMod_toupper | .encb64u => Extracted.kvMod_encb64u
  | .decb64u => Extracted.kvMod_decb64u

/-- keyvalue.c's modifier -> recoding map is the documented one (and captures default to escpsnde) -/
def ModifierMapAsDocumented : Prop :=
  (∀ m : Modifier, m.kvFlag = m.flag) ∧ Extracted.kvMod_default = Extracted.burlEncodePsnde ∧
  -- a case modifier on its own does not suppress the default encoding of a capture
  Extracted.kvMod_bare_tolower = Extracted.burlToLower ||| Extracted.burlEncodePsnde ∧
  Extracted.kvMod_bare_toupper = Extracted.burlToUpper ||| Extracted.burlEncodePsnde

theorem ModifierMapAsDocumented.flag (h : ModifierMapAsDocumented) (m : Modifier) : m.kvFlag = m.flag := h.1 m

theorem ModifierMapAsDocumented.default (h : ModifierMapAsDocumented) :
    Extracted.kvMod_default = Extracted.burlEncodePsnde := h.2.1

def documentedModifiers : List (Bytes × Nat) :=
  [Modifier.esc, .escape, .escnde, .escpsnde, .noesc, .noescape, .tolower, .toupper, .encb64u, .decb64u].map
    fun m => (m.name, m.flag)

inductive Item
  | cap (d : UInt8)
  | cap2 (d1 d2 : UInt8)
  | scheme | authority | port | path | query | qsa
deriving Repr, DecidableEq

def Item.render : Item → Bytes
  | .cap d => [d]
  | .cap2 d1 d2 => [d1, d2]
  | .scheme => ofString "url.scheme" | .authority => ofString "url.authority" | .port => ofString "url.port"
  | .path => ofString "url.path" | .query => ofString "url.query" | .qsa => ofString "qsa"

inductive Tok
  | lit (s : Bytes)                                        -- text without '$' and '%'
  | sigil (c : UInt8)                                      -- "$$" / "%%": a literal '$' / '%'
  | raw (c d : UInt8)                                      -- $N / %N
  | ext (c : UInt8) (mods : List Modifier) (item : Item)   -- ${mod:...:item} / %{mod:...:item}
deriving Repr, DecidableEq

def Tok.render : Tok → Bytes
  | .lit s => s
  | .sigil c => [c, c]
  | .raw c d => [c, d]
  | .ext c mods item => c :: lbrace :: (mods.flatMap Modifier.name ++ item.render ++ [rbrace])

def isSigil (c : UInt8) : Bool := c = dollar || c = pct

def Item.WF : Item → Prop
  | .cap d => isDigit d = true
  | .cap2 d1 d2 => isDigit d1 = true ∧ isDigit d2 = true
  | _ => True

def Tok.WF : Tok → Prop
  | .lit s => ∀ c ∈ s, isSigil c = false
  | .sigil c => isSigil c = true
  | .raw c d => isSigil c = true ∧ isDigit d = true
  | .ext c _ item => isSigil c = true ∧ item.WF

/-- second component: the bytes behind the capture (`look`, which `burlAppend` ignores by definition) -/
def capOf (env : Env) (c : UInt8) (n : Nat) : Bytes × Bytes :=
  if c = dollar then env.rule.get n
  else match env.cond with
    | some cd => cd.get n
    | none => ([], [])

def Item.apply (env : Env) (c : UInt8) (fl : Nat) : Item → Bytes → Bytes
  | .cap d, out =>
    out ++ burlAppend (capFlags fl) (capOf env c (d.toNat - 48)).1 (capOf env c (d.toNat - 48)).2
  | .cap2 d1 d2, out =>
    out ++ burlAppend (capFlags fl) (capOf env c ((d1.toNat - 48) * 10 + (d2.toNat - 48))).1
             (capOf env c ((d1.toNat - 48) * 10 + (d2.toNat - 48))).2
  | .scheme, out => out ++ burlAppend fl (env.url.scheme.getD []) []
  | .authority, out => out ++ burlAppend fl (env.url.authority.getD []) []
  | .port, out => out ++ natToDec env.url.port
  | .path, out =>
    out ++ burlAppend fl (env.url.path.takeWhile (· ≠ qmark))
             (env.url.path.drop (env.url.path.takeWhile (· ≠ qmark)).length)
  | .query, out => out ++ burlAppend fl (env.url.query.getD []) []
  | .qsa, out => qsaAppend env.url fl out

def flagsOf (mods : List Modifier) : Nat := mods.foldl (fun f m => f ||| m.flag) 0

def Tok.interp (env : Env) : Tok → Bytes → Bytes
  | .lit s, out => out ++ s
  | .sigil c, out => out ++ [c]
  | .raw c d, out => out ++ (capOf env c (d.toNat - 48)).1
  | .ext c mods item, out => item.apply env c (mods.foldl (fun f m => f ||| m.flag) 0) out

/-- flag level; the name-level interpreter is `Spec.interpret` (KeyValueSpec) -/
def interpret (env : Env) (toks : List Tok) (out : Bytes) : Bytes :=
  toks.foldl (fun o tk => tk.interp env o) out

/-! ### base64url round trip -/

theorem b64u_tables_inverse :
    ∀ n : Fin 64, b64uRev (b64uChar n.val) = (n.val : Int) ∧ b64uChar n.val ≠ 0 := by decide +kernel

theorem b64uDecGo_digit (n : Nat) (rest : Bytes) (acc i : Nat) (out : Bytes) :
    b64uDecGo (b64uChar (n % 64) :: rest) acc i out =
      if i = 3 then
        b64uDecGo rest 0 0
          (out ++ [((acc * 64 + n % 64) / 65536 % 256).toUInt8, ((acc * 64 + n % 64) / 256 % 256).toUInt8,
                   ((acc * 64 + n % 64) % 256).toUInt8])
      else b64uDecGo rest (acc * 64 + n % 64) (i + 1) out := by
  have hn : n % 64 < 64 := Nat.mod_lt _ (by decide)
  generalize n % 64 = m at hn
  obtain ⟨h1, h2⟩ := b64u_tables_inverse ⟨m, hn⟩
  simp only at h1 h2
  rw [b64uDecGo]
  simp only [h1]
  have e1 : ((m : Int) = -2) = False := eq_false (by omega)
  have e2 : ((m : Int) = -3) = False := eq_false (by omega)
  have e3 : ((m : Int) < 0) = False := eq_false (by omega)
  simp [e1, e2, e3, h2]

theorem toUInt8_toNat (x : UInt8) : (x.toNat).toUInt8 = x := by simp

theorem b64_digits4 (v : Nat) (h : v < 16777216) :
    (((0 * 64 + v / 262144 % 64) * 64 + v / 4096 % 64) * 64 + v / 64 % 64) * 64 + v % 64 = v := by
  omega

theorem b64_digits3 (v : Nat) (h : v < 262144) :
    ((0 * 64 + v / 4096 % 64) * 64 + v / 64 % 64) * 64 + v % 64 = v := by
  omega

theorem b64_digits2 (v : Nat) (h : v < 4096) : (0 * 64 + v / 64 % 64) * 64 + v % 64 = v := by
  omega

theorem b256_bytes (a b c : Nat) (ha : a < 256) (hb : b < 256) (hc : c < 256) :
    (a * 65536 + b * 256 + c) / 65536 % 256 = a ∧ (a * 65536 + b * 256 + c) / 256 % 256 = b ∧
    (a * 65536 + b * 256 + c) % 256 = c := by
  omega

theorem b64uDecGo_enc (x : Bytes) : ∀ out : Bytes, b64uDecGo (b64uEnc x) 0 0 out = out ++ x := by
  induction x using b64uEnc.induct with
  | case1 => intro out; simp [b64uEnc, b64uDecGo, b64Finish]
  | case2 a =>
    intro out
    have ha := a.toNat_lt
    simp only [b64uEnc]
    rw [b64uDecGo_digit, if_neg (by decide), b64uDecGo_digit, if_neg (by decide)]
    simp only [b64uDecGo, b64Finish, b64_digits2 (a.toNat * 16) (by omega)]
    have : a.toNat * 16 / 16 % 256 = a.toNat := by omega
    simp
  | case3 a b =>
    intro out
    have ha := a.toNat_lt
    have hb := b.toNat_lt
    simp only [b64uEnc]
    rw [b64uDecGo_digit, if_neg (by decide), b64uDecGo_digit, if_neg (by decide),
        b64uDecGo_digit, if_neg (by decide)]
    simp only [b64uDecGo, b64Finish, b64_digits3 (a.toNat * 1024 + b.toNat * 4) (by omega)]
    have e1 : (a.toNat * 1024 + b.toNat * 4) / 1024 % 256 = a.toNat := by omega
    have e2 : (a.toNat * 1024 + b.toNat * 4) / 4 % 256 = b.toNat := by omega
    simp [e1, e2]
  | case4 a b c rest ih =>
    intro out
    have ha := a.toNat_lt
    have hb := b.toNat_lt
    have hc := c.toNat_lt
    obtain ⟨e1, e2, e3⟩ := b256_bytes _ _ _ ha hb hc
    simp only [b64uEnc]
    rw [b64uDecGo_digit, if_neg (by decide), b64uDecGo_digit, if_neg (by decide),
        b64uDecGo_digit, if_neg (by decide), b64uDecGo_digit, if_pos rfl]
    simp only [b64_digits4 (a.toNat * 65536 + b.toNat * 256 + c.toNat) (by omega)]
    rw [ih]
    simp [e1, e2, e3]

/-! ### percent-encoding -/

def isUCHex (b : UInt8) : Bool := isDigit b || ((65 : UInt8) ≤ b && b ≤ (70 : UInt8))

inductive PctSafe : Bytes → Prop
  | nil : PctSafe []
  | unres {b : UInt8} {rest : Bytes} : isUnreserved b = true → PctSafe rest → PctSafe (b :: rest)
  | enc {h l : UInt8} {rest : Bytes} :
      isUCHex h = true → isUCHex l = true → PctSafe rest → PctSafe (pct :: h :: l :: rest)

theorem pctEnc_table : ∀ b : UInt8,
    isUCHex (hexDigitUC (b >>> 4)) = true ∧ isUCHex (hexDigitUC (b &&& 0xf)) = true ∧
    ((hexVal (hexDigitUC (b >>> 4))).getD 0 <<< 4 ||| (hexVal (hexDigitUC (b &&& 0xf))).getD 0) = b := by
  apply forall_uint8; decide +kernel

theorem encAll_cons (b : UInt8) (s : Bytes) :
    encAll (b :: s) = (if isUnreserved b then [b] else pctEnc b) ++ encAll s := by
  simp [encAll]

theorem encAll_safe (s : Bytes) : PctSafe (encAll s) := by
  induction s with
  | nil => exact .nil
  | cons b s ih =>
    rw [encAll_cons]
    by_cases hb : isUnreserved b = true
    · simp only [hb, if_true, List.singleton_append]; exact .unres hb ih
    · simp only [hb, pctEnc]
      exact .enc (pctEnc_table b).1 (pctEnc_table b).2.1 ih

/-! ### case mapping -/

inductive NoUpperOutsidePct : Bytes → Prop
  | nil : NoUpperOutsidePct []
  | byte {b : UInt8} {rest : Bytes} : isUpper b = false → NoUpperOutsidePct rest → NoUpperOutsidePct (b :: rest)
  | triplet {h l : UInt8} {rest : Bytes} :
      isXDigit h = true → isXDigit l = true → NoUpperOutsidePct rest → NoUpperOutsidePct (pct :: h :: l :: rest)

inductive NoLowerOutsidePct : Bytes → Prop
  | nil : NoLowerOutsidePct []
  | byte {b : UInt8} {rest : Bytes} : isLower b = false → NoLowerOutsidePct rest → NoLowerOutsidePct (b :: rest)
  | triplet {h l : UInt8} {rest : Bytes} :
      isXDigit h = true → isXDigit l = true → NoLowerOutsidePct rest → NoLowerOutsidePct (pct :: h :: l :: rest)

theorem case_table : ∀ b : UInt8,
    isUpper (toLower b) = false ∧ isLower (toUpper b) = false ∧ toLower (toUpper b) = toLower b := by
  apply forall_uint8; decide +kernel

/-! ### burl_append -/

theorem burlAppend_zero (s look : Bytes) : burlAppend 0 s look = s := by
  unfold burlAppend
  by_cases h : s = [] <;> simp [h]

theorem burlAppend_nil (flags : Nat) (look : Bytes) : burlAppend flags [] look = [] := by
  simp [burlAppend]

theorem cstr_eq_self : ∀ (b : Bytes), (0 : UInt8) ∉ b → cstr b = b
  | [], _ => rfl
  | x :: rest, h => by
    have hx : x ≠ 0 := fun e => h (by simp [e])
    have hr : (0 : UInt8) ∉ rest := fun e => h (by simp [e])
    simp [cstr, hx, cstr_eq_self rest hr]

/-! ### template substitution -/

theorem substGo_skip (env : Env) : ∀ (l : Bytes) (k : Nat) (out : Bytes),
    substGo env l k out = substGo env (l.drop k) 0 out := by
  intro l
  induction l with
  | nil => intro k out; simp [substGo]
  | cons c rest ih =>
    intro k out
    cases k with
    | zero => simp
    | succ k => simp [substGo, ih]

theorem substGo_plain (env : Env) (c : UInt8) (t out : Bytes) (hc : isSigil c = false) :
    substGo env (c :: t) 0 out = substGo env t 0 (out ++ [c]) := by
  conv => lhs; unfold substGo
  simp only [isSigil, Bool.or_eq_false_iff, decide_eq_false_iff_not] at hc
  simp [hc]

theorem substGo_literal (env : Env) (lit : Bytes) : ∀ (t out : Bytes), (∀ c ∈ lit, isSigil c = false) →
    substGo env (lit ++ t) 0 out = substGo env t 0 (out ++ lit) := by
  induction lit with
  | nil => intro t out _; simp
  | cons c rest ih =>
    intro t out h
    rw [List.cons_append, substGo_plain env c _ _ (h c (by simp)), ih t _ (fun x hx => h x (by simp [hx]))]
    simp

theorem substGo_brace (env : Env) (c : UInt8) (hc : isSigil c = true) (p out : Bytes) :
    substGo env (c :: lbrace :: p) 0 out =
      match substExt env c out p with
      | none => out
      | some (out', k) => substGo env (p.drop k) 0 out' := by
  conv => lhs; unfold substGo
  simp only [isSigil] at hc
  simp only [hc, if_true, List.drop_one, List.tail_cons]
  cases substExt env c out p with
  | none => rfl
  | some r => obtain ⟨out', k⟩ := r; simp [substGo_skip env (lbrace :: p) (k + 1)]

theorem substGo_pair (env : Env) (c d : UInt8) (t out : Bytes) (hc : isSigil c = true)
    (hd : isDigit d = false) (hb : d ≠ lbrace) :
    substGo env (c :: d :: t) 0 out = substGo env t 0 (out ++ (if c = d then [c] else [c, d])) := by
  conv => lhs; unfold substGo
  simp only [isSigil] at hc
  simp only [hc, if_true, hb, hd, if_false, Bool.false_eq_true]
  rw [substGo_skip]; rfl

theorem capAppend_eq (env : Env) (c : UInt8) (n fl : Nat) :
    capAppend env c n fl = burlAppend fl (capOf env c n).1 (capOf env c n).2 := by
  unfold capAppend capOf
  by_cases hc : c = dollar
  · simp [hc]
  · simp only [hc, if_false]
    cases env.cond with
    | none => simp [burlAppend_nil]
    | some cd => simp

theorem substGo_digit (env : Env) (c d : UInt8) (t out : Bytes) (hc : isSigil c = true) (hd : isDigit d = true) :
    substGo env (c :: d :: t) 0 out = substGo env t 0 (out ++ (capOf env c (d.toNat - 48)).1) := by
  have hb : d ≠ lbrace := by
    intro e; subst e; exact absurd hd (by decide)
  conv => lhs; unfold substGo
  simp only [isSigil] at hc
  simp only [hc, if_true, hb, hd, if_false]
  rw [substGo_skip, capAppend_eq, burlAppend_zero]; rfl

theorem extGo_modifier (m : Modifier) (env : Env) (sigil : UInt8) (out p : Bytes) (pos fl : Nat) :
    extGo env sigil out (m.name ++ p) 0 pos fl = extGo env sigil out p 0 (pos + m.name.length) (fl ||| m.kvFlag) := by
  cases m <;> rfl

theorem extGo_modifiers (env : Env) (sigil : UInt8) (out p : Bytes) :
    ∀ (mods : List Modifier) (pos fl : Nat),
      extGo env sigil out (mods.flatMap Modifier.name ++ p) 0 pos fl =
        extGo env sigil out p 0 (pos + (mods.flatMap Modifier.name).length)
          (mods.foldl (fun f m => f ||| m.kvFlag) fl) := by
  intro mods
  induction mods with
  | nil => intro pos fl; simp
  | cons m ms ih =>
    intro pos fl
    simp only [List.flatMap_cons, List.append_assoc, List.foldl_cons, List.length_append]
    rw [extGo_modifier, ih]
    congr 1
    omega

theorem extNumber_one (d : UInt8) (t : Bytes) : extNumber (d :: rbrace :: t) = some (d.toNat - 48, 1) := rfl

theorem extNumber_two (d1 d2 : UInt8) (t : Bytes) (h : isDigit d2 = true) :
    extNumber (d1 :: d2 :: rbrace :: t) = some ((d1.toNat - 48) * 10 + (d2.toNat - 48), 2) := by
  simp only [extNumber, h, if_true]; rfl

theorem burlAppend_getD (fl : Nat) (o : Option Bytes) :
    burlAppend fl (o.getD []) [] = match o with | some s => burlAppend fl s [] | none => [] := by
  cases o with
  | none => exact burlAppend_nil fl []
  | some s => rfl

theorem extGo_item (env : Env) (c : UInt8) (out t : Bytes) (pos fl : Nat) (item : Item) (hw : item.WF) :
    extGo env c out (item.render ++ rbrace :: t) 0 pos fl =
      some (item.apply env c fl out, pos + item.render.length + 1) := by
  cases item with
  | cap d =>
    simp only [Item.render, List.cons_append, List.nil_append, extGo, show isDigit d = true from hw, if_true,
      extNumber_one, capAppend_eq, Item.apply]
    rfl
  | cap2 d1 d2 =>
    simp only [Item.render, List.cons_append, List.nil_append, extGo, show isDigit d1 = true from hw.1, if_true,
      extNumber_two _ _ _ hw.2, capAppend_eq, Item.apply]
    rfl
  | scheme => simp only [Item.apply, burlAppend_getD]; rfl
  | authority => simp only [Item.apply, burlAppend_getD]; rfl
  | port => rfl
  | path => rfl
  | query => simp only [Item.apply, burlAppend_getD]; rfl
  | qsa => rfl

theorem substGo_tok (hmap : ModifierMapAsDocumented) (env : Env) (tk : Tok) (hw : tk.WF) (t out : Bytes) :
    substGo env (tk.render ++ t) 0 out = substGo env t 0 (tk.interp env out) := by
  cases tk with
  | lit s => exact substGo_literal env s t out hw
  | sigil c =>
    have hd : isDigit c = false ∧ c ≠ lbrace := by
      rcases Bool.or_eq_true _ _ ▸ (show isSigil c = true from hw) with h | h <;>
        simp only [decide_eq_true_eq] at h <;> subst h <;> decide
    exact (substGo_pair env c c t out hw hd.1 hd.2).trans (by rw [if_pos rfl]; rfl)
  | raw c d => exact substGo_digit env c d t out hw.1 hw.2
  | ext c mods item =>
    obtain ⟨hc, hi⟩ := hw
    simp only [Tok.render, List.cons_append, List.append_assoc, Tok.interp]
    rw [substGo_brace env c hc]
    simp only [substExt, List.nil_append]
    rw [extGo_modifiers, extGo_item env c out t _ _ item hi]
    simp only [hmap.flag]
    have hl : (mods.flatMap Modifier.name ++ item.render ++ [rbrace]).length =
        0 + (mods.flatMap Modifier.name).length + item.render.length + 1 := by
      simp only [List.length_append, List.length_cons, List.length_nil]; omega
    have hs : mods.flatMap Modifier.name ++ (item.render ++ rbrace :: t) =
        (mods.flatMap Modifier.name ++ item.render ++ [rbrace]) ++ t := by simp
    rw [hs, ← hl, List.drop_left]

theorem substGo_interpret (hmap : ModifierMapAsDocumented) (env : Env) :
    ∀ (toks : List Tok), (∀ tk ∈ toks, tk.WF) → ∀ (t out : Bytes),
    substGo env (toks.flatMap Tok.render ++ t) 0 out = substGo env t 0 (interpret env toks out) := by
  intro toks
  induction toks with
  | nil => intro _ t out; simp [interpret]
  | cons tk rest ih =>
    intro hw t out
    simp only [List.flatMap_cons, List.append_assoc, interpret, List.foldl_cons]
    rw [substGo_tok hmap env tk (hw tk (by simp))]
    exact ih (fun x hx => hw x (by simp [hx])) t _

/-! ### first match -/

theorem processFrom_skip (cond : Option Caps) (url : UrlParts) (subject : Bytes) :
    ∀ (pre rest : List (Bytes × MatchRes)) (base : Nat), (∀ r ∈ pre, r.2 = .nomatch) →
    processFrom cond url subject (pre ++ rest) base = processFrom cond url subject rest (base + pre.length) := by
  intro pre
  induction pre with
  | nil => intro rest base _; simp
  | cons r pre ih =>
    intro rest base h
    obtain ⟨t, m⟩ := r
    have hm : m = .nomatch := h (t, m) (by simp)
    subst hm
    rw [List.cons_append, processFrom, ih rest (base + 1) (fun r hr => h r (by simp [hr]))]
    simp only [List.length_cons]
    congr 1
    omega

theorem process_skip (cond : Option Caps) (url : UrlParts) (subject : Bytes) (pre rest : List (Bytes × MatchRes))
    (h : ∀ r ∈ pre, r.2 = .nomatch) :
    process cond url subject (pre ++ rest) = processFrom cond url subject rest pre.length := by
  rw [process, processFrom_skip cond url subject pre rest 0 h, Nat.zero_add]

/-! ### rewrite loop -/

/-- calls of process_rewrite_rules that can still happen from a state: the counter may pass the limit
    once (that call reports the loop), and the first call of a request has no state to count in -/
def rwBudget : Option RwState → Nat
  | none => rwLoopLimit + 2
  | some st => rwLoopLimit + 1 - st.count

theorem rwCall_comeback {ridx : Nat} {cond : Option Caps} {url : UrlParts}
    {rules : List (Bytes × MatchRes)} {h h' : Option RwState} {t' : Bytes}
    (hc : rwCall ridx cond url rules h = (.comeback t', h')) :
    ∃ m, process cond url url.path rules = .finished m t' ∧
      (∀ st, h = some st → st.count + 1 ≤ rwLoopLimit) ∧
      h' = some { count := (h.map (·.count + 1)).getD 0, finished := decide (m < ridx) } := by
  have body : ∀ {h1 : Option RwState}, rwCall.body ridx cond url rules h1 = (.comeback t', h') →
      ∃ m, process cond url url.path rules = .finished m t' ∧
        h' = some { count := (h1.getD { count := 0, finished := false }).count,
                    finished := (h1.getD { count := 0, finished := false }).finished || decide (m < ridx) } := by
    intro h1 hb
    unfold rwCall.body at hb
    split at hb
    · rename_i m res hp
      split at hb
      · cases hb; exact ⟨m, hp, rfl⟩
      · cases hb
    · cases hb
    · cases hb
  unfold rwCall at hc
  cases h with
  | none =>
    obtain ⟨m, hp, hh⟩ := body hc
    exact ⟨m, hp, nofun, by simpa using hh⟩
  | some st =>
    simp only [Option.map_some] at hc
    split at hc
    · cases hc
    · rename_i hlim
      split at hc
      · cases hc
      · rename_i hfin
        obtain ⟨m, hp, hh⟩ := body hc
        refine ⟨m, hp, fun st' e => by cases e; omega, ?_⟩
        simpa [Bool.eq_false_iff.mpr hfin] using hh

theorem rwCall_first {ridx : Nat} {cond : Option Caps} {url : UrlParts} {rules : List (Bytes × MatchRes)}
    {m : Nat} {t : Bytes} (hp : process cond url url.path rules = .finished m t) (ht : t.head? = some slash) :
    rwCall ridx cond url rules none = (.comeback t, some { count := 0, finished := decide (m < ridx) }) := by
  simp only [rwCall, Option.map_none, rwCall.body, hp, ht, if_true, Option.getD_none, Bool.false_or]

theorem comeback_budget {ridx : Nat} {cond : Option Caps} {url : UrlParts}
    {rules : List (Bytes × MatchRes)} {h h' : Option RwState} {t' : Bytes}
    (hc : rwCall ridx cond url rules h = (.comeback t', h')) :
    rwBudget h' + 1 ≤ rwBudget h ∧ 1 ≤ rwBudget h' := by
  obtain ⟨m, _, hl, rfl⟩ := rwCall_comeback hc
  cases h with
  | none => exact ⟨Nat.le_refl _, Nat.le_add_left 1 100⟩
  | some st =>
    have := hl st rfl
    simp only [rwBudget, Option.map_some, Option.getD_some]
    omega

theorem rwCall_goOn {ridx : Nat} {cond : Option Caps} {url : UrlParts}
    {rules : List (Bytes × MatchRes)} {h h1 : Option RwState}
    (hc : rwCall ridx cond url rules h = (.goOn, h1)) : rwBudget h1 ≤ rwBudget h := by
  -- every exit but COMEBACK hands back the state with the counter stepped
  have e : h1 = h.map fun st => { st with count := st.count + 1 } := by
    unfold rwCall rwCall.body at hc
    cases h <;> simp only [Option.map_none, Option.map_some] at hc <;> (repeat' split at hc) <;> cases hc <;> rfl
  subst e
  cases h with
  | none => exact Nat.le_refl _
  | some st => exact Nat.sub_le_sub_left (Nat.le_succ _) _

theorem rwUri_goOn {ridx : Nat} {cond : Option Caps} {url : UrlParts}
    {rules : List (Bytes × MatchRes)} {h h1 : Option RwState}
    (hc : rwUri ridx cond url rules h = (.goOn, h1)) : rwBudget h1 ≤ rwBudget h := by
  unfold rwUri at hc
  split at hc
  · cases hc; exact Nat.le_refl _
  · exact rwCall_goOn hc

theorem rwUri_comeback {ridx : Nat} {cond : Option Caps} {url : UrlParts}
    {rules : List (Bytes × MatchRes)} {h h' : Option RwState} {t' : Bytes}
    (hc : rwUri ridx cond url rules h = (.comeback t', h')) :
    rwCall ridx cond url rules h = (.comeback t', h') := by
  unfold rwUri at hc
  split at hc
  · cases hc
  · exact hc

theorem rwPhysical_comeback {hs : Bool} {kind : FsKind} {ridx : Nat} {cond : Option Caps} {url : UrlParts}
    {rules : List (Bytes × MatchRes)} {h h' : Option RwState} {t' : Bytes}
    (hc : rwPhysical hs kind ridx cond url rules h = (.comeback t', h')) :
    rwCall ridx cond url rules h = (.comeback t', h') := by
  unfold rwPhysical at hc
  repeat' split at hc
  · cases hc
  · cases hc
  · cases hc
  · exact hc

def RwFinal.rewrites : RwFinal → Nat
  | .served _ n => n
  | .status _ n => n
  | .failed _ n => n
  | .outOfFuel => 0

/-- `r'`: the run with more fuel; `b`: bound on the rewrites of the ended run -/
def Ends (r' r : RwFinal) (b : Nat) : Prop := r' = r ∧ r ≠ .outOfFuel ∧ r.rewrites ≤ b

theorem Ends.mono {r' r : RwFinal} {b b' : Nat} (h : Ends r' r b) (hb : b ≤ b') : Ends r' r b' :=
  ⟨h.1, h.2.1, Nat.le_trans h.2.2 hb⟩

theorem ends_again {opts : Opts} {t' : Bytes} {n b : Nat} {f' f : Bytes → RwFinal} (hn : n + 1 ≤ b)
    (hf : ∀ tg, Ends (f' tg) (f tg) b) :
    Ends (match parseTarget opts false t' with | .error e => RwFinal.status e (n + 1) | .ok tg => f' tg.target)
      (match parseTarget opts false t' with | .error e => RwFinal.status e (n + 1) | .ok tg => f tg.target) b := by
  cases parseTarget opts false t' with
  | error e => exact ⟨rfl, nofun, hn⟩
  | ok tg => exact hf tg.target

/-- a state with budget `b` allows `b - 1` more rewrites (the last call ends the run) -/
theorem rwRun_bounded (matcher : Bytes → List MatchRes) (templates : List Bytes) (ridx : Nat)
    (cond : Option Caps) (opts : Opts) (scheme authority serverName : Bytes) (port : Nat) :
    ∀ (fuel : Nat) (target : Bytes) (h : Option RwState) (n k : Nat),
      1 ≤ rwBudget h → rwBudget h ≤ fuel →
      Ends (rwRun matcher templates ridx cond opts scheme authority serverName port (fuel + k) target h n)
        (rwRun matcher templates ridx cond opts scheme authority serverName port fuel target h n)
        (n + rwBudget h - 1) := by
  intro fuel
  induction fuel with
  | zero => intro target h n k hc hb; omega
  | succ fuel ih =>
    intro target h n k hc hb
    rw [show fuel + 1 + k = (fuel + k) + 1 by omega]
    simp only [rwRun]
    generalize hr : rwCall ridx cond (requestUrl scheme authority serverName port target)
      (templates.zip (matcher target)) h = r
    obtain ⟨res, h'⟩ := r
    cases res with
    | comeback t' =>
      obtain ⟨b1, b2⟩ := comeback_budget hr
      exact ends_again (by omega) fun tg => (ih tg h' (n + 1) k b2 (by omega)).mono (by omega)
    | goOn | loopError | invalidResult | pcreError => exact ⟨rfl, nofun, by show n ≤ _; omega⟩

theorem rwRunG_bounded (pass : Bytes → RwPass) (opts : Opts) (scheme authority serverName : Bytes) (port : Nat) :
    ∀ (fuel : Nat) (target : Bytes) (h : Option RwState) (n k : Nat),
      1 ≤ rwBudget h → rwBudget h ≤ fuel →
      Ends (rwRunG pass opts scheme authority serverName port (fuel + k) target h n)
        (rwRunG pass opts scheme authority serverName port fuel target h n) (n + rwBudget h - 1) := by
  intro fuel
  induction fuel with
  | zero => intro target h n k hc hb; omega
  | succ fuel ih =>
    intro target h n k hc hb
    rw [show fuel + 1 + k = (fuel + k) + 1 by omega]
    simp only [rwRunG]
    generalize hu : rwUri (pass target).uriIdx (pass target).cond
      (requestUrl scheme authority serverName port target) (pass target).uriRules h = ru
    obtain ⟨res, h1⟩ := ru
    cases res with
    | comeback t' =>
      obtain ⟨b1, b2⟩ := comeback_budget (rwUri_comeback hu)
      exact ends_again (by omega) fun tg => (ih tg h1 (n + 1) k b2 (by omega)).mono (by omega)
    | goOn =>
      have g := rwUri_goOn hu
      simp only
      generalize hp : rwPhysical (pass target).handlerSet (pass target).kind (pass target).nfIdx (pass target).cond
        (requestUrl scheme authority serverName port target) (pass target).nfRules h1 = rp
      obtain ⟨res2, h2⟩ := rp
      cases res2 with
      | comeback t' =>
        obtain ⟨b1, b2⟩ := comeback_budget (rwPhysical_comeback hp)
        exact ends_again (by omega) fun tg => (ih tg h2 (n + 1) k b2 (by omega)).mono (by omega)
      | goOn | loopError | invalidResult | pcreError => exact ⟨rfl, nofun, by show n ≤ _; omega⟩
    | loopError | invalidResult | pcreError => exact ⟨rfl, nofun, by show n ≤ _; omega⟩

/-! ### alias, simple-vhost -/

theorem aliasKeyMatches_iff (nocase : Bool) (uri : Bytes) (kv : Bytes × Bytes) :
    aliasKeyMatches nocase uri kv = true ↔
      ∃ k r, uri = k ++ r ∧ k.length = kv.1.length ∧ (if nocase then eqIcase k kv.1 = true else k = kv.1) := by
  simp only [aliasKeyMatches, Bool.and_eq_true, decide_eq_true_eq]
  constructor
  · rintro ⟨hl, hc⟩
    refine ⟨uri.take kv.1.length, uri.drop kv.1.length, (List.take_append_drop _ _).symm,
      by rw [List.length_take]; omega, ?_⟩
    cases nocase <;> simpa using hc
  · rintro ⟨k, r, rfl, hl, hc⟩
    have ht : (k ++ r).take kv.1.length = k := by rw [← hl]; simp
    refine ⟨by rw [List.length_append]; omega, ?_⟩
    rw [ht]
    cases nocase <;> simpa using hc

theorem appendSlash_tail (b : Bytes) : ∃ tail, appendSlash b = b ++ tail ∧ (tail = [] ∨ tail = [slash]) := by
  unfold appendSlash
  split
  · exact ⟨[slash], rfl, .inr rfl⟩
  · exact ⟨[], (List.append_nil b).symm, .inl rfl⟩

theorem appendPath_tail (b a : Bytes) :
    ∃ tail, appendPath b a = b ++ tail ∧ (tail = a ∨ tail = a.drop 1 ∨ tail = slash :: a) := by
  unfold appendPath
  split <;> split
  · exact ⟨_, rfl, .inr (.inl rfl)⟩
  · exact ⟨_, rfl, .inl rfl⟩
  · exact ⟨_, rfl, .inl rfl⟩
  · exact ⟨_, rfl, .inr (.inr rfl)⟩

/-! ### evhost -/

theorem slice_infix (a : Bytes) (x y : Nat) : (a.drop x).take y <:+: a :=
  (List.take_prefix _ _).isInfix.trans (List.drop_suffix _ _).isInfix

def TblIn (a : Bytes) (tbl : List (Nat × Bytes)) : Prop := ∀ e ∈ tbl, e.2 <:+: a

theorem TblIn.cons {a v : Bytes} {n : Nat} {tbl : List (Nat × Bytes)} (hv : v <:+: a) (h : TblIn a tbl) :
    TblIn a ((n, v) :: tbl) :=
  List.forall_mem_cons.mpr ⟨hv, h⟩

theorem evScanLabels_infix (a : Bytes) : ∀ (i col k : Nat) (acc : List (Nat × Bytes)),
    TblIn a acc → TblIn a (evScanLabels a i col k acc)
  | 0, col, k, acc, h => by
    rw [evScanLabels]
    exact ite_ind (P := TblIn a) (fun _ => h.cons (List.take_prefix _ _).isInfix) fun _ => h
  | i + 1, col, k, acc, h => by
    rw [evScanLabels]
    exact ite_ind (P := TblIn a)
      (fun _ => ite_ind (P := TblIn a) (fun _ => evScanLabels_infix a i _ _ _ (h.cons (slice_infix a _ _)))
        fun _ => evScanLabels_infix a i _ _ _ h)
      fun _ => evScanLabels_infix a i _ _ _ h

theorem evParseHost_infix (a : Bytes) : TblIn a (evParseHost a) := by
  have nil : TblIn a [] := nofun
  unfold evParseHost
  refine ite_ind (P := TblIn a) (fun _ => ?_) fun _ => ?_
  · exact ite_ind (P := TblIn a) (fun _ => nil.cons (List.infix_refl _)) fun _ =>
      ite_ind (P := TblIn a) (fun _ => nil.cons (List.take_prefix _ _).isInfix) fun _ => nil
  · generalize evScanDomain a a.length a.length true = pc
    obtain ⟨ptr, col⟩ := pc
    refine ite_ind (P := TblIn a) (fun _ => TblIn.cons (slice_infix a _ _) fun e he => ?_) fun _ =>
      nil.cons (slice_infix a _ _)
    exact evScanLabels_infix a _ _ _ [] nil e (List.mem_reverse.mp he)

theorem evLookup_mem {tbl : List (Nat × Bytes)} {n : Nat} {v : Bytes} (h : evLookup tbl n = some v) :
    ∃ e ∈ tbl, e.2 = v := by
  unfold evLookup at h
  simp only [Option.map_eq_some_iff] at h
  obtain ⟨e, he, hv⟩ := h
  exact ⟨e, by simpa using List.mem_of_find?_eq_some he, hv⟩

/-- the NUL: `%{N.M}` with M below '0' reads the first byte of a possibly empty value (mod_evhost_parse_pattern
    accepts digits only) -/
theorem evPiece_bytes (a piece : Bytes) (hp : piece.head? = some pct) :
    ∀ x ∈ evPiece (evParseHost a) a piece, x ∈ a ∨ x = pct ∨ x = 0 := by
  let Q : Bytes → Prop := fun l => ∀ x ∈ l, x ∈ a ∨ x = pct ∨ x = 0
  have sub : ∀ {l : Bytes}, l ⊆ a → Q l := fun h x hx => .inl (h hx)
  have nil : Q [] := nofun
  have hv : ∀ {n v}, evLookup (evParseHost a) n = some v → v ⊆ a := fun h => by
    obtain ⟨e, he, rfl⟩ := evLookup_mem h
    exact (evParseHost_infix a e he).subset
  have hg : ∀ n, Q ((evLookup (evParseHost a) n).getD []) := fun n => by
    cases h : evLookup (evParseHost a) n with
    | none => exact nil
    | some v => exact sub (hv h)
  match piece, hp with
  | [_], rfl => exact fun x hx => .inr (.inl (List.mem_singleton.mp hx))
  | _ :: p1 :: rest, rfl =>
    simp only [evPiece, ne_eq, not_true_eq_false, if_false]
    refine ite_ind (P := Q) (fun _ x hx => .inr (.inl (List.mem_singleton.mp hx))) fun _ =>   -- %%
      ite_ind (P := Q) (fun _ => sub (List.takeWhile_prefix _).subset) fun _ =>                -- %_
      ite_ind (P := Q) (fun _ => ?_) fun _ => hg _                                             -- %{ ; else %N
    split
    · rename_i x y z _                                                                         -- %{N.M}
      cases h : evLookup (evParseHost a) (x.toNat - 48) with
      | none => exact nil
      | some v =>
        refine ite_ind (P := Q) (fun _ => sub (hv h)) fun _ => ite_ind (P := Q) (fun _ x hx => ?_) fun _ => nil
        rw [List.mem_singleton.mp hx, List.getD_eq_getElem?_getD]
        cases hi : v[z.toNat - 48 - 1]? with
        | none => exact .inr (.inr rfl)
        | some b => exact .inl (hv h (List.mem_of_getElem? hi))
    · exact hg _                                                                               -- %{N
    · exact nil

end LtVerif
